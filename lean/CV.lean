-- Root of the `CV` library: models, driver glue, proofs and property theorems.
import CV.Model.Basic
import CV.Model.Line
import CV.Model.LineSpec
import CV.Model.Irc
import CV.Drv.Util
import CV.Drv.Line
import CV.Drv.Irc
import CV.Model.Core.Queue
import CV.Model.Core.Value
import CV.Model.Core.Types
import CV.Model.Core.Pure
import CV.Model.Core.Machine
import CV.Model.Core.LogSpec
import CV.Drv.Core
import CV.Model.Core.Step
import CV.Drv.Core2
import CV.Proofs.CoreFacts
import CV.Proofs.CoreStep
import CV.Proofs.Line
import CV.Proofs.Irc
import CV.Props.C18
import CV.Model.StaticPath
import CV.Model.Ranges
import CV.Drv.StaticPath
import CV.Drv.Ranges
import CV.Proofs.StaticPath
import CV.Proofs.Ranges
import CV.Props.C16
import CV.Model.Md5
import CV.Model.Auth
import CV.Model.AuthSpec
import CV.Model.Session
import CV.Model.VHost
import CV.Drv.Auth
import CV.Drv.Session
import CV.Drv.VHost
import CV.Proofs.Auth
import CV.Proofs.Session
import CV.Props.C20
import CV.Model.HttpResp
import CV.Model.HttpRespSpec
import CV.Drv.HttpResp
import CV.Proofs.HttpResp
import CV.Proofs.HttpSeq
import CV.Props.C15
import CV.Model.WebSocket
import CV.Model.WebSocketSpec
import CV.Drv.WebSocket
import CV.Proofs.WebSocket
import CV.Props.C17
import CV.Model.HttpParse
import CV.Model.HttpServerRead
import CV.Model.HttpSpec
import CV.Drv.Http
import CV.Model.HttpServerPipe
import CV.Drv.HttpPipe
import CV.Proofs.HttpParse
import CV.Proofs.HttpServer
import CV.Proofs.HttpWf
import CV.Props.C13
import CV.Model.Poller
import CV.Model.PollerSpec
import CV.Drv.Poller
import CV.Proofs.Poller
import CV.Proofs.PollerSim
import CV.Proofs.PollerRound
import CV.Proofs.PollerMain
import CV.Proofs.PollerAgree
import CV.Props.C10
import CV.Model.EvQueue
import CV.Model.Wake
import CV.Model.WakeSpec
import CV.Drv.Wake
import CV.Proofs.EvQueue
import CV.Proofs.Wake
import CV.Props.C03
import CV.Model.Stream
import CV.Model.StreamSpec
import CV.Drv.Stream
import CV.Proofs.Stream
import CV.Props.C11
import CV.Model.Core.QueueSpec
import CV.Model.Core.Choose
import CV.Proofs.CoreQueue
import CV.Proofs.InvQueueBase
import CV.Proofs.InvQueue
import CV.Proofs.InvOrderBase
import CV.Proofs.InvOrder
import CV.Proofs.InvOrderLog
import CV.Proofs.InvOrderPass
import CV.Props.C02
import CV.Proofs.CoreValue
import CV.Props.C04
import CV.Model.Node
import CV.Model.NodeSpec
import CV.Drv.Node
import CV.Proofs.Node
import CV.Proofs.NodeEvent
import CV.Proofs.NodeTwo
import CV.Proofs.NodeTwoFw
import CV.Proofs.NodeTwoInv
import CV.Props.C19
import CV.Model.HttpServerErr
import CV.Drv.Http14
import CV.Proofs.HttpServerErr
import CV.Props.C14
import CV.Model.Conn
import CV.Model.ConnSpec
import CV.Drv.Conn
import CV.Proofs.ConnPoller
import CV.Proofs.Conn
import CV.Props.C12
import CV.Proofs.ListFacts
import CV.Proofs.CoreMatch
import CV.Props.C01
import CV.Proofs.CoreReach
import CV.Proofs.ForestDefs
import CV.Proofs.InvRunSil
import CV.Proofs.CoreStack
import CV.Proofs.InvRun
import CV.Proofs.InvRunCode
import CV.Props.C08
import CV.Proofs.InvValueBase
import CV.Proofs.InvValue
import CV.Proofs.InvValueLocal
import CV.Proofs.InvValueLoop
import CV.Proofs.InvForest
import CV.Proofs.InvAnnounce
import CV.Props.C07
import CV.Proofs.InvCacheBase
import CV.Proofs.InvCache
import CV.Proofs.InvEffects
import CV.Proofs.InvTasksBase
import CV.Proofs.InvTasksE
import CV.Proofs.InvTasksSpecial
import CV.Proofs.InvTasksG
import CV.Proofs.InvTasksInv
import CV.Proofs.InvTasksStep
import CV.Proofs.InvTasksV
import CV.Proofs.InvTasksOnce
import CV.Proofs.InvTasksGuard
import CV.Proofs.InvTasksK
import CV.Proofs.InvTasksQ
import CV.Props.C05
import CV.Proofs.InvTimerQ
import CV.Proofs.InvTimer
import CV.Props.C09
import CV.Proofs.InvWaitBase
import CV.Proofs.InvWaitLocal
import CV.Proofs.InvWaitFacts
import CV.Proofs.InvWaitMono
import CV.Proofs.InvWaitViewDef
import CV.Proofs.InvWaitView
import CV.Proofs.InvWaitH
import CV.Proofs.InvWaitG
import CV.Proofs.InvWaitSt
import CV.Proofs.InvWaitProto
import CV.Proofs.InvWait
import CV.Proofs.InvWaitMain
import CV.Proofs.InvWait2Wit
import CV.Proofs.InvWait2Stale
import CV.Proofs.InvWait2Count
import CV.Proofs.InvWait2Tasks
import CV.Props.C06
import CV.Model.ClassTable
import CV.Drv.ClassTable
import CV.Proofs.ClassTable
import CV.Proofs.ClassTableC3
import CV.Proofs.ClassTableAdd
import CV.Proofs.InvDispBase
import CV.Proofs.InvDisp
import CV.Model.NodeTwo
import CV.Drv.NodeTwo
import CV.Model.RangesMultipart
import CV.Model.MultipartSpec
import CV.Proofs.RangesMultipart
import CV.Model.AuthLeaves
import CV.Proofs.AuthLeavesB64
import CV.Proofs.AuthLeavesUtf8
import CV.Proofs.AuthLeavesKV
import CV.Proofs.AuthLeavesCreds
import CV.Model.WebSocketEndpoint
import CV.Drv.WebSocketEndpoint
import CV.Proofs.WebSocketEndpoint
import CV.Model.IrcComp
import CV.Proofs.IrcComp
import CV.Model.HttpLex
import CV.Drv.HttpLex
import CV.Proofs.HttpLex
import CV.Proofs.HttpLexRound
import CV.Proofs.InvPending
import CV.Proofs.InvLoop
import CV.Proofs.WakeTimer
import CV.Proofs.ConnClose
import CV.Model.ConnAccept
import CV.Drv.ConnAccept
import CV.Proofs.ConnAccept
import CV.Model.AuthTable
import CV.Proofs.AuthTable
import CV.Model.SessionCookie
import CV.Model.HttpClient
import CV.Drv.HttpClient
import CV.Proofs.HttpClient
import CV.Model.HttpRespPath
import CV.Model.HttpRespFail
import CV.Drv.HttpRespFail
import CV.Proofs.HttpRespFail
import CV.Model.ValueTree
import CV.Drv.ValueTree
import CV.Proofs.ValueTree
import CV.Model.StaticListing
import CV.Proofs.StaticListing
import CV.Proofs.NodeSym
import CV.Proofs.NodeSymOne
import CV.Proofs.NodeSymBoth
