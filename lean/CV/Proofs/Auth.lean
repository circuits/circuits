import CV.Model.AuthSpec
import CV.Proofs.ListFacts
/-
C20 (authentication): the code-shaped model of CV/Model/Auth.lean against the
RFC-shaped predicates of CV/Model/AuthSpec.lean.  Every front end parses the header, looks a password
up and calls `checkResponse`; the first and the last of these together succeed exactly on well-formed
credentials that verify (`accepts_iff`).
-/
namespace CV.Auth
@[simp] theorem bind_val {α β} (a : α) (f : α → Res β) : (Res.val a >>= f) = f a := rfl
@[simp] theorem bind_raised {α β} (f : α → Res β) : ((Res.raised : Res α) >>= f) = Res.raised := rfl
@[simp] theorem pure_eq {α} (a : α) : (pure a : Res α) = Res.val a := rfl

theorem bind_eq_val {α β} {x : Res α} {f : α → Res β} {r : β} :
    (x >>= f) = .val r ↔ ∃ a, x = .val a ∧ f a = .val r := by
  cases x <;> simp

theorem get_eq_some {kv : KV} {k : String} {v : Str} : get kv k = some v ↔ hasKey kv k = true ∧ fld kv k = v := by
  unfold hasKey fld
  cases get kv k <;> simp

theorem bind_bind {α β γ} (x : Res α) (g : α → Res β) (f : β → Res γ) : (x >>= g) >>= f = x >>= fun a => g a >>= f := by
  cases x <;> rfl

theorem md5_ne_sess : MD5 ≠ MD5sess := by decide
theorem qauth_ne : qAuth ≠ qAuthInt := by decide

/-! ### `_computeDigestResponse`, run step by step

Each lemma says when a computation that starts with one operation of the code returns, in terms of the rest of
the computation applied to what that operation yields: the code is run by rewriting with them. -/

theorem getR_bind {α} {kv : KV} {k : String} {f : Str → Res α} {r : α} :
    (getR kv k >>= f) = .val r ↔ hasKey kv k = true ∧ f (fld kv k) = .val r := by
  unfold getR hasKey fld
  cases get kv k <;> simp

theorem a2_bind {α} {kv : KV} {method : Str} {f : Str → Res α} {r : α} :
    (a2 kv method >>= f) = .val r ↔
      (get kv "qop" = none ∨ get kv "qop" = some qAuth) ∧ hasKey kv "uri" = true ∧ f (colon method (fld kv "uri")) = .val r := by
  have hq : (get kv "qop").getD qAuth = qAuth ↔ get kv "qop" = none ∨ get kv "qop" = some qAuth := by
    cases get kv "qop" <;> simp
  unfold a2
  simp only [hq]
  split <;> simp [*, getR_bind, bind_bind]

/-- the two algorithms `DIGEST_AUTH_ENCODERS` can serve, in terms of the parameter -/
theorem alg_cases {kv : KV} :
    ((get kv "algorithm").getD MD5 = MD5 ∨ (get kv "algorithm").getD MD5 = MD5sess) ↔
      get kv "algorithm" = none ∨ get kv "algorithm" = some MD5 ∨ get kv "algorithm" = some MD5sess := by
  cases get kv "algorithm" <;> simp

theorem alg_sess {kv : KV} (halg : (get kv "algorithm").getD MD5 = MD5 ∨ (get kv "algorithm").getD MD5 = MD5sess) :
    (get kv "algorithm").getD MD5 = MD5 ↔ ¬ get kv "algorithm" = some MD5sess := by
  cases ha : get kv "algorithm" with
  | none => simp
  | some a =>
    rw [ha] at halg
    simp only [Option.getD_some] at halg ⊢
    rcases halg with rfl | rfl
    · simp [md5_ne_sess]
    · simp [md5_ne_sess.symm]

theorem a1_bind {α} {H : Str → Str} {kv : KV} {pw : Str} {f : Str → Res α} {r : α}
    (halg : (get kv "algorithm").getD MD5 = MD5 ∨ (get kv "algorithm").getD MD5 = MD5sess) :
    (a1 H kv ((get kv "algorithm").getD MD5) pw >>= f) = .val r ↔
      hasKey kv "username" = true ∧ hasKey kv "realm" = true ∧
      (get kv "algorithm" = some MD5sess → hasKey kv "nonce" = true ∧ hasKey kv "cnonce" = true) ∧
      f (if get kv "algorithm" = some MD5sess
         then colon (H (colon (fld kv "username") (colon (fld kv "realm") pw))) (colon (fld kv "nonce") (fld kv "cnonce"))
         else colon (fld kv "username") (colon (fld kv "realm") pw)) = .val r := by
  unfold a1
  simp only [bind_bind, getR_bind, alg_sess halg]
  by_cases hs : get kv "algorithm" = some MD5sess <;> simp [hs, getR_bind, bind_bind, and_assoc]

/-- running on from a computation whose returning is characterised -/
theorem bind_val_of {α β} {x : Res α} {f : α → Res β} {r : β} {c : Prop} {v : α} (hx : ∀ a, x = .val a ↔ c ∧ v = a) :
    (x >>= f) = .val r ↔ c ∧ f v = .val r := by
  rw [bind_eq_val]
  constructor
  · rintro ⟨a, ha, h⟩
    obtain ⟨hc, rfl⟩ := (hx a).mp ha
    exact ⟨hc, h⟩
  · rintro ⟨hc, h⟩
    exact ⟨v, (hx v).mpr ⟨hc, rfl⟩, h⟩

/-- what makes `_computeDigestResponse` return: an algorithm and a qop it implements, and every parameter they make it read -/
def evaluable (kv : KV) : Prop :=
  supported kv = true ∧ hasKey kv "uri" = true ∧ hasKey kv "username" = true ∧ hasKey kv "realm" = true ∧
  hasKey kv "nonce" = true ∧ (get kv "algorithm" = some MD5sess → hasKey kv "cnonce" = true) ∧
  (get kv "qop" = some qAuth → hasKey kv "nc" = true ∧ hasKey kv "cnonce" = true)

theorem supported_iff {kv : KV} : supported kv = true ↔
    ((get kv "algorithm").getD MD5 = MD5 ∨ (get kv "algorithm").getD MD5 = MD5sess) ∧
    (get kv "qop" = none ∨ get kv "qop" = some qAuth) := by
  simp [supported, alg_cases, or_assoc]

/-- **`_computeDigestResponse` returns exactly on evaluable parameters, and then the RFC 2617 request-digest** -/
theorem computeResponse_val {H : Str → Str} {kv : KV} {pw method resp : Str} :
    computeResponse H kv pw method = .val resp ↔
      evaluable kv ∧ rfcResponse H kv (fld kv "username") pw (fld kv "realm") method = resp := by
  unfold computeResponse evaluable rfcResponse
  rw [supported_iff]
  by_cases halg : (get kv "algorithm").getD MD5 = MD5 ∨ (get kv "algorithm").getD MD5 = MD5sess
  case neg => simp [not_or.mp halg]
  have hb : (!((get kv "algorithm").getD MD5 = MD5 || (get kv "algorithm").getD MD5 = MD5sess)) = false := by
    rcases halg with h | h <;> simp [h]
  simp only [hb, Bool.false_eq_true, if_false, a2_bind, a1_bind halg, halg, true_and]
  -- the code has been run; what is left is to regroup the conditions it met on the way
  rcases hq : get kv "qop" with _ | q
  · simp only [getR_bind, bind_val, pure_eq, Res.val.injEq, true_or, reduceCtorEq, false_imp_iff, and_true, true_and]
    constructor
    · rintro ⟨h1, h2, h3, h4, h5, h6⟩
      exact ⟨⟨h1, h2, h3, h5, fun h => (h4 h).2⟩, h6⟩
    · rintro ⟨⟨h1, h2, h3, h5, h4⟩, h6⟩
      exact ⟨h1, h2, h3, fun h => ⟨h5, h4 h⟩, h5, h6⟩
  · simp only [Option.some.injEq, reduceCtorEq, false_or]
    by_cases hqa : q = qAuth
    case neg => simp [hqa]
    subst hqa
    simp only [getR_bind, bind_val, pure_eq, Res.val.injEq, true_and, Bool.true_or, decide_true, if_true, forall_const]
    constructor
    · rintro ⟨h1, h2, h3, h4, h5, h7, h8, h6⟩
      exact ⟨⟨h1, h2, h3, h5, fun h => (h4 h).2, h7, h8⟩, h6⟩
    · rintro ⟨⟨h1, h2, h3, h5, h4, h7, h8⟩, h6⟩
      exact ⟨h1, h2, h3, fun h => ⟨h5, h4 h⟩, h5, h7, h8, h6⟩

theorem parseDigestParams_some {kv kv' : KV} : parseDigestParams kv = some kv' ↔
    kv' = kv ∧ required.all (hasKey kv) = true ∧ hasKey kv "qop" = (hasKey kv "cnonce" && hasKey kv "nc") ∧
      hasKey kv "qop" = (hasKey kv "cnonce" || hasKey kv "nc") := by
  unfold parseDigestParams
  cases required.all (hasKey kv) <;> cases hasKey kv "qop" <;> cases hasKey kv "cnonce" <;> cases hasKey kv "nc" <;>
    simp [eq_comm]

/-- what `parseAuthorization` asks of credentials beyond being readable -/
def parses : AuthMap → Prop
  | .basic _ _ => True
  | .digest kv => parseDigestParams kv = some kv ∧ hasKey kv "auth_scheme" = false

theorem parse_iff {L : Leaves} {cred : Str} {c : AuthMap} :
    parseAuthorization L cred = .val (some c) ↔ credsOf L cred = some c ∧ parses c := by
  unfold parseAuthorization credsOf
  rcases splitFirst ' ' cred with _ | ⟨sch, params⟩ <;> dsimp only
  · simp
  rcases schemeOf sch with _ | _ | _ <;> dsimp only
  · simp
  · rcases L.b64 params with _ | bytes <;> dsimp only
    · simp
    rcases splitFirst 58 bytes with _ | ⟨u, p⟩ <;> dsimp only
    · simp
    rcases L.utf8 u with _ | u' <;> rcases L.utf8 p with _ | p' <;> simp
    rintro rfl; trivial
  · rcases L.kv params with _ | kv <;> dsimp only
    · simp
    simp only [Option.map_some, Option.some.injEq]
    rcases hp : parseDigestParams kv with _ | kv' <;> dsimp only
    · simp
      rintro rfl ⟨h, _⟩
      rw [hp] at h; cases h
    · obtain ⟨rfl, -⟩ := parseDigestParams_some.mp hp
      cases hs : hasKey kv' "auth_scheme" <;> simp [parses]
      · rintro rfl; simp [hp, hs]
      · rintro rfl; simp [hs]

/-- **well-formed = the parser lets it through and `_computeDigestResponse` can evaluate it** -/
theorem wellFormedKV_iff {kv : KV} : wellFormedKV kv = true ↔
    (parseDigestParams kv = some kv ∧ hasKey kv "auth_scheme" = false) ∧ evaluable kv := by
  simp only [wellFormedKV, parseDigestParams_some, evaluable, required, List.all_cons, List.all_nil, Bool.and_eq_true, beq_iff_eq,
    Bool.not_eq_true', Bool.or_eq_true, bne_iff_ne, ne_eq, true_and, Bool.and_true]
  constructor
  · rintro ⟨⟨⟨⟨⟨hreq, hsup⟩, hq1⟩, hq2⟩, hs⟩, hcn⟩
    refine ⟨⟨⟨hreq, hq1, hq2⟩, hs⟩, hsup, hreq.2.2.2.1, hreq.1, hreq.2.1, hreq.2.2.1, fun h => hcn.resolve_left (· h), fun h => ?_⟩
    rw [show hasKey kv "qop" = true by simp [hasKey, h]] at hq1
    simpa [and_comm] using hq1.symm
  · rintro ⟨⟨⟨hreq, hq1, hq2⟩, hs⟩, hsup, _, _, _, _, hcn, _⟩
    exact ⟨⟨⟨⟨⟨hreq, hsup⟩, hq1⟩, hq2⟩, hs⟩, Classical.or_iff_not_imp_left.mpr fun n => hcn (Classical.not_not.mp n)⟩

/-- what `checkResponse` needs, of credentials that parsed, in order to return at all -/
def checkable (enc : Enc) : AuthMap → Prop
  | .basic _ _ => enc ≠ .dflt
  | .digest kv => evaluable kv

theorem wellFormed_iff {enc : Enc} {c : AuthMap} : wellFormed enc c = true ↔ parses c ∧ checkable enc c := by
  cases c with
  | basic u p => simp [wellFormed, parses, checkable]
  | digest kv => exact wellFormedKV_iff

theorem check_iff {H : Str → Str} {enc : Enc} {c : AuthMap} {p realm method : Str} :
    checkResponse H enc c (some p) realm method = .val true ↔
      checkable enc c ∧ Verifies H enc c c.username p realm method = true := by
  cases c with
  | basic user pw =>
    cases enc <;> simp [checkResponse, encApply, checkable, Verifies, AuthMap.username]
  | digest kv =>
    simp only [checkResponse, getR_bind, checkable, Verifies, AuthMap.username, pwText]
    by_cases hr : fld kv "realm" = realm
    case neg => simp [hr, get_eq_some]
    subst hr
    simp only [ne_eq, not_true_eq_false, if_false, bind_val_of fun _ => computeResponse_val, getR_bind, pure_eq, Res.val.injEq,
      beq_iff_eq, Bool.and_eq_true, get_eq_some, fld]
    constructor
    · rintro ⟨h1, he, h3, h4⟩
      exact ⟨he, ⟨⟨⟨he.2.2.1, trivial⟩, h1, trivial⟩, he.1⟩, h3, h4.symm⟩
    · rintro ⟨he, ⟨⟨-, h1, -⟩, -⟩, h3, h4⟩
      exact ⟨h1, he, h3, h4.symm⟩

/-- **parsing and checking together succeed exactly on well-formed credentials that verify** -/
theorem accepts_iff {L : Leaves} {enc : Enc} {cred : Str} {c : AuthMap} {p realm method : Str} :
    parseAuthorization L cred = .val (some c) ∧ checkResponse L.H enc c (some p) realm method = .val true ↔
      credsOf L cred = some c ∧ wellFormed enc c = true ∧ Verifies L.H enc c c.username p realm method = true := by
  rw [parse_iff, check_iff, wellFormed_iff, and_assoc, and_assoc]

theorem rfc_compute {H : Str → Str} {kv : KV} {pw method u r : Str}
    (hw : wellFormedKV kv = true) (hu : get kv "username" = some u) (hr : get kv "realm" = some r) :
    computeResponse H kv pw method = .val (rfcResponse H kv u pw r method) := by
  rw [computeResponse_val, (get_eq_some.mp hu).2, (get_eq_some.mp hr).2]
  exact ⟨(wellFormedKV_iff.mp hw).2, rfl⟩

end CV.Auth

