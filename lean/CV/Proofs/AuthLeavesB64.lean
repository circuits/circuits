import CV.Model.AuthLeaves
/-
C20: `binascii.a2b_base64` (model `a2bBase64`) inverts the RFC 4648
encoder `b64Encode`.
-/
namespace CV.Auth

theorem b64_tab : ∀ n : Fin 64, b64Val (b64Chr n.val) = some n.val ∧ b64Chr n.val ≠ 61 := by decide

theorem b64Val_chr {n : Nat} (h : n < 64) : b64Val (b64Chr n) = some n := (b64_tab ⟨n, h⟩).1
theorem b64Chr_ne_pad {n : Nat} (h : n < 64) : b64Chr n ≠ 61 := (b64_tab ⟨n, h⟩).2

theorem a2bGo_chr {n : Nat} (h : n < 64) (qp left pads : Nat) (cs : Bytes) :
    a2bGo qp left pads (b64Chr n :: cs) =
      if qp = 0 then a2bGo 1 n 0 cs
      else if qp = 1 then (a2bGo 2 (n % 16) 0 cs).map (UInt8.ofNat (left * 4 + n / 16) :: ·)
      else if qp = 2 then (a2bGo 3 (n % 4) 0 cs).map (UInt8.ofNat (left * 16 + n / 4) :: ·)
      else (a2bGo 0 0 0 cs).map (UInt8.ofNat (left * 64 + n) :: ·) := by
  rw [a2bGo]
  simp only [b64Chr_ne_pad h, if_false, b64Val_chr h]

theorem ofNat_toNat_eq (a : UInt8) {k : Nat} (h : k = a.toNat) : UInt8.ofNat k = a := by
  subst h; exact UInt8.ofNat_toNat

theorem a2bGo_pad2 (left : Nat) (cs : Bytes) : a2bGo 2 left 0 (61 :: 61 :: cs) = some [] := by
  simp [a2bGo]

theorem a2bGo_pad3 (left : Nat) (cs : Bytes) : a2bGo 3 left 0 (61 :: cs) = some [] := by
  simp [a2bGo]

/-- three bytes cut into four sextets, and put together again as the decoder does -/
theorem sextets {a b c : Nat} (ha : a < 256) (hb : b < 256) (hc : c < 256) :
    a / 4 < 64 ∧ a % 4 * 16 + b / 16 < 64 ∧ b % 16 * 4 + c / 64 < 64 ∧ c % 64 < 64 ∧
    a / 4 * 4 + (a % 4 * 16 + b / 16) / 16 = a ∧
    (a % 4 * 16 + b / 16) % 16 * 16 + (b % 16 * 4 + c / 64) / 4 = b ∧
    (b % 16 * 4 + c / 64) % 4 * 64 + c % 64 = c := by
  omega

theorem a2b_encode (bs : Bytes) : a2bBase64 (b64Encode bs) = some bs := by
  unfold a2bBase64
  fun_induction b64Encode bs with
  | case1 => simp [a2bGo]
  | case2 a =>
    have s := sextets a.toNat_lt (Nat.zero_lt_succ 255) (Nat.zero_lt_succ 255)
    simp only [Nat.zero_div, Nat.add_zero] at s
    rw [a2bGo_chr s.1, if_pos rfl, a2bGo_chr s.2.1, if_neg (by decide), if_pos rfl, a2bGo_pad2,
      Option.map_some, ofNat_toNat_eq a s.2.2.2.2.1]
  | case3 a b =>
    have s := sextets a.toNat_lt b.toNat_lt (Nat.zero_lt_succ 255)
    simp only [Nat.zero_div, Nat.add_zero] at s
    rw [a2bGo_chr s.1, if_pos rfl, a2bGo_chr s.2.1, if_neg (by decide), if_pos rfl,
      a2bGo_chr s.2.2.1, if_neg (by decide), if_neg (by decide), if_pos rfl, a2bGo_pad3]
    simp only [Option.map_some]
    rw [ofNat_toNat_eq a s.2.2.2.2.1, ofNat_toNat_eq b s.2.2.2.2.2.1]
  | case4 a b c rest ih =>
    have s := sextets a.toNat_lt b.toNat_lt c.toNat_lt
    rw [a2bGo_chr s.1, if_pos rfl, a2bGo_chr s.2.1, if_neg (by decide), if_pos rfl,
      a2bGo_chr s.2.2.1, if_neg (by decide), if_neg (by decide), if_pos rfl,
      a2bGo_chr s.2.2.2.1, if_neg (by decide), if_neg (by decide), if_neg (by decide), ih]
    simp only [Option.map_some]
    rw [ofNat_toNat_eq a s.2.2.2.2.1, ofNat_toNat_eq b s.2.2.2.2.2.1, ofNat_toNat_eq c s.2.2.2.2.2.2]

theorem b64Chr_lt (n : Nat) : (b64Chr n).toNat < 128 := by
  unfold b64Chr
  split
  · simp [UInt8.toNat_ofNat']; omega
  · split
    · simp [UInt8.toNat_ofNat']; omega
    · split
      · simp [UInt8.toNat_ofNat']; omega
      · split <;> decide

theorem b64Encode_ascii (bs : Bytes) : ∀ b ∈ b64Encode bs, b.toNat < 128 := by
  fun_induction b64Encode bs with
  | case1 => simp
  | case2 a =>
    intro b hb
    simp only [List.mem_cons, List.not_mem_nil, or_false] at hb
    rcases hb with rfl | rfl | rfl | rfl
    · exact b64Chr_lt _
    · exact b64Chr_lt _
    · decide
    · decide
  | case3 a b =>
    intro x hb
    simp only [List.mem_cons, List.not_mem_nil, or_false] at hb
    rcases hb with rfl | rfl | rfl | rfl
    · exact b64Chr_lt _
    · exact b64Chr_lt _
    · exact b64Chr_lt _
    · decide
  | case4 a b c rest ih =>
    intro x hb
    simp only [List.mem_cons] at hb
    rcases hb with rfl | rfl | rfl | rfl | hb
    · exact b64Chr_lt _
    · exact b64Chr_lt _
    · exact b64Chr_lt _
    · exact b64Chr_lt _
    · exact ih x hb

end CV.Auth
