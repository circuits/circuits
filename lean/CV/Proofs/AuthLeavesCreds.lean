import CV.Proofs.AuthLeavesB64
import CV.Proofs.AuthLeavesUtf8
import CV.Proofs.AuthLeavesKV
import CV.Proofs.Auth
/-
C20: under `concreteLeaves` the server reads from the header a client
sends exactly the credentials the client put in (`credsOf` of `basicHeader` /
`digestHeader`), and the parameters of the RFC 2617 client model are well-formed.
-/
namespace CV.Auth

theorem splitFirst_prefix (pre : Str) (h : ' ' ∉ pre) (r : Str) :
    splitFirst ' ' (pre ++ ' ' :: r) = some (pre, r) := splitFirst_append ' ' pre r h

theorem splitFirst_scheme {s' s : Str} (e : s' = s ++ [' ']) (h : ' ' ∉ s) (r : Str) :
    splitFirst ' ' (s' ++ r) = some (s, r) := by
  rw [e, List.append_assoc]; exact splitFirst_prefix s h r

theorem basicHeader_split (u p : Str) :
    splitFirst ' ' (basicHeader u p) =
      some ("Basic".toList, asciiStr (b64Encode (utf8Encode u ++ 58 :: utf8Encode p))) :=
  splitFirst_scheme (by decide) (by decide) _

theorem digestHeader_split (items : List Item) :
    splitFirst ' ' (digestHeader items) = some ("Digest".toList, renderItems items) :=
  splitFirst_scheme (by decide) (by decide) _

theorem creds_basicHeader (u p : Str) (hu : ':' ∉ u) :
    credsOf concreteLeaves (basicHeader u p) = some (.basic u p) := by
  have hb : concreteLeaves.b64 (asciiStr (b64Encode (utf8Encode u ++ 58 :: utf8Encode p)))
      = some (utf8Encode u ++ 58 :: utf8Encode p) := by
    show a2bBase64 (utf8Encode (asciiStr _)) = _
    rw [encode_asciiStr _ (b64Encode_ascii _)]
    exact a2b_encode _
  have hs : splitFirst (58 : UInt8) (utf8Encode u ++ 58 :: utf8Encode p) = some (utf8Encode u, utf8Encode p) :=
    splitFirst_append _ _ _ (fun hm => hu (colon_mem_encode hm))
  have hd1 : concreteLeaves.utf8 (utf8Encode u) = some u := decode_encode u
  have hd2 : concreteLeaves.utf8 (utf8Encode p) = some p := decode_encode p
  unfold credsOf
  rw [basicHeader_split]
  simp only [show schemeOf "Basic".toList = some Scheme.basic by decide, hb, hs, hd1, hd2]

theorem creds_digestHeader (items : List Item) (hok : ∀ i ∈ items, i.ok = true)
    (hnd : (items.map (·.k)).Nodup) :
    credsOf concreteLeaves (digestHeader items) = some (.digest (itemsKV items)) := by
  have hkv : concreteLeaves.kv (renderItems items) = some (itemsKV items) := kvLeaf_render_nodup items hok hnd
  unfold credsOf
  rw [digestHeader_split]
  simp only [show schemeOf "Digest".toList = some Scheme.digest by decide, hkv, Option.map_some]

/-! ### parameter tables with optional entries

The client's parameter list has one shape per combination of optional parts.  It is read here as ONE table of
nine named slots, some of them empty (`Client.slots`), with the empty ones left out (`sent`): what a lookup finds
in such a list is a fact about any table with distinct names (`get_sent`), and of the concrete names only that
they are distinct tokens is used (`slotNames_facts`, evaluated once). -/

theorem get_absent {items : List Item} {k : String} (h : k.toList ∉ items.map (·.k)) : get (itemsKV items) k = none := by
  rw [get, List.lookup_eq_none_iff]
  intro p hp
  obtain ⟨i, hi, rfl⟩ := List.mem_map.mp hp
  simpa using fun e : k.toList = i.k => h (e ▸ List.mem_map_of_mem hi)

/-- name, and value with its quoting when the parameter is sent -/
abbrev Slots := List (Str × Option (Str × Bool))

def sent (l : Slots) : List Item := l.filterMap fun p => p.2.map fun vq => ⟨p.1, vq.1, vq.2⟩

theorem sent_keys_sublist (l : Slots) : ((sent l).map (·.k)).Sublist (l.map (·.1)) := by
  induction l with
  | nil => exact .slnil
  | cons p l ih =>
    obtain ⟨k, _ | vq⟩ := p
    · exact ih.cons _
    · exact ih.cons_cons _

theorem get_sent {l : Slots} (hn : (l.map (·.1)).Nodup) {i : Nat} {k : String} {v : Option (Str × Bool)}
    (h : l[i]? = some (k.toList, v)) : get (itemsKV (sent l)) k = v.map (·.1) := by
  induction l generalizing i with
  | nil => simp at h
  | cons p l ih =>
    obtain ⟨k', v'⟩ := p
    obtain ⟨hp, hn⟩ := List.nodup_cons.mp hn
    cases i with
    | zero =>
      obtain ⟨rfl, rfl⟩ : k' = k.toList ∧ v' = v := by simpa using h
      cases v' with
      | some vq => simp [sent, itemsKV, get]
      | none => exact get_absent fun hm => hp ((sent_keys_sublist l).mem hm)
    | succ i =>
      have hi : l[i]? = some (k.toList, v) := by simpa using h
      have hne : (k.toList == k') = false := by
        simp only [beq_eq_false_iff_ne, ne_eq]
        rintro rfl
        exact hp (List.mem_map.mpr ⟨_, List.mem_of_getElem? hi, rfl⟩)
      rw [← ih hn hi]
      cases v' with
      | none => rfl
      | some vq => simp [sent, itemsKV, get, List.lookup, hne]

theorem sent_ok {l : Slots} (hk : ∀ k ∈ l.map (·.1), k.all (fun c => tokChar c && c != '=') = true)
    (hv : ∀ p ∈ l, ∀ v, p.2 = some (v, false) → v ≠ [] ∧ v.all tokChar = true) : ∀ i ∈ sent l, i.ok = true := by
  intro i hi
  obtain ⟨⟨k, o⟩, hp, ho⟩ := List.mem_filterMap.mp hi
  obtain ⟨⟨v, q⟩, rfl, rfl⟩ := Option.map_eq_some_iff.mp ho
  have h1 := hk k (List.mem_map.mpr ⟨_, hp, rfl⟩)
  cases q with
  | true => simp [Item.ok, h1]
  | false =>
    obtain ⟨h2, h3⟩ := hv _ hp v rfl
    simp [Item.ok, h1, h2, h3]

def slotNames : List Str :=
  ["username".toList, "realm".toList, "nonce".toList, "uri".toList, "algorithm".toList, "response".toList, "qop".toList,
   "nc".toList, "cnonce".toList]

theorem slotNames_facts : slotNames.Nodup ∧ "auth_scheme".toList ∉ slotNames ∧
    ∀ k ∈ slotNames, k.all (fun c => tokChar c && c != '=') = true := by decide +kernel

/-- the nine parameters an RFC 2617 client can send, in the order of `Client.items` -/
def Client.slots (c : Client) (resp : Str) : Slots :=
  [("username".toList, some (c.user, true)), ("realm".toList, some (c.realm, true)), ("nonce".toList, some (c.nonce, true)),
   ("uri".toList, some (c.uri, true)), ("algorithm".toList, c.alg.map fun s => (if s then MD5sess else MD5, false)),
   ("response".toList, some (resp, true)), ("qop".toList, c.qop.map fun _ => (qAuth, false)),
   ("nc".toList, c.qop.map fun q => (q.1, false)), ("cnonce".toList, c.qop.map fun q => (q.2, true))]

-- both hold by `rfl`, which is slow to elaborate on lists of string literals; unfolding by rewriting is not
theorem client_slots_names (c : Client) (resp : Str) : (c.slots resp).map (·.1) = slotNames := by
  simp only [Client.slots, List.map, slotNames]

theorem client_items (c : Client) (resp : Str) : c.items resp = sent (c.slots resp) := by
  obtain ⟨_, _, _, _, alg, qop⟩ := c
  cases alg <;> cases qop <;>
    simp only [Client.items, Client.slots, sent, List.filterMap_cons, List.filterMap_nil, Option.map_some, Option.map_none,
      List.cons_append, List.nil_append, List.append_nil]

theorem client_items_nodup (c : Client) (resp : Str) : ((c.items resp).map (·.k)).Nodup := by
  rw [client_items]
  exact (client_slots_names c resp ▸ slotNames_facts.1).sublist (sent_keys_sublist _)

theorem client_slot (c : Client) (resp : Str) {i : Nat} {k : String} {v : Option (Str × Bool)}
    (h : (c.slots resp)[i]? = some (k.toList, v)) : get (itemsKV (c.items resp)) k = v.map (·.1) := by
  rw [client_items]
  exact get_sent (client_slots_names c resp ▸ slotNames_facts.1) h

theorem client_get (c : Client) (resp : Str) :
    get (itemsKV (c.items resp)) "username" = some c.user ∧
    get (itemsKV (c.items resp)) "realm" = some c.realm ∧
    get (itemsKV (c.items resp)) "nonce" = some c.nonce ∧
    get (itemsKV (c.items resp)) "uri" = some c.uri ∧
    get (itemsKV (c.items resp)) "response" = some resp ∧
    get (itemsKV (c.items resp)) "algorithm" = c.alg.map (fun s => if s then MD5sess else MD5) ∧
    get (itemsKV (c.items resp)) "qop" = c.qop.map (fun _ => qAuth) ∧
    get (itemsKV (c.items resp)) "nc" = c.qop.map (·.1) ∧
    get (itemsKV (c.items resp)) "cnonce" = c.qop.map (·.2) ∧
    get (itemsKV (c.items resp)) "auth_scheme" = none := by
  refine ⟨client_slot c resp (i := 0) rfl, client_slot c resp (i := 1) rfl, client_slot c resp (i := 2) rfl,
    client_slot c resp (i := 3) rfl, client_slot c resp (i := 5) rfl, ?_, ?_, ?_, ?_, ?_⟩
  · rw [client_slot c resp (i := 4) rfl, Option.map_map]; rfl
  · rw [client_slot c resp (i := 6) rfl, Option.map_map]; rfl
  · rw [client_slot c resp (i := 7) rfl, Option.map_map]; rfl
  · rw [client_slot c resp (i := 8) rfl, Option.map_map]; rfl
  · refine get_absent fun hm => slotNames_facts.2.1 ?_
    rw [client_items] at hm
    exact client_slots_names c resp ▸ (sent_keys_sublist _).mem hm

theorem tokChar_lit : MD5.all tokChar = true ∧ MD5sess.all tokChar = true ∧ qAuth.all tokChar = true := by decide

theorem client_items_ok (c : Client) (hc : c.ok = true) (resp : Str) : ∀ i ∈ c.items resp, i.ok = true := by
  rw [client_items]
  refine sent_ok (client_slots_names c resp ▸ slotNames_facts.2.2) fun p hp v hv => ?_
  obtain ⟨user, realm, nonce, uri, alg, qop⟩ := c
  simp only [Client.slots, List.mem_cons, List.not_mem_nil, or_false] at hp
  -- six slots are quoted; the unquoted ones: algorithm, qop, nc
  rcases hp with rfl | rfl | rfl | rfl | rfl | rfl | rfl | rfl | rfl
  all_goals simp only [Option.some.injEq, Prod.mk.injEq, Bool.true_eq_false, and_false, Option.map_eq_some_iff, and_true,
    exists_false] at hv
  · obtain ⟨s, -, rfl⟩ := hv
    cases s
    · exact ⟨by decide, tokChar_lit.1⟩
    · exact ⟨by decide, tokChar_lit.2.1⟩
  · obtain ⟨_, -, rfl⟩ := hv
    exact ⟨by decide, tokChar_lit.2.2⟩
  · obtain ⟨⟨nc, cn⟩, rfl, rfl⟩ := hv
    simpa [Client.ok] using hc

theorem client_wellFormed (c : Client) (hc : c.ok = true) (resp : Str) :
    wellFormedKV (itemsKV (c.items resp)) = true := by
  obtain ⟨h1, h2, h3, h4, h5, h6, h7, h8, h9, h10⟩ := client_get c resp
  obtain ⟨user, realm, nonce, uri, alg, qop⟩ := c
  simp only [wellFormedKV, required, supported, hasKey, List.all_cons, List.all_nil, h1, h2, h3, h4, h5, h6, h7,
    h8, h9, h10]
  simp only [Client.ok, Bool.and_eq_true] at hc
  clear h1 h2 h3 h4 h5 h6 h7 h8 h9 h10
  have hne : (MD5sess == MD5) = false := by decide
  have hne2 : MD5 ≠ MD5sess := md5_ne_sess
  have hne3 : MD5sess ≠ MD5 := Ne.symm md5_ne_sess
  rcases alg with _ | _ | _ <;> rcases qop with _ | ⟨nc, cn⟩ <;> simp_all

/-- the response parameter does not enter the request-digest -/
theorem client_rfcResponse (H : Str → Str) (c : Client) (resp : Str) (u p r m : Str) :
    rfcResponse H (itemsKV (c.items resp)) u p r m = rfcResponse H (itemsKV (c.items [])) u p r m := by
  obtain ⟨_, _, h3, h4, _, h6, h7, h8, h9, _⟩ := client_get c resp
  obtain ⟨_, _, g3, g4, _, g6, g7, g8, g9, _⟩ := client_get c []
  simp only [rfcResponse, fld, h3, h4, h6, h7, h8, h9, g3, g4, g6, g7, g8, g9]

end CV.Auth
