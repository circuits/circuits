import CV.Model.AuthLeaves
import CV.Proofs.ListFacts
/-
C20: `parse_keqv_list(parse_http_list(·))` (model `kvLeaf`) reads back the
parameter list a client renders with `renderItems`.
-/
namespace CV.Auth

theorem splitFirst_append {α} [DecidableEq α] (c : α) (a b : List α) (h : c ∉ a) :
    splitFirst c (a ++ c :: b) = some (a, b) := by
  induction a with
  | nil => simp [splitFirst]
  | cons x xs ih =>
    have hx : x ≠ c := fun e => h (by simp [e])
    have hxs : c ∉ xs := fun e => h (by simp [e])
    simp [splitFirst, hx, ih hxs]

theorem hlGo_tok (t : Str) (ht : ∀ c ∈ t, c ≠ ',' ∧ c ≠ '"') (part rest : Str) :
    hlGo false false part (t ++ rest) = hlGo false false (part ++ t) rest := by
  induction t generalizing part with
  | nil => simp
  | cons c t ih =>
    have hc := ht c (by simp)
    have := ih (fun x hx => ht x (by simp [hx])) (part ++ [c])
    simp only [List.cons_append]
    rw [hlGo]
    have hb : (c == '"') = false := by simp [hc.2]
    simp only [Bool.false_eq_true, if_false, hc.1, hb]
    simpa using this

theorem hlGo_quoted (v : Str) (part rest : Str) :
    hlGo false true part (escQ v ++ '"' :: rest) = hlGo false false (part ++ v ++ ['"']) rest := by
  induction v generalizing part with
  | nil =>
    simp only [escQ, List.flatMap_nil, List.nil_append, List.append_nil]
    rw [hlGo]
    simp
  | cons c v ih =>
    have hstep : escQ (c :: v) = (if c = '"' ∨ c = '\\' then ['\\', c] else [c]) ++ escQ v := by
      simp [escQ]
    rw [hstep]
    by_cases hc : c = '"' ∨ c = '\\'
    · rw [if_pos hc]
      simp only [List.cons_append, List.nil_append]
      rw [hlGo]
      simp only [Bool.false_eq_true, if_false, if_true]
      rw [hlGo]
      simp only [if_true]
      rw [ih]
      simp
    · rw [if_neg hc]
      simp only [List.cons_append, List.nil_append]
      have h1 : c ≠ '"' := fun e => hc (Or.inl e)
      have h2 : c ≠ '\\' := fun e => hc (Or.inr e)
      rw [hlGo]
      have hb : (c != '"') = true := by simp [h1]
      simp only [Bool.false_eq_true, if_false, if_true, h2, hb]
      rw [ih]
      simp

/-- the text `parse_http_list` collects for one parameter -/
def itemPart (i : Item) : Str := i.k ++ '=' :: (if i.quoted then '"' :: (i.v ++ ['"']) else i.v)

theorem tok_of_tokChar {c : Char} (h : tokChar c = true) : c ≠ ',' ∧ c ≠ '"' ∧ isSpace c = false := by
  simp only [tokChar, Bool.and_eq_true, bne_iff_ne, ne_eq, Bool.not_eq_true'] at h
  exact ⟨h.1.1, h.1.2, h.2⟩

theorem Item.ok_k {i : Item} (h : i.ok = true) : ∀ c ∈ i.k, c ≠ ',' ∧ c ≠ '"' ∧ isSpace c = false ∧ c ≠ '=' := by
  intro c hc
  simp only [Item.ok, Bool.and_eq_true, List.all_eq_true] at h
  have := h.1 c hc
  simp only [Bool.and_eq_true, bne_iff_ne, ne_eq] at this
  obtain ⟨h1, h2, h3⟩ := tok_of_tokChar this.1
  exact ⟨h1, h2, h3, this.2⟩

theorem Item.ok_v {i : Item} (h : i.ok = true) (hq : i.quoted = false) :
    i.v ≠ [] ∧ ∀ c ∈ i.v, c ≠ ',' ∧ c ≠ '"' ∧ isSpace c = false := by
  simp only [Item.ok, Bool.and_eq_true, hq, Bool.false_or, List.all_eq_true, Bool.not_eq_true',
    List.isEmpty_eq_false_iff] at h
  exact ⟨h.2.1, fun c hc => tok_of_tokChar (h.2.2 c hc)⟩

theorem hlGo_item (i : Item) (hi : i.ok = true) (part rest : Str) :
    hlGo false false part (renderItem i ++ rest) = hlGo false false (part ++ itemPart i) rest := by
  have hk := Item.ok_k hi
  unfold renderItem itemPart
  rw [List.append_assoc, hlGo_tok i.k (fun c hc => ⟨(hk c hc).1, (hk c hc).2.1⟩)]
  simp only [List.cons_append]
  rw [hlGo]
  simp only [Bool.false_eq_true, if_false, show ('=' : Char) ≠ ',' by decide,
    show (('=' : Char) == '"') = false by decide]
  cases hq : i.quoted
  · obtain ⟨_, hv⟩ := Item.ok_v hi hq
    simp only [Bool.false_eq_true, if_false]
    rw [hlGo_tok i.v (fun c hc => ⟨(hv c hc).1, (hv c hc).2.1⟩)]
    simp
  · simp only [if_true, List.cons_append]
    rw [hlGo]
    simp only [Bool.false_eq_true, if_false, show ('"' : Char) ≠ ',' by decide,
      show (('"' : Char) == '"') = true by decide]
    rw [show escQ i.v ++ ['"'] ++ rest = escQ i.v ++ '"' :: rest by simp, hlGo_quoted]
    simp

theorem dropWhile_space_append (pre x : Str) (hpre : ∀ c ∈ pre, isSpace c = true)
    (hx : ∀ a, x.head? = some a → isSpace a = false) : (pre ++ x).dropWhile isSpace = x := by
  rw [List.dropWhile_append_of_pos hpre]
  cases x with
  | nil => rfl
  | cons a t => exact List.dropWhile_cons_of_neg (by simp [hx a rfl])

theorem strip_eq (pre x : Str) (hpre : ∀ c ∈ pre, isSpace c = true)
    (hh : ∀ a, x.head? = some a → isSpace a = false)
    (hl : ∀ a, x.getLast? = some a → isSpace a = false) : strip (pre ++ x) = x := by
  unfold strip
  rw [dropWhile_space_append pre x hpre hh]
  have := dropWhile_space_append [] x.reverse (by simp) (by simpa [List.head?_reverse] using hl)
  simp only [List.nil_append] at this
  rw [this, List.reverse_reverse]

theorem itemPart_head (i : Item) (hi : i.ok = true) : ∀ a, (itemPart i).head? = some a → isSpace a = false := by
  intro a ha
  unfold itemPart at ha
  cases hk : i.k with
  | nil =>
    simp [hk] at ha
    subst ha
    decide
  | cons c t =>
    simp [hk] at ha
    subst ha
    exact (Item.ok_k hi c (by simp [hk])).2.2.1

theorem itemPart_last (i : Item) (hi : i.ok = true) : ∀ a, (itemPart i).getLast? = some a → isSpace a = false := by
  intro a ha
  unfold itemPart at ha
  cases hq : i.quoted
  · obtain ⟨hne, hv⟩ := Item.ok_v hi hq
    simp only [hq, Bool.false_eq_true, if_false] at ha
    rw [show i.k ++ '=' :: i.v = (i.k ++ ['=']) ++ i.v by simp, getLast?_append_of_ne_nil _ hne] at ha
    exact (hv _ (List.mem_of_getLast? ha)).2.2
  · simp only [hq, if_true] at ha
    rw [show i.k ++ '=' :: '"' :: (i.v ++ ['"']) = (i.k ++ '=' :: '"' :: i.v) ++ ['"'] by simp,
      List.getLast?_concat] at ha
    cases ha
    decide

theorem itemPart_ne_nil (i : Item) : itemPart i ≠ [] := by
  unfold itemPart; simp

theorem hl_items (items : List Item) (hok : ∀ i ∈ items, i.ok = true) (hne : items ≠ [])
    (pre : Str) (hpre : ∀ c ∈ pre, isSpace c = true) :
    (hlGo false false pre (renderItems items)).map strip = items.map itemPart := by
  induction items generalizing pre with
  | nil => exact absurd rfl hne
  | cons i is ih =>
    have hi := hok i (by simp)
    cases is with
    | nil =>
      have : renderItems [i] = renderItem i ++ [] := by simp [renderItems]
      rw [this, hlGo_item i hi, hlGo]
      have hne' : (pre ++ itemPart i).isEmpty = false := by
        simp [itemPart_ne_nil]
      simp only [hne', Bool.false_eq_true, if_false, List.map_cons, List.map_nil]
      rw [strip_eq pre _ hpre (itemPart_head i hi) (itemPart_last i hi)]
    | cons j js =>
      have : renderItems (i :: j :: js) = renderItem i ++ (',' :: ' ' :: renderItems (j :: js)) := by
        simp [renderItems]
      rw [this, hlGo_item i hi, hlGo]
      simp only [Bool.false_eq_true, if_false, if_true]
      rw [hlGo]
      simp only [Bool.false_eq_true, if_false, show (' ' : Char) ≠ ',' by decide,
        show ((' ' : Char) == '"') = false by decide, List.nil_append, List.map_cons]
      rw [strip_eq pre _ hpre (itemPart_head i hi) (itemPart_last i hi)]
      rw [ih (fun x hx => hok x (by simp [hx])) (by simp) [' '] (by simp; decide)]
      simp

theorem unquote_quoted (v : Str) : unquote ('"' :: (v ++ ['"'])) = some v := by
  unfold unquote
  have : ('"' :: (v ++ ['"'])).getLast? = some '"' := by
    rw [show '"' :: (v ++ ['"']) = ('"' :: v) ++ ['"'] by simp, List.getLast?_concat]
  simp [this]

theorem unquote_tok (v : Str) (hne : v ≠ []) (hv : ∀ c ∈ v, c ≠ '"') : unquote v = some v := by
  cases v with
  | nil => exact absurd rfl hne
  | cons c t =>
    have : c ≠ '"' := hv c (by simp)
    simp [unquote, this]

theorem keqv_item (i : Item) (hi : i.ok = true) (d : KV) (es : List Str) :
    keqvGo d (itemPart i :: es) = keqvGo (upsert d i.k i.v) es := by
  have hk := Item.ok_k hi
  have hs : splitFirst '=' (itemPart i) = some (i.k, if i.quoted then '"' :: (i.v ++ ['"']) else i.v) :=
    splitFirst_append '=' _ _ (fun hm => (hk _ hm).2.2.2 rfl)
  have hu : unquote (if i.quoted then '"' :: (i.v ++ ['"']) else i.v) = some i.v := by
    cases hq : i.quoted
    · obtain ⟨hne, hv⟩ := Item.ok_v hi hq
      simp only [Bool.false_eq_true, if_false]
      exact unquote_tok _ hne (fun c hc => (hv c hc).2.1)
    · simp only [if_true]
      exact unquote_quoted _
  rw [keqvGo, hs]
  simp only [hu]

theorem keqv_items (items : List Item) (hok : ∀ i ∈ items, i.ok = true) (d : KV) :
    keqvGo d (items.map itemPart) = some ((itemsKV items).foldl (fun d e => upsert d e.1 e.2) d) := by
  induction items generalizing d with
  | nil => simp [keqvGo, itemsKV]
  | cons i is ih =>
    simp only [List.map_cons]
    rw [keqv_item i (hok i (by simp)), ih (fun x hx => hok x (by simp [hx]))]
    simp [itemsKV]

theorem kvLeaf_render (items : List Item) (hok : ∀ i ∈ items, i.ok = true) :
    kvLeaf (renderItems items) = some (dictOf (itemsKV items)) := by
  unfold kvLeaf parseKeqvList parseHttpList dictOf
  cases items with
  | nil => simp [renderItems, hlGo, keqvGo, itemsKV]
  | cons i is =>
    rw [hl_items (i :: is) hok (by simp) [] (by simp)]
    exact keqv_items _ hok []

theorem upsert_new (d : KV) (k v : Str) (h : k ∉ d.map Prod.fst) : upsert d k v = d ++ [(k, v)] := by
  induction d with
  | nil => rfl
  | cons e es ih =>
    obtain ⟨k', v'⟩ := e
    have hk : k' ≠ k := fun e => h (by simp [e])
    have := ih (fun hm => h (by simp [hm]))
    simp [upsert, hk, this]

theorem foldl_upsert_nodup (l d : KV) (h : (d ++ l).map Prod.fst |>.Nodup) :
    l.foldl (fun d e => upsert d e.1 e.2) d = d ++ l := by
  induction l generalizing d with
  | nil => simp
  | cons e es ih =>
    obtain ⟨k, v⟩ := e
    have hk : k ∉ d.map Prod.fst := by
      simp only [List.map_append, List.map_cons, List.nodup_append, List.nodup_cons] at h
      intro hm
      exact h.2.2 k hm k (by simp) rfl
    simp only [List.foldl_cons]
    rw [upsert_new d k v hk, ih (d ++ [(k, v)]) (by simpa using h)]
    simp

theorem dictOf_nodup (l : KV) (h : (l.map Prod.fst).Nodup) : dictOf l = l := by
  unfold dictOf
  simpa using foldl_upsert_nodup l [] (by simpa using h)

theorem kvLeaf_render_nodup (items : List Item) (hok : ∀ i ∈ items, i.ok = true) (hnd : (items.map (·.k)).Nodup) :
    kvLeaf (renderItems items) = some (itemsKV items) := by
  rw [kvLeaf_render items hok, dictOf_nodup]
  simpa [itemsKV, List.map_map, Function.comp_def] using hnd

end CV.Auth
