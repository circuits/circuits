import CV.Model.AuthTable
import CV.Proofs.Auth
/-
C20 (every shape of user table, per call): `checkAuthA` accepts exactly what the
statement says must be accepted (`checkAuthA_ok_iff`); the dict-only model `checkAuth` is its
instance at a dict answer; the three front ends grant when `check_auth` is truthy; `runCalls` is local.
-/
namespace CV.Auth

theorem checkAuthA_dict (pol : Policy) (L : Leaves) (enc : Enc) (realm method : Str)
    (users : List (Str × Str)) (hdr : Option Str) :
    checkAuthA pol L enc realm method (.dict users) hdr = checkAuth pol L enc realm method users hdr := by
  cases hdr with
  | none => rfl
  | some cred =>
    simp only [checkAuthA, checkAuth, Ans.password]
    rfl

theorem mustAcceptA_dict (L : Leaves) (enc : Enc) (realm method : Str) (users : List (Str × Str)) (hdr : Option Str) :
    mustAcceptA L enc realm method (.dict users) hdr = mustAccept L enc realm method users hdr := by
  unfold mustAcceptA mustAccept
  rcases hdr with _ | cred <;> dsimp only
  rcases credsOf L cred with _ | c <;> dsimp only [Ans.password]
  rcases users.lookup c.username with _ | p <;> rfl

theorem mustAcceptA_some {L : Leaves} {enc : Enc} {realm method : Str} {ans : Ans} {hdr : Option Str} {u : Str} :
    mustAcceptA L enc realm method ans hdr = some u ↔
      ∃ cred c p, hdr = some cred ∧ credsOf L cred = some c ∧ c.username = u ∧ ans.password u = .val (some p) ∧
        wellFormed enc c = true ∧ Verifies L.H enc c u p realm method = true := by
  unfold mustAcceptA
  constructor
  · intro h
    repeat' (split at h)
    all_goals (first | cases h | skip)
    rename_i cred _ c hc _ p hl hcond
    simp only [Bool.and_eq_true] at hcond
    exact ⟨cred, c, p, rfl, hc, rfl, hl, hcond.1, hcond.2⟩
  · rintro ⟨cred, c, p, rfl, hc, rfl, hl, hw, hv⟩
    simp [hc, hl, hw, hv]

/-- **the model accepts, as `u`, exactly what the statement says must be accepted as `u`** -/
theorem checkAuthA_ok_iff {L : Leaves} {enc : Enc} {realm method : Str} {ans : Ans} {hdr : Option Str} {u : Str} :
    checkAuthA Policy.current L enc realm method ans hdr = .ok u ↔ mustAcceptA L enc realm method ans hdr = some u := by
  rw [mustAcceptA_some]
  constructor
  · intro h
    cases hdr with
    | none => cases h
    | some cred =>
      simp only [checkAuthA, Policy.current, Bool.false_or] at h
      split at h
      · cases h
      · simp at h
      · rename_i ah hp
        split at h
        · cases h
        · rename_i pw hw
          cases pw with
          | none => simp at h
          | some p =>
            simp only [Option.isSome_some, if_true] at h
            split at h
            · cases h
            · rename_i hv
              cases h
              obtain ⟨hc, hwf, hver⟩ := accepts_iff.mp ⟨hp, hv⟩
              exact ⟨cred, ah, p, rfl, hc, rfl, hw, hwf, hver⟩
            · cases h
  · rintro ⟨cred, c, p, rfl, hc, rfl, hw, hwf, hver⟩
    obtain ⟨hp, hv⟩ := accepts_iff.mpr ⟨hc, hwf, hver⟩
    simp [checkAuthA, hp, hw, Policy.current, hv]

/-- `check_auth` returns nothing truthy but `True` -/
theorem truthyA_ok {L : Leaves} {enc : Enc} {realm method : Str} {ans : Ans} {hdr : Option Str}
    (h : (checkAuthA Policy.current L enc realm method ans hdr).truthy = some true) :
    ∃ u, checkAuthA Policy.current L enc realm method ans hdr = .ok u := by
  cases hc : checkAuthA Policy.current L enc realm method ans hdr with
  | ok u => exact ⟨u, rfl⟩
  | refused => simp [hc, Out.truthy] at h
  | noHeader => simp [hc, Out.truthy] at h
  | raised => simp [hc, Out.truthy] at h
  | errObj =>
    exfalso
    unfold checkAuthA at hc
    simp only [Policy.current] at hc
    repeat' (split at hc)
    all_goals (first | cases hc | simp at hc)

theorem checkAuth_ok_iff {L : Leaves} {enc : Enc} {realm method : Str} {users : List (Str × Str)} {hdr : Option Str} {u : Str} :
    checkAuth Policy.current L enc realm method users hdr = .ok u ↔ mustAccept L enc realm method users hdr = some u := by
  rw [← checkAuthA_dict, ← mustAcceptA_dict]
  exact checkAuthA_ok_iff

theorem mustAccept_some {L : Leaves} {enc : Enc} {realm method : Str} {users : List (Str × Str)} {hdr : Option Str} {u : Str} :
    mustAccept L enc realm method users hdr = some u ↔
      ∃ cred c p, hdr = some cred ∧ credsOf L cred = some c ∧ c.username = u ∧ users.lookup u = some p ∧
        wellFormed enc c = true ∧ Verifies L.H enc c u p realm method = true := by
  rw [← mustAcceptA_dict, mustAcceptA_some]
  simp only [Ans.password, Res.val.injEq]

theorem truthy_ok {L : Leaves} {enc : Enc} {realm method : Str} {users : List (Str × Str)} {hdr : Option Str}
    (h : (checkAuth Policy.current L enc realm method users hdr).truthy = some true) :
    ∃ u, checkAuth Policy.current L enc realm method users hdr = .ok u := by
  rw [← checkAuthA_dict] at h ⊢
  exact truthyA_ok h

theorem basicAuthA_letThrough {pol : Policy} {L : Leaves} {enc : Enc} {realm method : Str} {ans : Ans} {hdr : Option Str} :
    basicAuthA pol L enc realm method ans hdr = .letThrough ↔
      (checkAuthA pol L enc realm method ans hdr).truthy = some true := by
  unfold basicAuthA
  rcases (checkAuthA pol L enc realm method ans hdr).truthy with _ | _ | _ <;> simp
  split <;> nofun

theorem digestAuthA_letThrough {pol : Policy} {L : Leaves} {realm method : Str} {ans : Ans} {hdr : Option Str} :
    digestAuthA pol L realm method ans hdr = .letThrough ↔
      (checkAuthA pol L .dflt realm method ans hdr).truthy = some true := by
  unfold digestAuthA
  rcases (checkAuthA pol L .dflt realm method ans hdr).truthy with _ | _ | _ <;> simp

theorem basicAuthA_dict (pol : Policy) (L : Leaves) (enc : Enc) (realm method : Str) (users : List (Str × Str))
    (hdr : Option Str) :
    basicAuthA pol L enc realm method (.dict users) hdr = basicAuth pol L enc realm method users hdr := by
  rw [basicAuthA, checkAuthA_dict]; rfl

theorem digestAuthA_dict (pol : Policy) (L : Leaves) (realm method : Str) (users : List (Str × Str)) (hdr : Option Str) :
    digestAuthA pol L realm method (.dict users) hdr = digestAuth pol L realm method users hdr := by
  rw [digestAuthA, checkAuthA_dict]; rfl

theorem callObs_granted {pol : Policy} {L : Leaves} {method : Str} {hdr : Option Str} {c : Call} {ans : Ans} :
    (callObs pol L method hdr c ans).granted = true ↔ (callOut pol L method hdr c ans).truthy = some true := by
  unfold callObs callOut Call.encUsed
  cases c.front <;> simp only [CallObs.granted, beq_iff_eq]
  · exact basicAuthA_letThrough
  · exact digestAuthA_letThrough

theorem callObs_of_ok {pol : Policy} {L : Leaves} {method : Str} {hdr : Option Str} {c : Call} {ans : Ans}
    {u : Str} (h : callOut pol L method hdr c ans = .ok u) :
    (callObs pol L method hdr c ans).granted = true ∧
    (c.front = .check → callObs pol L method hdr c ans = .check (.ok u)) := by
  refine ⟨callObs_granted.mpr (by rw [h]; rfl), fun hf => ?_⟩
  unfold callOut Call.encUsed at h
  simp only [callObs, hf] at h ⊢
  rw [h]

/-- locality: the i-th entry of a run is computed from call i and its table's answer at index
    `k + i` alone (and the login before it) -/
theorem runCalls_get (pol : Policy) (L : Leaves) (method : Str) (hdr : Option Str) :
    ∀ (calls : List Call) (lg : Login) (k i : Nat) (c : Call), calls[i]? = some c →
      ∃ lgi, (runCalls pol L method hdr lg k calls)[i]? =
        some (callObs pol L method hdr c (c.table.at (k + i)),
              loginAfter lgi (callOut pol L method hdr c (c.table.at (k + i)))) := by
  intro calls
  induction calls with
  | nil => intro lg k i c h; simp at h
  | cons d ds ih =>
    intro lg k i c h
    cases i with
    | zero =>
      simp at h
      subst h
      exact ⟨lg, by simp [runCalls]⟩
    | succ j =>
      simp at h
      obtain ⟨lgi, hj⟩ := ih (loginAfter lg (callOut pol L method hdr d (d.table.at k))) (k + 1) j c h
      refine ⟨lgi, ?_⟩
      simp only [runCalls, List.getElem?_cons_succ]
      rw [hj]
      simp [Nat.add_assoc, Nat.add_comm 1 j]

theorem runCalls_length (pol : Policy) (L : Leaves) (method : Str) (hdr : Option Str) :
    ∀ (calls : List Call) (lg : Login) (k : Nat), (runCalls pol L method hdr lg k calls).length = calls.length := by
  intro calls
  induction calls with
  | nil => intro lg k; rfl
  | cons d ds ih => intro lg k; simp [runCalls, ih]

end CV.Auth
