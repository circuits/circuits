import CV.Proofs.ClassTable
import CV.Proofs.CoreFacts
/-
`newComponent` against the core model's `addHandler` (C01).

`BaseComponent.__init__` (components.py) first runs `Manager.__init__` (empty `_handlers` / `_globals`,
`_cache_needs_refresh = False`), then calls `self.addHandler(v)` for every member with `v.handler is True`, and at
the very end `self.addHandler(_on_prepare_unregister_complete)` (a framework handler that is not class-derived;
of it only the effect `root._cache_needs_refresh = True` is in `newComponent`).  `Manager.addHandler` adds the
bound method to the *sets* `_globals` / `_handlers['*']` / `_handlers[name]` and sets the flag on the root.

Here: the state with the handler objects created and a blank component (`blankComponent`), `addHandler` of the core
model applied to the new handler ids in order (`installAll`), the final flag (`markDirty`) - and the proof that the
result is `newComponent` with repeated rows collapsed (`dedup`; rows are set elements: `@handler("a", "a")` or two
names with the same code give one row in the set, two equal rows in `tableOf`).
-/
namespace CV.ClassTable
open CV.Core

def addAll {α} [BEq α] (l xs : List α) : List α := xs.foldl addUniq l

/-- collapse repeated rows, first occurrence stays -/
def dedup {α} [BEq α] (l : List α) : List α := addAll [] l

theorem addAll_append {α} [BEq α] (l a b : List α) : addAll l (a ++ b) = addAll (addAll l a) b := by
  simp [addAll, List.foldl_append]

theorem mem_addAll {α} [BEq α] [LawfulBEq α] (y : α) : ∀ (xs l : List α), y ∈ addAll l xs ↔ y ∈ l ∨ y ∈ xs := by
  intro xs
  induction xs with
  | nil => intro l; simp [addAll]
  | cons x xs ih =>
    intro l
    show y ∈ addAll (addUniq l x) xs ↔ _
    rw [ih, mem_addUniq, List.mem_cons, or_assoc]

theorem mem_dedup {α} [BEq α] [LawfulBEq α] (l : List α) (y : α) : y ∈ dedup l ↔ y ∈ l := by
  simp [dedup, mem_addAll]

theorem addAll_of_nodup {α} [BEq α] [LawfulBEq α] : ∀ (xs l : List α), xs.Nodup → (∀ x ∈ xs, x ∉ l) → addAll l xs = l ++ xs := by
  intro xs
  induction xs with
  | nil => intro l _ _; simp [addAll]
  | cons x xs ih =>
    intro l hn hd
    have hx : x ∉ l := hd x (by simp)
    have h1 : addUniq l x = l ++ [x] := by simp [addUniq, hx]
    show addAll (addUniq l x) xs = _
    rw [h1, ih (l ++ [x]) (List.nodup_cons.mp hn).2]
    · simp
    · intro y hy hmem
      rcases List.mem_append.mp hmem with h | h
      · exact hd y (List.mem_cons_of_mem _ hy) h
      · simp only [List.mem_singleton] at h
        subst h
        exact (List.nodup_cons.mp hn).1 hy

theorem dedup_of_nodup {α} [BEq α] [LawfulBEq α] (l : List α) (h : l.Nodup) : dedup l = l := by
  have := addAll_of_nodup l [] h (by simp)
  simpa [dedup] using this

/-- the state with the handler objects of the new instance created and its component record carrying the given
    tables and flag; `recs` are the records, `chan` the instance channel -/
def stWith (E : Enc) (chan : Chan) (recs : List HandlerRecord) (s : St) (htab : List (HKey × Nat)) (globals : List Nat)
    (dirty : Bool) : St :=
  { s with
    hs := s.hs ++ recs.map (toHandler E s.comps.length),
    comps := s.comps ++ [{ parent := s.comps.length, root := s.comps.length, chan := chan, dirty := dirty,
                           htab := htab, globals := globals }] }

/-- after `Manager.__init__`: empty tables, flag clear -/
def blankComponent (E : Enc) (cs : Classes) (c : Str) (s : St) : St :=
  stWith E (E.toChan (instChannel cs c)) (effectiveHandlers cs c) s [] [] false

/-- `addHandler` for the handler ids `base, base+1, …, base+n-1` in this order -/
def installAll (s : St) (base n : Nat) : St := (List.range n).foldl (fun s i => s.addHandler (base + i)) s

/-- `root._cache_needs_refresh = True` (the effect of the closing `addHandler` of the framework handler) -/
def markDirty (s : St) (x : Nat) : St := s.modComp x fun c => { c with dirty := true }

def dedupTables (s : St) (x : Nat) : St :=
  s.modComp x fun c => { c with htab := dedup c.htab, globals := dedup c.globals }

theorem stWith_modComp (E : Enc) (chan : Chan) (recs : List HandlerRecord) (s : St) (htab : List (HKey × Nat))
    (globals : List Nat) (dirty : Bool) (f : Comp → Comp) :
    (stWith E chan recs s htab globals dirty).modComp s.comps.length f =
      { s with
        hs := s.hs ++ recs.map (toHandler E s.comps.length),
        comps := s.comps ++ [f { parent := s.comps.length, root := s.comps.length, chan := chan, dirty := dirty,
                                 htab := htab, globals := globals }] } := by
  simp [stWith, St.modComp, modify_append_length]

theorem stWith_handler (E : Enc) (chan : Chan) (recs : List HandlerRecord) (s : St) (htab : List (HKey × Nat))
    (globals : List Nat) (dirty : Bool) (i : Nat) (r : HandlerRecord) (hi : recs[i]? = some r) :
    (stWith E chan recs s htab globals dirty).handler (s.hs.length + i) = toHandler E s.comps.length r := by
  simp [stWith, St.handler, List.getD, List.getElem?_append_right, hi]

theorem stWith_rootOf (E : Enc) (chan : Chan) (recs : List HandlerRecord) (s : St) (htab : List (HKey × Nat))
    (globals : List Nat) (dirty : Bool) :
    (stWith E chan recs s htab globals dirty).rootOf s.comps.length = s.comps.length := by
  simp [stWith, St.rootOf, St.comp, List.getD]

theorem toChan_eq_star (E : Enc) (ch : Str) : (E.toChan ch == Chan.star) = (ch == star) := by
  unfold Enc.toChan
  by_cases h : (ch == star) = true
  · simp [h]
  · simp [h]

theorem chan_is_star (E : Enc) (ch : Option Str) : (ch.map E.toChan == some Chan.star) = (ch == some star) := by
  cases ch with
  | none => rfl
  | some ch =>
    have := toChan_eq_star E ch
    simpa using this

theorem stWith_modHtab (E : Enc) (chan : Chan) (recs : List HandlerRecord) (s : St) (htab : List (HKey × Nat))
    (globals : List Nat) (dirty : Bool) (F : List (HKey × Nat) → List (HKey × Nat)) :
    (stWith E chan recs s htab globals dirty).modComp s.comps.length (fun x => { x with htab := F x.htab }) =
      stWith E chan recs s (F htab) globals dirty := by
  rw [stWith_modComp]; rfl

theorem stWith_modGlobals (E : Enc) (chan : Chan) (recs : List HandlerRecord) (s : St) (htab : List (HKey × Nat))
    (globals : List Nat) (dirty : Bool) (F : List Nat → List Nat) :
    (stWith E chan recs s htab globals dirty).modComp s.comps.length (fun x => { x with globals := F x.globals }) =
      stWith E chan recs s htab (F globals) dirty := by
  rw [stWith_modComp]; rfl

theorem stWith_modDirty (E : Enc) (chan : Chan) (recs : List HandlerRecord) (s : St) (htab : List (HKey × Nat))
    (globals : List Nat) (dirty : Bool) :
    (stWith E chan recs s htab globals dirty).modComp s.comps.length (fun x => { x with dirty := true }) =
      stWith E chan recs s htab globals true := by
  rw [stWith_modComp]; rfl

theorem fold_names (E : Enc) (chan : Chan) (recs : List HandlerRecord) (s : St) (globals : List Nat) (dirty : Bool) (h : Nat) :
    ∀ (names : List Name) (htab : List (HKey × Nat)),
    names.foldl (fun s' n => s'.modComp s.comps.length fun x => { x with htab := addUniq x.htab (some n, h) })
        (stWith E chan recs s htab globals dirty) =
      stWith E chan recs s (addAll htab (names.map fun n => (some n, h))) globals dirty := by
  intro names
  induction names with
  | nil => intro htab; simp [addAll]
  | cons n ns ih =>
    intro htab
    simp only [List.foldl_cons, List.map_cons]
    rw [stWith_modHtab E chan recs s htab globals dirty (fun t => addUniq t (some n, h))]
    exact ih _

theorem stWith_addHandler (E : Enc) (chan : Chan) (recs : List HandlerRecord) (s : St) (htab : List (HKey × Nat))
    (globals : List Nat) (dirty : Bool) (i : Nat) (r : HandlerRecord) (hi : recs[i]? = some r) :
    (stWith E chan recs s htab globals dirty).addHandler (s.hs.length + i) =
      stWith E chan recs s (addAll htab (htabRows E r (s.hs.length + i)))
        (addAll globals (globalRows r (s.hs.length + i))) true := by
  unfold St.addHandler
  simp only [stWith_handler E chan recs s htab globals dirty i r hi]
  have hn : (toHandler E s.comps.length r).names = r.names.map E.name := rfl
  have ho : (toHandler E s.comps.length r).owner = s.comps.length := rfl
  have hc : (toHandler E s.comps.length r).chan = r.chan.map E.toChan := rfl
  simp only [hn, ho, hc, chan_is_star, List.isEmpty_map]
  by_cases h1 : r.names.isEmpty = true
  · by_cases h2 : (r.chan == some star) = true
    · simp only [h1, h2, Bool.and_self, ↓reduceIte, htabRows, globalRows]
      rw [stWith_modGlobals E chan recs s htab globals dirty (fun t => addUniq t (s.hs.length + i)), stWith_rootOf,
        stWith_modDirty]
      rfl
    · simp only [h1, h2, Bool.and_false, Bool.false_eq_true, ↓reduceIte, htabRows, globalRows]
      rw [stWith_modHtab E chan recs s htab globals dirty (fun t => addUniq t (none, s.hs.length + i)), stWith_rootOf,
        stWith_modDirty]
      rfl
  · simp only [h1, Bool.false_and, Bool.false_eq_true, ↓reduceIte, htabRows, globalRows]
    rw [fold_names, stWith_rootOf, stWith_modDirty, List.map_map]
    rfl

theorem tableOf_append (E : Enc) (base : Nat) (a : List HandlerRecord) (i : Nat) (b : List HandlerRecord) :
    tableOf E base i (a ++ b) = tableOf E base i a ++ tableOf E base (i + a.length) b :=
  rows_append (fun _ => rfl) (fun _ _ _ => rfl) a i b

theorem globalsOf_append (base : Nat) (a : List HandlerRecord) (i : Nat) (b : List HandlerRecord) :
    globalsOf base i (a ++ b) = globalsOf base i a ++ globalsOf base (i + a.length) b :=
  rows_append (fun _ => rfl) (fun _ _ _ => rfl) a i b

theorem installAll_take (E : Enc) (chan : Chan) (recs : List HandlerRecord) (s : St) : ∀ n, n ≤ recs.length →
    installAll (stWith E chan recs s [] [] false) s.hs.length n =
      stWith E chan recs s (dedup (tableOf E s.hs.length 0 (recs.take n))) (dedup (globalsOf s.hs.length 0 (recs.take n)))
        (decide (0 < n)) := by
  intro n
  induction n with
  | zero => intro _; simp [installAll, dedup, addAll, tableOf, globalsOf]
  | succ n ih =>
    intro hn
    have hlt : n < recs.length := by omega
    have hstep : installAll (stWith E chan recs s [] [] false) s.hs.length (n + 1) =
        (installAll (stWith E chan recs s [] [] false) s.hs.length n).addHandler (s.hs.length + n) := by
      simp [installAll, List.range_succ, List.foldl_append]
    rw [hstep, ih (by omega), stWith_addHandler E chan recs s _ _ _ n recs[n] (List.getElem?_eq_getElem hlt)]
    have htake : recs.take (n + 1) = recs.take n ++ [recs[n]] := by
      rw [List.take_add_one, List.getElem?_eq_getElem hlt]; rfl
    have hlen : (recs.take n).length = n := by simp; omega
    rw [htake, tableOf_append, globalsOf_append, hlen]
    simp only [dedup, addAll_append, tableOf, globalsOf, List.append_nil, Nat.zero_add, Nat.zero_lt_succ, decide_true]

theorem newComponent_eq_stWith (E : Enc) (cs : Classes) (c : Str) (s : St) :
    newComponent E cs c s = stWith E (E.toChan (instChannel cs c)) (effectiveHandlers cs c) s
      (tableOf E s.hs.length 0 (effectiveHandlers cs c)) (globalsOf s.hs.length 0 (effectiveHandlers cs c)) true := rfl

/-- the whole of `__init__`'s handler installation -/
theorem init_eq_newComponent (E : Enc) (cs : Classes) (c : Str) (s : St) :
    markDirty (installAll (blankComponent E cs c s) s.hs.length (effectiveHandlers cs c).length) s.comps.length =
      dedupTables (newComponent E cs c s) s.comps.length := by
  rw [blankComponent, installAll_take _ _ _ _ _ (Nat.le_refl _), List.take_length, newComponent_eq_stWith]
  unfold markDirty dedupTables
  rw [stWith_modDirty, stWith_modComp]
  rfl

theorem dedupTables_of_nodup (E : Enc) (cs : Classes) (c : Str) (s : St)
    (h1 : (tableOf E s.hs.length 0 (effectiveHandlers cs c)).Nodup)
    (h2 : (globalsOf s.hs.length 0 (effectiveHandlers cs c)).Nodup) :
    dedupTables (newComponent E cs c s) s.comps.length = newComponent E cs c s := by
  rw [newComponent_eq_stWith]
  unfold dedupTables
  rw [stWith_modComp]
  simp only [dedup_of_nodup _ h1, dedup_of_nodup _ h2]
  rfl

theorem htabRows_nodup (E : Enc) (r : HandlerRecord) (h : Nat) (hn : (r.names.map E.name).Nodup) : (htabRows E r h).Nodup := by
  unfold htabRows
  split
  · split
    · exact List.nodup_nil
    · simp
  · have : (r.names.map fun n => ((some (E.name n) : HKey), h)) = (r.names.map E.name).map fun n => ((some n : HKey), h) := by
      rw [List.map_map]; rfl
    rw [this]
    exact List.Pairwise.map _ (fun a b hab h' => hab (by cases h'; rfl)) hn

theorem tableOf_nodup (E : Enc) (base : Nat) (recs : List HandlerRecord) (hn : ∀ r ∈ recs, (r.names.map E.name).Nodup)
    (j : Nat) : (tableOf E base j recs).Nodup :=
  rows_nodup (fun _ => rfl) (fun _ _ _ => rfl) Prod.snd (htabRows_snd E) recs (fun r hr h => htabRows_nodup E r h (hn r hr)) j

theorem globalsOf_nodup (base : Nat) (recs : List HandlerRecord) (j : Nat) : (globalsOf base j recs).Nodup :=
  rows_nodup (fun _ => rfl) (fun _ _ _ => rfl) id (fun r h x hx => ((mem_globalRows r h x).mp hx).1) recs
    (fun r _ h => by unfold globalRows; split <;> simp) j

end CV.ClassTable
