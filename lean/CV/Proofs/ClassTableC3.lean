import CV.Proofs.ClassTable
/-
C3 as a relation (C01): the merge rule of CPython's `pmerge` (Objects/typeobject.c) written as an inductive
relation that does not mention the executable `merge` / `pickHead`, and the proof that the executable model
computes exactly that relation: sound, complete (hence deterministic), and `none` exactly when a merge step
is reached at which no sequence head is a good head (the situation in which CPython raises
TypeError "Cannot create a consistent method resolution order (MRO)").  Then, in terms of the relation, when a class
statement is accepted (`mroFor_some_iff`) or refused (`mroFor_none_iff`), the table a sequence of class statements
builds (`linearize_c3`), and the MRO of a class (`mro_eq_c3`).
-/
namespace CV.ClassTable

def InTail (seqs : List (List Str)) (x : Str) : Prop := ∃ t ∈ seqs, x ∈ t.tail

def GoodHead (seqs : List (List Str)) (h : Str) : Prop := (∃ s ∈ seqs, s.head? = some h) ∧ ¬ InTail seqs h

/-- the candidate `pmerge` takes: the head of the first sequence (in the order given) whose head is good;
    every earlier non-empty sequence has a head that sits in some tail -/
def FirstGood (seqs : List (List Str)) (h : Str) : Prop :=
  ∃ pre s post, seqs = pre ++ s :: post ∧ s.head? = some h ∧ ¬ InTail seqs h ∧
    ∀ p ∈ pre, ∀ x, p.head? = some x → InTail seqs x

inductive C3Merge : List (List Str) → List Str → Prop
  | done {seqs} : (∀ s ∈ seqs, s = []) → C3Merge seqs []
  | step {seqs h l} : FirstGood seqs h → C3Merge (seqs.map (dropHead h)) l → C3Merge seqs (h :: l)

/-- the merge gets stuck: after some legal steps sequences are left but none of their heads is good -/
inductive C3Stuck : List (List Str) → Prop
  | here {seqs} : (∃ s ∈ seqs, s ≠ []) → (∀ h, ¬ GoodHead seqs h) → C3Stuck seqs
  | later {seqs h} : FirstGood seqs h → C3Stuck (seqs.map (dropHead h)) → C3Stuck seqs

theorem any_tail_iff (seqs : List (List Str)) (x : Str) :
    seqs.any (fun t => t.tail.contains x) = true ↔ InTail seqs x := by
  simp [InTail, List.any_eq_true]

theorem FirstGood.good {seqs : List (List Str)} {h : Str} (hf : FirstGood seqs h) : GoodHead seqs h := by
  obtain ⟨pre, s, post, rfl, hs, hn, _⟩ := hf
  exact ⟨⟨s, by simp, hs⟩, hn⟩

def goodHeadOf (seqs : List (List Str)) (s : List Str) : Option Str :=
  s.head?.filter fun h => !seqs.any fun t => t.tail.contains h

theorem pickHead_eq (seqs : List (List Str)) : ∀ rest, pickHead seqs rest = rest.findSome? (goodHeadOf seqs) := by
  intro rest
  induction rest with
  | nil => rfl
  | cons s rest ih =>
    rcases s with _ | ⟨h, t⟩
    · simpa [pickHead, goodHeadOf] using ih
    · rw [pickHead, ih, List.findSome?_cons]
      cases hb : seqs.any fun t => t.tail.contains h <;>
        simp only [goodHeadOf, List.head?_cons, Option.filter_some, hb, Bool.not_false, Bool.not_true, if_true, Bool.false_eq_true, if_false]

theorem goodHeadOf_some {seqs : List (List Str)} {s : List Str} {h : Str} :
    goodHeadOf seqs s = some h ↔ s.head? = some h ∧ ¬ InTail seqs h := by
  simp [goodHeadOf, Option.filter_eq_some_iff, ← any_tail_iff]

theorem goodHeadOf_none {seqs : List (List Str)} {s : List Str} :
    goodHeadOf seqs s = none ↔ ∀ x, s.head? = some x → InTail seqs x := by
  simp [goodHeadOf, Option.filter_eq_none_iff, ← any_tail_iff]

theorem pickHead_eq_some_iff (seqs : List (List Str)) (h : Str) : pickHead seqs seqs = some h ↔ FirstGood seqs h := by
  simp only [pickHead_eq, List.findSome?_eq_some_iff, goodHeadOf_some, goodHeadOf_none, FirstGood, and_assoc]

theorem pickHead_none (seqs rest : List (List Str)) (h : pickHead seqs rest = none) :
    ∀ s ∈ rest, ∀ x, s.head? = some x → InTail seqs x := by
  simpa only [pickHead_eq, List.findSome?_eq_none_iff, goodHeadOf_none] using h

theorem FirstGood.unique {seqs : List (List Str)} {h h' : Str} (a : FirstGood seqs h) (b : FirstGood seqs h') : h = h' := by
  have ha := (pickHead_eq_some_iff seqs h).mpr a
  have hb := (pickHead_eq_some_iff seqs h').mpr b
  rw [ha] at hb
  exact Option.some.inj hb

theorem all_isEmpty_iff (seqs : List (List Str)) : seqs.all (·.isEmpty) = true ↔ ∀ s ∈ seqs, s = [] := by
  simp [List.all_eq_true]

theorem dropHead_length_le (h : Str) (s : List Str) : (dropHead h s).length ≤ s.length := by
  cases s with
  | nil => simp [dropHead]
  | cons x t =>
    simp only [dropHead]
    by_cases hx : (x == h) = true
    · simp [hx]
    · simp [hx]

theorem dropHead_length_lt (h : Str) (s : List Str) (hs : s.head? = some h) : (dropHead h s).length < s.length := by
  cases s with
  | nil => cases hs
  | cons x t =>
    simp only [List.head?_cons, Option.some.injEq] at hs
    subst hs
    simp [dropHead]

theorem totalLen_cons (s : List Str) (seqs : List (List Str)) : totalLen (s :: seqs) = s.length + totalLen seqs := by
  simp [totalLen]

theorem totalLen_dropHead_le (h : Str) : ∀ seqs : List (List Str), totalLen (seqs.map (dropHead h)) ≤ totalLen seqs := by
  intro seqs
  induction seqs with
  | nil => simp
  | cons s seqs ih =>
    rw [List.map_cons, totalLen_cons, totalLen_cons]
    have := dropHead_length_le h s
    omega

theorem totalLen_dropHead_lt (h : Str) : ∀ seqs : List (List Str), (∃ s ∈ seqs, s.head? = some h) →
    totalLen (seqs.map (dropHead h)) < totalLen seqs := by
  intro seqs
  induction seqs with
  | nil => rintro ⟨s, hs, _⟩; cases hs
  | cons s0 seqs ih =>
    rintro ⟨s, hs, hh⟩
    rw [List.map_cons, totalLen_cons, totalLen_cons]
    rcases List.mem_cons.mp hs with rfl | hs
    · have := dropHead_length_lt h s hh
      have := totalLen_dropHead_le h seqs
      omega
    · have := ih ⟨s, hs, hh⟩
      have := dropHead_length_le h s0
      omega

theorem totalLen_zero (seqs : List (List Str)) (h : totalLen seqs = 0) : ∀ s ∈ seqs, s = [] :=
  fun _ hs => List.eq_nil_of_length_eq_zero (List.sum_eq_zero_iff_forall_eq_nat.mp h _ (List.mem_map_of_mem hs))

theorem C3Merge.unique {seqs : List (List Str)} {l l' : List Str} (a : C3Merge seqs l) (b : C3Merge seqs l') : l = l' := by
  induction a generalizing l' with
  | done hall =>
    cases b with
    | done => rfl
    | step hf _ => obtain ⟨s, hs, hh⟩ := hf.good.1; rw [hall s hs] at hh; cases hh
  | step hf _ ih =>
    cases b with
    | done hall => obtain ⟨s, hs, hh⟩ := hf.good.1; rw [hall s hs] at hh; cases hh
    | step hf' hb => cases hf.unique hf'; rw [ih hb]

theorem C3Stuck.no_merge {seqs : List (List Str)} (hs : C3Stuck seqs) : ¬ ∃ l, C3Merge seqs l := by
  induction hs with
  | here hne hng =>
    rintro ⟨l, hm⟩
    cases hm with
    | done hall =>
      obtain ⟨s, hs, hn⟩ := hne
      exact hn (hall s hs)
    | step hf _ => exact hng _ hf.good
  | later hf _ ih =>
    rintro ⟨l, hm⟩
    cases hm with
    | done hall =>
      obtain ⟨s, hs, hh⟩ := hf.good.1
      rw [hall s hs] at hh; cases hh
    | step hf' hm' =>
      cases hf.unique hf'
      exact ih ⟨_, hm'⟩

def Ends (seqs : List (List Str)) : Option (List Str) → Prop
  | some l => C3Merge seqs l
  | none => C3Stuck seqs

theorem merge_ends : ∀ (fuel : Nat) (seqs : List (List Str)), totalLen seqs ≤ fuel → Ends seqs (merge fuel seqs) := by
  intro fuel
  induction fuel with
  | zero =>
    intro seqs hfuel
    have hall := totalLen_zero seqs (by omega)
    rw [merge, if_pos ((all_isEmpty_iff seqs).mpr hall)]
    exact .done hall
  | succ fuel ih =>
    intro seqs hfuel
    rw [merge]
    by_cases hall : seqs.all (·.isEmpty) = true
    · rw [if_pos hall]
      exact .done ((all_isEmpty_iff seqs).mp hall)
    rw [if_neg hall]
    cases hp : pickHead seqs seqs with
    | none =>
      refine C3Stuck.here (by simpa [all_isEmpty_iff] using hall) ?_
      rintro x ⟨⟨s, hs, hh⟩, hn⟩
      exact hn (pickHead_none seqs seqs hp s hs x hh)
    | some x =>
      have hf := (pickHead_eq_some_iff seqs x).mp hp
      have := ih (seqs.map (dropHead x)) (by have := totalLen_dropHead_lt x seqs hf.good.1; omega)
      dsimp only
      cases hm : merge fuel (seqs.map (dropHead x)) with
      | none => rw [hm] at this; exact C3Stuck.later hf this
      | some l => rw [hm] at this; exact C3Merge.step hf this

theorem Ends.unique {seqs : List (List Str)} {r r' : Option (List Str)} (a : Ends seqs r) (b : Ends seqs r') : r = r' := by
  cases r <;> cases r'
  · rfl
  · exact absurd ⟨_, b⟩ (C3Stuck.no_merge a)
  · exact absurd ⟨_, a⟩ (C3Stuck.no_merge b)
  · exact congrArg some (C3Merge.unique a b)

/-- **the executable merge answers exactly how the rule ends** -/
theorem merge_eq_iff (fuel : Nat) (seqs : List (List Str)) (hfuel : totalLen seqs ≤ fuel) (r : Option (List Str)) :
    merge fuel seqs = r ↔ Ends seqs r :=
  ⟨fun e => e ▸ merge_ends fuel seqs hfuel, fun h => (merge_ends fuel seqs hfuel).unique h⟩

theorem merge_some_iff (fuel : Nat) (seqs : List (List Str)) (hfuel : totalLen seqs ≤ fuel) (l : List Str) :
    merge fuel seqs = some l ↔ C3Merge seqs l :=
  merge_eq_iff fuel seqs hfuel (some l)

theorem merge_none_iff (fuel : Nat) (seqs : List (List Str)) (hfuel : totalLen seqs ≤ fuel) :
    merge fuel seqs = none ↔ C3Stuck seqs :=
  merge_eq_iff fuel seqs hfuel none

theorem dropHead_sublist (h : Str) (s l : List Str) (hs : (dropHead h s).Sublist l) : s.Sublist (h :: l) := by
  cases s with
  | nil => exact List.nil_sublist _
  | cons x t =>
    unfold dropHead at hs
    by_cases hx : x = h
    · subst hx
      simp only [beq_self_eq_true, ↓reduceIte] at hs
      exact List.Sublist.cons_cons _ hs
    · have : (x == h) = false := by simpa using hx
      simp only [this, Bool.false_eq_true, ↓reduceIte] at hs
      exact List.Sublist.cons _ hs

theorem C3Merge.sublist {seqs : List (List Str)} {l : List Str} (h : C3Merge seqs l) : ∀ s ∈ seqs, s.Sublist l := by
  induction h with
  | done hall => intro s hs; rw [hall s hs]; exact List.nil_sublist _
  | step _ _ ih => intro s hs; exact dropHead_sublist _ s _ (ih _ (List.mem_map_of_mem hs))

theorem mapM_eq_some_iff {α β} (f : α → Option β) : ∀ (l : List α) (ms : List β),
    l.mapM f = some ms ↔ l.map f = ms.map some := by
  intro l
  induction l with
  | nil => intro ms; cases ms <;> simp
  | cons a l ih =>
    intro ms
    rw [List.mapM_cons]
    cases ms with
    | nil => cases f a <;> cases l.mapM f <;> simp
    | cons m ms =>
      simp only [List.map_cons, List.cons.injEq, ← ih]
      cases f a <;> cases l.mapM f <;> simp

theorem mapM_lookup_stable {acc t : MroTable} (hst : ∀ k v, acc.lookup k = some v → t.lookup k = some v)
    (bs : List Str) (ms : List (List Str)) (h : bs.mapM (acc.lookup ·) = some ms) : bs.mapM (t.lookup ·) = some ms := by
  rw [mapM_eq_some_iff] at h ⊢
  rw [← h]
  refine List.map_congr_left fun b hb => ?_
  obtain ⟨m, -, hm⟩ := List.mem_map.mp (h ▸ List.mem_map_of_mem (f := (acc.lookup ·)) hb)
  rw [← hm, hst b m hm.symm]

theorem mapM_lookup_eq_map {t : MroTable} (bs : List Str) (ms : List (List Str)) (h : bs.mapM (t.lookup ·) = some ms) :
    ms = bs.map (fun b => (t.lookup b).getD []) ∧ ∀ b ∈ bs, (t.lookup b).isSome = true := by
  rw [mapM_eq_some_iff] at h
  constructor
  · have := congrArg (List.map (·.getD [])) h
    simpa [List.map_map, Function.comp_def] using this.symm
  · intro b hb
    obtain ⟨m, -, hm⟩ := List.mem_map.mp (h ▸ List.mem_map_of_mem (f := (t.lookup ·)) hb)
    rw [← hm]; rfl

theorem mroFor_some_iff (acc : MroTable) (d : ClassDecl) (l : List Str) :
    mroFor acc d = some l ↔ acc.lookup d.name = none ∧ d.bases ≠ [] ∧
      ∃ ms rest, d.bases.mapM (acc.lookup ·) = some ms ∧ l = d.name :: rest ∧ C3Merge (ms ++ [d.bases]) rest := by
  unfold mroFor
  split
  · rename_i hc
    simp only [Bool.or_eq_true, Option.isSome_iff_ne_none, ne_eq, List.isEmpty_iff] at hc
    constructor
    · intro h; cases h
    · rintro ⟨h1, h2, _⟩
      rcases hc with hc | hc
      · exact absurd h1 hc
      · exact absurd hc h2
  · rename_i hc
    simp only [Bool.or_eq_true, Option.isSome_iff_ne_none, ne_eq, List.isEmpty_iff, not_or, Decidable.not_not] at hc
    split
    · rename_i hms
      constructor
      · intro h; cases h
      · rintro ⟨_, _, ms, rest, hm, _⟩
        rw [hms] at hm; cases hm
    · rename_i ms hms
      simp only [Option.map_eq_some_iff]
      constructor
      · rintro ⟨rest, hmerge, rfl⟩
        exact ⟨hc.1, hc.2, ms, rest, hms, rfl, (merge_some_iff _ _ (Nat.le_refl _) _).mp hmerge⟩
      · rintro ⟨_, _, ms', rest, hm, rfl, hmerge⟩
        rw [hms] at hm; cases hm
        exact ⟨rest, (merge_some_iff _ _ (Nat.le_refl _) _).mpr hmerge, rfl⟩

theorem mroFor_none_iff (acc : MroTable) (d : ClassDecl) :
    mroFor acc d = none ↔ (acc.lookup d.name).isSome = true ∨ d.bases = [] ∨ d.bases.mapM (acc.lookup ·) = none ∨
      ∃ ms, d.bases.mapM (acc.lookup ·) = some ms ∧ C3Stuck (ms ++ [d.bases]) := by
  unfold mroFor
  split
  · rename_i hc
    simp only [Bool.or_eq_true, List.isEmpty_iff] at hc
    simp only [true_iff]
    rcases hc with hc | hc
    · exact .inl hc
    · exact .inr (.inl hc)
  · rename_i hc
    simp only [Bool.or_eq_true, List.isEmpty_iff, not_or] at hc
    split
    · rename_i hms
      simp only [true_iff]
      exact .inr (.inr (.inl hms))
    · rename_i ms hms
      simp only [Option.map_eq_none_iff]
      rw [merge_none_iff _ _ (Nat.le_refl _)]
      constructor
      · intro h; exact .inr (.inr (.inr ⟨ms, hms, h⟩))
      · rintro (h | h | h | ⟨ms', hm, h⟩)
        · exact absurd h hc.1
        · exact absurd h hc.2
        · rw [hms] at h; cases h
        · rw [hms] at hm; cases hm; exact h

theorem lookup_append_some {β} (k : Str) (v : β) (l l' : List (Str × β)) (h : l.lookup k = some v) :
    (l ++ l').lookup k = some v := by
  rw [List.lookup_append, h]; rfl

theorem lookup_snoc_self {β} (k : Str) (v : β) (l : List (Str × β)) (h : l.lookup k = none) :
    (l ++ [(k, v)]).lookup k = some v := by
  rw [List.lookup_append, h, List.lookup_cons_self]; rfl

/-- an invariant of (statements executed so far, table they built) that every accepted class statement keeps
    holds of the whole sequence and the final table -/
theorem linearizeFrom_ind (Q : Classes → MroTable → Prop)
    (hstep : ∀ pre a d l, Q pre a → mroFor a d = some l → Q (pre ++ [d]) (a ++ [(d.name, l)])) :
    ∀ (cs pre : Classes) (acc t : MroTable), Q pre acc → linearizeFrom acc cs = some t → Q (pre ++ cs) t := by
  intro cs
  induction cs with
  | nil => intro pre acc t hq h; cases h; rwa [List.append_nil]
  | cons d ds ih =>
    intro pre acc t hq h
    unfold linearizeFrom at h
    cases hm : mroFor acc d with
    | none => rw [hm] at h; cases h
    | some l =>
      rw [hm] at h
      have := ih _ _ t (hstep pre acc d l hq hm) h
      rwa [List.append_assoc] at this

theorem linearize_heads {cs : Classes} {t : MroTable} (h : linearize cs = some t) : ∀ p ∈ t, ∃ rest, p.2 = p.1 :: rest := by
  refine linearizeFrom_ind (fun _ a => ∀ p ∈ a, ∃ rest, p.2 = p.1 :: rest) ?step cs [] _ t ?base h
  case base =>
    intro p hp
    rcases List.mem_cons.mp hp with rfl | hp
    · exact ⟨_, rfl⟩
    · obtain rfl := List.mem_singleton.mp hp
      exact ⟨_, rfl⟩
  intro _ a d l hq hm p hp
  rcases List.mem_append.mp hp with hp | hp
  · exact hq p hp
  · obtain ⟨_, _, _, rest, _, rfl, _⟩ := (mroFor_some_iff a d l).mp hm
    obtain rfl := List.mem_singleton.mp hp
    exact ⟨rest, rfl⟩

theorem linearize_c3 {cs : Classes} {t : MroTable} (h : linearize cs = some t) :
    ∀ d ∈ cs, ∃ ms rest, d.bases.mapM (t.lookup ·) = some ms ∧ t.lookup d.name = some (d.name :: rest) ∧
      C3Merge (ms ++ [d.bases]) rest := by
  refine List.nil_append cs ▸ linearizeFrom_ind (fun pre a => ∀ d ∈ pre, ∃ ms rest, d.bases.mapM (a.lookup ·) = some ms ∧
    a.lookup d.name = some (d.name :: rest) ∧ C3Merge (ms ++ [d.bases]) rest) ?_ cs [] _ t nofun h
  intro pre a d l hq hm d' hd'
  -- appending an entry changes no lookup that succeeded
  have hst := fun k v hk => lookup_append_some k v a [(d.name, l)] hk
  rcases List.mem_append.mp hd' with hd' | hd'
  · obtain ⟨ms, rest, h1, h2, h3⟩ := hq d' hd'
    exact ⟨ms, rest, mapM_lookup_stable hst _ _ h1, hst _ _ h2, h3⟩
  · obtain rfl := List.mem_singleton.mp hd'
    obtain ⟨hnone, _, ms, rest, hms, rfl, hmerge⟩ := (mroFor_some_iff a d' l).mp hm
    exact ⟨ms, rest, mapM_lookup_stable hst _ _ hms, lookup_snoc_self _ _ _ hnone, hmerge⟩

theorem linearizeFrom_none_iff : ∀ (cs : Classes) (acc : MroTable), linearizeFrom acc cs = none ↔
    ∃ pre d post t, cs = pre ++ d :: post ∧ linearizeFrom acc pre = some t ∧ mroFor t d = none := by
  intro cs
  induction cs with
  | nil =>
    intro acc
    simp only [linearizeFrom]
    constructor
    · intro h; cases h
    · rintro ⟨pre, d, post, t, he, _⟩
      cases pre <;> cases he
  | cons d0 ds ih =>
    intro acc
    cases hm : mroFor acc d0 with
    | none =>
      simp only [linearizeFrom, hm, true_iff]
      exact ⟨[], d0, ds, acc, rfl, rfl, hm⟩
    | some l =>
      simp only [linearizeFrom, hm]
      rw [ih]
      constructor
      · rintro ⟨pre, d, post, t, rfl, hl, hn⟩
        exact ⟨d0 :: pre, d, post, t, rfl, by simp only [linearizeFrom, hm]; exact hl, hn⟩
      · rintro ⟨pre, d, post, t, he, hl, hn⟩
        cases pre with
        | nil =>
          simp only [List.nil_append, List.cons.injEq] at he
          simp only [linearizeFrom, Option.some.injEq] at hl
          rw [← hl, ← he.1, hm] at hn; cases hn
        | cons p pre =>
          simp only [List.cons_append, List.cons.injEq] at he
          rw [← he.1] at hl
          simp only [linearizeFrom, hm] at hl
          exact ⟨pre, d, post, t, he.2, hl, hn⟩

theorem mro_of_table {cs : Classes} {t : MroTable} (h : linearize cs = some t) (c : Str) :
    mro cs c = (t.lookup c).getD [] := by
  simp [mro, h]

theorem mro_head (cs : Classes) (c : Str) (h : mro cs c ≠ []) : ∃ rest, mro cs c = c :: rest := by
  cases hl : linearize cs with
  | none => simp [mro, hl] at h
  | some t =>
    rw [mro_of_table hl] at h ⊢
    cases hk : t.lookup c with
    | none => simp [hk] at h
    | some l => exact linearize_heads hl (c, l) (lookup_mem hk)

theorem mro_eq_c3 {cs : Classes} {t : MroTable} (h : linearize cs = some t) {d : ClassDecl} (hd : d ∈ cs) :
    ∃ rest, mro cs d.name = d.name :: rest ∧ C3Merge (d.bases.map (mro cs) ++ [d.bases]) rest ∧
      ∀ b ∈ d.bases, mro cs b ≠ [] := by
  obtain ⟨ms, rest, hms, hlk, hmerge⟩ := linearize_c3 h d hd
  obtain ⟨rfl, hsome⟩ := mapM_lookup_eq_map d.bases ms hms
  rw [show (fun b => (t.lookup b).getD []) = mro cs from funext fun b => (mro_of_table h b).symm] at hmerge
  refine ⟨rest, by rw [mro_of_table h, hlk]; rfl, hmerge, fun b hb => ?_⟩
  obtain ⟨m, hm⟩ := Option.isSome_iff_exists.mp (hsome b hb)
  obtain ⟨r, hr⟩ := linearize_heads h (b, m) (lookup_mem hm)
  rw [mro_of_table h, hm, Option.getD_some, show m = b :: r from hr]
  exact List.cons_ne_nil _ _

end CV.ClassTable
