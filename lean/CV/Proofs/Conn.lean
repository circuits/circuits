import CV.Proofs.ConnPoller
import CV.Model.ConnSpec
/-
C12: the invariant of the server × poller composition (`CInv`: every table
mentions only connected sockets, connected sockets are open), the simulation between the model
and the observer of ConnSpec (`Rel`), and their preservation by every handler (`Ok`).  Both speak of one socket at a
time and a handler changes one socket, so a handler is checked on its own socket and framed on the others
(`Sock.frame`, `Rel.move`).  What the observer's automaton allows one socket over a whole stream is `Life` / `life_run`.
Last section (`Client`): the client's `connected` / `disconnected` events, step by step.
The induction over a history (`ok_runFrom`, `ok_run`) is in ConnAccept.lean, done once for the widest alphabet.
-/
namespace CV
namespace Conn
open Poller (Obj upd Good Shrink upd_apply upd_same upd_other)

/-- the invariant of server × poller: the poller's own (`G`); only clients are listed by the poller (`L`), have a
    buffer entry (`B`) or wait in `_closeq` (`Q`); the clients are the sockets whose descriptor is open (`O`, `C`);
    no duplicates (`ND`, `NQ`); every object `accept()` returned (`objs`) was created in the world (`J`) -/
structure CInv (s : State) : Prop where
  G : Good s.p
  L : ∀ o, (o ∈ s.p.read ∨ o ∈ s.p.write) → o ∈ s.clients
  B : ∀ o, (s.buffers o).isSome = true → o ∈ s.clients
  Q : ∀ o, o ∈ s.closeq → o ∈ s.clients
  O : ∀ o, o ∈ s.clients → (s.p.w.fno o).isSome = true
  C : ∀ o, (s.p.w.fno o).isSome = true → o ∈ s.clients
  ND : s.clients.Nodup
  NQ : s.closeq.Nodup
  J : ∀ o, o ∈ s.objs → (s.p.w.orig o).isSome = true

/-- the observer's phase of a socket against the server's tables: connected = a client, idle = never created;
    between handlers every chunk `recv()` delivered has been seen in a `read` -/
structure Rel (s : State) (σ : Spec) : Prop where
  conn : ∀ o, σ.ph o = .conn ↔ o ∈ s.clients
  idle : ∀ o, σ.ph o = .idle ↔ s.p.w.orig o = none
  pend : σ.pend = []

theorem CInv.init (k : Poller.Kind) : CInv (State.init k) := by
  constructor <;> simp [State.init, Poller.State.init, Poller.World.init]
  exact Good.init k

theorem Rel.init (k : Poller.Kind) : Rel (State.init k) {} := by
  constructor <;> simp [State.init, Poller.State.init, Poller.World.init]

def specAdv (σ : Spec) (es : List Obs) : Spec := es.foldl Spec.advance σ

theorem specAdv_append (σ : Spec) (a b : List Obs) : specAdv σ (a ++ b) = specAdv (specAdv σ a) b := by
  simp [specAdv, List.foldl_append]

theorem specFail_cons {σ : Spec} {x : Obs} {es : List Obs} (h : specFail σ (x :: es) = none) :
    obsFail σ x = none ∧ specFail (σ.advance x) es = none := by
  simp only [specFail] at h
  cases hx : obsFail σ x with
  | some c => simp [hx] at h
  | none => exact ⟨rfl, by simpa only [hx] using h⟩

theorem specFail_append (σ : Spec) (a b : List Obs) (h : specFail σ a = none) :
    specFail σ (a ++ b) = specFail (specAdv σ a) b := by
  induction a generalizing σ with
  | nil => rfl
  | cons x a ih =>
    obtain ⟨hx, h⟩ := specFail_cons h
    simp only [specFail, List.cons_append, hx]
    exact ih _ h

/-- the observer accepts the observations of `r` and ends related to its state -/
structure Ok (σ : Spec) (r : State × List Obs) : Prop where
  spec : specFail σ r.2 = none
  inv : CInv r.1
  rel : Rel r.1 (specAdv σ r.2)

theorem Ok.nil {s : State} {σ : Spec} (c : CInv s) (r : Rel s σ) : Ok σ (s, []) := ⟨rfl, c, r⟩

theorem Ok.bind {σ : Spec} {r1 : State × List Obs} {r2 : State × List Obs}
    (a : Ok σ r1) (b : Ok (specAdv σ r1.2) r2) : Ok σ (r2.1, r1.2 ++ r2.2) := by
  refine ⟨?_, b.inv, ?_⟩
  · show specFail σ (r1.2 ++ r2.2) = none
    rw [specFail_append _ _ _ a.spec]; exact b.spec
  · show Rel r2.1 (specAdv σ (r1.2 ++ r2.2))
    rw [specAdv_append]; exact b.rel

/-- observations that do not concern the observer's automaton (socket calls that deliver nothing) -/
def silent : Obs → Bool
  | .sent _ _ _ => true
  | .sclosed _ => true
  | .recvd _ (.data (_ :: _)) => false
  | .recvd _ _ => true
  | _ => false

theorem silent_step {σ : Spec} {x : Obs} (h : silent x = true) : obsFail σ x = none ∧ σ.advance x = σ := by
  cases x with
  | recvd o r =>
    cases r with
    | data d => cases d <;> simp_all [silent, obsFail, Spec.advance]
    | _ => simp [obsFail, Spec.advance]
  | _ => simp_all [silent, obsFail, Spec.advance]

theorem Ok.cons_silent {σ : Spec} {x : Obs} {r : State × List Obs} (h : silent x = true) (a : Ok σ r) :
    Ok σ (r.1, x :: r.2) := by
  obtain ⟨h1, h2⟩ := silent_step (σ := σ) h
  refine ⟨?_, a.inv, ?_⟩
  · simp only [specFail, h1, h2]; exact a.spec
  · simp only [specAdv, List.foldl_cons, h2]; exact a.rel

theorem cinv_buf {s : State} (c : CInv s) {o : Obj} (ho : o ∈ s.clients) (v : Option (List Nat)) :
    CInv { s with buffers := upd s.buffers o v } := by
  refine { c with B := fun a ha => ?_ }
  simp only [upd_apply] at ha
  split at ha
  · next e => subst e; exact ho
  · exact c.B a ha

theorem rel_of_eq {s s' : State} {σ : Spec} (r : Rel s σ) (a : s'.clients = s.clients) (b : s'.p.w = s.p.w) :
    Rel s' σ := by
  obtain ⟨c, i, p⟩ := r
  constructor
  · intro o; rw [a]; exact c o
  · intro o; rw [b]; exact i o
  · exact p

theorem cinv_closeq_append {s : State} (c : CInv s) {o : Obj} (ho : o ∈ s.clients) (hn : o ∉ s.closeq) :
    CInv { s with closeq := s.closeq ++ [o] } := by
  refine { c with Q := fun a ha => ?_, NQ := ?_ }
  · simp only [List.mem_append, List.mem_singleton] at ha
    rcases ha with h | h
    · exact c.Q a h
    · subst h; exact ho
  · exact nodup_concat c.NQ hn

theorem cinv_closeq_erase {s : State} (c : CInv s) (o : Obj) :
    CInv { s with closeq := s.closeq.erase o } :=
  { c with Q := fun a ha => c.Q a (List.mem_of_mem_erase ha), NQ := c.NQ.erase o }

/-- replacing the poller by one that sees the same world and lists nothing new, except possibly a client -/
theorem cinv_poller {s : State} (c : CInv s) {p' : Poller.State} {x : Option Obj} (g : Good p')
    (sh : Shrink s.p p' x) (hx : ∀ o, x = some o → o ∈ s.clients) : CInv { s with p := p' } := by
  refine { c with G := g, L := fun a ha => ?_, O := fun a ha => ?_, C := fun a ha => ?_, J := fun a ha => ?_ }
  · have : (a ∈ s.p.read ∨ a ∈ s.p.write) ∨ some a = x :=
      ha.elim (fun h => (sh.rd a h).imp .inl id) (fun h => (sh.wr a h).imp .inr id)
    exact this.elim (c.L a) fun h => hx a h.symm
  · show (p'.w.fno a).isSome = true; rw [sh.w]; exact c.O a ha
  · have ha' : (p'.w.fno a).isSome = true := ha; rw [sh.w] at ha'; exact c.C a ha'
  · show (p'.w.orig a).isSome = true; rw [sh.w]; exact c.J a ha

/-- What `CInv` says about one socket: only a client is listed by the poller, has a buffer entry or waits in
    `_closeq`, and the clients are the sockets whose descriptor is open. -/
structure Sock (s : State) (a : Obj) : Prop where
  L : a ∈ s.p.read ∨ a ∈ s.p.write → a ∈ s.clients
  B : (s.buffers a).isSome = true → a ∈ s.clients
  Q : a ∈ s.closeq → a ∈ s.clients
  O : a ∈ s.clients → (s.p.w.fno a).isSome = true
  C : (s.p.w.fno a).isSome = true → a ∈ s.clients

theorem CInv.sock {s : State} (c : CInv s) (a : Obj) : Sock s a := ⟨c.L a, c.B a, c.Q a, c.O a, c.C a⟩

theorem CInv.of_sockets {s : State} (g : Good s.p) (h : ∀ a, Sock s a) (nd : s.clients.Nodup) (nq : s.closeq.Nodup)
    (j : ∀ o, o ∈ s.objs → (s.p.w.orig o).isSome = true) : CInv s :=
  ⟨g, fun a => (h a).L, fun a => (h a).B, fun a => (h a).Q, fun a => (h a).O, fun a => (h a).C, nd, nq, j⟩

/-- a handler that leaves socket `a` as it is (it may drop `a` from a table) keeps what holds of `a` -/
theorem Sock.frame {s s' : State} {a : Obj} (h : Sock s a) (cl : a ∈ s'.clients ↔ a ∈ s.clients)
    (b : s'.buffers a = s.buffers a) (q : a ∈ s'.closeq → a ∈ s.closeq)
    (l : a ∈ s'.p.read ∨ a ∈ s'.p.write → a ∈ s.p.read ∨ a ∈ s.p.write) (f : s'.p.w.fno a = s.p.w.fno a) :
    Sock s' a :=
  ⟨fun x => cl.mpr (h.L (l x)), fun x => cl.mpr (h.B (b ▸ x)), fun x => cl.mpr (h.Q (q x)),
   fun x => f ▸ h.O (cl.mp x), fun x => cl.mpr (h.C (f ▸ x))⟩

/-- the same for `Rel`: a handler that moves the phase of `o`, a socket that exists, and leaves every other socket
    as it is (no phase is ever moved to `idle`) -/
theorem Rel.move {s s' : State} {σ : Spec} (r : Rel s σ) (o : Obj) {ph : Phase} {f : Nat}
    (cl : ∀ a, a ≠ o → (a ∈ s'.clients ↔ a ∈ s.clients)) (w : ∀ a, a ≠ o → s'.p.w.orig a = s.p.w.orig a)
    (co : ph = .conn ↔ o ∈ s'.clients) (hp : ph ≠ .idle) (io : s'.p.w.orig o = some f) :
    Rel s' { σ with ph := upd σ.ph o ph } := by
  refine ⟨fun a => ?_, fun a => ?_, r.pend⟩
  · show upd σ.ph o ph a = .conn ↔ _
    by_cases e : a = o
    · rw [e, upd_same]; exact co
    · rw [upd_other _ _ _ _ e, cl a e]; exact r.conn a
  · show upd σ.ph o ph a = .idle ↔ _
    by_cases e : a = o
    · rw [e, upd_same, io]; exact ⟨fun h => absurd h hp, fun h => (nomatch h)⟩
    · rw [upd_other _ _ _ _ e, w a e]; exact r.idle a

theorem ok_closeConn {s : State} {σ : Spec} (o : Obj) (c : CInv s) (r : Rel s σ) : Ok σ (closeConn s o) := by
  unfold closeConn
  split
  · next ho =>
    dsimp only
    obtain ⟨f, hf⟩ := Option.isSome_iff_exists.mp (c.O o ho)
    obtain ⟨g2, sh, hw⟩ := Poller.good_drop c.G hf
    generalize (Poller.step (Poller.step s.p (.discard o)).1 (.close o)).1 = p2 at g2 sh hw ⊢
    have hfo : p2.w.fno o = none := by rw [hw]; exact upd_same _ _ _
    have hfa : ∀ a, a ≠ o → p2.w.fno a = s.p.w.fno a := fun a ne => by rw [hw]; exact upd_other _ _ _ _ ne
    have horig : p2.w.orig = s.p.w.orig := by rw [hw]; rfl
    have hph : σ.ph o = .conn := (r.conn o).mpr ho
    refine ⟨?_, CInv.of_sockets g2 (fun a => ?_) (c.ND.erase o) (c.NQ.erase o) (fun a ha => ?_), ?_⟩
    · simp [specFail, obsFail, Spec.advance, hph]
    · by_cases ne : a = o
      · -- the closed socket is in no table and is no client
        rw [ne]
        refine ⟨fun h => ?_, fun h => ?_, fun h => ?_, fun h => ?_, fun h => ?_⟩
        · exact absurd rfl (sh o h).1
        · simp at h
        · exact absurd h (List.Nodup.not_mem_erase c.NQ)
        · exact absurd h (List.Nodup.not_mem_erase c.ND)
        · simp [hfo] at h
      · exact (c.sock a).frame (List.mem_erase_of_ne ne) (upd_other _ _ _ _ ne) List.mem_of_mem_erase
          (fun h => (sh a h).2) (hfa a ne)
    · show (p2.w.orig a).isSome = true
      rw [horig]; exact c.J a ha
    · have adv : specAdv σ [Obs.sclosed o, Obs.disconnect o] = { σ with ph := upd σ.ph o .gone } := by
        simp [specAdv, Spec.advance]
      rw [adv]
      exact r.move o (fun a ne => List.mem_erase_of_ne ne) (fun a _ => congrFun horig a)
        ⟨fun h => (nomatch h), fun h => absurd h (List.Nodup.not_mem_erase c.ND)⟩ (fun h => nomatch h)
        ((congrFun horig o).trans (c.G.P.W.orig _ _ hf))
  · exact Ok.nil c r

theorem ok_closeReq {s : State} {σ : Spec} (o : Obj) (c : CInv s) (r : Rel s σ) : Ok σ (closeReq s o) := by
  unfold closeReq
  split
  · next x y hb =>
    have ho : o ∈ s.clients := c.B o (by simp [hb])
    split
    · exact Ok.nil c r
    · next hn => exact Ok.nil (cinv_closeq_append c ho hn) (rel_of_eq r rfl rfl)
  · exact ok_closeConn o c r

theorem ok_error {s : State} {σ : Spec} {o : Obj} (c : CInv s) (r : Rel s σ) (ho : o ∈ s.clients) :
    Ok σ (s, [Obs.error o]) := by
  have hph : σ.ph o = .conn := (r.conn o).mpr ho
  have adv : specAdv σ [Obs.error o] = σ := by simp [specAdv, Spec.advance, hph]
  exact ⟨by simp [specFail, obsFail, hph], c, by rw [adv]; exact r⟩

theorem ok_onRead {s : State} {σ : Spec} (o : Obj) (rc : RecvOut) (c : CInv s) (r : Rel s σ) :
    Ok σ (onRead s o rc) := by
  unfold onRead
  split
  · next ho =>
    have hph : σ.ph o = .conn := (r.conn o).mpr ho
    split
    · next b d =>
      refine ⟨?_, c, ?_⟩
      · simp [specFail, obsFail, Spec.advance, hph, r.pend, popPend]
      · have adv : specAdv σ [Obs.recvd o (.data (b :: d)), Obs.read o (b :: d)] = σ := by
          have hp := r.pend
          cases σ
          simp only at hp
          subst hp
          simp [specAdv, Spec.advance, popPend]
        rw [adv]; exact r
    · exact Ok.cons_silent (by simp [silent]) (ok_closeReq o c r)
    · exact Ok.cons_silent (by simp [silent]) (ok_closeReq o c r)
    · exact Ok.cons_silent (x := .recvd o .again) (r := (s, [])) (by simp [silent]) (Ok.nil c r)
    · -- recv error: `error` event, then `_close`
      have h1 := Ok.cons_silent (x := .recvd o .err) (by simp [silent]) (ok_error c r ho)
      exact Ok.bind h1 (ok_closeConn o h1.inv h1.rel)
  · exact Ok.nil c r

theorem ok_sendOne {s : State} {σ : Spec} (o : Obj) (n : Nat) (sr : SendOut) (c : CInv s) (r : Rel s σ) :
    Ok σ (sendOne s o n sr) := by
  unfold sendOne
  split
  · next ho =>
    split
    · next k =>
      split
      · exact Ok.cons_silent (r := (_, [])) (by simp [silent]) (Ok.nil (cinv_buf c ho _) (rel_of_eq r rfl rfl))
      · exact Ok.cons_silent (r := (_, [])) (by simp [silent]) (Ok.nil c r)
    · exact Ok.cons_silent (r := (_, [])) (by simp [silent]) (Ok.nil (cinv_buf c ho _) (rel_of_eq r rfl rfl))
    · have h1 := Ok.cons_silent (x := .sent o n .fatal) (by simp [silent]) (ok_error c r ho)
      exact Ok.bind h1 (ok_closeConn o h1.inv h1.rel)
  · exact Ok.nil c r

theorem ok_afterWrite {s : State} {σ : Spec} (o : Obj) (c : CInv s) (r : Rel s σ) : Ok σ (afterWrite s o) := by
  unfold afterWrite
  split
  · exact Ok.nil c r
  · split
    · exact ok_closeConn o (cinv_closeq_erase c o) (rel_of_eq r rfl rfl)
    · split
      · next hw =>
        have ho : o ∈ s.clients := c.L o (Or.inr (by simpa [Poller.State.isWriting] using hw))
        obtain ⟨f, hf⟩ := Option.isSome_iff_exists.mp (c.O o ho)
        obtain ⟨g1, s1⟩ := Poller.good_removeWriter c.G hf
        exact Ok.nil (cinv_poller c g1 s1 fun _ h => nomatch h) (rel_of_eq r rfl s1.w)
      · exact Ok.nil c r

theorem ok_onWrite {s : State} {σ : Spec} (o : Obj) (sr : SendOut) (c : CInv s) (r : Rel s σ) :
    Ok σ (onWrite s o sr) := by
  unfold onWrite
  split
  · next n rest hb =>
    have ho : o ∈ s.clients := c.B o (by simp [hb])
    have h1 := ok_sendOne (σ := σ) o n sr (cinv_buf c ho (some rest)) (rel_of_eq r rfl rfl)
    exact Ok.bind h1 (ok_afterWrite o h1.inv h1.rel)
  · exact ok_afterWrite o c r

theorem ok_handle {s : State} {σ : Spec} (rcv : Obj → RecvOut) (snd : Obj → SendOut) (e : Poller.Event)
    (c : CInv s) (r : Rel s σ) : Ok σ (handle rcv snd s e) := by
  unfold handle
  split
  · exact ok_onRead _ _ c r
  · exact ok_onWrite _ _ c r
  · exact ok_closeConn _ c r

theorem ok_handleAll {s : State} {σ : Spec} (rcv : Obj → RecvOut) (snd : Obj → SendOut) (es : List Poller.Event)
    (c : CInv s) (r : Rel s σ) : Ok σ (handleAll rcv snd s es) := by
  induction es generalizing s σ with
  | nil => exact Ok.nil c r
  | cons e es ih =>
    simp only [handleAll]
    have h1 := ok_handle (σ := σ) rcv snd e c r
    exact Ok.bind h1 (ih h1.inv h1.rel)

theorem canOpen_fresh {s : State} (c : CInv s) {o : Obj} {f : Nat} (h : s.p.w.canOpen o f = true) :
    s.p.w.orig o = none ∧ s.p.w.fno o = none ∧ o ∉ s.clients ∧ o ∉ s.objs := by
  have h1 := (Poller.World.canOpen_iff.1 h).1
  have hf := c.G.P.W.fno_of_orig_none h1
  exact ⟨h1, hf, fun ho => by simpa [hf] using c.O o ho, fun ho => by simpa [h1] using c.J o ho⟩

/-- `_on_accept_done` for a new descriptor `o`: a peer that is gone already gets `error` and the descriptor is
    closed again (it is never in any table); otherwise the descriptor is registered, joins `_clients` and is
    announced.  Either way every other socket is as it was. -/
theorem ok_accept {s : State} {σ : Spec} (o : Obj) (f : Nat) (gone : Bool) (c : CInv s) (r : Rel s σ)
    (hc : s.p.w.canOpen o f = true) : Ok σ (stepCore s (.accept o f gone)) := by
  obtain ⟨horig, hfno, hncl, hnobj⟩ := canOpen_fresh c hc
  have hidle : σ.ph o = .idle := (r.idle o).mpr horig
  -- the world after `o` was created: `o` has a number of origin, and so has every object ever accepted
  have orig_ne : ∀ a, a ≠ o → upd s.p.w.orig o (some f) a = s.p.w.orig a := fun a ne => upd_other _ _ _ _ ne
  have hJ : ∀ a, a ∈ s.objs ++ [o] → (upd s.p.w.orig o (some f) a).isSome = true := by
    intro a ha
    rcases List.mem_append.mp ha with h | h
    · rw [orig_ne a fun e => hnobj (e ▸ h)]; exact c.J a h
    · rw [List.mem_singleton.mp h, upd_same]; rfl
  simp only [stepCore, hc, if_true]
  split
  · obtain ⟨g2, e1, e2, efno, eorig⟩ := Poller.good_reject c.G hc
    generalize (Poller.step (Poller.step s.p (.opn o f)).1 (.close o)).1 = p2 at g2 e1 e2 efno eorig ⊢
    refine ⟨by simp [specFail, obsFail, hidle], CInv.of_sockets g2 (fun a => ?_) c.ND c.NQ (fun a ha => ?_), ?_⟩
    · exact (c.sock a).frame Iff.rfl rfl id (by rw [e1, e2]; exact id) (congrFun efno a)
    · show (p2.w.orig a).isSome = true
      rw [eorig]; exact hJ a ha
    · have adv : specAdv σ [Obs.error o, Obs.sclosed o] = { σ with ph := upd σ.ph o .rej } := by
        simp [specAdv, Spec.advance, hidle]
      rw [adv]
      exact r.move o (fun _ _ => Iff.rfl) (fun a ne => (congrFun eorig a).trans (orig_ne a ne))
        ⟨fun h => (nomatch h), fun h => absurd h hncl⟩ (fun h => nomatch h) ((congrFun eorig o).trans (upd_same ..))
  · obtain ⟨g2, sh, ew⟩ := Poller.good_accept srvChan c.G hc
    generalize (Poller.step (Poller.step s.p (.opn o f)).1 (.addReader o srvChan)).1 = p2 at g2 sh ew ⊢
    have ho : o ∈ s.clients ++ [o] := List.mem_append_right _ (List.mem_singleton_self o)
    have hcl : ∀ a, a ≠ o → (a ∈ s.clients ++ [o] ↔ a ∈ s.clients) := fun a ne => by simp [ne]
    have eorig : p2.w.orig = upd s.p.w.orig o (some f) := by rw [ew]; rfl
    refine ⟨by simp [specFail, obsFail, hidle], CInv.of_sockets g2 (fun a => ?_) ?_ c.NQ (fun a ha => ?_), ?_⟩
    · by_cases ne : a = o
      · -- the new socket is a client and open
        rw [ne]
        refine ⟨fun _ => ho, fun _ => ho, fun _ => ho, fun _ => ?_, fun _ => ho⟩
        show (p2.w.fno o).isSome = true
        rw [ew]; exact congrArg Option.isSome (upd_same ..)
      · refine (c.sock a).frame (hcl a ne) rfl id (fun h => sh a h ne) ?_
        show p2.w.fno a = _
        rw [ew]; exact upd_other _ _ _ _ ne
    · exact nodup_concat c.ND hncl
    · show (p2.w.orig a).isSome = true
      rw [eorig]; exact hJ a ha
    · have adv : specAdv σ [Obs.connect o] = { σ with ph := upd σ.ph o .conn } := by
        simp [specAdv, Spec.advance]
      rw [adv]
      exact r.move o hcl (fun a ne => (congrFun eorig a).trans (orig_ne a ne)) ⟨fun _ => ho, fun _ => rfl⟩
        (fun h => nomatch h) ((congrFun eorig o).trans (upd_same ..))

theorem ok_stepCore {s : State} {σ : Spec} (op : Op) (c : CInv s) (r : Rel s σ) : Ok σ (stepCore s op) := by
  cases op with
  | accept o f gone =>
    by_cases hc : s.p.w.canOpen o f = true
    · exact ok_accept o f gone c r hc
    · simp only [stepCore, hc]; exact Ok.nil c r
  | write o n =>
    simp only [stepCore]
    split
    · next ho =>
      obtain ⟨f, hf⟩ := Option.isSome_iff_exists.mp (c.O o ho)
      split
      · exact Ok.nil (cinv_buf c ho _) (rel_of_eq r rfl rfl)
      · obtain ⟨g1, sh⟩ := Poller.good_addWriter srvChan c.G hf
        have c1 := cinv_poller c g1 sh fun _ h => Option.some.inj h ▸ ho
        exact Ok.nil (cinv_buf (s := { s with p := (Poller.step s.p (.addWriter o srvChan)).1 }) c1 ho _)
          (rel_of_eq r rfl sh.w)
    · exact Ok.nil c r
  | close o => exact ok_closeReq o c r
  | hangup o => exact ok_closeConn o c r
  | poll fs rd rcv snd =>
    simp only [stepCore]
    split
    · obtain ⟨g1, sh⟩ := Poller.good_round fs rd c.G
      exact ok_handleAll rcv snd _ (cinv_poller c g1 sh fun _ h => nomatch h) (rel_of_eq r rfl sh.w)
    · exact Ok.nil c r

theorem bits_lt (b1 b2 b3 b4 b5 b6 b7 : Bool) :
    bit b1 1 + bit b2 2 + bit b3 4 + bit b4 8 + bit b5 16 + bit b6 32 + bit b7 64 < 128 := by
  revert b1 b2 b3 b4 b5 b6 b7; decide

theorem tbits_lt (s : State) (o : Obj) : tbits s o < 128 := bits_lt _ _ _ _ _ _ _

theorem inMap_false {s : State} (c : CInv s) {o : Obj} (h : o ∉ s.clients) : inMap s.p o = false := by
  unfold inMap
  split
  · next f hf =>
    cases hm : (s.p.map f == some o) with
    | false => rfl
    | true =>
      have : s.p.map f = some o := by simpa using hm
      exact absurd (c.L o (c.G.M f o this).2) h
  · rfl

theorem no_table {s : State} (c : CInv s) {o : Obj} (h : o ∉ s.clients) :
    s.buffers o = none ∧ o ∉ s.closeq ∧ o ∉ s.p.read ∧ o ∉ s.p.write ∧ s.p.targets o = none ∧
    (∀ f, s.p.map f ≠ some o) := by
  have hr : o ∉ s.p.read := fun x => h (c.L o (Or.inl x))
  have hw : o ∉ s.p.write := fun x => h (c.L o (Or.inr x))
  exact ⟨Option.not_isSome_iff_eq_none.mp fun x => h (c.B o x), fun x => h (c.Q o x), hr, hw, c.G.P.T2 o hr hw,
    fun f hm => h (c.L o (c.G.M f o hm).2)⟩

theorem tbits_zero {s : State} (c : CInv s) {o : Obj} (h : o ∉ s.clients) : tbits s o = 0 := by
  obtain ⟨a1, a2, a3, a4, a5, _⟩ := no_table c h
  simp [tbits, bit, h, a1, a2, a3, a4, a5, inMap_false c h]

theorem closed_of_not_client {s : State} (c : CInv s) {o : Obj} (h : o ∉ s.clients) : s.p.w.fno o = none :=
  Option.not_isSome_iff_eq_none.mp fun x => h (c.C o x)

theorem CInv.no_clients {s : State} (c : CInv s) (e : s.clients = []) :
    s.closeq = [] ∧ ∀ o, tbits s o = 0 ∧ s.p.w.fno o = none := by
  have hn : ∀ o, o ∉ s.clients := fun o => by rw [e]; exact List.not_mem_nil
  exact ⟨List.eq_nil_iff_forall_not_mem.mpr fun o h => hn o (c.Q o h),
    fun o => ⟨tbits_zero c (hn o), closed_of_not_client c (hn o)⟩⟩

theorem tab_ok {s : State} {σ : Spec} (c : CInv s) (r : Rel s σ) : obsFail σ (.tab (rows s)) = none := by
  simp only [obsFail, r.pend, ne_eq, not_true_eq_false, if_false]
  rw [List.findSome?_eq_none_iff]
  intro row hrow
  simp only [rows, List.mem_map] at hrow
  obtain ⟨o, ho, rfl⟩ := hrow
  have hk : σ.ph o ≠ .idle := by
    intro e
    have := (r.idle o).mp e
    have := c.J o ho
    simp_all
  unfold rowFail
  have lt := tbits_lt s o
  by_cases hc : o ∈ s.clients
  · have hph : σ.ph o = .conn := (r.conn o).mpr hc
    obtain ⟨f, hf⟩ := Option.isSome_iff_exists.mp (c.O o hc)
    have e : flags s o = tbits s o := by simp [flags, bit, hf]
    have ncl : closedBit (flags s o) = false := by
      simp only [closedBit, e, decide_eq_false_iff_not]; omega
    simp [hph, ncl]
  · have hph : σ.ph o ≠ .conn := fun e => hc ((r.conn o).mp e)
    have z := tbits_zero c hc
    have tb : tableBits (flags s o) = 0 := by
      simp only [tableBits, flags, z, bit]; split <;> simp
    simp [tb, hph, hk]

theorem Ok.tab {σ : Spec} {r : State × List Obs} (h : Ok σ r) : Ok σ (r.1, r.2 ++ [Obs.tab (rows r.1)]) :=
  Ok.bind h (r2 := (r.1, [Obs.tab (rows r.1)])) ⟨by simp only [specFail, tab_ok h.inv h.rel], h.inv, h.rel⟩

/-- the four history runners of C12 (`runFrom`, `xrunFrom`, `arunFrom`, `Client.runFrom`) are this fold of
    their step function, so a history splits anywhere -/
theorem runFrom_append_of {S O E : Type} {step : S → O → S × List E} {run : S → List O → S × List E}
    (nil : ∀ s, run s [] = (s, []))
    (cons : ∀ s x r, run s (x :: r) = ((run (step s x).1 r).1, (step s x).2 ++ (run (step s x).1 r).2))
    (s : S) (a b : List O) :
    run s (a ++ b) = ((run (run s a).1 b).1, (run s a).2 ++ (run (run s a).1 b).2) := by
  induction a generalizing s with
  | nil => simp [nil]
  | cons x a ih => simp only [List.cons_append, cons, ih, List.append_assoc]

theorem runFrom_append (s : State) (a b : List Op) :
    runFrom s (a ++ b) = ((runFrom (runFrom s a).1 b).1, (runFrom s a).2 ++ (runFrom (runFrom s a).1 b).2) :=
  runFrom_append_of (step := step) (fun _ => rfl) (fun _ _ _ => rfl) s a b

theorem advance_ph {σ : Spec} {x : Obs} {o : Obj} (h1 : x ≠ .connect o) (h2 : x ≠ .disconnect o)
    (h3 : x ≠ .error o) : (σ.advance x).ph o = σ.ph o := by
  have ne : ∀ {a : Obj} {c : Obj → Obs}, c a ≠ c o → o ≠ a := fun h e => h (e ▸ rfl)
  cases x with
  | connect a => exact upd_other _ _ _ _ (ne h1)
  | disconnect a => exact upd_other _ _ _ _ (ne h2)
  | error a => simp only [Spec.advance]; split <;> simp [upd_other _ _ _ _ (ne h3)]
  | read a d => simp only [Spec.advance]; split <;> rfl
  | recvd a rc =>
    cases rc with
    | data d => cases d <;> rfl
    | _ => rfl
  | _ => rfl

def lifeOf (o : Obj) (t : List Obs) : List Obs :=
  t.filter (fun x => decide (x = .connect o) || decide (x = .disconnect o))

/-- What the observer's automaton lets one socket do over an accepted stream: its phase at the start, its
    `connect`/`disconnect` events, its phase at the end. -/
inductive Life (o : Obj) : Phase → List Obs → Phase → Prop
  | stay (ph : Phase) : Life o ph [] ph
  | refused : Life o .idle [] .rej
  | connected : Life o .idle [.connect o] .conn
  | whole : Life o .idle [.connect o, .disconnect o] .gone
  | closed : Life o .conn [.disconnect o] .gone

theorem Life.connect {o : Obj} {L : List Obs} {p : Phase} (l : Life o .conn L p) : Life o .idle (.connect o :: L) p := by
  cases l <;> constructor

theorem Life.disconnect {o : Obj} {L : List Obs} {p : Phase} (l : Life o .gone L p) :
    Life o .conn (.disconnect o :: L) p := by
  cases l; constructor

theorem Life.refuse {o : Obj} {L : List Obs} {p : Phase} (l : Life o .rej L p) : Life o .idle L p := by
  cases l; constructor

theorem life_step {σ : Spec} {x : Obs} (o : Obj) (hx : obsFail σ x = none) :
    ((σ.advance x).ph o = σ.ph o ∧ x ≠ .connect o ∧ x ≠ .disconnect o) ∨
    (x = .connect o ∧ σ.ph o = .idle ∧ (σ.advance x).ph o = .conn) ∨
    (x = .disconnect o ∧ σ.ph o = .conn ∧ (σ.advance x).ph o = .gone) ∨
    (x = .error o ∧ σ.ph o = .idle ∧ (σ.advance x).ph o = .rej) := by
  by_cases h1 : x = .connect o
  · subst h1
    exact .inr (.inl ⟨rfl, by cases hp : σ.ph o <;> simp [obsFail, hp] at hx ⊢, upd_same ..⟩)
  by_cases h2 : x = .disconnect o
  · subst h2
    exact .inr (.inr (.inl ⟨rfl, by cases hp : σ.ph o <;> simp [obsFail, hp] at hx ⊢, upd_same ..⟩))
  by_cases h3 : x = .error o
  · subst h3
    cases hp : σ.ph o with
    | idle => exact .inr (.inr (.inr ⟨rfl, rfl, by simp [Spec.advance, hp]⟩))
    | conn => exact .inl ⟨by simp [Spec.advance, hp], h1, h2⟩
    | gone => simp [obsFail, hp] at hx
    | rej => simp [obsFail, hp] at hx
  · exact .inl ⟨advance_ph h1 h2 h3, h1, h2⟩

theorem life_run (σ : Spec) (es : List Obs) (o : Obj) (hs : specFail σ es = none) :
    Life o (σ.ph o) (lifeOf o es) ((specAdv σ es).ph o) := by
  induction es generalizing σ with
  | nil => exact .stay _
  | cons x es ih =>
    obtain ⟨hx, hs⟩ := specFail_cons hs
    have ih' : Life o ((σ.advance x).ph o) (lifeOf o es) ((specAdv σ (x :: es)).ph o) := ih _ hs
    rcases life_step o hx with ⟨ha, h1, h2⟩ | ⟨rfl, hp, ha⟩ | ⟨rfl, hp, ha⟩ | ⟨rfl, hp, ha⟩
    · rw [show lifeOf o (x :: es) = lifeOf o es by simp [lifeOf, h1, h2], ← ha]; exact ih'
    · rw [show lifeOf o (Obs.connect o :: es) = .connect o :: lifeOf o es by simp [lifeOf], hp]
      exact (ha ▸ ih').connect
    · rw [show lifeOf o (Obs.disconnect o :: es) = .disconnect o :: lifeOf o es by simp [lifeOf], hp]
      exact (ha ▸ ih').disconnect
    · rw [show lifeOf o (Obs.error o :: es) = lifeOf o es by simp [lifeOf], hp]
      exact (ha ▸ ih').refuse

theorem Life.of_idle {o : Obj} {L : List Obs} {p : Phase} (l : Life o .idle L p) :
    L = [] ∨ L = [.connect o] ∨ L = [.connect o, .disconnect o] := by
  cases l <;> simp

theorem Life.of_idle_disconnect {o : Obj} {L : List Obs} {p : Phase} (l : Life o .idle L p)
    (h : Obs.disconnect o ∈ L) : L = [.connect o, .disconnect o] := by
  cases l <;> first | rfl | simp at h

theorem Life.of_conn {o : Obj} {L : List Obs} {p : Phase} (l : Life o .conn L p) :
    (L = [] ∧ p = .conn) ∨ (L = [.disconnect o] ∧ p = .gone) := by
  cases l <;> simp

theorem Life.of_final {o : Obj} {L : List Obs} {p p' : Phase} (l : Life o p L p') (h : p = .gone ∨ p = .rej) :
    p' = p := by
  cases l <;> first | rfl | cases h <;> contradiction

theorem Life.of_disconnect {o : Obj} {L : List Obs} {p p' : Phase} (l : Life o p L p')
    (h : Obs.disconnect o ∈ L) : p' = .gone := by
  cases l <;> first | rfl | simp at h

theorem not_client_after_final {σ : Spec} {r : State × List Obs} (h : Ok σ r) {o : Obj}
    (hf : σ.ph o = .gone ∨ σ.ph o = .rej) : o ∉ r.1.clients := by
  intro hc
  have := (h.rel.conn o).mpr hc
  rw [(life_run σ r.2 o h.spec).of_final hf] at this
  rcases hf with e | e <;> rw [e] at this <;> cases this

/-- once `disconnect o` has been observed, whatever the server goes on to do leaves no trace of `o` -/
theorem no_trace_after {σ : Spec} {r1 r2 : State × List Obs} {o : Obj} (h1 : Ok σ r1) (h2 : Ok (specAdv σ r1.2) r2)
    (hd : Obs.disconnect o ∈ r1.2) :
    o ∉ r2.1.clients ∧ r2.1.buffers o = none ∧ o ∉ r2.1.closeq ∧ o ∉ r2.1.p.read ∧ o ∉ r2.1.p.write ∧
    r2.1.p.targets o = none ∧ (∀ f, r2.1.p.map f ≠ some o) ∧ r2.1.p.w.fno o = none := by
  have hn := not_client_after_final h2
    (.inl ((life_run σ _ o h1.spec).of_disconnect (List.mem_filter.mpr ⟨hd, by simp⟩)))
  obtain ⟨a1, a2, a3, a4, a5, a6⟩ := no_table h2.inv hn
  exact ⟨hn, a1, a2, a3, a4, a5, a6, closed_of_not_client h2.inv hn⟩

namespace Client

def b2n (b : Bool) : Nat := if b then 1 else 0

/-- the `connected` / `disconnected` events of a trace: all that `alternates` and the two counts look at -/
def life (t : List Ev) : List Ev := t.filter fun e => e = .connected || e = .disconnected

theorem life_append (a b : List Ev) : life (a ++ b) = life a ++ life b := List.filter_append ..

theorem alternates_life (up : Bool) (t : List Ev) : alternates up t = alternates up (life t) := by
  induction t generalizing up with
  | nil => rfl
  | cons e t ih =>
    cases e with
    | connected => show (!up && alternates true t) = (!up && alternates true (life t)); rw [ih]
    | disconnected => show (up && alternates false t) = (up && alternates false (life t)); rw [ih]
    | _ => exact ih up

theorem count_append (e : Ev) (a b : List Ev) : count e (a ++ b) = count e a + count e b := by
  simp [count, List.filter_append]

theorem count_life (e : Ev) (t : List Ev) (he : e = .connected ∨ e = .disconnected) :
    count e t = count e (life t) := by
  unfold count life
  rw [List.filter_filter]
  congr 2
  funext x
  rcases he with rfl | rfl <;> cases x <;> simp

/-- `r` is what closing does to a client in state `s`: one `disconnected` if it was connected -/
def Closes (s : State) (r : State × List Ev) : Prop :=
  (life r.2 = [.disconnected] ∧ s.connected = true ∧ r.1.connected = false) ∨
  (life r.2 = [] ∧ r.1.connected = s.connected)

theorem closes_doClose (s : State) : Closes s (doClose s) := by
  unfold doClose
  cases h : s.connected
  · exact .inr ⟨rfl, rfl⟩
  · exact .inl ⟨rfl, h, rfl⟩

theorem closes_closeReq (s : State) : Closes s (closeReq s) := by
  unfold closeReq; split
  · exact closes_doClose s
  · exact .inr ⟨rfl, rfl⟩

theorem closes_afterWrite (s : State) : Closes s (afterWrite s) := by
  unfold afterWrite; split
  · split
    · exact closes_doClose s
    · exact .inr ⟨rfl, rfl⟩
  · exact .inr ⟨rfl, rfl⟩

/-- closing twice closes once -/
theorem Closes.andThen {s : State} {r1 r2 : State × List Ev} (h1 : Closes s r1) (h2 : Closes r1.1 r2) :
    Closes s (r2.1, r1.2 ++ r2.2) := by
  unfold Closes at *
  rw [life_append]
  rcases h1 with ⟨a, b, c⟩ | ⟨a, b⟩ <;> rcases h2 with ⟨a', b', c'⟩ | ⟨a', b'⟩
  · rw [c] at b'; cases b'
  · exact .inl ⟨by rw [a, a']; rfl, b, by rw [b', c]⟩
  · exact .inl ⟨by rw [a, a']; rfl, by rw [← b, b'], c'⟩
  · exact .inr ⟨by rw [a, a']; rfl, by rw [b', b]⟩

theorem closes_step (s : State) (op : Op) (h : op ≠ .connect .ok) : Closes s (step s op) := by
  have keep : ∀ (s' : State) (t : List Ev), life t = [] → s'.connected = s.connected → Closes s (s', t) :=
    fun _ _ a b => .inr ⟨a, b⟩
  cases op with
  | connect r =>
    cases r with
    | ok => exact absurd rfl h
    | refused => exact (keep s [.unreachable, .error] rfl rfl).andThen (closes_doClose s)
    | timeout => exact keep _ _ rfl rfl
    | failed => exact keep _ _ rfl rfl
  | unregister => exact closes_doClose s
  | stopped => exact closes_closeReq s
  | close => exact closes_closeReq s
  | write n => exact keep _ _ rfl rfl
  | readable r =>
    cases r with
    | data d =>
      cases d with
      | nil => exact closes_closeReq s
      | cons b d => exact keep _ _ rfl rfl
    | eof => exact closes_closeReq s
    | again => exact keep _ _ rfl rfl
    | err => exact (keep s [.error] rfl rfl).andThen (closes_doClose s)
  | hangup => exact closes_doClose s
  | writable r =>
    simp only [step]
    split
    · exact closes_afterWrite s
    · next n tl hb =>
      cases r with
      | acc k =>
        dsimp only
        split
        · exact (keep { s with buf := (n - min k n) :: tl } [] rfl rfl).andThen (closes_afterWrite _)
        · exact (keep { s with buf := tl } [] rfl rfl).andThen (closes_afterWrite _)
      | again => exact (keep { s with buf := n :: tl } [] rfl rfl).andThen (closes_afterWrite _)
      | pipe => exact (closes_doClose { s with buf := tl }).andThen (closes_afterWrite _)
      | other => exact (keep { s with buf := tl } [.error] rfl rfl).andThen (closes_afterWrite _)

theorem alt_step (s : State) (op : Op) (rest : List Ev)
    (h : op = .connect .ok → s.connected = false) :
    alternates s.connected ((step s op).2 ++ rest) = alternates (step s op).1.connected rest := by
  by_cases e : op = .connect .ok
  · subst e; simp [step, alternates, h rfl]
  · rw [alternates_life, life_append, alternates_life _ rest]
    rcases closes_step s op e with ⟨a, b, c⟩ | ⟨a, b⟩
    · rw [a, b, c]; rfl
    · rw [a, b]; rfl

theorem alt_runFrom (s : State) (ops : List Op) (h : noReconnect s ops = true) :
    alternates s.connected (runFrom s ops).2 = true := by
  induction ops generalizing s with
  | nil => rfl
  | cons op ops ih =>
    simp only [noReconnect, Bool.and_eq_true] at h
    simp only [runFrom]
    rw [alt_step s op _ (by intro e; subst e; simpa using h.1)]
    exact ih _ h.2

theorem cnt_step_eq (s : State) (op : Op) (hh : op = .connect .ok → s.connected = false) :
    count .disconnected (step s op).2 + b2n (step s op).1.connected
      = count .connected (step s op).2 + b2n s.connected := by
  by_cases e : op = .connect .ok
  · subst e; simp [step, count, b2n, hh rfl]
  · rw [count_life .disconnected _ (.inr rfl), count_life .connected _ (.inl rfl)]
    rcases closes_step s op e with ⟨a, b, c⟩ | ⟨a, b⟩
    · rw [a, b, c]; rfl
    · rw [a, b]; rfl

theorem cnt_step (s : State) (op : Op) :
    count .disconnected (step s op).2 + b2n (step s op).1.connected
      ≤ count .connected (step s op).2 + b2n s.connected := by
  by_cases h : op = .connect .ok
  · subst h; cases s.connected <;> simp [step, count, b2n]
  · exact Nat.le_of_eq (cnt_step_eq s op fun e => absurd e h)

theorem cnt_runFrom (s : State) (ops : List Op) :
    count .disconnected (runFrom s ops).2 + b2n (runFrom s ops).1.connected
      ≤ count .connected (runFrom s ops).2 + b2n s.connected := by
  induction ops generalizing s with
  | nil => simp [runFrom, count]
  | cons op ops ih =>
    simp only [runFrom, count_append]
    have a := cnt_step s op
    have b := ih (step s op).1
    omega

end Client

end Conn
end CV
