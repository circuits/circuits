import CV.Proofs.ConnClose
import CV.Model.ConnAccept
/-
C12, accept path (`Conn.AOp`, CV/Model/ConnAccept.lean).
Every `AOp` acts on the connection state `c` like some `XOp` step or not at all, so the invariant `CInv`, the
relation to the observer `Rel` and `Ok` carry over; the listening socket moves idle -> listening -> closed.
These histories contain the others (`arunFrom_x`, `xrunFrom_op`): the induction over a history is done here
(`ok_arunFrom`), `ok_xrunFrom` and `ok_runFrom` are read off it.
-/
namespace CV
namespace Conn
open Poller (Obj upd upd_apply upd_same upd_other)

@[simp] theorem closeListener_c (a : AState) : (closeListener a).c = a.c := by
  unfold closeListener; split <;> rfl

theorem astepCore_x (a : AState) (op : XOp) :
    (astepCore a (.x op)).1.c = (xstepCore a.c op).1 ∧ (astepCore a (.x op)).2 = (xstepCore a.c op).2 := by
  cases op <;> simp [astepCore]

theorem ok_astepCore {a : AState} {σ : Spec} (op : AOp) (c : CInv a.c) (r : Rel a.c σ) :
    Ok σ ((astepCore a op).1.c, (astepCore a op).2) := by
  cases op with
  | x op =>
    rw [(astepCore_x a op).1, (astepCore_x a op).2]
    exact ok_xstepCore op c r
  | start =>
    simp only [astepCore]
    split <;> exact Ok.nil c r
  | lready ans =>
    simp only [astepCore]
    split
    · cases ans with
      | sock o f gone => exact ok_stepCore (.accept o f gone) c r
      | errno e =>
        simp only []
        split <;> exact Ok.nil c r
    · exact Ok.nil c r
  | lclose =>
    simp only [astepCore, closeListener_c]
    exact Ok.nil c r

theorem ok_astep {a : AState} {σ : Spec} (op : AOp) (c : CInv a.c) (r : Rel a.c σ) :
    Ok σ ((astep a op).1.c, (astep a op).2) :=
  (ok_astepCore op c r).tab

theorem ok_arunFrom {a : AState} {σ : Spec} (ops : List AOp) (c : CInv a.c) (r : Rel a.c σ) :
    Ok σ ((arunFrom a ops).1.c, (arunFrom a ops).2) := by
  induction ops generalizing a σ with
  | nil => exact Ok.nil c r
  | cons op ops ih =>
    simp only [arunFrom]
    have h1 := ok_astep (σ := σ) op c r
    exact Ok.bind h1 (ih h1.inv h1.rel)

theorem ok_arun (k : Poller.Kind) (ops : List AOp) : Ok {} ((arun k ops).1.c, (arun k ops).2) :=
  ok_arunFrom ops (CInv.init k) (Rel.init k)

theorem arunFrom_append (s : AState) (a b : List AOp) :
    arunFrom s (a ++ b) = ((arunFrom (arunFrom s a).1 b).1, (arunFrom s a).2 ++ (arunFrom (arunFrom s a).1 b).2) :=
  runFrom_append_of (step := astep) (fun _ => rfl) (fun _ _ _ => rfl) s a b

theorem arunFrom_x (a : AState) (ops : List XOp) :
    (arunFrom a (ops.map .x)).1.c = (xrunFrom a.c ops).1 ∧ (arunFrom a (ops.map .x)).2 = (xrunFrom a.c ops).2 := by
  induction ops generalizing a with
  | nil => exact ⟨rfl, rfl⟩
  | cons x ops ih =>
    have h := astepCore_x a x
    have e1 : (astep a (.x x)).1.c = (xstep a.c x).1 := h.1
    have e2 : (astep a (.x x)).2 = (xstep a.c x).2 := by
      simp only [astep, xstep, h.1, h.2]
    obtain ⟨i1, i2⟩ := ih (astep a (.x x)).1
    simp only [List.map_cons, arunFrom, xrunFrom]
    rw [i1, i2, e1, e2]
    exact ⟨rfl, rfl⟩

theorem ok_xrunFrom {s : State} {σ : Spec} (ops : List XOp) (c : CInv s) (r : Rel s σ) : Ok σ (xrunFrom s ops) := by
  have h := ok_arunFrom (a := { c := s }) (ops.map .x) c r
  rwa [(arunFrom_x _ ops).1, (arunFrom_x _ ops).2] at h

theorem ok_xrun (k : Poller.Kind) (ops : List XOp) : Ok {} (xrun k ops) :=
  ok_xrunFrom ops (CInv.init k) (Rel.init k)

theorem ok_runFrom {s : State} {σ : Spec} (ops : List Op) (c : CInv s) (r : Rel s σ) : Ok σ (runFrom s ops) :=
  xrunFrom_op s ops ▸ ok_xrunFrom (ops.map .op) c r

theorem ok_run (k : Poller.Kind) (ops : List Op) : Ok {} (run k ops) :=
  ok_runFrom ops (CInv.init k) (Rel.init k)

theorem lflags_closed (k : Poller.Kind) : lflags k .closed = 128 := by
  cases k <;> decide

theorem lflags_listening (k : Poller.Kind) :
    lflags k .listening = (match k with | .select => 40 | _ => 104) := by
  cases k <;> decide

theorem lclosed_clean (k : Poller.Kind) :
    lobj ∉ (lworld k .closed).read ∧ lobj ∉ (lworld k .closed).write ∧ (lworld k .closed).targets lobj = none ∧
    inMap (lworld k .closed) lobj = false ∧ (lworld k .closed).w.fno lobj = none := by
  cases k <;> decide

theorem astep_closed (a : AState) (op : AOp) (h : a.l = .closed) : (astep a op).1.l = .closed := by
  cases op with
  | x op => cases op <;> simp [astep, astepCore, closeListener, h]
  | start => simp [astep, astepCore, h]
  | lready ans => simp [astep, astepCore, h]
  | lclose => simp [astep, astepCore, closeListener, h]

theorem arunFrom_closed (a : AState) (ops : List AOp) (h : a.l = .closed) : (arunFrom a ops).1.l = .closed := by
  induction ops generalizing a with
  | nil => exact h
  | cons op ops ih => exact ih _ (astep_closed a op h)

/-- `disconnect(listening socket)` is fired exactly when it is closed: at most once -/
def LInv (a : AState) : Prop := a.ldisc = if a.l = .closed then 1 else 0

theorem linv_closeListener {a : AState} (h : LInv a) : LInv (closeListener a) := by
  unfold closeListener
  split
  · next e => simp [LInv, e] at h ⊢; exact h
  · exact h

theorem linv_astep {a : AState} (op : AOp) (h : LInv a) : LInv (astep a op).1 := by
  cases op with
  | x op =>
    cases op with
    | op y => exact h
    | closeAll => exact linv_closeListener (a := { a with c := (xstepCore a.c .closeAll).1 }) h
    | stop => exact linv_closeListener (a := { a with c := (xstepCore a.c .stop).1 }) h
  | start =>
    simp only [astep, astepCore]
    split
    · next e => simp [LInv, e] at h ⊢; exact h
    · exact h
  | lready ans =>
    simp only [astep, astepCore]
    split
    · cases ans with
      | sock o f gone => exact h
      | errno e => simp only []; split <;> exact h
    · exact h
  | lclose => exact linv_closeListener h

theorem linv_arunFrom {a : AState} (ops : List AOp) (h : LInv a) : LInv (arunFrom a ops).1 := by
  induction ops generalizing a with
  | nil => exact h
  | cons op ops ih => exact ih (linv_astep op h)

theorem accept_poller {p : Poller.State} (h : Poller.PInv p) (o : Obj) (f : Nat) (c : p.w.canOpen o f = true) :
    let p2 := (Poller.step (Poller.step p (.opn o f)).1 (.addReader o srvChan)).1
    o ∈ p2.read ∧ p2.targets o = some srvChan := by
  have k : ({ p with w := p.w.opn o f } : Poller.State).w.known o = true := by
    simp [Poller.World.known, Poller.World.opn, upd_same]
  -- `_updateRegistration` leaves the interest lists and the targets as `addReader` made them
  obtain ⟨er, -, et, -⟩ :=
    Poller.updateRegistration_frame (Poller.pinvx_addReader (c := srvChan) (Poller.pinv_opn h c) k)
  simp only [Poller.step, c, k, if_true, Poller.outOf_fst, er, et]
  simp [Poller.baseAddReader, upd_same]

end Conn
end CV
