import CV.Proofs.Conn
/-
C12: the server-wide `close()` (`Conn.closeAll`, `Conn.XOp`).
`closeEach` is a sequence of `closeReq`; every `closeReq` keeps the invariant `CInv` and the relation to
the observer (`ok_closeReq`), touches only its own socket (`closeReq_frame`), removes a socket without
queued output from `_clients` and parks one with queued output in `_closeq`.
At the end (`Client`): the client's event counts over a run without connect-while-connected.
-/
namespace CV
namespace Conn
open Poller (Obj upd upd_apply upd_same upd_other)

theorem closeReq_cases (s : State) (o : Obj) :
    (bufGet s o ≠ [] ∧ o ∈ s.closeq ∧ closeReq s o = (s, [])) ∨
    (bufGet s o ≠ [] ∧ o ∉ s.closeq ∧ closeReq s o = ({ s with closeq := s.closeq ++ [o] }, [])) ∨
    (bufGet s o = [] ∧ closeReq s o = closeConn s o) := by
  unfold closeReq bufGet
  cases s.buffers o with
  | none => exact .inr (.inr ⟨rfl, rfl⟩)
  | some l =>
    cases l with
    | nil => exact .inr (.inr ⟨rfl, rfl⟩)
    | cons x y =>
      by_cases hq : o ∈ s.closeq
      · exact .inl ⟨by simp, hq, by simp [hq]⟩
      · exact .inr (.inl ⟨by simp, hq, by simp [hq]⟩)

theorem closeReq_frame (s : State) (o a : Obj) (h : a ≠ o) :
    (closeReq s o).1.buffers a = s.buffers a ∧ (a ∈ (closeReq s o).1.clients ↔ a ∈ s.clients) ∧
    (a ∈ (closeReq s o).1.closeq ↔ a ∈ s.closeq) := by
  rcases closeReq_cases s o with ⟨_, _, e⟩ | ⟨_, _, e⟩ | ⟨_, e⟩ <;> rw [e]
  · simp
  · simp [h]
  · unfold closeConn
    split
    · simp [h, List.mem_erase_of_ne h]
    · simp

theorem closeReq_clients (s : State) (o : Obj) :
    (closeReq s o).1.clients = s.clients ∨ (closeReq s o).1.clients = s.clients.erase o := by
  rcases closeReq_cases s o with ⟨_, _, e⟩ | ⟨_, _, e⟩ | ⟨_, e⟩ <;> rw [e]
  · exact .inl rfl
  · exact .inl rfl
  · unfold closeConn
    split
    · exact .inr rfl
    · exact .inl rfl

theorem closeReq_sub (s : State) (o a : Obj) (h : a ∈ (closeReq s o).1.clients) : a ∈ s.clients := by
  rcases closeReq_clients s o with e | e
  · rw [e] at h; exact h
  · rw [e] at h; exact List.mem_of_mem_erase h

theorem closeReq_nodup (s : State) (o : Obj) (nd : s.clients.Nodup) : (closeReq s o).1.clients.Nodup := by
  rcases closeReq_clients s o with e | e
  · rw [e]; exact nd
  · rw [e]; exact nd.erase o

theorem closeReq_self_empty (s : State) (o : Obj) (nd : s.clients.Nodup) (hb : bufGet s o = []) :
    o ∉ (closeReq s o).1.clients := by
  rcases closeReq_cases s o with ⟨h, _⟩ | ⟨h, _⟩ | ⟨_, e⟩
  · exact absurd hb h
  · exact absurd hb h
  · rw [e]
    unfold closeConn
    split
    · exact List.Nodup.not_mem_erase nd
    · next h => exact h

theorem closeReq_self_pending (s : State) (o : Obj) (hb : bufGet s o ≠ []) :
    (closeReq s o).1.clients = s.clients ∧ o ∈ (closeReq s o).1.closeq ∧
    (closeReq s o).1.buffers = s.buffers ∧ (closeReq s o).2 = [] := by
  rcases closeReq_cases s o with ⟨_, hq, e⟩ | ⟨_, _, e⟩ | ⟨h, _⟩
  · rw [e]; exact ⟨rfl, hq, rfl, rfl⟩
  · rw [e]; exact ⟨rfl, by simp, rfl, rfl⟩
  · exact absurd h hb

theorem closeReq_obs (s : State) (o : Obj) :
    (closeReq s o).2 = [] ∨ (closeReq s o).2 = [.sclosed o, .disconnect o] := by
  rcases closeReq_cases s o with ⟨_, _, e⟩ | ⟨_, _, e⟩ | ⟨_, e⟩ <;> rw [e]
  · exact .inl rfl
  · exact .inl rfl
  · unfold closeConn
    split
    · exact .inr rfl
    · exact .inl rfl

theorem ok_closeEach {s : State} {σ : Spec} (l : List Obj) (c : CInv s) (r : Rel s σ) : Ok σ (closeEach s l) := by
  induction l generalizing s σ with
  | nil => exact Ok.nil c r
  | cons o l ih =>
    simp only [closeEach]
    have h1 := ok_closeReq (σ := σ) o c r
    exact Ok.bind h1 (ih h1.inv h1.rel)

/-- What the loop does, socket by socket: a socket of the list without queued output is closed; every other socket
    is left as it is, except that one of the list waits in `_closeq` afterwards. -/
theorem closeEach_socket (s : State) (l : List Obj) (a : Obj) (nd : s.clients.Nodup) :
    (a ∈ (closeEach s l).1.clients → a ∈ s.clients) ∧
    (a ∈ l → bufGet s a = [] → a ∉ (closeEach s l).1.clients) ∧
    ((a ∈ l → bufGet s a ≠ []) → (closeEach s l).1.buffers a = s.buffers a ∧
        (a ∈ (closeEach s l).1.clients ↔ a ∈ s.clients) ∧ (a ∈ (closeEach s l).1.closeq ↔ a ∈ s.closeq ∨ a ∈ l) ∧
        Obs.disconnect a ∉ (closeEach s l).2) := by
  induction l generalizing s with
  | nil => simp [closeEach]
  | cons o l ih =>
    obtain ⟨sub, closed, kept⟩ := ih (closeReq s o).1 (closeReq_nodup s o nd)
    simp only [closeEach]
    refine ⟨fun h => closeReq_sub s o a (sub h), ?_⟩
    by_cases e : a = o
    · subst e
      refine ⟨fun _ hb h => closeReq_self_empty s a nd hb (sub h), fun hb => ?_⟩
      -- queued output: the body parks `a` in `_closeq` and changes nothing else, and so does the rest of the loop
      have hb := hb (List.mem_cons_self ..)
      obtain ⟨p1, p2, p3, p4⟩ := closeReq_self_pending s a hb
      obtain ⟨i1, i2, i3, i4⟩ := kept fun _ => by simp only [bufGet, p3]; exact hb
      rw [p4, List.nil_append]
      exact ⟨by rw [i1, p3], by rw [i2, p1], by simp [i3, p2], i4⟩
    · -- the body leaves every socket but its own alone
      obtain ⟨f1, f2, f3⟩ := closeReq_frame s o a e
      have hb' : bufGet (closeReq s o).1 a = bufGet s a := by simp only [bufGet, f1]
      refine ⟨fun ha hb => closed ((List.mem_cons.mp ha).resolve_left e) (hb'.trans hb), fun hb => ?_⟩
      obtain ⟨i1, i2, i3, i4⟩ := kept fun h => hb' ▸ hb (List.mem_cons_of_mem _ h)
      refine ⟨by rw [i1, f1], by rw [i2, f2], by simp [i3, f3, e], fun hm => ?_⟩
      rcases List.mem_append.mp hm with m | m
      · rcases closeReq_obs s o with q | q <;> rw [q] at m <;> simp at m
        exact e m
      · exact i4 m

theorem ok_xstepCore {s : State} {σ : Spec} (op : XOp) (c : CInv s) (r : Rel s σ) : Ok σ (xstepCore s op) := by
  cases op with
  | op x => exact ok_stepCore x c r
  | closeAll => exact ok_closeEach s.clients c r
  | stop => exact ok_closeEach s.clients c r

theorem xrunFrom_append (s : State) (a b : List XOp) :
    xrunFrom s (a ++ b) = ((xrunFrom (xrunFrom s a).1 b).1, (xrunFrom s a).2 ++ (xrunFrom (xrunFrom s a).1 b).2) :=
  runFrom_append_of (step := xstep) (fun _ => rfl) (fun _ _ _ => rfl) s a b

theorem xrunFrom_snoc (s : State) (a : List XOp) (x : XOp) :
    xrunFrom s (a ++ [x]) = ((xstep (xrunFrom s a).1 x).1, (xrunFrom s a).2 ++ (xstep (xrunFrom s a).1 x).2) := by
  rw [xrunFrom_append]; simp [xrunFrom]

theorem xrunFrom_op (s : State) (ops : List Op) : xrunFrom s (ops.map .op) = runFrom s ops := by
  induction ops generalizing s with
  | nil => rfl
  | cons x ops ih => simp only [List.map_cons, xrunFrom, runFrom, xstep, step, xstepCore, ih]

theorem closeEach_obs (s : State) (l : List Obj) (x : Obs) (h : x ∈ (closeEach s l).2) :
    ∃ o, o ∈ l ∧ (x = .sclosed o ∨ x = .disconnect o) := by
  induction l generalizing s with
  | nil => simp [closeEach] at h
  | cons o l ih =>
    simp only [closeEach] at h
    rcases List.mem_append.mp h with m | m
    · rcases closeReq_obs s o with q | q
      · rw [q] at m; simp at m
      · rw [q] at m
        refine ⟨o, by simp, ?_⟩
        simpa using m
    · obtain ⟨a, ha, hx⟩ := ih _ m
      exact ⟨a, by simp [ha], hx⟩

theorem closeEach_life {s : State} {σ : Spec} (c : CInv s) (r : Rel s σ) (l : List Obj) (o : Obj)
    (hc : o ∈ s.clients) (ha : o ∈ l) (hb : bufGet s o = []) : lifeOf o (closeEach s l).2 = [.disconnect o] := by
  have ok := ok_closeEach (σ := σ) l c r
  rcases ((r.conn o).mpr hc ▸ life_run σ _ o ok.spec).of_conn with ⟨_, e⟩ | ⟨e, _⟩
  · exact absurd ((ok.rel.conn o).mp e) ((closeEach_socket s l o c.ND).2.1 ha hb)
  · exact e

theorem closeEach_disconnects {s : State} {σ : Spec} (c : CInv s) (r : Rel s σ) (l : List Obj) (o : Obj)
    (hc : o ∈ s.clients) (ha : o ∈ l) (hb : bufGet s o = []) : Obs.disconnect o ∈ (closeEach s l).2 :=
  (List.mem_filter.mp (closeEach_life c r l o hc ha hb ▸ List.mem_singleton_self _)).1

namespace Client

theorem runFrom_append (s : State) (a b : List Op) :
    runFrom s (a ++ b) = ((runFrom (runFrom s a).1 b).1, (runFrom s a).2 ++ (runFrom (runFrom s a).1 b).2) :=
  runFrom_append_of (step := step) (fun _ => rfl) (fun _ _ _ => rfl) s a b

theorem doClose_down (s : State) : (doClose s).1.connected = false := by
  unfold doClose; cases h : s.connected <;> simp [h]

theorem cnt_runFrom_eq (s : State) (ops : List Op) (h : noReconnect s ops = true) :
    count .disconnected (runFrom s ops).2 + b2n (runFrom s ops).1.connected
      = count .connected (runFrom s ops).2 + b2n s.connected := by
  induction ops generalizing s with
  | nil => simp [runFrom, count]
  | cons op ops ih =>
    simp only [noReconnect, Bool.and_eq_true] at h
    simp only [runFrom, count_append]
    have a := cnt_step_eq s op (by intro e; subst e; simpa using h.1)
    have b := ih (step s op).1 h.2
    omega

theorem noReconnect_append (s : State) (a b : List Op) (ha : noReconnect s a = true)
    (hb : noReconnect (runFrom s a).1 b = true) : noReconnect s (a ++ b) = true := by
  induction a generalizing s with
  | nil => simpa [runFrom] using hb
  | cons x a ih =>
    simp only [noReconnect, Bool.and_eq_true] at ha
    simp only [List.cons_append, noReconnect, Bool.and_eq_true]
    exact ⟨ha.1, ih _ ha.2 (by simpa [runFrom] using hb)⟩

end Client

end Conn
end CV
