import CV.Proofs.Poller
import CV.Proofs.PollerSim
import CV.Proofs.PollerRound
import CV.Proofs.PollerMain
/-
What C12 needs from the poller model (C10), packaged per operation: the C10 invariant `PInv`
plus `MC` ("`_map` mentions only listed descriptors" - true of Poll, and of EPoll with
fix [D4] of CV/Model/Poller.lean, as long as descriptors are discarded while open, which is what the server does).
-/
namespace CV
namespace Poller

/-- `_map` mentions only listed descriptors (and Select has no `_map`) -/
def MC (p : State) : Prop := ∀ f o, p.map f = some o → p.kind ≠ .select ∧ (o ∈ p.read ∨ o ∈ p.write)

structure Good (p : State) : Prop where
  P : PInv p
  M : MC p

theorem Good.init (k : Kind) : Good (State.init k) :=
  ⟨PInv.init k, by intro f o h; simp [State.init] at h⟩

/-- nothing is listed in `p'` that was not listed in `p`, except possibly `x`; same world -/
structure Shrink (p p' : State) (x : Option Obj) : Prop where
  rd : ∀ a, a ∈ p'.read → a ∈ p.read ∨ some a = x
  wr : ∀ a, a ∈ p'.write → a ∈ p.write ∨ some a = x
  w : p'.w = p.w

theorem Shrink.refl (p : State) (x : Option Obj) : Shrink p p x :=
  ⟨fun _ ha => .inl ha, fun _ ha => .inl ha, rfl⟩

theorem known_of_open {p : State} (h : PInv p) {o f} (ho : p.w.fno o = some f) : p.w.known o = true := by
  have := h.W.orig _ _ ho
  simp [World.known, this]

/-- `_updateRegistration` of an *open* descriptor re-establishes `MC` -/
theorem mc_updateRegistration {s : State} {o : Obj} {f0 : Nat} (h : PInvX s (some o)) (hop : s.w.fno o = some f0)
    (mc : ∀ f o', s.map f = some o' → s.kind ≠ .select ∧ (o' ∈ s.read ∨ o' ∈ s.write ∨ o' = o)) :
    MC (updateRegistration s o).1 := by
  obtain ⟨er, ew, -, -, ek⟩ := updateRegistration_frame h
  intro f o' hmap
  rw [er, ew, ek]
  rw [updateRegistration_fst h.T2] at hmap
  split at hmap
  · next hk => exact absurd hk (mc f o' hmap).1
  · next hk =>
    refine ⟨hk, ?_⟩
    simp only [hop] at hmap
    split at hmap <;> simp only [unregister, upd_apply] at hmap <;> split at hmap
    · next hm _ => cases hmap; exact hm
    · next hm _ => exact (mc f o' hmap).2.elim .inl (·.elim .inr (· ▸ hm))
    · cases hmap
    · next ne =>
      -- `o` is mapped under its own number only, and that entry is gone
      have ne' : o' ≠ o := by
        rintro rfl
        exact ne (Option.some.inj ((h.M _ _ hmap).symm.trans (h.W.orig _ _ hop)))
      exact (mc f o' hmap).2.elim .inl (·.elim .inr (absurd · ne'))

theorem mc_weaken {s : State} {o : Obj} (mc : MC s) :
    ∀ f o', s.map f = some o' → s.kind ≠ .select ∧ (o' ∈ s.read ∨ o' ∈ s.write ∨ o' = o) := by
  intro f o' h
  obtain ⟨a, b⟩ := mc f o' h
  exact ⟨a, b.elim Or.inl (fun x => Or.inr (Or.inl x))⟩

/-- A registration call on an open descriptor: a BasePoller call about `o`, then `_updateRegistration(o)`.
    No other descriptor gets listed by it; whether `o` may be is for the caller to say (`x`). -/
theorem good_registration {p s1 : State} {o : Obj} {f : Nat} {x : Option Obj} (g : Good p) (b : BaseCall p s1 o)
    (px : PInvX s1 (some o)) (ho : p.w.fno o = some f)
    (hr : o ∈ s1.read → o ∈ p.read ∨ some o = x) (hw : o ∈ s1.write → o ∈ p.write ∨ some o = x) :
    Good (updateRegistration s1 o).1 ∧ Shrink p (updateRegistration s1 o).1 x := by
  obtain ⟨er, ew, -, eW, -⟩ := updateRegistration_frame px
  refine ⟨⟨pinv_updateRegistration px, mc_updateRegistration px (by rw [b.w]; exact ho) fun f' o' hm => ?_⟩,
    ⟨fun a ha => ?_, fun a ha => ?_, eW.trans b.w⟩⟩
  · rw [b.map] at hm
    obtain ⟨k, l⟩ := g.M f' o' hm
    refine ⟨b.kind ▸ k, ?_⟩
    by_cases e : o' = o
    · exact .inr (.inr e)
    · rw [b.read _ e, b.write _ e]; exact l.elim .inl (.inr ∘ .inl)
  · rw [er] at ha
    by_cases e : a = o
    · subst e; exact hr ha
    · exact .inl ((b.read _ e).1 ha)
  · rw [ew] at ha
    by_cases e : a = o
    · subst e; exact hw ha
    · exact .inl ((b.write _ e).1 ha)

theorem good_discard {p : State} {o : Obj} {f : Nat} (g : Good p) (ho : p.w.fno o = some f) :
    Good (step p (.discard o)).1 ∧ Shrink p (step p (.discard o)).1 none ∧
    o ∉ (step p (.discard o)).1.read ∧ o ∉ (step p (.discard o)).1.write := by
  have px := pinvx_discard (o := o) g.P
  obtain ⟨er, ew, -⟩ := updateRegistration_frame px
  have nr : o ∉ (baseDiscard p o).read := by simp [baseDiscard]
  have nw : o ∉ (baseDiscard p o).write := by simp [baseDiscard]
  simp only [step, known_of_open g.P ho, if_true, outOf_fst]
  obtain ⟨g1, sh⟩ := good_registration (x := none) g (baseCall_discard p o) px ho (absurd · nr) (absurd · nw)
  exact ⟨g1, sh, by rwa [er], by rwa [ew]⟩

theorem good_close {p : State} {o : Obj} {f : Nat} (g : Good p) (ho : p.w.fno o = some f) :
    Good (step p (.close o)).1 ∧ (step p (.close o)).1.read = p.read ∧ (step p (.close o)).1.write = p.write ∧
    (step p (.close o)).1.w = p.w.close o f := by
  simp only [step, ho]
  rw [close_eq]
  refine ⟨⟨close_eq .. ▸ pinv_close g.P ho, g.M⟩, rfl, rfl, rfl⟩

theorem good_addReader {p : State} {o : Obj} {f : Nat} (c : Chan) (g : Good p) (ho : p.w.fno o = some f) :
    Good (step p (.addReader o c)).1 ∧ Shrink p (step p (.addReader o c)).1 (some o) := by
  have k := known_of_open g.P ho
  simp only [step, k, if_true, outOf_fst]
  exact good_registration g (baseCall_addReader p o c) (pinvx_addReader g.P k) ho (fun _ => .inr rfl) (fun _ => .inr rfl)

theorem good_addWriter {p : State} {o : Obj} {f : Nat} (c : Chan) (g : Good p) (ho : p.w.fno o = some f) :
    Good (step p (.addWriter o c)).1 ∧ Shrink p (step p (.addWriter o c)).1 (some o) := by
  have k := known_of_open g.P ho
  simp only [step, k, if_true, outOf_fst]
  exact good_registration g (baseCall_addWriter p o c) (pinvx_addWriter g.P k) ho (fun _ => .inr rfl) (fun _ => .inr rfl)

theorem good_removeWriter {p : State} {o : Obj} {f : Nat} (g : Good p) (ho : p.w.fno o = some f) :
    Good (step p (.removeWriter o)).1 ∧ Shrink p (step p (.removeWriter o)).1 none := by
  simp only [step, known_of_open g.P ho, if_true, outOf_fst]
  refine good_registration g (baseCall_removeWriter p o) (pinvx_removeWriter g.P) ho (fun h => .inl ?_) (fun h => .inl ?_)
  · simpa [baseRemoveWriter, dropTargetIfUnused_eq] using h
  · exact List.mem_of_mem_erase (by simpa [baseRemoveWriter, dropTargetIfUnused_eq] using h)

theorem good_opn {p : State} {o : Obj} {f : Nat} (g : Good p) (c : p.w.canOpen o f = true) :
    Good (step p (.opn o f)).1 ∧ (step p (.opn o f)).1.read = p.read ∧ (step p (.opn o f)).1.write = p.write ∧
    (step p (.opn o f)).1.w = p.w.opn o f := by
  have e : (step p (.opn o f)).1 = { p with w := p.w.opn o f } := by simp [step, c]
  rw [e]
  exact ⟨⟨pinv_opn g.P c, fun f' o' hm => g.M f' o' hm⟩, rfl, rfl, rfl⟩

/-- `_close`: an open descriptor is discarded and closed; it is listed no more, nothing else gets listed -/
theorem good_drop {p : State} {o : Obj} {f : Nat} (g : Good p) (ho : p.w.fno o = some f) :
    Good (step (step p (.discard o)).1 (.close o)).1 ∧
    (∀ a, a ∈ (step (step p (.discard o)).1 (.close o)).1.read ∨ a ∈ (step (step p (.discard o)).1 (.close o)).1.write →
        a ≠ o ∧ (a ∈ p.read ∨ a ∈ p.write)) ∧
    (step (step p (.discard o)).1 (.close o)).1.w = p.w.close o f := by
  obtain ⟨g1, s1, n1, n2⟩ := good_discard g ho
  obtain ⟨g2, e1, e2, e3⟩ := good_close g1 (f := f) (by rw [s1.w]; exact ho)
  refine ⟨g2, fun a h => ?_, by rw [e3, s1.w]⟩
  rw [e1, e2] at h
  exact ⟨fun e => h.elim (fun h => n1 (e ▸ h)) (fun h => n2 (e ▸ h)),
    h.imp (fun h => (s1.rd a h).resolve_right nofun) (fun h => (s1.wr a h).resolve_right nofun)⟩

/-- `accept()` returned a descriptor whose peer is gone: created and closed again, the poller never hears of it
    and every descriptor is as it was -/
theorem good_reject {p : State} {o : Obj} {f : Nat} (g : Good p) (c : p.w.canOpen o f = true) :
    Good (step (step p (.opn o f)).1 (.close o)).1 ∧
    (step (step p (.opn o f)).1 (.close o)).1.read = p.read ∧ (step (step p (.opn o f)).1 (.close o)).1.write = p.write ∧
    (step (step p (.opn o f)).1 (.close o)).1.w.fno = p.w.fno ∧
    (step (step p (.opn o f)).1 (.close o)).1.w.orig = upd p.w.orig o (some f) := by
  obtain ⟨g1, e1, e2, e3⟩ := good_opn g c
  obtain ⟨g2, c1, c2, c3⟩ := good_close g1 (f := f) (by rw [e3]; exact upd_same _ _ _)
  refine ⟨g2, c1.trans e1, c2.trans e2, ?_, by rw [c3, e3]; rfl⟩
  rw [c3, e3]
  funext a
  show upd (upd p.w.fno o (some f)) o none a = _
  by_cases ne : a = o
  · rw [ne, upd_same, g.P.W.fno_of_orig_none (World.canOpen_iff.1 c).1]
  · rw [upd_other _ _ _ _ ne, upd_other _ _ _ _ ne]

/-- ... a live one: created and registered as a reader; nothing else gets listed -/
theorem good_accept {p : State} {o : Obj} {f : Nat} (ch : Chan) (g : Good p) (c : p.w.canOpen o f = true) :
    Good (step (step p (.opn o f)).1 (.addReader o ch)).1 ∧
    (∀ a, a ∈ (step (step p (.opn o f)).1 (.addReader o ch)).1.read ∨
        a ∈ (step (step p (.opn o f)).1 (.addReader o ch)).1.write → a ≠ o → a ∈ p.read ∨ a ∈ p.write) ∧
    (step (step p (.opn o f)).1 (.addReader o ch)).1.w = p.w.opn o f := by
  obtain ⟨g1, e1, e2, e3⟩ := good_opn g c
  obtain ⟨g2, sh⟩ := good_addReader ch g1 (f := f) (by rw [e3]; exact upd_same _ _ _)
  refine ⟨g2, fun a h ne => ?_, sh.w.trans e3⟩
  have new : some a ≠ some o := fun h => ne (Option.some.inj h)
  exact h.imp (fun h => e1 ▸ (sh.rd a h).resolve_right new) (fun h => e2 ▸ (sh.wr a h).resolve_right new)

theorem good_process {p : State} (f : Nat) (ev : Rev) (g : Good p) :
    Good (process p f ev).1 ∧ Shrink p (process p f ev).1 none := by
  rcases process_cases p f ev with ⟨_, h, _⟩ | ⟨o, hm, h⟩
  · rw [h]; exact ⟨g, .refl _ _⟩
  · have P := pinv_process f ev g.P
    rw [h] at P ⊢
    refine ⟨⟨P, ?_⟩, ⟨?_, ?_, rfl⟩⟩
    · intro f' o' hmap
      simp only [discState, upd_apply] at hmap
      split at hmap
      · simp at hmap
      · next ne =>
        obtain ⟨x, y⟩ := g.M f' o' hmap
        have ne' : o' ≠ o := by intro e; subst e; exact ne (map_inj g.P hmap hm)
        refine ⟨x, ?_⟩
        simp only [discState, baseDiscard, mem_filter_ne]
        exact y.elim (fun z => Or.inl ⟨z, ne'⟩) (fun z => Or.inr ⟨z, ne'⟩)
    · intro a ha; exact Or.inl (mem_filter_ne.1 ha).1
    · intro a ha; exact Or.inl (mem_filter_ne.1 ha).1

theorem Shrink.trans {p p' p'' : State} (a : Shrink p p' none) (b : Shrink p' p'' none) : Shrink p p'' none := by
  refine ⟨?_, ?_, by rw [b.w, a.w]⟩
  · intro x hx; rcases b.rd x hx with h | h
    · exact a.rd x h
    · simp at h
  · intro x hx; rcases b.wr x hx with h | h
    · exact a.wr x h
    · simp at h

theorem good_processAll {p : State} (t : List (Nat × Rev)) (g : Good p) :
    Good (processAll p t).1 ∧ Shrink p (processAll p t).1 none := by
  induction t generalizing p with
  | nil => exact ⟨g, .refl _ _⟩
  | cons x t ih =>
    obtain ⟨f, ev⟩ := x
    obtain ⟨g1, s1⟩ := good_process f ev g
    obtain ⟨g2, s2⟩ := ih g1
    simp only [processAll]
    exact ⟨g2, s1.trans s2⟩

theorem good_round {p : State} (fs : List Nat) (rd : Nat → Bits) (g : Good p) :
    Good (round p fs rd).1 ∧ Shrink p (round p fs rd).1 none := by
  have P := pinv_round fs rd g.P
  unfold round at P ⊢
  split
  · next hk =>
    simp only [hk] at P
    unfold selectRound at P ⊢
    split
    · next hc =>
      rw [if_pos hc] at P
      rw [preen_eq] at P ⊢
      exact ⟨⟨P, fun f o hm => absurd hk (g.M f o hm).1⟩,
        ⟨fun a ha => .inl (List.mem_filter.1 ha).1, fun a ha => .inl (List.mem_filter.1 ha).1, rfl⟩⟩
    · exact ⟨g, .refl _ _⟩
  · exact good_processAll _ g

end Poller
end CV
