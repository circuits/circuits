import CV.Model.Core.Step
import CV.Proofs.Tables
import CV.Proofs.CoreMatch
import CV.Proofs.ListFacts
/-
Facts about small functions of the model that several families of invariants need, none of which mentions an invariant:
`addUniq` is insertion into a duplicate-free list, `rmKeys` only erases, `removeHandler` leaves the roots alone;
`chooseTask` and `chooseHandler`, which follow the tape, always pick a member of the list they are offered; a handler id
whose record is not the default record is in range; what `computeHandlers` returns and leaves (`Live.freshHandlers`,
`St.fbRes`), `lookupHandlers`, `dispatchPre` and `onWaitTick` case by case; the arm `ptBody` exit by exit (`Cfg.PtBody`,
`Cfg.ptBody_cases`); the arm `invoke` kind by kind (`Cfg.invoke_eq`), in the state after its own log entry
(`Cfg.w6_invokeSt`); the error branch of `processTask` in named pieces (`St.v4_errorBranch_snd`).
-/
namespace CV.Core

theorem mem_addUniq {α} [BEq α] [LawfulBEq α] (l : List α) (x y : α) : y ∈ addUniq l x ↔ y ∈ l ∨ y = x := by
  unfold addUniq
  split
  · rename_i hc
    have := List.contains_iff_mem.1 hc
    constructor
    · exact Or.inl
    · rintro (h | h)
      · exact h
      · subst h; exact this
  · simp

theorem addUniq_nodup {α} [BEq α] [LawfulBEq α] (l : List α) (x : α) (h : l.Nodup) : (addUniq l x).Nodup := by
  unfold addUniq
  split
  · exact h
  · rename_i hc
    rw [List.nodup_append]
    refine ⟨h, by simp, ?_⟩
    intro a ha b hb
    simp only [List.mem_singleton] at hb
    subst hb
    intro hab; subst hab
    exact hc (List.contains_iff_mem.2 ha)

theorem rmKeys_sublist (h : Nat) : ∀ (ks : List HKey) (l : List (HKey × Nat)), (rmKeys h l ks).2.Sublist l := by
  intro ks
  induction ks with
  | nil => intro l; exact List.Sublist.refl _
  | cons k ks ih =>
    intro l
    unfold rmKeys
    split
    · exact (ih _).trans (List.erase_sublist)
    · exact List.Sublist.refl _

theorem St.removeHandler_rootOf (s : St) (h : Nat) (n : Option Name) (x : Nat) :
    (s.removeHandler h n).2.rootOf x = s.rootOf x := by
  unfold St.removeHandler
  dsimp only
  refine (St.w6_modComp_comp_root _ _ _ ?h1 x).trans ((St.w6_modComp_comp_root _ _ _ ?h2 x).trans ?_)
  case h1 => exact fun _ => rfl
  case h2 => exact fun _ => rfl
  split
  · refine St.w6_modComp_comp_root _ _ _ ?h3 x
    case h3 => exact fun _ => rfl
  · rfl

theorem St.registerTask_tasks (s : St) (c : Nat) (t : Task) (x : Nat) :
    ((s.registerTask c t).comp x).tasks =
      if x = s.rootOf c ∧ x < s.comps.length then addUniq (s.comp x).tasks t else (s.comp x).tasks := by
  unfold St.registerTask
  rw [St.w6_modComp_comp_eq]
  split <;> rfl

theorem St.unregisterTask_tasks (s : St) (c : Nat) (t : Task) (x : Nat) :
    ((s.unregisterTask c t).comp x).tasks =
      if x = s.rootOf c ∧ x < s.comps.length then (s.comp x).tasks.erase t else (s.comp x).tasks := by
  unfold St.unregisterTask
  rw [St.w6_modComp_comp_eq]
  split <;> rfl

/-- without timers `timerTick` does nothing -/
theorem St.timerTick_nil (s : St) (i e : Nat) (h : s.timers = []) : s.timerTick i e = s := by
  unfold St.timerTick
  rw [h]; rfl

/-- the end of `_on_tick` at countdown 0: the `_on_event` handler goes too unless the event has been seen -/
def St.tickDropEvent (ws : WaitSt) (u : St) : Outcome × St :=
  if !ws.run then
    let r3 := u.removeHandler ws.hEvent (some ws.evName)
    if !r3.1 then (.raised, r3.2) else (.none, r3.2)
  else (.none, u)

/-- `_on_tick` at countdown 0 once the `TimeoutError` task is registered: the temporary handlers of the wait state `ws` are
    removed one after the other, and the first that is not installed raises -/
def St.tickDrop (ws : WaitSt) (u : St) : Outcome × St :=
  let r1 := u.removeHandler ws.hDone (some (ws.evName.child sfxDone))
  if !r1.1 then (.raised, r1.2)
  else
    let r2 := match ws.hTick with
      | some ht => r1.2.removeHandler ht (some Name.generateEvents)
      | none => (true, r1.2)
    if !r2.1 then (.raised, r2.2) else St.tickDropEvent ws r2.2

/-- `_on_tick` case by case: stale, time-out, countdown, no timeout set -/
theorem St.onWaitTick_eq (s : St) (w : Nat) :
    s.onWaitTick w =
      if (s.wait w).flag || (s.wait w).timedOut then (.none, s)
      else if (s.wait w).timeout == 0 then
        St.tickDrop (s.wait w) (((s.modWait w fun x => { x with timedOut := true }).addGen (.exc w false)).registerTask
          (s.wait w).owner ⟨(s.wait w).taskEvent, s.gens.length, some (s.wait w).parentGen⟩)
      else if (s.wait w).timeout > 0 then (.none, s.modWait w fun x => { x with timeout := x.timeout - 1 })
      else (.none, s) := rfl

theorem St.chooseTask_mem (s : St) (t0 : Task) (rest0 : List Task) : s.chooseTask t0 rest0 ∈ t0 :: rest0 := by
  unfold St.chooseTask
  split
  · cases hf : (t0 :: rest0).find? _ with
    | none => simp
    | some y => simpa using List.mem_of_find?_eq_some hf
  · simp

/-- the tape chooses within the group of handlers that share the head's priority, a prefix of the list -/
theorem St.chooseHandler_mem (s : St) (e h0 : Nat) (rest0 : List Nat) : s.chooseHandler e h0 rest0 ∈ h0 :: rest0 := by
  have hsub : ∀ (p : Nat → Bool) x, x ∈ (h0 :: rest0).takeWhile p → x ∈ h0 :: rest0 :=
    fun p x hx => (List.takeWhile_sublist p).subset hx
  unfold St.chooseHandler
  dsimp only
  split
  · split
    · rename_i hc
      simp only [Bool.and_eq_true, List.contains_eq_mem, decide_eq_true_eq] at hc
      exact hsub _ _ hc.2
    · exact List.mem_cons_self
  · split
    · cases hf : List.find? (fun h => (s.hs.getD h dfltHandler).kind.code == _ && hkey s (s.hs.getD h dfltHandler) == _)
          (List.takeWhile (fun h => (s.hs.getD h dfltHandler).prio == (s.hs.getD h0 dfltHandler).prio) (h0 :: rest0)) with
      | none => simp
      | some a => exact hsub _ _ (List.mem_of_find?_eq_some hf)
    · exact List.mem_cons_self
  · exact List.mem_cons_self

/-- `.fallbackExc` is the kind of the default record -/
theorem handler_lt_of_kind {s : St} {h : Nat} (hk : (s.handler h).kind ≠ .fallbackExc) : h < s.hs.length :=
  St.handler_lt_of_ne fun hd => hk (by rw [hd]; rfl)

def HKind.isFallback : HKind → Bool
  | .fallbackGE => true
  | .fallbackExc => true
  | _ => false

/-- not a framework fallback handler; in particular a declared record, since the default record is a fallback one
    (`St.plain_lt`) -/
def St.plain (s : St) (h : Nat) : Prop := (s.handler h).kind.isFallback = false

theorem St.plain_lt {s : St} {h : Nat} (hp : s.plain h) : h < s.hs.length :=
  St.handler_lt_of_ne fun hd => by unfold St.plain at hp; rw [hd] at hp; cases hp

/-- user code can add only user handlers: these are plain -/
theorem plain_of_code0 (t : St) (x : Nat) (h : ((t.handler x).kind.code == 0) = true) : t.plain x := by
  unfold St.plain
  generalize (t.handler x).kind = kd at h ⊢
  cases kd <;> first | rfl | (simp [HKind.code] at h)

/-- what `_dispatcher` computes on a cache miss, before the fallback handler is appended:
    `sorted(chain(getHandlers(event, ch) for ch in channels), key=priority, reverse=True)` -/
def Live.freshHandlers (s : St) (r : Nat) (name : Name) (chans : List Chan) : List Nat :=
  (chans.flatMap (fun ch => collect s (s.comps.length + 1) r name ch)).mergeSort
    (fun a b => (s.hs.getD a dfltHandler).prio ≥ (s.hs.getD b dfltHandler).prio)

theorem collect_of_tables (t : St) {Q : Nat → Prop}
    (hid : ∀ c k h, (k, h) ∈ (t.comp c).htab → Q h)
    (gid : ∀ c h, h ∈ (t.comp c).globals → Q h)
    (fuel c : Nat) (name : Name) (tgt : Chan) (h : Nat)
    (hm : h ∈ collect t fuel c name tgt) : Q h := by
  cases fuel with
  | zero => rw [collect_zero] at hm; cases hm
  | succ n =>
    obtain ⟨d, _, hmat⟩ := (mem_collect t name tgt h n c).mp hm
    rcases hmat with ⟨hi, _⟩ | hg
    · rcases hi with hi | hi
      · exact hid d _ _ hi
      · exact hid d _ _ hi
    · exact gid d _ hg

theorem fresh_of_tables (t : St) {Q : Nat → Prop}
    (hid : ∀ c k h, (k, h) ∈ (t.comp c).htab → Q h)
    (gid : ∀ c h, h ∈ (t.comp c).globals → Q h)
    {r : Nat} {name : Name} {chans : List Chan} {h : Nat} (hm : h ∈ Live.freshHandlers t r name chans) : Q h := by
  unfold Live.freshHandlers at hm
  rw [List.mem_mergeSort, List.mem_flatMap] at hm
  obtain ⟨ch, _, hm⟩ := hm
  exact collect_of_tables t hid gid _ _ _ _ _ hm

/-- the list and the state `computeHandlers` produces before it stores the list in the cache -/
def St.fbRes (s : St) (r : Nat) (name : Name) (chans : List Chan) : List Nat × St :=
  if name == Name.generateEvents then
    (Live.freshHandlers s r name chans ++ [s.hs.length],
     s.addH { owner := r, names := [Name.generateEvents], chan := none, prio := -100, kind := .fallbackGE })
  else if name == Name.exception && (Live.freshHandlers s r name chans).isEmpty then
    (Live.freshHandlers s r name chans ++ [s.hs.length],
     s.addH { owner := r, names := [Name.exception], chan := some .star, kind := .fallbackExc })
  else (Live.freshHandlers s r name chans, s)

theorem St.computeHandlers_eq (s : St) (r : Nat) (name : Name) (chans : List Chan) :
    s.computeHandlers r name chans =
      ((s.fbRes r name chans).1,
       (s.fbRes r name chans).2.modComp r fun x => { x with cache := ((name, chans), (s.fbRes r name chans).1) :: x.cache }) := rfl

/-- a hit returns a list stored in the cache of `r` and leaves the state alone; a miss is `computeHandlers` -/
theorem St.lookupHandlers_cases (s : St) (r : Nat) (name : Name) (chans : List Chan) :
    (∃ l, ((name, chans), l) ∈ (s.comp r).cache ∧ s.lookupHandlers r name chans = (l, s)) ∨
    s.lookupHandlers r name chans = s.computeHandlers r name chans := by
  unfold St.lookupHandlers
  split
  · rename_i l hl
    exact .inl ⟨l, lookup_mem hl, rfl⟩
  · exact .inr rfl

/-- what the handler `_on_prepare_unregister_complete` of component `o` does to the state: `prepUnregPre`, then `_updateRoot`
    from `o` with `o` as the new root (the arm `.prepUnregComplete` of `Cfg.invoke`) -/
abbrev St.detach (s : St) (o : Nat) : St := St.updateRootAll (s.comps.length + 1) [o] o (s.prepUnregPre o)

/-- the state in which the body of handler `h` runs: `invoke` logs the call of a framework handler (`.hinv`) first; a user
    handler has code 0, and its `.inv` entry is logged by `invokeUser` -/
def Cfg.w6_invokeSt (c : Cfg) (h e : Nat) : St :=
  if (c.st.handler h).kind.code != 0 then c.st.logE (.hinv e (c.st.handler h).kind.code (hkey c.st (c.st.handler h))) else c.st

/-- the arm `invoke` kind by kind, each body in the state `c.w6_invokeSt h e` -/
theorem Cfg.invoke_eq (c : Cfg) (k : List Frame) (r h e : Nat) :
    c.invoke k r h e =
      match (c.st.handler h).kind with
      | .user p => c.invokeUser k (c.w6_invokeSt h e) h e (c.st.handler h).owner p
      | .prepUnregComplete =>
        c.goto k ((c.w6_invokeSt h e).detach (c.st.handler h).owner) [.prepUnregFin (c.st.handler h).owner]
      | .waitEvent w => c.popRet k ((c.w6_invokeSt h e).onWaitEvent w e).2 (.out ((c.w6_invokeSt h e).onWaitEvent w e).1)
      | .waitDone w => c.popRet k ((c.w6_invokeSt h e).onWaitDone w e).2 (.out ((c.w6_invokeSt h e).onWaitDone w e).1)
      | .waitTick w => c.popRet k ((c.w6_invokeSt h e).onWaitTick w).2 (.out ((c.w6_invokeSt h e).onWaitTick w).1)
      | .timer t => c.popRet k ((c.w6_invokeSt h e).timerTick t e) (.out .none)
      | .fallbackGE =>
        if ((c.w6_invokeSt h e).onFallbackGE e).1 then c.popRet k ((c.w6_invokeSt h e).onFallbackGE e).2 (.out .none)
        else c.raise k ((c.w6_invokeSt h e).onFallbackGE e).2 .blocked
      | .fallbackExc => c.popRet k (c.w6_invokeSt h e) (.out .none) := rfl

theorem Cfg.w6_invoke_waitEvent (c : Cfg) (k : List Frame) (r h e w : Nat) (hk : (c.st.handler h).kind = .waitEvent w) :
    (c.invoke k r h e).st = ((c.w6_invokeSt h e).onWaitEvent w e).2 := by
  rw [Cfg.invoke_eq, hk]; rfl

theorem Cfg.w6_invoke_waitDone (c : Cfg) (k : List Frame) (r h e w : Nat) (hk : (c.st.handler h).kind = .waitDone w) :
    (c.invoke k r h e).st = ((c.w6_invokeSt h e).onWaitDone w e).2 := by
  rw [Cfg.invoke_eq, hk]; rfl

theorem Cfg.w6_invoke_waitTick (c : Cfg) (k : List Frame) (r h e w : Nat) (hk : (c.st.handler h).kind = .waitTick w) :
    (c.invoke k r h e).st = ((c.w6_invokeSt h e).onWaitTick w).2 := by
  rw [Cfg.invoke_eq, hk]; rfl

theorem Cfg.w6_invokeSt_log (c : Cfg) (h e : Nat) :
    (c.w6_invokeSt h e).log = c.st.log ∨
    (c.w6_invokeSt h e).log = .hinv e (c.st.handler h).kind.code (hkey c.st (c.st.handler h)) :: c.st.log := by
  unfold Cfg.w6_invokeSt
  split
  · exact Or.inr rfl
  · exact Or.inl rfl

theorem Cfg.w6_invokeSt_wait (c : Cfg) (h e w : Nat) : (c.w6_invokeSt h e).wait w = c.st.wait w := by
  unfold Cfg.w6_invokeSt; split <;> rfl

theorem Cfg.w6_invokeSt_ev (c : Cfg) (h e x : Nat) : (c.w6_invokeSt h e).ev x = c.st.ev x := by
  unfold Cfg.w6_invokeSt; split <;> rfl

theorem Cfg.w6_invokeSt_gen (c : Cfg) (h e g : Nat) : (c.w6_invokeSt h e).gen g = c.st.gen g := by
  unfold Cfg.w6_invokeSt; split <;> rfl

theorem Cfg.w6_invokeSt_gens (c : Cfg) (h e : Nat) : (c.w6_invokeSt h e).gens = c.st.gens := by
  unfold Cfg.w6_invokeSt; split <;> rfl

theorem Cfg.w6_invokeSt_hs (c : Cfg) (h e : Nat) : (c.w6_invokeSt h e).hs = c.st.hs := by
  unfold Cfg.w6_invokeSt; split <;> rfl

theorem Cfg.w6_invokeSt_comp (c : Cfg) (h e x : Nat) : (c.w6_invokeSt h e).comp x = c.st.comp x := by
  unfold Cfg.w6_invokeSt; split <;> rfl

theorem Cfg.w6_invokeSt_evs (c : Cfg) (h e : Nat) : (c.w6_invokeSt h e).evs = c.st.evs := by
  unfold Cfg.w6_invokeSt; split <;> rfl

theorem St.dispatchPre_cancelled (s : St) (r e rem : Nat) (hc : (s.ev e).cancelled = true) :
    s.dispatchPre r e rem = (none, (s.logE (.disp e)).modEv e fun x => { x with selfDone := true }) := by
  unfold St.dispatchPre
  dsimp only
  rw [show (s.logE (.disp e)).ev e = s.ev e from rfl, hc]
  rfl

/-- `dispatchPre` on an event that is not cancelled: `s1` is the state in which the handlers are looked up (the `D` entry
    logged, `complete` accounted for, the cache of `r` refreshed), `res` what the lookup returns -/
theorem St.dispatchPre_live (s : St) (r e rem : Nat) (hc : (s.ev e).cancelled = false) :
    ∃ s1 res, s1 = ((s.logE (.disp e)).dispComplete e (s.ev e)).cacheRefresh r ∧
      res = s1.lookupHandlers r (s.ev e).name (s.ev e).chans ∧
      s.dispatchPre r e rem =
        (some res.1, (res.2.modComp r fun x => { x with currently := some e }).dispGE r e rem (s.ev e).name) := by
  refine ⟨_, _, rfl, rfl, ?_⟩
  unfold St.dispatchPre
  dsimp only
  rw [show (s.logE (.disp e)).ev e = s.ev e from rfl, hc]
  rfl

/-- a `waitEvent` generator, resumed, takes its `_done` handler away: whether there was one, and the state after -/
abbrev St.waitUninst (s : St) (w : Nat) : Bool × St :=
  s.removeHandler (s.wait w).hDone (some ((s.wait w).evName.child sfxDone))

/-- the state after the `TimeoutError` carrier of task `t` has marked itself fired and `t` is unregistered -/
abbrev St.excDone (s : St) (w r : Nat) (t : Task) : St := (s.setGen t.g (.exc w true)).unregisterTask r t

/-- `c.PtBody k r t c'`: what the arm `ptBody r t` (the `try` block of `processTask`) can do, exit by exit - the condition
under which it is taken, the state it leaves and the frames it pushes. -/
inductive Cfg.PtBody (c : Cfg) (k : List Frame) (r : Nat) (t : Task) : Cfg → Prop
  /-- the task's own user generator is advanced -/
  | own {e h o rest st pc sd} : c.st.gen t.g = .user e h o rest st pc sd →
      PtBody c k r t (c.goto k (c.st.resumeGenPre t.g false) [.stepGen t.g, .ptOwn r t])
  /-- `waitEvent` generator: its `_done` handler is gone already (`KeyError`) -/
  | waitRaised {w} : c.st.gen t.g = .wait w → (c.st.waitUninst w).1 = false →
      PtBody c k r t (c.contError k (c.st.waitUninst w).2 r t false)
  /-- `waitEvent` generator: the awaited event `src` is known, the caller `p` is resumed with its value -/
  | waitResumed {w src p pe ph o rest st pc sd} : c.st.gen t.g = .wait w → (c.st.waitUninst w).1 = true →
      (c.st.wait w).event = some src → t.parent = some p →
      ((c.st.waitUninst w).2.unregisterTask r t).gen p = .user pe ph o rest st pc sd →
      PtBody c k r t (c.goto k
        ((((c.st.waitUninst w).2.unregisterTask r t).logE
          (.resumed pe ph src (((c.st.waitUninst w).2.unregisterTask r t).ev src).val.view
            (((c.st.waitUninst w).2.unregisterTask r t).ev src).val.errors)).resumeGenPre p true)
        [.stepGen p, .ptParent r t p false])
  /-- … but the caller is no user generator (any more): the task is dropped -/
  | waitDropped {w src p} : c.st.gen t.g = .wait w → (c.st.waitUninst w).1 = true →
      (c.st.wait w).event = some src → t.parent = some p →
      (∀ pe ph o rest st pc sd, ((c.st.waitUninst w).2.unregisterTask r t).gen p ≠ .user pe ph o rest st pc sd) →
      PtBody c k r t (c.pop k ((c.st.waitUninst w).2.unregisterTask r t))
  /-- `waitEvent` generator without an awaited event or without a caller: it is exhausted -/
  | waitStop {w} : c.st.gen t.g = .wait w → (c.st.waitUninst w).1 = true →
      ((c.st.wait w).event = none ∨ t.parent = none) → PtBody c k r t (c.contStop k (c.st.waitUninst w).2 r t)
  /-- `TimeoutError` carrier that has thrown already: it is exhausted -/
  | excFired {w} : c.st.gen t.g = .exc w true → PtBody c k r t (c.contStop k c.st r t)
  /-- `TimeoutError` thrown into the caller `p`, which catches it and goes on -/
  | excCaught {w p pe ph o rest st pc sd} : c.st.gen t.g = .exc w false → t.parent = some p →
      (c.st.excDone w r t).gen p = .user pe ph o rest st pc sd → pc.getD false = true →
      PtBody c k r t (c.goto k
        (((c.st.excDone w r t).logE (.timeout pe ph true)).resumeGenPre p true)
        [.stepGen p, .ptParent r t p true])
  /-- … which does not catch it: the caller is finished, the error branch of the resumed caller follows -/
  | excUncaught {w p pe ph o rest st pc sd} : c.st.gen t.g = .exc w false → t.parent = some p →
      (c.st.excDone w r t).gen p = .user pe ph o rest st pc sd → pc.getD false = false →
      PtBody c k r t (c.contError k
        (((c.st.excDone w r t).logE (.timeout pe ph false)).setGen p .dead) r t true)
  /-- … but the caller is no user generator (any more): the task is dropped -/
  | excDropped {w p} : c.st.gen t.g = .exc w false → t.parent = some p →
      (∀ pe ph o rest st pc sd, (c.st.excDone w r t).gen p ≠ .user pe ph o rest st pc sd) →
      PtBody c k r t (c.pop k (c.st.excDone w r t))
  /-- `TimeoutError` carrier without a caller -/
  | excAlone {w} : c.st.gen t.g = .exc w false → t.parent = none →
      PtBody c k r t (c.contError k (c.st.excDone w r t) r t false)
  /-- a finished generator -/
  | dead : c.st.gen t.g = .dead → PtBody c k r t (c.contStop k c.st r t)
  /-- the one-shot value generator after a caught time-out: consumed -/
  | oneStop {v} : c.st.gen t.g = .one v true → PtBody c k r t (c.contStop k c.st r t)
  /-- … or it yields its value -/
  | oneValue {v} : c.st.gen t.g = .one v false →
      PtBody c k r t (c.pop k ((c.st.setGen t.g (.one v true)).setValueOpt t.e v))

theorem Cfg.ptBody_cases (c : Cfg) (k : List Frame) (r : Nat) (t : Task) : c.PtBody k r t (c.ptBody k r t) := by
  unfold Cfg.ptBody
  split
  · exact .own ‹_›
  · rename_i w hg
    unfold Cfg.ptBodyWait
    dsimp only
    split
    · rename_i h
      exact .waitRaised hg (by simpa using h)
    · rename_i h
      have hrm : (c.st.waitUninst w).1 = true := by
        simpa using h
      split
      · split
        · exact .waitResumed hg hrm ‹_› ‹_› ‹_›
        · exact .waitDropped hg hrm ‹_› ‹_› (fun _ _ _ _ _ _ _ h => ‹∀ _ _ _ _ _ _ _, _ = _ → False› _ _ _ _ _ _ _ h)
      · rename_i hne
        refine .waitStop hg hrm ?_
        cases he : (c.st.wait w).event with
        | none => exact Or.inl rfl
        | some src =>
          cases hp : t.parent with
          | none => exact Or.inr rfl
          | some p => exact absurd hp (hne src p he)
  · rename_i w fired hg
    unfold Cfg.ptBodyExc
    split
    · rename_i hf
      subst hf
      exact .excFired hg
    · rename_i h
      have hf : fired = false := by simpa using h
      subst hf
      dsimp only
      split
      · split
        · rename_i pc _ _
          cases hpc : pc.getD false
          · rw [if_neg (by simp)]
            exact .excUncaught hg ‹_› ‹_› hpc
          · rw [if_pos rfl]
            exact .excCaught hg ‹_› ‹_› hpc
        · exact .excDropped hg ‹_› (fun _ _ _ _ _ _ _ h => ‹∀ _ _ _ _ _ _ _, _ = _ → False› _ _ _ _ _ _ _ h)
      · exact .excAlone hg ‹_›
  · exact .dead ‹_›
  · rename_i v consumed hg
    split
    · rename_i hc
      subst hc
      exact .oneStop hg
    · rename_i h
      have hc : consumed = false := by simpa using h
      subst hc
      exact .oneValue hg

/-- `<name>_failure` if the event asked for it, then the `exception` event: the common end of `handlerRaised` and of
    the task error branch -/
def St.feedback (u : St) (r e : Nat) : St :=
  (if (u.ev e).failure then u.fireChild r e sfxFailure (u.ev e).chans else u).fireException r e

/-- `event.value.errors = True` -/
def errF : Ev → Ev := fun x => { x with val := { x.val with errors := true } }

/-- `event.value.value = err` -/
def setErrF : Ev → Ev := fun x => { x with val := x.val.set .err }

/-- `unregisterTask; event.value.value = err` (with its `inform()`) -/
def St.errMid (s : St) (r : Nat) (t : Task) : St :=
  ((s.unregisterTask r t).modEv t.e setErrF).inform t.e false

/-- `inform(True)`; then the feedback -/
def St.errTail (b : St) (r E : Nat) : St := (b.inform E true).feedback r E

theorem St.v4_errorBranch_snd (s : St) (r : Nat) (t : Task) (resumed : Bool) :
    (s.errorBranch r t resumed).2 =
      if t.parent.isNone || resumed then
        (((s.errMid r t).modEv t.e errF).errTail r t.e).modEv t.e
          fun x => { x with waiting := x.waiting - (if resumed then 2 else 1) }
      else ((s.errMid r t).modEv t.e errF).errTail r t.e := by
  unfold St.errorBranch St.errMid St.errTail St.feedback
  dsimp only
  split <;> rfl

end CV.Core
