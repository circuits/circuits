import CV.Proofs.Pres
import CV.Proofs.Tables
/-
What `fireContext` and `fireRaw` leave alone, read off `St.fireContext_eq` once: `fireContext` rewrites rows of the event
table; `fireRaw` in addition appends the event to the queue of the root and logs the `fire` entry.
-/
namespace CV.Core

namespace St
variable (s : St) (r e : Nat)

theorem fireContext_eq :
    ∃ evs, evs.length = s.evs.length ∧ s.fireContext r e = { s with evs := evs } := by
  have hm : ∀ (t : St) i f, (∃ evs, evs.length = s.evs.length ∧ t = { s with evs := evs }) →
      ∃ evs, evs.length = s.evs.length ∧ t.modEv i f = { s with evs := evs } := by
    rintro _ i f ⟨evs, hl, rfl⟩
    exact ⟨evs.modify i f, by rw [List.length_modify, hl], rfl⟩
  exact St.fireContext_pres (P := fun t => ∃ evs, evs.length = s.evs.length ∧ t = { s with evs := evs }) s r e
    ⟨_, rfl, rfl⟩ (fun _ _ => hm _ _ _) (fun _ _ => hm _ _ _) (fun _ _ => hm _ _ _)

theorem fireContext_comps : (s.fireContext r e).comps = s.comps := by
  obtain ⟨_, _, h⟩ := s.fireContext_eq r e
  rw [h]

theorem fireContext_log : (s.fireContext r e).log = s.log := by
  obtain ⟨_, _, h⟩ := s.fireContext_eq r e
  rw [h]

theorem fireContext_timers : (s.fireContext r e).timers = s.timers := by
  obtain ⟨_, _, h⟩ := s.fireContext_eq r e
  rw [h]

theorem fireContext_tmpls : (s.fireContext r e).tmpls = s.tmpls := by
  obtain ⟨_, _, h⟩ := s.fireContext_eq r e
  rw [h]

theorem fireContext_clock : (s.fireContext r e).clock = s.clock := by
  obtain ⟨_, _, h⟩ := s.fireContext_eq r e
  rw [h]

theorem fireContext_evs_length : (s.fireContext r e).evs.length = s.evs.length := by
  obtain ⟨_, hl, h⟩ := s.fireContext_eq r e
  rw [h]; exact hl

theorem fireContext_name (d : Nat) : ((s.fireContext r e).ev d).name = (s.ev d).name := by
  have hm : ∀ {t : St} {i : Nat} {f : Ev → Ev}, (∀ x, (f x).name = x.name) → (t.ev d).name = (s.ev d).name →
      ((t.modEv i f).ev d).name = (s.ev d).name :=
    fun hf h => (St.w6_modEv_ev_pres _ (·.name) _ _ hf d).trans h
  exact St.fireContext_pres (P := fun t => (t.ev d).name = (s.ev d).name) s r e rfl
    (fun _ _ h => hm (fun _ => rfl) h) (fun _ _ h => hm (fun _ => rfl) h) (fun _ _ h => hm (fun _ => rfl) h)

end St

namespace St
variable (s : St) (self e : Nat) (ch : List Chan) (p : Int)

theorem fireRaw_eq : ∃ evs, evs.length = s.evs.length ∧
    s.fireRaw self e ch p =
      { s with evs := evs, comps := s.comps.modify (s.rootOf self) fun x => { x with eq := x.eq.append e p },
               log := .fire e (s.ev e).name ch p :: s.log, tape := s.tape.drop 1 } := by
  have hn : (((s.modEv e fun x => { x with chans := ch, val := {}, mgr := self }).fireContext (s.rootOf self) e).ev e).name =
      (s.ev e).name :=
    (St.fireContext_name _ _ _ e).trans
      (St.w6_modEv_ev_pres s (·.name) e (fun x => { x with chans := ch, val := {}, mgr := self }) (fun _ => rfl) e)
  obtain ⟨evs, hl, h⟩ := (s.modEv e fun x => { x with chans := ch, val := {}, mgr := self }).fireContext_eq (s.rootOf self) e
  refine ⟨evs, by rw [hl]; simp [St.modEv], ?_⟩
  unfold St.fireRaw
  dsimp only
  rw [show (s.modEv e fun x => { x with chans := ch, val := {}, mgr := self }).rootOf self = s.rootOf self from rfl,
    show ∀ (t : St) c (f : Comp → Comp), (t.modComp c f).ev e = t.ev e from fun _ _ _ => rfl, hn, h]
  rfl

theorem fireRaw_timers : (s.fireRaw self e ch p).timers = s.timers := by
  obtain ⟨_, _, h⟩ := s.fireRaw_eq self e ch p
  rw [h]

theorem fireRaw_clock : (s.fireRaw self e ch p).clock = s.clock := by
  obtain ⟨_, _, h⟩ := s.fireRaw_eq self e ch p
  rw [h]

theorem fireRaw_tmpls : (s.fireRaw self e ch p).tmpls = s.tmpls := by
  obtain ⟨_, _, h⟩ := s.fireRaw_eq self e ch p
  rw [h]

theorem fireRaw_evs_length : (s.fireRaw self e ch p).evs.length = s.evs.length := by
  obtain ⟨_, hl, h⟩ := s.fireRaw_eq self e ch p
  rw [h]; exact hl

theorem fireRaw_log : (s.fireRaw self e ch p).log = .fire e (s.ev e).name ch p :: s.log := by
  obtain ⟨_, _, h⟩ := s.fireRaw_eq self e ch p
  rw [h]

theorem fireRaw_comp (c : Nat) :
    (s.fireRaw self e ch p).comp c = (s.modComp (s.rootOf self) fun x => { x with eq := x.eq.append e p }).comp c := by
  obtain ⟨_, _, h⟩ := s.fireRaw_eq self e ch p
  rw [h]; rfl

end St

/-- the one log entry of `fireTmplEv`: the `fire` of the new event, on `target` or on the channel of the firing component -/
theorem St.fireTmplEv_log (s : St) (self : Nat) (ev : Ev) (target : Option Chan) (prio : Int) :
    (s.fireTmplEv self ev target prio).log =
      Entry.fire s.evs.length ev.name
        (match target with
          | some t => [t]
          | none => [((s.addEv ev).comp self).chan]) prio :: s.log := by
  unfold St.fireTmplEv
  dsimp only
  rw [St.fireRaw_log, St.w6_addEv_ev, if_pos rfl]
  rfl

end CV.Core
