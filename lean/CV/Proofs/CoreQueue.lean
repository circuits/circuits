import CV.Model.Core.QueueSpec
import CV.Model.Core.Choose
/-
The `_EventQueue` layer (`CV.Core.EQ`) under the op language of `CV/Model/Core/QueueSpec.lean`: the invariant `QInv`, a pass
pops the snapshot in `(prio, seq)` order (`pass_run`); the handler choice `chooseNext` / `chooseIter` on a descending list.
-/
namespace CV.Core

theorem QItem.le_refl (a : QItem) : a.le a = true := by
  simp [QItem.le]

theorem QItem.le_trans {a b c : QItem} (h1 : a.le b = true) (h2 : b.le c = true) :
    a.le c = true := by
  simp only [QItem.le, Bool.or_eq_true, Bool.and_eq_true, decide_eq_true_eq, beq_iff_eq] at *
  omega

theorem QItem.le_total (a b : QItem) : (a.le b || b.le a) = true := by
  simp only [QItem.le, Bool.or_eq_true, Bool.and_eq_true, decide_eq_true_eq, beq_iff_eq]
  omega

theorem QItem.le_antisymm_key {a b : QItem} (h1 : a.le b = true) (h2 : b.le a = true) :
    a.prio = b.prio ∧ a.seq = b.seq := by
  simp only [QItem.le, Bool.or_eq_true, Bool.and_eq_true, decide_eq_true_eq, beq_iff_eq] at *
  omega

theorem QItem.le_of_keyEq {a m x : QItem} (hk : a.keyEq m = true) (h : m.le x = true) :
    a.le x = true := by
  simp only [QItem.le, QItem.keyEq, Bool.or_eq_true, Bool.and_eq_true, decide_eq_true_eq,
    beq_iff_eq] at *
  omega

theorem QItem.le_of_prio_lt {a b : QItem} (h : a.prio < b.prio) : a.le b = true := by
  simp only [QItem.le, Bool.or_eq_true, Bool.and_eq_true, decide_eq_true_eq, beq_iff_eq]
  omega

theorem QItem.prio_le_of_le {a b : QItem} (h : a.le b = true) : a.prio ≤ b.prio := by
  simp only [QItem.le, Bool.or_eq_true, Bool.and_eq_true, decide_eq_true_eq, beq_iff_eq] at *
  omega

theorem QItem.not_le_of_seq_lt {a b : QItem} (hp : a.prio = b.prio) (hs : a.seq < b.seq) :
    b.le a = false := by
  rw [Bool.eq_false_iff]
  intro h
  simp only [QItem.le, Bool.or_eq_true, Bool.and_eq_true, decide_eq_true_eq, beq_iff_eq] at h
  omega

theorem minItem_mem : ∀ {h : List QItem} {m : QItem}, minItem h = some m → m ∈ h
  | [], _, hm => by simp [minItem] at hm
  | a :: rest, m, hm => by
    unfold minItem at hm
    split at hm
    · simp only [Option.some.injEq] at hm; subst hm; exact List.mem_cons_self
    · rename_i m' hm'
      have := minItem_mem hm'
      split at hm
      · simp only [Option.some.injEq] at hm; subst hm; exact List.mem_cons_self
      · simp only [Option.some.injEq] at hm; subst hm; exact List.mem_cons_of_mem _ this

theorem minItem_eq_none : ∀ {h : List QItem}, minItem h = none → h = []
  | [], _ => rfl
  | a :: rest, hm => by
    unfold minItem at hm
    split at hm
    · simp at hm
    · split at hm <;> simp at hm

theorem minItem_cons (a : QItem) (rest : List QItem) :
    minItem (a :: rest) = some (match minItem rest with | none => a | some m => if a.le m then a else m) := by
  rw [minItem]
  cases minItem rest with
  | none => rfl
  | some m => dsimp only; split <;> rfl

theorem minItem_le : ∀ {h : List QItem} {m : QItem}, minItem h = some m →
    ∀ x ∈ h, m.le x = true
  | [], _, hm => by simp [minItem] at hm
  | a :: rest, m, hm => by
    rw [minItem_cons] at hm
    cases hr : minItem rest with
    | none =>
      rw [hr] at hm
      cases hm
      rw [minItem_eq_none hr]
      intro x hx
      rw [List.mem_singleton.mp hx]
      exact QItem.le_refl _
    | some m' =>
      rw [hr] at hm
      have hmin : m.le a = true ∧ m.le m' = true := by
        injection hm with hm
        subst hm
        dsimp only
        split
        · exact ⟨QItem.le_refl _, ‹_›⟩
        · exact ⟨(Bool.or_eq_true _ _ ▸ QItem.le_total a m').resolve_left ‹_›, QItem.le_refl _⟩
      intro x hx
      rcases List.mem_cons.mp hx with rfl | hx
      · exact hmin.1
      · exact QItem.le_trans hmin.2 (minItem_le hr x hx)

theorem minItem_isSome {h : List QItem} (hne : h ≠ []) : ∃ m, minItem h = some m := by
  cases hm : minItem h with
  | none => exact absurd (minItem_eq_none hm) hne
  | some m => exact ⟨m, rfl⟩

theorem mem_minCands {h : List QItem} {x : QItem} (hx : x ∈ minCands h) :
    x ∈ h ∧ ∃ m, minItem h = some m ∧ x.keyEq m = true := by
  unfold minCands at hx
  split at hx
  · simp at hx
  · rename_i m hm
    rw [List.mem_filter] at hx
    exact ⟨hx.1, m, hm, hx.2⟩

theorem minCands_ne_nil {h : List QItem} (hne : h ≠ []) : minCands h ≠ [] := by
  obtain ⟨m, hm⟩ := minItem_isSome hne
  have : m ∈ minCands h := by
    unfold minCands
    rw [hm]
    simp only [List.mem_filter]
    exact ⟨minItem_mem hm, by simp [QItem.keyEq]⟩
  exact List.ne_nil_of_mem this

theorem minCands_le {h : List QItem} {it : QItem} (hit : it ∈ minCands h) :
    ∀ x ∈ h, it.le x = true := by
  obtain ⟨_, m, hm, hk⟩ := mem_minCands hit
  intro x hx
  exact QItem.le_of_keyEq hk (minItem_le hm x hx)

theorem pop_spec {q q' : EQ} {pick : List QItem → Option QItem} {it : QItem}
    (h : q.pop pick = some (it, q')) :
    q.batch ≠ 0 ∧ it ∈ minCands q.heap ∧
      q' = { q with batch := q.batch - 1, heap := q.heap.erase it } := by
  unfold EQ.pop at h
  split at h
  · simp at h
  · rename_i hb
    simp only at h
    split at h
    · simp at h
    · rename_i it' hsel
      simp only [Option.some.injEq, Prod.mk.injEq] at h
      obtain ⟨rfl, rfl⟩ := h
      refine ⟨hb, ?_, rfl⟩
      split at hsel
      · split at hsel
        · rename_i hc
          simp only [Option.some.injEq] at hsel; subst hsel
          simpa using hc
        · exact List.mem_of_head? hsel
      · exact List.mem_of_head? hsel

theorem pop_none_of_batch_zero {q : EQ} (pick : List QItem → Option QItem) (h : q.batch = 0) :
    q.pop pick = none := by
  simp [EQ.pop, h]

theorem pop_isSome {q : EQ} (pick : List QItem → Option QItem) (hb : q.batch ≠ 0)
    (hh : q.heap ≠ []) : ∃ it q', q.pop pick = some (it, q') := by
  have hc := minCands_ne_nil hh
  obtain ⟨c, hc'⟩ : ∃ c, (minCands q.heap).head? = some c := by
    cases hcs : minCands q.heap with
    | nil => exact absurd hcs hc
    | cons c _ => exact ⟨c, rfl⟩
  have hsel : ∃ it, (match pick (minCands q.heap) with
           | some c => if (minCands q.heap).contains c then some c else (minCands q.heap).head?
           | none => (minCands q.heap).head?) = some it := by
    cases pick (minCands q.heap) with
    | none => exact ⟨c, hc'⟩
    | some c' =>
      simp only
      split
      · exact ⟨_, rfl⟩
      · exact ⟨c, hc'⟩
  obtain ⟨it, hit⟩ := hsel
  refine ⟨it, { q with batch := q.batch - 1, heap := q.heap.erase it }, ?_⟩
  unfold EQ.pop
  rw [if_neg hb]
  show (match (match pick (minCands q.heap) with
           | some c => if (minCands q.heap).contains c then some c else (minCands q.heap).head?
           | none => (minCands q.heap).head?) with
    | none => none
    | some it => some (it, { q with batch := q.batch - 1, heap := q.heap.erase it })) = _
  rw [hit]

/-- Invariant of every queue reachable from the empty one by `app` / `flushBegin` / `pop`
    (not by `drainFrom`, see QueueSpec.lean). -/
structure QInv (q : EQ) : Prop where
  batch_eq : q.batch = q.heap.length
  seq_lt : ∀ x ∈ q.heap ++ q.queue, x.seq < q.counter
  seq_ne : (q.heap ++ q.queue).Pairwise (fun a b => a.seq ≠ b.seq)
  queue_inc : q.queue.Pairwise (fun a b => a.seq < b.seq)

theorem QInv.heap_seq_ne {q : EQ} (h : QInv q) : q.heap.Pairwise (fun a b => a.seq ≠ b.seq) :=
  (List.pairwise_append.mp h.seq_ne).1

theorem QInv.queue_seq_ne {q : EQ} (h : QInv q) : q.queue.Pairwise (fun a b => a.seq ≠ b.seq) :=
  (List.pairwise_append.mp h.seq_ne).2.1

theorem QInv.heap_nil_of_batch {q : EQ} (h : QInv q) (hb : q.batch = 0) : q.heap = [] :=
  List.eq_nil_of_length_eq_zero (h.batch_eq ▸ hb)

theorem qinv_empty : QInv {} := by
  refine ⟨rfl, ?_, ?_, ?_⟩ <;> simp

theorem qinv_append {q : EQ} (h : QInv q) (ev : Nat) (prio : Int) : QInv (q.append ev prio) := by
  refine ⟨h.batch_eq, ?_, ?_, ?_⟩
  · intro x hx
    simp only [EQ.append, ← List.append_assoc, List.mem_append, List.mem_singleton] at hx
    simp only [EQ.append]
    rcases hx with hx | rfl
    · have := h.seq_lt x (List.mem_append.mpr hx); omega
    · simp
  · simp only [EQ.append, ← List.append_assoc]
    rw [List.pairwise_append]
    refine ⟨h.seq_ne, by simp, ?_⟩
    intro a ha b hb
    simp only [List.mem_singleton] at hb; subst hb
    have := h.seq_lt a ha
    simp only; omega
  · simp only [EQ.append]
    rw [List.pairwise_append]
    refine ⟨h.queue_inc, by simp, ?_⟩
    intro a ha b hb
    simp only [List.mem_singleton] at hb; subst hb
    exact h.seq_lt a (List.mem_append_right _ ha)

theorem begin_of_batch_ne {q : EQ} (hb : q.batch ≠ 0) : q.begin = q := by
  simp [EQ.begin, hb]

theorem begin_of_batch_zero {q : EQ} (h : q.batch = q.heap.length) (hb : q.batch = 0) :
    q.begin = { q with batch := q.queue.length, heap := q.queue, queue := [] } := by
  simp [EQ.begin, hb, List.eq_nil_of_length_eq_zero (h ▸ hb)]

/-- `batch = heap.length` (the first field of `QInv`) is kept by `begin` and by `pop` on its own -/
theorem begin_batch_eq {q : EQ} (h : q.batch = q.heap.length) : q.begin.batch = q.begin.heap.length := by
  by_cases hb : q.batch = 0
  · rw [begin_of_batch_zero h hb]
  · rw [begin_of_batch_ne hb]; exact h

theorem pop_batch_eq {q q' : EQ} {pick : List QItem → Option QItem} {it : QItem} (h : q.batch = q.heap.length)
    (hp : q.pop pick = some (it, q')) : q'.batch = q'.heap.length := by
  obtain ⟨_, hit, rfl⟩ := pop_spec hp
  simp only [List.length_erase_of_mem (mem_minCands hit).1]
  rw [h]

theorem qinv_begin {q : EQ} (h : QInv q) : QInv q.begin := by
  by_cases hb : q.batch = 0
  · rw [begin_of_batch_zero h.batch_eq hb]
    refine ⟨rfl, ?_, ?_, by simp⟩
    · intro x hx
      simp only [List.append_nil] at hx
      exact h.seq_lt x (List.mem_append_right _ hx)
    · simp only [List.append_nil]
      exact h.queue_seq_ne
  · rw [begin_of_batch_ne hb]; exact h

theorem qinv_pop {q q' : EQ} {pick : List QItem → Option QItem} {it : QItem} (h : QInv q)
    (hp : q.pop pick = some (it, q')) : QInv q' := by
  obtain ⟨hb, hit, rfl⟩ := pop_spec hp
  have hsub : (q.heap.erase it ++ q.queue).Sublist (q.heap ++ q.queue) :=
    List.Sublist.append List.erase_sublist (List.Sublist.refl _)
  refine ⟨pop_batch_eq h.batch_eq hp, ?_, ?_, h.queue_inc⟩
  · intro x hx
    exact h.seq_lt x (hsub.subset hx)
  · exact h.seq_ne.sublist hsub

theorem drainFrom_nil_left (q o : EQ) (h : o.queue = []) : (q.drainFrom o).1 = q := by
  cases q; simp [EQ.drainFrom, h]

theorem drainFrom_nil_right (q o : EQ) (h : o.queue = []) : (q.drainFrom o).2 = o := by
  cases o
  simp only [EQ.drainFrom]
  simp only at h
  rw [h]

theorem qinv_step {q : EQ} (h : QInv q) (op : QOp) : QInv (op.apply q).1 := by
  cases op with
  | app ev prio => exact qinv_append h ev prio
  | flushBegin => exact qinv_begin h
  | pop pick =>
    simp only [QOp.apply]
    split
    · exact h
    · rename_i it q' hp
      exact qinv_pop h hp

theorem qinv_run : ∀ (ops : List QOp) {q : EQ}, QInv q → QInv (runOps q ops).1
  | [], _, h => h
  | op :: ops, _, h => qinv_run ops (qinv_step h op)

theorem eq_of_seq_eq : ∀ {l : List QItem}, l.Pairwise (fun a b => a.seq ≠ b.seq) →
    ∀ {a b : QItem}, a ∈ l → b ∈ l → a.seq = b.seq → a = b
  | [], _, _, _, ha, _, _ => by simp at ha
  | x :: t, hp, a, b, ha, hb, hs => by
    rw [List.pairwise_cons] at hp
    rcases List.mem_cons.mp ha with rfl | ha' <;> rcases List.mem_cons.mp hb with rfl | hb'
    · rfl
    · exact absurd hs (hp.1 b hb')
    · exact absurd hs.symm (hp.1 a ha')
    · exact eq_of_seq_eq hp.2 ha' hb' hs

theorem nodup_of_seq_ne {l : List QItem} (h : l.Pairwise (fun a b => a.seq ≠ b.seq)) :
    l.Nodup := by
  unfold List.Nodup
  refine h.imp ?_
  intro a b hab heq
  exact hab (heq ▸ rfl)

theorem eq_of_perm_of_sorted {α : Type} {r : α → α → Prop} :
    ∀ {l₁ l₂ : List α}, l₁.Perm l₂ →
      (∀ a b, a ∈ l₁ → b ∈ l₁ → r a b → r b a → a = b) →
      l₁.Pairwise r → l₂.Pairwise r → l₁ = l₂
  | [], l₂, hp, _, _, _ => (List.Perm.nil_eq hp)
  | a :: t₁, [], hp, _, _, _ => by simpa using hp.length_eq
  | a :: t₁, b :: t₂, hp, anti, h1, h2 => by
    rw [List.pairwise_cons] at h1 h2
    have hab : a = b := by
      have ha : a ∈ b :: t₂ := hp.subset List.mem_cons_self
      have hb : b ∈ a :: t₁ := hp.symm.subset List.mem_cons_self
      rcases List.mem_cons.mp ha with e | ha'
      · exact e
      · rcases List.mem_cons.mp hb with e | hb'
        · exact e.symm
        · exact anti a b List.mem_cons_self hb (h1.1 b hb') (h2.1 a ha')
    subst hab
    have := eq_of_perm_of_sorted hp.cons_inv
      (fun x y hx hy => anti x y (List.mem_cons_of_mem _ hx) (List.mem_cons_of_mem _ hy)) h1.2 h2.2
    rw [this]

theorem sublist_pair_of_mem {α : Type} : ∀ {l : List α} {a b : α}, a ∈ l → b ∈ l → a ≠ b →
    [a, b].Sublist l ∨ [b, a].Sublist l
  | [], _, _, ha, _, _ => by simp at ha
  | x :: t, a, b, ha, hb, hne => by
    rcases List.mem_cons.mp ha with rfl | ha' <;> rcases List.mem_cons.mp hb with rfl | hb'
    · exact absurd rfl hne
    · exact Or.inl (List.Sublist.cons_cons _ (List.singleton_sublist.mpr hb'))
    · exact Or.inr (List.Sublist.cons_cons _ (List.singleton_sublist.mpr ha'))
    · rcases sublist_pair_of_mem ha' hb' hne with h | h
      · exact Or.inl (h.cons _)
      · exact Or.inr (h.cons _)

theorem rel_of_sublist_pair {α : Type} {r : α → α → Prop} {l : List α} {a b : α}
    (hp : l.Pairwise r) (hab : [a, b].Sublist l) : r a b := by
  have := hp.sublist hab
  simp only [List.pairwise_cons, List.mem_singleton, forall_eq] at this
  exact this.1

theorem sublist_pair_of_sorted {α : Type} {r : α → α → Prop} {l : List α} {a b : α}
    (hp : l.Pairwise r) (ha : a ∈ l) (hb : b ∈ l) (hne : a ≠ b) (hn : ¬ r b a) : [a, b].Sublist l :=
  (sublist_pair_of_mem ha hb hne).resolve_right fun h => hn (rel_of_sublist_pair hp h)

theorem sorted_eq_mergeSort {l out : List QItem} (hp : out.Perm l)
    (hne : l.Pairwise (fun a b => a.seq ≠ b.seq))
    (hs : out.Pairwise (fun a b => a.le b = true)) :
    out = l.mergeSort (fun a b => a.le b) := by
  have hne' : out.Pairwise (fun a b => a.seq ≠ b.seq) :=
    (hp.pairwise_iff (fun h => Ne.symm h)).mpr hne
  refine eq_of_perm_of_sorted (hp.trans (List.mergeSort_perm l _).symm) ?_ hs ?_
  · intro a b ha hb h1 h2
    exact eq_of_seq_eq hne' ha hb (QItem.le_antisymm_key h1 h2).2
  · exact List.pairwise_mergeSort (le := fun a b => a.le b) (fun a b c => QItem.le_trans)
      QItem.le_total l

def Sorted (l : List QItem) : Prop := l.Pairwise (fun a b => a.le b = true)

/-- The remainder of a pass dispatches exactly the heap, in `(prio, seq)` order, and leaves every appended item in the deque. -/
theorem pass_run : ∀ (ops : List QOp) (q : EQ) (k : Nat), QInv q → q.heap.length = k →
    midPass k ops = true →
    (runOps q ops).2.Perm q.heap ∧ Sorted (runOps q ops).2 ∧
      (runOps q ops).1.heap = [] ∧ (runOps q ops).1.batch = 0 ∧
      (runOps q ops).1.queue = q.queue ++ appItems q.counter ops
  | [], q, k, h, hk, hm => by
    simp only [midPass, beq_iff_eq] at hm
    subst hm
    have hh : q.heap = [] := List.eq_nil_of_length_eq_zero hk
    simp only [runOps, appItems, List.append_nil, Sorted]
    refine ⟨by rw [hh], List.Pairwise.nil, hh, ?_, trivial⟩
    rw [h.batch_eq, hh]; rfl
  | .app ev prio :: ops, q, k, h, hk, hm => by
    simp only [midPass] at hm
    have ih := pass_run ops (q.append ev prio) k (qinv_append h ev prio) hk hm
    simp only [runOps, QOp.apply, List.nil_append, appItems]
    refine ⟨ih.1, ih.2.1, ih.2.2.1, ih.2.2.2.1, ?_⟩
    rw [ih.2.2.2.2]
    simp [EQ.append]
  | .flushBegin :: ops, q, k, h, hk, hm => by
    simp only [midPass, Bool.and_eq_true, bne_iff_ne, ne_eq] at hm
    have hb : q.batch ≠ 0 := by rw [h.batch_eq, hk]; exact hm.1
    have ih := pass_run ops q k h hk hm.2
    simp only [runOps, QOp.apply, begin_of_batch_ne hb, List.nil_append, appItems]
    exact ih
  | .pop pick :: ops, q, k, h, hk, hm => by
    simp only [midPass, Bool.and_eq_true, bne_iff_ne, ne_eq] at hm
    -- the batch is in progress and the heap holds `k ≠ 0` items: the pop succeeds with a minimum `it`
    have hb : q.batch ≠ 0 := by rw [h.batch_eq, hk]; exact hm.1
    have hh : q.heap ≠ [] := fun e => hm.1 (by rw [← hk, e]; rfl)
    obtain ⟨it, q', hp⟩ := pop_isSome pick hb hh
    have hi := qinv_pop h hp
    obtain ⟨_, hit, rfl⟩ := pop_spec hp
    have hmem : it ∈ q.heap := (mem_minCands hit).1
    -- the rest of the pass runs on the heap without `it`
    have ih := pass_run ops _ (k - 1) hi (by simp only [List.length_erase_of_mem hmem, hk]) hm.2
    simp only [runOps, QOp.apply, hp, appItems, List.singleton_append]
    refine ⟨(List.Perm.cons it ih.1).trans (List.perm_cons_erase hmem).symm, ?_, ih.2.2.1, ih.2.2.2.1, ih.2.2.2.2⟩
    exact List.pairwise_cons.2 ⟨fun x hx => minCands_le hit x (List.mem_of_mem_erase (ih.1.subset hx)), ih.2.1⟩

theorem midPass_of_noFlush : ∀ (ops : List QOp) (k : Nat),
    (∀ o ∈ ops, o.isFlush = false) → ops.countP QOp.isPop = k → midPass k ops = true
  | [], k, _, hc => by simp at hc; simp [midPass, hc]
  | .app ev prio :: ops, k, hf, hc => by
    simp only [midPass]
    apply midPass_of_noFlush ops k (fun o ho => hf o (List.mem_cons_of_mem _ ho))
    simpa [List.countP_cons, QOp.isPop] using hc
  | .flushBegin :: ops, k, hf, _ => by
    have := hf .flushBegin List.mem_cons_self
    simp [QOp.isFlush] at this
  | .pop pick :: ops, k, hf, hc => by
    simp only [List.countP_cons, QOp.isPop, if_true] at hc
    simp only [midPass, Bool.and_eq_true, bne_iff_ne, ne_eq]
    refine ⟨by omega, ?_⟩
    apply midPass_of_noFlush ops (k - 1) (fun o ho => hf o (List.mem_cons_of_mem _ ho))
    omega

theorem midPass_pops : ∀ (picks : List (List QItem → Option QItem)),
    midPass picks.length (picks.map QOp.pop) = true
  | [] => rfl
  | _ :: picks => by
    simp only [List.map_cons, List.length_cons, midPass, Nat.add_sub_cancel, Bool.and_eq_true,
      bne_iff_ne, ne_eq]
    exact ⟨by omega, midPass_pops picks⟩

theorem appItems_pops : ∀ (c : Nat) (picks : List (List QItem → Option QItem)),
    appItems c (picks.map QOp.pop) = []
  | _, [] => rfl
  | c, _ :: picks => by simp only [List.map_cons, appItems]; exact appItems_pops c picks

theorem appItems_seq_ge : ∀ (ops : List QOp) (c : Nat), ∀ x ∈ appItems c ops, c ≤ x.seq
  | [], _, x, hx => by simp [appItems] at hx
  | .app ev prio :: ops, c, x, hx => by
    simp only [appItems, List.mem_cons] at hx
    rcases hx with rfl | hx
    · exact Nat.le_refl _
    · have := appItems_seq_ge ops (c + 1) x hx; omega
  | .flushBegin :: ops, c, x, hx => appItems_seq_ge ops c x (by simpa [appItems] using hx)
  | .pop _ :: ops, c, x, hx => appItems_seq_ge ops c x (by simpa [appItems] using hx)

theorem pass_full {q : EQ} (h : QInv q) (hb : q.batch = 0) (ops : List QOp)
    (hm : midPass q.queue.length ops = true) :
    (runOps q (.flushBegin :: ops)).2.Perm q.queue ∧ Sorted (runOps q (.flushBegin :: ops)).2 ∧
      (runOps q (.flushBegin :: ops)).1.heap = [] ∧ (runOps q (.flushBegin :: ops)).1.batch = 0 ∧
      (runOps q (.flushBegin :: ops)).1.queue = appItems q.counter ops := by
  have hbeg := begin_of_batch_zero h.batch_eq hb
  have hi : QInv q.begin := qinv_begin h
  have := pass_run ops q.begin q.queue.length hi (by rw [hbeg]) hm
  simp only [runOps, QOp.apply, List.nil_append]
  rw [hbeg] at this ⊢
  simpa using this

/-- sorted by priority, highest first (what `sorted(..., key=priority, reverse=True)` yields) -/
def Desc (prioOf : Nat → Int) (l : List Nat) : Prop :=
  l.Pairwise (fun a b => prioOf a ≥ prioOf b)

theorem mem_takeWhile_imp {α : Type} {p : α → Bool} : ∀ {l : List α} {x : α},
    x ∈ l.takeWhile p → p x = true ∧ x ∈ l
  | [], _, hx => by simp at hx
  | a :: t, x, hx => by
    simp only [List.takeWhile_cons] at hx
    split at hx
    · rename_i hpa
      rcases List.mem_cons.mp hx with rfl | hx'
      · exact ⟨hpa, List.mem_cons_self⟩
      · have := mem_takeWhile_imp hx'
        exact ⟨this.1, List.mem_cons_of_mem _ this.2⟩
    · simp at hx

theorem desc_of_mergeSort (prioOf : Nat → Int) (l : List Nat) :
    Desc prioOf (l.mergeSort (fun a b => decide (prioOf a ≥ prioOf b))) := by
  have := List.pairwise_mergeSort (le := fun a b => decide (prioOf a ≥ prioOf b))
    (fun a b c h1 h2 => by
      simp only [decide_eq_true_eq] at *; omega)
    (fun a b => by
      simp only [Bool.or_eq_true, decide_eq_true_eq]; omega) l
  exact this.imp (fun h => by simpa using h)

theorem chooseNext_spec {prioOf : Nat → Int} {hint : Option Nat} {hs rest : List Nat} {h : Nat}
    (hc : chooseNext prioOf hint hs = some (h, rest)) :
    h ∈ hs ∧ rest = hs.erase h ∧ ∃ h0 t, hs = h0 :: t ∧ prioOf h = prioOf h0 := by
  cases hs with
  | nil => simp [chooseNext] at hc
  | cons h0 t =>
    simp only [chooseNext, Option.some.injEq, Prod.mk.injEq] at hc
    obtain ⟨hh, hr⟩ := hc
    have key : h ∈ h0 :: t ∧ prioOf h = prioOf h0 := by
      rw [← hh]
      cases hint with
      | none => exact ⟨List.mem_cons_self, rfl⟩
      | some h' =>
        simp only
        split
        · rename_i hcont
          have := mem_takeWhile_imp (List.contains_iff_mem.mp hcont)
          exact ⟨this.2, by simpa using this.1⟩
        · exact ⟨List.mem_cons_self, rfl⟩
    refine ⟨key.1, ?_, h0, t, rfl, key.2⟩
    rw [← hr, hh]

theorem chooseNext_isSome {prioOf : Nat → Int} (hint : Option Nat) {hs : List Nat}
    (hne : hs ≠ []) : ∃ h rest, chooseNext prioOf hint hs = some (h, rest) := by
  cases hs with
  | nil => exact absurd rfl hne
  | cons h0 t => exact ⟨_, _, rfl⟩

theorem desc_head_max {prioOf : Nat → Int} {h0 : Nat} {t : List Nat}
    (hd : Desc prioOf (h0 :: t)) : ∀ x ∈ h0 :: t, prioOf h0 ≥ prioOf x := by
  intro x hx
  rcases List.mem_cons.mp hx with rfl | hx
  · exact Int.le_refl _
  · exact (List.pairwise_cons.mp hd).1 x hx

theorem chooseNext_max {prioOf : Nat → Int} {hint : Option Nat} {hs rest : List Nat} {h : Nat}
    (hd : Desc prioOf hs) (hc : chooseNext prioOf hint hs = some (h, rest)) :
    ∀ x ∈ hs, prioOf h ≥ prioOf x := by
  obtain ⟨_, _, h0, t, rfl, hp⟩ := chooseNext_spec hc
  intro x hx
  rw [hp]; exact desc_head_max hd x hx

theorem chooseNext_rest {prioOf : Nat → Int} {hint : Option Nat} {hs rest : List Nat} {h : Nat}
    (hd : Desc prioOf hs) (hc : chooseNext prioOf hint hs = some (h, rest)) :
    Desc prioOf rest ∧ hs.Perm (h :: rest) ∧ rest.length + 1 = hs.length := by
  obtain ⟨hm, rfl, _⟩ := chooseNext_spec hc
  refine ⟨hd.sublist List.erase_sublist, List.perm_cons_erase hm, ?_⟩
  have := (List.perm_cons_erase hm).length_eq
  simp only [List.length_cons] at this
  omega

theorem chooseIter_desc (prioOf : Nat → Int) : ∀ (n : Nat) (hints : Nat → Option Nat)
    (hs : List Nat), Desc prioOf hs →
    Desc prioOf (chooseIter prioOf n hints hs) ∧ ∀ x ∈ chooseIter prioOf n hints hs, x ∈ hs
  | 0, _, _, _ => by simp [chooseIter, Desc]
  | n + 1, hints, hs, hd => by
    unfold chooseIter
    split
    · simp [Desc]
    · rename_i h rest hc
      have hr := chooseNext_rest hd hc
      have ih := chooseIter_desc prioOf n (fun i => hints (i + 1)) rest hr.1
      have hsub : ∀ x ∈ rest, x ∈ hs := fun x hx => hr.2.1.symm.subset (List.mem_cons_of_mem _ hx)
      refine ⟨?_, ?_⟩
      · unfold Desc
        rw [List.pairwise_cons]
        refine ⟨?_, ih.1⟩
        intro x hx
        exact chooseNext_max hd hc x (hsub x (ih.2 x hx))
      · intro x hx
        rcases List.mem_cons.mp hx with rfl | hx
        · exact (chooseNext_spec hc).1
        · exact hsub x (ih.2 x hx)

theorem chooseIter_perm (prioOf : Nat → Int) : ∀ (n : Nat) (hints : Nat → Option Nat)
    (hs : List Nat), Desc prioOf hs → hs.length ≤ n → (chooseIter prioOf n hints hs).Perm hs
  | 0, _, hs, _, hl => by
    have : hs = [] := List.eq_nil_of_length_eq_zero (by omega)
    subst this; simp [chooseIter]
  | n + 1, hints, hs, hd, hl => by
    unfold chooseIter
    split
    · rename_i hc
      cases hs with
      | nil => exact List.Perm.refl _
      | cons h0 t => simp [chooseNext] at hc
    · rename_i h rest hc
      have hr := chooseNext_rest hd hc
      have ih := chooseIter_perm prioOf n (fun i => hints (i + 1)) rest hr.1 (by omega)
      exact (List.Perm.cons h ih).trans hr.2.1.symm

theorem chooseIter_take (prioOf : Nat → Int) : ∀ (k n : Nat) (hints : Nat → Option Nat)
    (hs : List Nat), k ≤ n →
    chooseIter prioOf k hints hs = (chooseIter prioOf n hints hs).take k
  | 0, _, _, _, _ => by simp [chooseIter]
  | k + 1, 0, _, _, hkn => by omega
  | k + 1, n + 1, hints, hs, hkn => by
    unfold chooseIter
    split
    · simp
    · rename_i h rest hc
      simp only [List.take_succ_cons]
      rw [chooseIter_take prioOf k n _ rest (by omega)]

theorem chooseIter_length (prioOf : Nat → Int) : ∀ (n : Nat) (hints : Nat → Option Nat)
    (hs : List Nat), (chooseIter prioOf n hints hs).length = min n hs.length
  | 0, _, _ => by simp [chooseIter]
  | n + 1, hints, hs => by
    cases hs with
    | nil => simp [chooseIter, chooseNext]
    | cons h0 t =>
      obtain ⟨h, rest, hc⟩ := chooseNext_isSome (prioOf := prioOf) (hints 0) (List.cons_ne_nil h0 t)
      have hm := (chooseNext_spec hc)
      have hl : rest.length + 1 = (h0 :: t).length := by
        have := (List.perm_cons_erase hm.1).length_eq
        rw [hm.2.1]; simp only [List.length_cons] at this ⊢; omega
      unfold chooseIter
      rw [hc]
      simp only [List.length_cons, chooseIter_length prioOf n _ rest]
      simp only [List.length_cons] at hl
      omega

theorem desc_last_min {prioOf : Nat → Int} {l : List Nat} {s : Nat} (hd : Desc prioOf l)
    (hl : l.getLast? = some s) : ∀ x ∈ l, prioOf x ≥ prioOf s := by
  obtain ⟨ys, rfl⟩ := List.getLast?_eq_some_iff.mp hl
  intro x hx
  rcases List.mem_append.mp hx with hx | hx
  · exact (List.pairwise_append.mp hd).2.2 x hx s (List.mem_singleton.mpr rfl)
  · rw [List.mem_singleton.mp hx]; exact Int.le_refl _

end CV.Core
