import CV.Model.Core.Step
/-
Reachability for the small-step core machine: every configuration a driver session can produce.  A session is a sequence
of external operations (`do c act`, `tick c`, `flush c`, `run c`), each executed by iterating `step` until the stack is
empty; between them the clock may advance and the choice tape be replaced.  The invariants of the core machine are stated
over this one `Reach`, as
    Init s0 → ∀ c, Reach s0 c → Inv c
and proved by `Reach.inv`.
-/
namespace CV.Core

/-- operations the environment (the harness, a user's main program) performs between runs -/
inductive ExtOp
  | doAct (c : Nat) (a : Act)
  | tick (c : Nat)
  | flush (c : Nat)
  | run (c : Nat)
  deriving Repr

def startOf (s : St) : ExtOp → Cfg
  | .doAct c a => startDo s c a
  | .tick c => startTick s c
  | .flush c => startFlush s c
  | .run c => startRun s c

/-- environment changes of the state between operations that are not machine steps:
    the virtual clock moves forward, the choice tape is replaced -/
def envChange (s : St) (d : Nat) (tape : List Entry) : St := { s with clock := s.clock + d, tape := tape }

inductive Reach (s0 : St) : Cfg → Prop
  | init (d : Nat) (tape : List Entry) (op : ExtOp) : Reach s0 (startOf (envChange s0 d tape) op)
  | step {c : Cfg} : Reach s0 c → Reach s0 (CV.Core.step c)
  | next {c : Cfg} (d : Nat) (tape : List Entry) (op : ExtOp) :
      Reach s0 c → done c = true → Reach s0 (startOf (envChange c.st d tape) op)

theorem startOf_st (s : St) (op : ExtOp) : (startOf s op).st = s := by cases op <;> rfl

theorem Reach.inv {s0 : St} (P : Cfg → Prop)
    (hinit : ∀ d tape op, P (startOf (envChange s0 d tape) op))
    (hstep : ∀ c, P c → P (CV.Core.step c))
    (hnext : ∀ c d tape op, P c → done c = true → P (startOf (envChange c.st d tape) op)) :
    ∀ c, Reach s0 c → P c := by
  intro c h
  induction h with
  | init d tape op => exact hinit d tape op
  | step _ ih => exact hstep _ ih
  | next d tape op _ hd ih => exact hnext _ d tape op ih hd

theorem Reach.inv_st {s0 : St} (P : St → Prop) (h0 : P s0) (henv : ∀ s d tape, P s → P (envChange s d tape))
    (hstep : ∀ c : Cfg, P c.st → P (CV.Core.step c).st) : ∀ c, Reach s0 c → P c.st := by
  apply Reach.inv (fun c => P c.st)
  · intro d tape op; rw [startOf_st]; exact henv _ _ _ h0
  · exact hstep
  · intro c d tape op h _; rw [startOf_st]; exact henv _ _ _ h

theorem Reach.runN {s0 : St} {c : Cfg} (h : Reach s0 c) : ∀ n, Reach s0 (runN n c) := by
  intro n
  induction n generalizing c with
  | zero => simpa [CV.Core.runN] using h
  | succ n ih =>
    unfold CV.Core.runN
    split
    · exact h
    · exact ih (Reach.step h)

end CV.Core
