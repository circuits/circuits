import CV.Proofs.Pres
import CV.Proofs.CoreFacts
/-
How the arms of `step` change the stack and the return register (no state reasoning).  `Frame.Pushes` lists, arm by arm, the
frames that normal execution of a frame may put in its place, `Frame.Returns` what it may leave in the register; one walk
over the arms proves both (`stepFrame_pushes`).  While an exception unwinds a frame is popped, except that `run()` catches
`SystemExit` (`unwind_stack`), and the register stays (`unwind_ret`).  Every statement of the form "a step pushes only frames
such that …" is a case distinction over `Frame.Pushes` (`stepFrame_all`, `unwind_all`).  An invariant that speaks of the
generator in the register uses `Frame.Returns.outcome`.
-/
namespace CV.Core

/-- the frames an action of user code can call (`actStep_callee`): the entry frames of `register`, `flush`, `stop` and of the
creation of a timer -/
inductive Frame.Callee : Frame → Prop
  | register (x p : Nat) : Callee (.register x p)
  | flush (x : Nat) : Callee (.flush x)
  | stopMgr (x : Nat) (code : Code) : Callee (.stopMgr x code)
  | timerNew (t : Nat) : Callee (.timerNew t)

theorem actStep_callee {s : St} {ctx : HCtx} {a : Act} {f : Frame} (h : (actStep s ctx a).kind = .call f) :
    f.Callee := by
  cases a <;> simp only [actStep] at h <;> first | (cases h; constructor) | (split at h <;> cases h) | cases h

theorem actStep_out_notgen {s : St} {ctx : HCtx} {a : Act} {o : Outcome} (h : (actStep s ctx a).kind = .out o) (g : Nat) :
    o ≠ .gen g := by
  cases a <;> simp only [actStep] at h <;> first | (cases h; nofun) | (split at h <;> cases h <;> nofun) | cases h

/-- `f.Pushes c fs`: normal execution of the top frame `f` in `c` may replace it by `fs`.  A constructor records where a
field of a pushed frame comes from when some invariant depends on it. -/
inductive Frame.Pushes (c : Cfg) : Frame → List Frame → Prop
  | pop (f : Frame) : Pushes c f []
  | effectDone (r e a cause) : Pushes c (.effectDone r e a) [.effectDone r cause true]
  | eventDone (r e err) : Pushes c (.eventDone r e err) [.effectDone r e true]
  | register (x p) : Pushes c (.register x p) [.registerFin x]
  | stopMgr (x code) : Pushes c (.stopMgr x code) [.ticks x 3, .stopFin code]
  | ticks (x n) : Pushes c (.ticks x (n + 1)) [.tick x, .ticks x n]
  | timerNew (t x p) : Pushes c (.timerNew t) [.register x p]
  | actsNext (ctx a rest) : Pushes c (.acts ctx (a :: rest)) [.acts ctx rest]
  | actsCall (ctx a rest g) : g.Callee → Pushes c (.acts ctx (a :: rest)) [g, .acts ctx rest]
  | doFin (x code) : Pushes c (.doFin x) [.stopMgr x code]
  | drainQ (x) : Pushes c (.drainQ x) [.tick x, .drainQ x]
  | stepGenNext (g) : Pushes c (.stepGen g) [.stepGen g]
  | stepGenCall (g f) : f.Callee → Pushes c (.stepGen g) [f, .stepGen g]
  | processTask (r t h) : Pushes c (.processTask r t) [.ptBody r t, .ptFin r h]
  | ptBodyOwn (r t) {e h o rest st pc sd} : c.st.gen t.g = .user e h o rest st pc sd →
      Pushes c (.ptBody r t) [.stepGen t.g, .ptOwn r t]
  | ptBodyParent (r t p v) : t.parent = some p → Pushes c (.ptBody r t) [.stepGen p, .ptParent r t p v]
  | ptBodyDone (r t err) : Pushes c (.ptBody r t) [.eventDone r t.e err]
  | ptOwnStop (r t code) : Pushes c (.ptOwn r t) [.stopMgr r code]
  | ptOwnDone (r t err) : Pushes c (.ptOwn r t) [.eventDone r t.e err]
  | ptParentStop (r t p v code) : Pushes c (.ptParent r t p v) [.stopMgr r code]
  | ptParentDone (r t p v err) : Pushes c (.ptParent r t p v) [.eventDone r t.e err]
  | dispatcherNone (r e rem) : Pushes c (.dispatcher r e rem) [.effectDone r e false]
  | dispatcher (r e rem hs) : (c.st.dispatchPre r e rem).1 = some hs →
      Pushes c (.dispatcher r e rem) [.hLoop r e hs false .none]
  | hLoopEnd (r e err st) : Pushes c (.hLoop r e [] err st) [.dispFin r e err]
  | hLoop (r e h0 rest0 err st) : Pushes c (.hLoop r e (h0 :: rest0) err st)
      [.invoke r (c.st.chooseHandler e h0 rest0) e,
       .hAfter r e ((h0 :: rest0).erase (c.st.chooseHandler e h0 rest0)) err st]
  | invokeUser (r h e p) : (c.st.handler h).kind = .user p → Pushes c (.invoke r h e)
      [.acts ⟨(c.st.handler h).owner, some e⟩ (c.st.progs.getD p []), .invokeFin e h]
  | invokePrep (r h e o) : Pushes c (.invoke r h e) [.prepUnregFin o]
  | hAfterStop (r e rest err st code) : Pushes c (.hAfter r e rest err st) [.stopMgr r code, .hApply r e rest err st]
  | hAfter (r e rest err st err' o) : c.ret.outcome = o → Pushes c (.hAfter r e rest err st) [.hApply r e rest err' o]
  | hApplyEnd (r e rest err v) : Pushes c (.hApply r e rest err v) [.dispFin r e err]
  | hApply (r e rest err v) : Pushes c (.hApply r e rest err v) [.hLoop r e rest err v]
  | dispFin (r e err) : Pushes c (.dispFin r e err) [.eventDone r e err]
  | dispatchLoop (r it q) : c.st.popEvent r = some (it, q) →
      Pushes c (.dispatchLoop r) [.dispatcher r it.ev q.batch, .dispatchLoop r]
  | flush (x r old) : Pushes c (.flush x) [.dispatchLoop r, .flushFin r old]
  | tickTasks (x old) : Pushes c (.tick x) [.taskLoop x (c.st.comp x).tasks, .tickFin x old, .tickGen x]
  | tick (x) : Pushes c (.tick x) [.tickGen x]
  | taskLoop (x t0 rest0) : Pushes c (.taskLoop x (t0 :: rest0))
      [.processTask x (c.st.chooseTask t0 rest0), .taskLoop x ((t0 :: rest0).erase (c.st.chooseTask t0 rest0))]
  | tickGen (x) : Pushes c (.tickGen x) [.flush x]
  | run (x) : Pushes c (.run x) [.runLoop x, .ticks x 4, .drainQ x, .runCatch x, .runFin x]
  | runLoop (x) : Pushes c (.runLoop x) [.tick x, .runLoop x]

/-- `f.Returns c c'`: what normal execution of `f` in `c` may leave in the return register of `c'`.  It holds what it held;
or a `GenYield`, or an `Outcome` that is no generator (only a `popRet` writes the register: in `stepGen`, `prepUnregFin`,
`acts`, `invoke`); or `invoke` has called a generator function and it holds the user generator just created. -/
inductive Frame.Returns (c : Cfg) : Frame → Cfg → Prop
  | kept {f c'} : c'.ret = c.ret → Returns c f c'
  | plain {f c'} : (∀ g, c'.ret.outcome ≠ .gen g) → Returns c f c'
  | gen {r h e c' g o prog} : c'.ret = .out (.gen g) → c'.st.gen g = .user e h o prog 0 none false →
      Returns c (.invoke r h e) c'

theorem Frame.Returns.outcome {c c' : Cfg} {f : Frame} (h : f.Returns c c') {Q : Nat → Prop}
    (hold : ∀ g, c.ret.outcome = .gen g → Q g)
    (hnew : ∀ g e h o prog, c'.st.gen g = .user e h o prog 0 none false → Q g) : ∀ g, c'.ret.outcome = .gen g → Q g := by
  intro g hg
  cases h
  case kept hr => exact hold g (hr ▸ hg)
  case plain hn => exact absurd hg (hn g)
  case gen hr hu => rw [hr] at hg; cases hg; exact hnew _ _ _ _ _ hu

/-- `c'` is `c` after the arm of `f` as far as stack (`k` with what the arm may push on top) and return register go -/
structure Cfg.Pushed (c : Cfg) (f : Frame) (k : List Frame) (c' : Cfg) : Prop where
  stack : ∃ fs, c'.stack = fs ++ k ∧ f.Pushes c fs
  ret : f.Returns c c'

/-- `pred_ite` for "the outcome is no generator": it follows an `if` of a handler without looking at the condition (`split`
would rewrite the whole unfolded term at each of them) -/
theorem notgen_ite {g : Nat} {c : Prop} [Decidable c] {a b : Outcome × St} (ha : a.1 ≠ .gen g) (hb : b.1 ≠ .gen g) :
    (if c then a else b).1 ≠ .gen g :=
  pred_ite (P := fun x : Outcome × St => x.1 ≠ .gen g) ha hb

/-- the framework handlers of a wait state return `None` or raise -/
theorem St.onWaitEvent_notgen (t : St) (w e g : Nat) : (t.onWaitEvent w e).1 ≠ .gen g := by
  unfold St.onWaitEvent
  exact notgen_ite (notgen_ite nofun nofun) nofun

theorem St.onWaitDone_notgen (t : St) (w e g : Nat) : (t.onWaitDone w e).1 ≠ .gen g := by
  unfold St.onWaitDone
  refine notgen_ite (notgen_ite ?_ nofun) nofun
  split
  · exact notgen_ite nofun nofun
  · nofun

theorem St.onWaitTick_notgen (t : St) (w g : Nat) : (t.onWaitTick w).1 ≠ .gen g := by
  unfold St.onWaitTick
  exact notgen_ite nofun (notgen_ite (notgen_ite nofun (notgen_ite nofun (notgen_ite (notgen_ite nofun nofun) nofun)))
    (notgen_ite nofun nofun))

namespace Cfg.Pushed
variable {c : Cfg} {f : Frame} {k : List Frame} {s : St}

theorem pop : c.Pushed f k (c.pop k s) := ⟨⟨[], rfl, .pop f⟩, .kept rfl⟩
theorem raise {ex : Exn} : c.Pushed f k (c.raise k s ex) := ⟨⟨[], rfl, .pop f⟩, .kept rfl⟩
theorem goto {fs : List Frame} (h : f.Pushes c fs) : c.Pushed f k (c.goto k s fs) := ⟨⟨fs, rfl, h⟩, .kept rfl⟩
theorem popRet {v : Ret} (h : ∀ g, v.outcome ≠ .gen g) : c.Pushed f k (c.popRet k s v) := ⟨⟨[], rfl, .pop f⟩, .plain h⟩
theorem popYld {y : GenYield} : c.Pushed f k (c.popRet k s (.yld y)) := .popRet fun _ => nofun
theorem popNone : c.Pushed f k (c.popRet k s (.out .none)) := .popRet fun _ => nofun

theorem contStop (s : St) (r : Nat) (t : Task) (h : f.Pushes c [.eventDone r t.e false]) :
    c.Pushed f k (c.contStop k s r t) :=
  pred_ite (.goto h) .pop

theorem contError (s : St) (r : Nat) (t : Task) (b : Bool) (h : f.Pushes c [.eventDone r t.e true]) :
    c.Pushed f k (c.contError k s r t b) :=
  pred_ite (.goto h) .pop

/-- a generator function returns its generator at once; the body of a plain handler comes from the program table, which
the log entry made before (`s`) does not touch -/
theorem invokeUser {r h e p : Nat} (hk : (c.st.handler h).kind = .user p) (hp : s.progs = c.st.progs) :
    c.Pushed (.invoke r h e) k (c.invokeUser k s h e (c.st.handler h).owner p) := by
  dsimp only [Cfg.invokeUser]
  split
  · exact ⟨⟨[], rfl, .pop _⟩, .gen rfl ((St.w6_addGen_gen ..).trans (if_pos rfl))⟩
  · rw [St.w6_logE_progs, hp]
    exact .goto (.invokeUser r h e p hk)

end Cfg.Pushed

/-- One line per way an arm ends: `pop` / `raise`, `popRet` with the reason why what it returns is no generator, `goto`
with the constructor of `Frame.Pushes` for the frames it pushes.  Where a constructor has a hypothesis, it is the equation
that `split` has left for the enclosing `match` (`‹_›`). -/
theorem stepFrame_pushes (c : Cfg) (k : List Frame) (f : Frame) : c.Pushed f k (stepFrame c k f) := by
  cases f
  case updateRoot | registerFin | ptFin | invokeFin | flushFin | tickFin | runCatch => exact .pop
  case effectDone r e a =>
    dsimp only [stepFrame, Cfg.effectDone]
    split
    · exact .goto (.effectDone ..)
    · exact .pop
  case eventDone r e err => exact pred_ite (.goto (.eventDone ..)) .pop
  case register x p => exact pred_ite .raise (pred_ite (pred_ite (.goto (.register ..)) .pop) .raise)
  case prepUnregFin x => exact .popNone
  case stopMgr x code => exact pred_ite .pop (pred_ite (.goto (.stopMgr ..)) .pop)
  case ticks x n =>
    cases n
    · exact .pop
    · exact .goto (.ticks ..)
  case stopFin code => exact pred_ite .raise .pop
  case timerNew t =>
    dsimp only [stepFrame, Cfg.timerNew]
    split
    · exact .pop
    · exact pred_ite .pop (.goto (.timerNew ..))
  case acts ctx prog =>
    cases prog with
    | nil => exact .popNone
    | cons a rest =>
      dsimp only [stepFrame, Cfg.acts]
      split
      · exact .goto (.actsNext ..)
      · exact .popRet (actStep_out_notgen ‹_›)
      · exact .goto (.actsCall _ _ _ _ (actStep_callee ‹_›))
  case doFin x =>
    dsimp only [stepFrame, Cfg.doFin]
    split
    · exact .goto (.doFin ..)
    · exact .goto (.doFin ..)
    · exact .raise
    · exact .pop
  case drainQ x => exact pred_ite (.goto (.drainQ x)) .pop
  case stepGen g =>
    dsimp only [stepFrame, Cfg.stepGen]
    split
    · split
      · exact .popYld
      · split
        · exact .popYld
        · exact .popYld
        · exact .popYld
        · exact .popYld
        · split
          · exact .goto (.stepGenNext g)
          · exact .popYld
          · exact .goto (.stepGenCall _ _ (actStep_callee ‹_›))
    · exact .popYld
  case processTask r t => exact .goto (.processTask ..)
  case ptBody r t =>
    have hS := fun s => Cfg.Pushed.contStop (c := c) (k := k) s r t (.ptBodyDone r t false)
    have hE := fun s b => Cfg.Pushed.contError (c := c) (k := k) s r t b (.ptBodyDone r t true)
    dsimp only [stepFrame, Cfg.ptBody]
    split
    · exact .goto (.ptBodyOwn r t ‹_›)
    · dsimp only [Cfg.ptBodyWait]
      refine pred_ite (hE ..) ?_
      split
      · split
        · exact .goto (.ptBodyParent _ _ _ _ ‹_›)
        · exact .pop
      · exact hS _
    · dsimp only [Cfg.ptBodyExc]
      refine pred_ite (hS _) ?_
      split
      · split
        · exact pred_ite (.goto (.ptBodyParent _ _ _ _ ‹_›)) (hE ..)
        · exact .pop
      · exact hE ..
    · exact hS _
    · exact pred_ite (hS _) .pop
  case ptOwn r t =>
    dsimp only [stepFrame, Cfg.ptOwn]
    split
    · exact .pop
    · exact .pop
    · exact .contStop _ r t (.ptOwnDone ..)
    · exact .contError _ r t _ (.ptOwnDone ..)
    · exact .goto (.ptOwnStop ..)
    · exact .goto (.ptOwnStop ..)
  case ptParent r t p v =>
    dsimp only [stepFrame, Cfg.ptParent]
    split
    · exact .pop
    · exact .pop
    · exact .contStop _ r t (.ptParentDone ..)
    · exact .contError _ r t _ (.ptParentDone ..)
    · exact .goto (.ptParentStop ..)
    · exact .goto (.ptParentStop ..)
  case dispatcher r e rem =>
    dsimp only [stepFrame, Cfg.dispatcher]
    split
    · exact .goto (.dispatcherNone ..)
    · exact .goto (.dispatcher _ _ _ _ ‹_›)
  case hLoop r e hs err stale =>
    cases hs
    · exact .goto (.hLoopEnd ..)
    · exact .goto (.hLoop ..)
  case invoke r h e =>
    dsimp only [stepFrame, Cfg.invoke]
    split
    · exact .invokeUser ‹_› (by split <;> rfl)
    · exact .goto (.invokePrep ..)
    · exact .popRet (St.onWaitEvent_notgen _ _ _)
    · exact .popRet (St.onWaitDone_notgen _ _ _)
    · exact .popRet (St.onWaitTick_notgen _ _)
    · exact .popNone
    · exact pred_ite .popNone .raise
    · exact .popNone
  case hAfter r e rest err stale =>
    dsimp only [stepFrame, Cfg.hAfter]
    split
    · exact .goto (.hAfterStop ..)
    · exact .goto (.hAfterStop ..)
    all_goals exact .goto (.hAfter _ _ _ _ _ _ _ ‹_›)
  case hApply r e rest err value => exact pred_ite (.goto (.hApplyEnd ..)) (.goto (.hApply ..))
  case dispFin r e err => exact .goto (.dispFin ..)
  case dispatchLoop r =>
    dsimp only [stepFrame, Cfg.dispatchLoop]
    split
    · exact .pop
    · exact .goto (.dispatchLoop _ _ _ ‹_›)
  case flush x => exact .goto (.flush ..)
  case tick x => exact pred_ite (.goto (.tickTasks ..)) (.goto (.tick x))
  case taskLoop x ts =>
    cases ts
    · exact .pop
    · exact .goto (.taskLoop ..)
  case tickGen x => exact pred_ite (.goto (.tickGen x)) .pop
  case run x => exact .goto (.run x)
  case runLoop x => exact pred_ite (.goto (.runLoop x)) .pop
  case runRethrow ex => exact .raise
  case runFin x =>
    dsimp only [stepFrame, Cfg.runFin]
    split
    · exact .raise
    · exact .pop

/-- while an exception unwinds the top frame is popped, or it is `run()`'s `try`, which parks a `SystemExit` for its
`finally` -/
theorem unwind_stack (c : Cfg) (k : List Frame) (ex : Exn) (f : Frame) :
    (unwind c k ex f).stack = k ∨
      ∃ x, f = .runCatch x ∧ (unwind c k ex f).stack = [.tick x, .drainQ x, .runRethrow ex] ++ k := by
  cases f
  case runCatch x =>
    dsimp only [unwind, Cfg.runCatchExn]
    split
    · exact Or.inr ⟨x, rfl, rfl⟩
    · exact Or.inl rfl
  all_goals exact Or.inl rfl

theorem unwind_ret (c : Cfg) (k : List Frame) (ex : Exn) (f : Frame) : (unwind c k ex f).ret = c.ret :=
  unwind_pres (P := fun d => d.ret = c.ret) c k ex f rfl (fun _ _ => rfl) (fun _ _ => rfl) (fun _ _ => rfl) (fun _ _ => rfl)
    (fun _ => by cases ex <;> rfl) fun _ => rfl

section
variable {good : Frame → Bool} (c : Cfg) (k : List Frame)

theorem stepFrame_all (f : Frame) (hp : ∀ fs, f.Pushes c fs → fs.all good = true) :
    ∃ fs, (stepFrame c k f).stack = fs ++ k ∧ fs.all good = true :=
  let ⟨fs, hst, h⟩ := (stepFrame_pushes c k f).stack
  ⟨fs, hst, hp fs h⟩

theorem unwind_all (ex : Exn) (f : Frame) (h3 : ∀ x, [Frame.tick x, .drainQ x, .runRethrow ex].all good = true) :
    ∃ fs, (unwind c k ex f).stack = fs ++ k ∧ fs.all good = true :=
  (unwind_stack c k ex f).elim (fun h => ⟨[], h, rfl⟩) fun ⟨x, _, h⟩ => ⟨_, h, h3 x⟩

end

theorem stack_all {good : Frame → Bool} {k : List Frame} {c' : Cfg} (h : ∃ fs, c'.stack = fs ++ k ∧ fs.all good = true)
    (hk : k.all good = true) : c'.stack.all good = true := by
  obtain ⟨fs, hst, h⟩ := h
  rw [hst, List.all_append, h, hk]; rfl

end CV.Core
