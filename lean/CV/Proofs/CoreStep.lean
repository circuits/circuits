import CV.Proofs.Pres
import CV.Proofs.Tables
import CV.Proofs.CoreFacts
import CV.Proofs.CoreReach
/-
Sanity lemmas about the small-step core machine (`CV.Model.Core.Step`): a finished configuration is a fixed point of `step`
(`step_done`), so `runN` is plain iteration of `step` (`runN_succ`); `step` only prepends to the log and consumes the tape
in lockstep, one tape entry per log entry (`step_log_tape`); the tables of events, handlers, generators and wait states
only grow, those of components and timers keep their size, programs and templates never change; `runN_le` has all of this
for whole runs.

All but the first are projections of one preorder `St.Le`, proved in the pattern of `CV/Proofs/Pres.lean`: one `st_pres`
lemma per primitive and per helper, which `St.Le.keeps` collects for the operations of the arms.
-/
namespace CV.Core

/-- `s'` is a later state than `s`.  `hist`: the tape is consumed in step with the log, one entry for each entry logged. -/
structure St.Le (s s' : St) : Prop where
  hist : ∃ es, s'.log = es ++ s.log ∧ s'.tape = s.tape.drop es.length
  evs : s.evs.length ≤ s'.evs.length
  hs : s.hs.length ≤ s'.hs.length
  gens : s.gens.length ≤ s'.gens.length
  waits : s.waits.length ≤ s'.waits.length
  comps : s'.comps.length = s.comps.length
  timers : s'.timers.length = s.timers.length
  progs : s'.progs = s.progs
  tmpls : s'.tmpls = s.tmpls

namespace St.Le

theorem refl (s : St) : St.Le s s :=
  ⟨⟨[], rfl, rfl⟩, Nat.le_refl _, Nat.le_refl _, Nat.le_refl _, Nat.le_refl _, rfl, rfl, rfl, rfl⟩

theorem trans {a b c : St} (h1 : St.Le a b) (h2 : St.Le b c) : St.Le a c := by
  obtain ⟨es1, e1, t1⟩ := h1.hist
  obtain ⟨es2, e2, t2⟩ := h2.hist
  refine ⟨⟨es2 ++ es1, by rw [e2, e1, List.append_assoc], ?_⟩, Nat.le_trans h1.evs h2.evs,
    Nat.le_trans h1.hs h2.hs, Nat.le_trans h1.gens h2.gens, Nat.le_trans h1.waits h2.waits,
    h2.comps.trans h1.comps, h2.timers.trans h1.timers, h2.progs.trans h1.progs, h2.tmpls.trans h1.tmpls⟩
  rw [t2, t1, List.drop_drop, List.length_append, Nat.add_comm]

theorem timers_nil {s t : St} (h : St.Le s t) (hs : s.timers = []) : t.timers = [] :=
  List.eq_nil_of_length_eq_zero (by rw [h.timers, hs]; rfl)

theorem modComp_self (t : St) (c : Nat) (f : Comp → Comp) : St.Le t (t.modComp c f) := by
  refine ⟨⟨[], ?_, ?_⟩, ?_, ?_, ?_, ?_, ?_, ?_, ?_, ?_⟩ <;> simp [St.modComp]

theorem modEv_self (t : St) (e : Nat) (f : Ev → Ev) : St.Le t (t.modEv e f) := by
  refine ⟨⟨[], ?_, ?_⟩, ?_, ?_, ?_, ?_, ?_, ?_, ?_, ?_⟩ <;> simp [St.modEv]

theorem modWait_self (t : St) (w : Nat) (f : WaitSt → WaitSt) : St.Le t (t.modWait w f) := by
  refine ⟨⟨[], ?_, ?_⟩, ?_, ?_, ?_, ?_, ?_, ?_, ?_, ?_⟩ <;> simp [St.modWait]

theorem modTimer_self (t : St) (i : Nat) (f : TimerSt → TimerSt) : St.Le t (t.modTimer i f) := by
  refine ⟨⟨[], ?_, ?_⟩, ?_, ?_, ?_, ?_, ?_, ?_, ?_, ?_⟩ <;> simp [St.modTimer]

theorem setGen_self (t : St) (g : Nat) (x : GenRec) : St.Le t (t.setGen g x) := by
  refine ⟨⟨[], ?_, ?_⟩, ?_, ?_, ?_, ?_, ?_, ?_, ?_, ?_⟩ <;> simp [St.setGen]

theorem logE_self (t : St) (x : Entry) : St.Le t (t.logE x) := by
  refine ⟨⟨[x], ?_, ?_⟩, ?_, ?_, ?_, ?_, ?_, ?_, ?_, ?_⟩ <;> simp [St.logE]

theorem addEv_self (t : St) (e : Ev) : St.Le t (t.addEv e) := by
  refine ⟨⟨[], ?_, ?_⟩, ?_, ?_, ?_, ?_, ?_, ?_, ?_, ?_⟩ <;> simp [St.addEv]

theorem addH_self (t : St) (x : Handler) : St.Le t (t.addH x) := by
  refine ⟨⟨[], ?_, ?_⟩, ?_, ?_, ?_, ?_, ?_, ?_, ?_, ?_⟩ <;> simp [St.addH]

theorem addGen_self (t : St) (g : GenRec) : St.Le t (t.addGen g) := by
  refine ⟨⟨[], ?_, ?_⟩, ?_, ?_, ?_, ?_, ?_, ?_, ?_, ?_⟩ <;> simp [St.addGen]

theorem addWait_self (t : St) (w : WaitSt) : St.Le t (t.addWait w) := by
  refine ⟨⟨[], ?_, ?_⟩, ?_, ?_, ?_, ?_, ?_, ?_, ?_, ?_⟩ <;> simp [St.addWait]

theorem tick1_self (t : St) (d : Int) : St.Le t (t.tick1 d) := by
  refine ⟨⟨[], ?_, ?_⟩, ?_, ?_, ?_, ?_, ?_, ?_, ?_, ?_⟩ <;> simp [St.tick1]

variable {s t : St}

@[st_pres ↓] theorem modComp (h : St.Le s t) (c : Nat) (f : Comp → Comp) : St.Le s (t.modComp c f) := h.trans (modComp_self ..)
@[st_pres ↓] theorem modEv (h : St.Le s t) (e : Nat) (f : Ev → Ev) : St.Le s (t.modEv e f) := h.trans (modEv_self ..)
@[st_pres ↓] theorem modWait (h : St.Le s t) (w : Nat) (f : WaitSt → WaitSt) : St.Le s (t.modWait w f) := h.trans (modWait_self ..)
@[st_pres ↓] theorem modTimer (h : St.Le s t) (i : Nat) (f : TimerSt → TimerSt) : St.Le s (t.modTimer i f) := h.trans (modTimer_self ..)
@[st_pres ↓] theorem setGen (h : St.Le s t) (g : Nat) (x : GenRec) : St.Le s (t.setGen g x) := h.trans (setGen_self ..)
@[st_pres ↓] theorem logE (h : St.Le s t) (x : Entry) : St.Le s (t.logE x) := h.trans (logE_self ..)
@[st_pres ↓] theorem addEv (h : St.Le s t) (e : Ev) : St.Le s (t.addEv e) := h.trans (addEv_self ..)
@[st_pres ↓] theorem addH (h : St.Le s t) (x : Handler) : St.Le s (t.addH x) := h.trans (addH_self ..)
@[st_pres ↓] theorem addGen (h : St.Le s t) (g : GenRec) : St.Le s (t.addGen g) := h.trans (addGen_self ..)
@[st_pres ↓] theorem addWait (h : St.Le s t) (w : WaitSt) : St.Le s (t.addWait w) := h.trans (addWait_self ..)
@[st_pres ↓] theorem tick1 (h : St.Le s t) (d : Int) : St.Le s (t.tick1 d) := h.trans (tick1_self ..)

end St.Le

attribute [st_pres] St.Le.refl

@[st_pres ↓] theorem St.Le.addHandler {s t : St} (h : St.Le s t) (x : Nat) : St.Le s (t.addHandler x) :=
  St.addHandler_pres t x h (fun _ h => by st_pres) (fun _ _ h => by st_pres) (fun _ _ h => by st_pres)

@[st_pres ↓] theorem St.Le.removeHandler {s t : St} (h : St.Le s t) (x : Nat) (n : Option Name) :
    St.Le s ((t.removeHandler x n).2) := by
  st_pres_unfold St.removeHandler

@[st_pres ↓] theorem St.Le.fireContext {s t : St} (h : St.Le s t) (r e : Nat) :
    St.Le s (t.fireContext r e) :=
  St.fireContext_pres t r e h (fun _ _ h => by st_pres) (fun _ _ h => by st_pres) (fun _ _ h => by st_pres)

@[st_pres ↓] theorem St.Le.fireRaw {s t : St} (h : St.Le s t) (self e : Nat) (chans : List Chan) (prio : Int) :
    St.Le s (t.fireRaw self e chans prio) := by
  st_pres_unfold St.fireRaw

@[st_pres ↓] theorem St.Le.childEv {s t : St} (h : St.Le s t) (p sfx : Nat) :
    St.Le s (t.childEv p sfx) := by
  st_pres_unfold St.childEv

@[st_pres ↓] theorem St.Le.fireChild {s t : St} (h : St.Le s t) (self p sfx : Nat) (chans : List Chan) :
    St.Le s (t.fireChild self p sfx chans) := by
  st_pres_unfold St.fireChild

@[st_pres ↓] theorem St.Le.inform {s t : St} (h : St.Le s t) (e : Nat) (force : Bool) :
    St.Le s (t.inform e force) := by
  st_pres_unfold St.inform

@[st_pres ↓] theorem St.Le.setValue {s t : St} (h : St.Le s t) (e : Nat) (x : VItem) :
    St.Le s (t.setValue e x) := by
  st_pres_unfold St.setValue

@[st_pres ↓] theorem St.Le.fireTmplEv {s t : St} (h : St.Le s t) (self : Nat) (ev : Ev) (target : Option Chan) (prio : Int) :
    St.Le s (t.fireTmplEv self ev target prio) := by
  st_pres_unfold St.fireTmplEv

@[st_pres ↓] theorem St.Le.effectDone1 {s t : St} (h : St.Le s t) (r e : Nat) (announce : Bool) :
    St.Le s ((t.effectDone1 r e announce).2) :=
  St.effectDone1_pres t r e announce h (fun _ => by st_pres) (fun _ _ h => by st_pres) (fun _ h => by st_pres)

@[st_pres ↓] theorem St.Le.eventDonePre {s t : St} (h : St.Le s t) (r e : Nat) (err : Bool) :
    St.Le s ((t.eventDonePre r e err).2) := by
  st_pres_unfold St.eventDonePre

@[st_pres ↓] theorem St.Le.registerTask {s t : St} (h : St.Le s t) (c : Nat) (x : Task) :
    St.Le s (t.registerTask c x) := by
  st_pres_unfold St.registerTask

@[st_pres ↓] theorem St.Le.unregisterTask {s t : St} (h : St.Le s t) (c : Nat) (x : Task) :
    St.Le s (t.unregisterTask c x) := by
  st_pres_unfold St.unregisterTask

@[st_pres ↓] theorem St.Le.reduceTimeLeft {s t : St} (h : St.Le s t) (e : Nat) (d : Int) :
    St.Le s (t.reduceTimeLeft e d) := by
  st_pres_unfold St.reduceTimeLeft

@[st_pres ↓] theorem St.Le.registerPre {s t : St} (h : St.Le s t) (c p : Nat) :
    St.Le s ((t.registerPre c p).2) :=
  St.registerPre_pres h c p (fun _ => by st_pres) (fun _ _ h => by st_pres) (fun _ h => by st_pres)
    (fun _ _ _ _ h => by st_pres)

@[st_pres ↓] theorem St.Le.registerFin {s t : St} (h : St.Le s t) (c : Nat) :
    St.Le s (t.registerFin c) := by
  st_pres_unfold St.registerFin

@[st_pres ↓] theorem St.Le.unregister {s t : St} (h : St.Le s t) (c : Nat) :
    St.Le s (t.unregister c) := by
  st_pres_unfold St.unregister

@[st_pres ↓] theorem St.Le.prepUnregPre {s t : St} (h : St.Le s t) (c : Nat) :
    St.Le s (t.prepUnregPre c) := by
  st_pres_unfold St.prepUnregPre

@[st_pres ↓] theorem St.Le.prepUnregFin {s t : St} (h : St.Le s t) (c : Nat) :
    St.Le s (t.prepUnregFin c) := by
  st_pres_unfold St.prepUnregFin

@[st_pres ↓] theorem St.Le.actFire {s t : St} (h : St.Le s t) (self i : Nat) (target : Option Chan) (prio : Int) (cancel : Bool) :
    St.Le s (t.actFire self i target prio cancel) := by
  st_pres_unfold St.actFire

@[st_pres ↓] theorem St.Le.actStopEv {s t : St} (h : St.Le s t) (ev : Option Nat) :
    St.Le s (t.actStopEv ev) := by
  st_pres_unfold St.actStopEv

@[st_pres ↓] theorem St.Le.timerReset {s t : St} (h : St.Le s t) (i : Nat) :
    St.Le s (t.timerReset i) := by
  st_pres_unfold St.timerReset

@[st_pres ↓] theorem St.Le.timerCreate {s t : St} (h : St.Le s t) (i : Nat) :
    St.Le s (t.timerCreate i) := by
  st_pres_unfold St.timerCreate

@[st_pres ↓] theorem St.Le.timerTick {s t : St} (h : St.Le s t) (i e : Nat) :
    St.Le s (t.timerTick i e) :=
  St.timerTick_pres t i e h (fun _ _ h => by st_pres) (fun _ => by st_pres)
    (fun _ _ _ _ h => by st_pres) (fun _ _ h => by st_pres) (fun _ _ h => by st_pres)

@[st_pres ↓] theorem St.Le.startWait {s t : St} (h : St.Le s t) (w : Nat) :
    St.Le s (t.startWait w) :=
  St.startWait_pres t w h (fun _ _ => by st_pres) (fun _ _ _ _ _ h => by st_pres) (fun _ _ _ _ _ h => by st_pres)

@[st_pres ↓] theorem St.Le.stopBegin {s t : St} (h : St.Le s t) (c : Nat) :
    St.Le s (t.stopBegin c) := by
  st_pres_unfold St.stopBegin

@[st_pres ↓] theorem St.Le.stopSetCode {s t : St} (h : St.Le s t) (r : Nat) (code : Code) :
    St.Le s (t.stopSetCode r code) := by
  st_pres_unfold St.stopSetCode

@[st_pres ↓] theorem St.Le.genCall {s t : St} (h : St.Le s t) (owner i : Nat) (target : Option Chan) (timeout : Option Nat) :
    St.Le s (t.genCall owner i target timeout) := by
  st_pres_unfold St.genCall

@[st_pres ↓] theorem St.Le.genWait {s t : St} (h : St.Le s t) (owner : Nat) (name : Name) (target : Option Chan) (timeout : Option Nat) :
    St.Le s (t.genWait owner name target timeout) := by
  st_pres_unfold St.genWait

@[st_pres ↓] theorem St.Le.resumeGenPre {s t : St} (h : St.Le s t) (g : Nat) (silent : Bool) :
    St.Le s (t.resumeGenPre g silent) := by
  st_pres_unfold St.resumeGenPre

@[st_pres ↓] theorem St.Le.stopIteration {s t : St} (h : St.Le s t) (r : Nat) (x : Task) :
    St.Le s ((t.stopIteration r x).2) :=
  St.stopIteration_pres t r x (by st_pres) (fun _ _ h => by st_pres) (fun _ h => by st_pres)

@[st_pres ↓] theorem St.Le.fireException {s t : St} (h : St.Le s t) (r e : Nat) :
    St.Le s (t.fireException r e) := by
  st_pres_unfold St.fireException

@[st_pres ↓] theorem St.Le.errorBranch {s t : St} (h : St.Le s t) (r : Nat) (x : Task) (resumed : Bool) :
    St.Le s ((t.errorBranch r x resumed).2) :=
  St.errorBranch_pres t r x resumed (by st_pres) (fun _ h => by st_pres) (fun _ h => by st_pres)
    (fun _ _ h => by st_pres) (fun _ _ h => by st_pres) (fun _ h => by st_pres) (fun _ _ h => by st_pres)

@[st_pres ↓] theorem St.Le.ownSub {s t : St} (h : St.Le s t) (r : Nat) (x : Task) (w : Nat) :
    St.Le s (t.ownSub r x w) := by
  st_pres_unfold St.ownSub

@[st_pres ↓] theorem St.Le.setValueOpt {s t : St} (h : St.Le s t) (e : Nat) (v : Option Nat) :
    St.Le s (t.setValueOpt e v) := by
  st_pres_unfold St.setValueOpt

@[st_pres ↓] theorem St.Le.parentSub {s t : St} (h : St.Le s t) (r : Nat) (x : Task) (p w2 : Nat) (viaThrow : Bool) :
    St.Le s (t.parentSub r x p w2 viaThrow) := by
  st_pres_unfold St.parentSub

@[st_pres ↓] theorem St.Le.parentPlain {s t : St} (h : St.Le s t) (r : Nat) (x : Task) (p : Nat) (v : Option Nat) (viaThrow : Bool) :
    St.Le s (t.parentPlain r x p v viaThrow) := by
  st_pres_unfold St.parentPlain

@[st_pres ↓] theorem St.Le.onWaitEvent {s t : St} (h : St.Le s t) (w e : Nat) :
    St.Le s ((t.onWaitEvent w e).2) := by
  st_pres_unfold St.onWaitEvent

@[st_pres ↓] theorem St.Le.onWaitDone {s t : St} (h : St.Le s t) (w e : Nat) :
    St.Le s ((t.onWaitDone w e).2) :=
  St.onWaitDone_pres t w e h (fun _ _ _ h => by st_pres) (fun _ _ => by st_pres)

@[st_pres ↓] theorem St.Le.onWaitTick {s t : St} (h : St.Le s t) (w : Nat) :
    St.Le s ((t.onWaitTick w).2) :=
  St.onWaitTick_pres t w h (fun _ _ _ h => h.removeHandler _ _) (fun _ _ _ => by st_pres) (by st_pres)

@[st_pres ↓] theorem St.Le.onFallbackGE {s t : St} (h : St.Le s t) (e : Nat) :
    St.Le s ((t.onFallbackGE e).2) := by
  st_pres_unfold St.onFallbackGE

@[st_pres ↓] theorem St.Le.computeHandlers {s t : St} (h : St.Le s t) (r : Nat) (name : Name) (chans : List Chan) :
    St.Le s ((t.computeHandlers r name chans).2) := by
  st_pres_unfold St.computeHandlers

@[st_pres ↓] theorem St.Le.dispComplete {s t : St} (h : St.Le s t) (e : Nat) (ev : Ev) :
    St.Le s (t.dispComplete e ev) := by
  st_pres_unfold St.dispComplete

@[st_pres ↓] theorem St.Le.cacheRefresh {s t : St} (h : St.Le s t) (r : Nat) :
    St.Le s (t.cacheRefresh r) := by
  st_pres_unfold St.cacheRefresh

@[st_pres ↓] theorem St.Le.lookupHandlers {s t : St} (h : St.Le s t) (r : Nat) (name : Name) (chans : List Chan) :
    St.Le s ((t.lookupHandlers r name chans).2) := by
  st_pres_unfold St.lookupHandlers

@[st_pres ↓] theorem St.Le.dispGE {s t : St} (h : St.Le s t) (r e remaining : Nat) (name : Name) :
    St.Le s (t.dispGE r e remaining name) := by
  st_pres_unfold St.dispGE

@[st_pres ↓] theorem St.Le.dispatchPre {s t : St} (h : St.Le s t) (r e remaining : Nat) :
    St.Le s ((t.dispatchPre r e remaining).2) := by
  st_pres_unfold St.dispatchPre

@[st_pres ↓] theorem St.Le.handlerRaised {s t : St} (h : St.Le s t) (r e : Nat) :
    St.Le s (t.handlerRaised r e) := by
  st_pres_unfold St.handlerRaised

@[st_pres ↓] theorem St.Le.applyValue {s t : St} (h : St.Le s t) (r e : Nat) (value : Outcome) :
    St.Le s (t.applyValue r e value) := by
  st_pres_unfold St.applyValue

@[st_pres ↓] theorem St.Le.geTasksCheck {s t : St} (h : St.Le s t) (r e : Nat) :
    St.Le s (t.geTasksCheck r e) := by
  st_pres_unfold St.geTasksCheck

@[st_pres ↓] theorem St.Le.flushBegin {s t : St} (h : St.Le s t) (r : Nat) :
    St.Le s (t.flushBegin r) := by
  st_pres_unfold St.flushBegin

@[st_pres ↓] theorem St.Le.tickGenerate {s t : St} (h : St.Le s t) (c : Nat) :
    St.Le s (t.tickGenerate c) := by
  st_pres_unfold St.tickGenerate

@[st_pres ↓] theorem St.Le.runBegin {s t : St} (h : St.Le s t) (c : Nat) :
    St.Le s (t.runBegin c) := by
  st_pres_unfold St.runBegin

@[st_pres ↓] theorem St.Le.runEnd {s t : St} (h : St.Le s t) (c : Nat) :
    St.Le s ((t.runEnd c).2) := by
  st_pres_unfold St.runEnd

@[st_pres ↓] theorem St.Le.actStep {s t : St} (h : St.Le s t) (ctx : HCtx) (a : Act) : St.Le s (actStep t ctx a).st := by
  cases a <;> (unfold CV.Core.actStep; (try dsimp only); st_pres)

@[st_pres ↓] theorem St.Le.updateRootAll (s : St) : ∀ (fuel : Nat) (todo : List Nat) (root : Nat) (t : St),
    St.Le s t → St.Le s (St.updateRootAll fuel todo root t) :=
  fun fuel todo root t h => St.updateRootAll_pres root (fun _ _ h => by st_pres) fuel todo t h

theorem St.Le.keeps (s : St) (o : Op) : o.Keeps (St.Le s) := by
  cases o <;> (intro t h; intros; st_pres)

theorem step_nil (c : Cfg) (h : c.stack = []) : step c = c := by
  unfold step; rw [h]

theorem step_cons (c : Cfg) (f : Frame) (k : List Frame) (h : c.stack = f :: k) (hx : c.exn = none) :
    step c = stepFrame c k f := by
  unfold step; rw [h, hx]

theorem step_cons_exn (c : Cfg) (f : Frame) (k : List Frame) (ex : Exn) (h : c.stack = f :: k)
    (hx : c.exn = some ex) : step c = unwind c k ex f := by
  unfold step; rw [h, hx]

theorem step_le (c : Cfg) : St.Le c.st (step c).st :=
  step_pres c (St.Le.keeps _) (St.Le.refl _)

theorem done_iff (c : Cfg) : done c = true ↔ c.stack = [] := List.isEmpty_iff

theorem step_done (c : Cfg) (h : done c = true) : step c = c := step_nil c ((done_iff c).1 h)

theorem runN_done (n : Nat) (c : Cfg) (h : done c = true) : runN n c = c := by
  cases n <;> simp [runN, h]

theorem runN_succ (n : Nat) (c : Cfg) : runN (n + 1) c = runN n (step c) := by
  by_cases h : done c = true
  · rw [step_done c h, runN_done _ c h, runN_done _ c h]
  · simp [runN, h]

theorem runN_step (n : Nat) (c : Cfg) : runN n (step c) = step (runN n c) := by
  induction n generalizing c with
  | zero => rfl
  | succ n ih => rw [runN_succ, ih, ← runN_succ]

theorem runN_succ' (n : Nat) (c : Cfg) : runN (n + 1) c = step (runN n c) := by
  rw [runN_succ, runN_step]

theorem runN_add (m n : Nat) (c : Cfg) : runN (m + n) c = runN n (runN m c) := by
  induction n with
  | zero => rfl
  | succ n ih => rw [← Nat.add_assoc, runN_succ', ih, ← runN_succ']

theorem step_log (c : Cfg) : ∃ es, (step c).st.log = es ++ c.st.log :=
  let ⟨es, h, _⟩ := (step_le c).hist; ⟨es, h⟩

theorem step_log_tape (c : Cfg) :
    ∃ es, (step c).st.log = es ++ c.st.log ∧ (step c).st.tape = c.st.tape.drop es.length := (step_le c).hist

theorem step_evs (c : Cfg) : c.st.evs.length ≤ (step c).st.evs.length := (step_le c).evs
theorem step_hs (c : Cfg) : c.st.hs.length ≤ (step c).st.hs.length := (step_le c).hs
theorem step_gens (c : Cfg) : c.st.gens.length ≤ (step c).st.gens.length := (step_le c).gens
theorem step_waits (c : Cfg) : c.st.waits.length ≤ (step c).st.waits.length := (step_le c).waits

theorem step_comps (c : Cfg) : (step c).st.comps.length = c.st.comps.length := (step_le c).comps
theorem step_timers (c : Cfg) : (step c).st.timers.length = c.st.timers.length := (step_le c).timers
theorem step_progs (c : Cfg) : (step c).st.progs = c.st.progs := (step_le c).progs
theorem step_tmpls (c : Cfg) : (step c).st.tmpls = c.st.tmpls := (step_le c).tmpls

theorem runN_le (n : Nat) (c : Cfg) : St.Le c.st (runN n c).st := by
  induction n generalizing c with
  | zero => exact St.Le.refl _
  | succ n ih => rw [runN_succ]; exact (step_le c).trans (ih _)

theorem reach_tmpls_timers {s0 : St} : ∀ c, Reach s0 c →
    c.st.tmpls = s0.tmpls ∧ c.st.timers.length = s0.timers.length :=
  Reach.inv_st (fun s => s.tmpls = s0.tmpls ∧ s.timers.length = s0.timers.length) ⟨rfl, rfl⟩ (fun _ _ _ h => h)
    fun c h => ⟨(step_tmpls c).trans h.1, (step_timers c).trans h.2⟩

theorem reach_timers {s0 : St} (h0 : s0.timers = []) (c : Cfg) (hr : Reach s0 c) : c.st.timers = [] :=
  List.eq_nil_of_length_eq_zero ((reach_tmpls_timers c hr).2.trans (by rw [h0]; rfl))

end CV.Core
