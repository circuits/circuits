import CV.Model.Core.Value
/-
Value layer (C04): folding `Val.set` over the results handlers produce yields exactly the
"collapsed" list the property statement describes.
-/
namespace CV.Core

/-- reachable Value states: unset, single, or a list of at least two -/
def Val.WF (v : Val) : Prop :=
  (v.result = false → v.items = [] ∧ v.isList = false) ∧
  (v.result = true → v.isList = false → v.items.length = 1) ∧
  (v.isList = true → v.result = true ∧ 2 ≤ v.items.length)

theorem Val.wf_init : Val.WF {} := by
  simp [Val.WF]

/-- on a reachable Value the three branches of `setValue` do the same -/
theorem Val.set_eq (v : Val) (x : VItem) (h : v.WF) :
    v.set x = { v with items := v.items ++ [x], result := true, isList := v.result } := by
  unfold Val.set
  cases hr : v.result
  · simp [(h.1 hr).1, (h.1 hr).2]
  · cases hl : v.isList <;> simp

theorem Val.set_items (v : Val) (x : VItem) (h : v.WF) : (v.set x).items = v.items ++ [x] := by
  rw [Val.set_eq v x h]

theorem Val.set_isList (v : Val) (x : VItem) (h : v.WF) : (v.set x).isList = v.result := by
  rw [Val.set_eq v x h]

theorem Val.set_result (v : Val) (x : VItem) : (v.set x).result = true := by
  unfold Val.set
  cases v.result <;> cases v.isList <;> rfl

theorem Val.set_errors (v : Val) (x : VItem) : (v.set x).errors = v.errors := by
  unfold Val.set
  cases v.result <;> cases v.isList <;> rfl

theorem Val.set_wf (v : Val) (x : VItem) (h : v.WF) : (v.set x).WF := by
  have hi := Val.set_items v x h
  have hr := Val.set_result v x
  have hl := Val.set_isList v x h
  obtain ⟨h0, h1, h2⟩ := h
  refine ⟨?_, ?_, ?_⟩
  · intro hf; rw [hr] at hf; cases hf
  · intro _ hnl
    rw [hl] at hnl
    rw [hi, (h0 hnl).1]; rfl
  · intro hlist
    rw [hl] at hlist
    refine ⟨hr, ?_⟩
    rw [hi, List.length_append]
    by_cases hL : v.isList = true
    · have := (h2 hL).2; simp; omega
    · have hL' : v.isList = false := by simpa using hL
      have := h1 hlist hL'; simp; omega

def setAll (v : Val) (xs : List VItem) : Val := xs.foldl Val.set v

theorem setAll_wf (v : Val) (xs : List VItem) (h : v.WF) : (setAll v xs).WF := by
  induction xs generalizing v with
  | nil => simpa [setAll] using h
  | cons x xs ih => simpa [setAll] using ih (v.set x) (Val.set_wf v x h)

theorem setAll_items (v : Val) (xs : List VItem) (h : v.WF) : (setAll v xs).items = v.items ++ xs := by
  induction xs generalizing v with
  | nil => simp [setAll]
  | cons x xs ih =>
    have := ih (v.set x) (Val.set_wf v x h)
    simp only [setAll, List.foldl_cons] at this ⊢
    rw [this, Val.set_items v x h, List.append_assoc]; rfl

theorem view_of_wf (v : Val) (h : v.WF) : v.view = collapse v.items := by
  obtain ⟨h0, h1, h2⟩ := h
  unfold Val.view
  by_cases hr : v.result = true
  · by_cases hl : v.isList = true
    · have := (h2 hl).2
      simp only [hr, hl, Bool.not_true, Bool.false_eq_true, if_false, if_true]
      match hitems : v.items, this with
      | a :: b :: rest, _ => simp [collapse]
    · have hl' : v.isList = false := by simpa using hl
      have := h1 hr hl'
      simp only [hr, hl', Bool.not_true, Bool.false_eq_true, if_false]
      match hitems : v.items, this with
      | [a], _ => simp [collapse]
  · have hr' : v.result = false := by simpa using hr
    simp [hr', (h0 hr').1, collapse]

end CV.Core
