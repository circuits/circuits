import CV.Model.EvQueue
/-
The invariant `QInv` of the event queue of CV/Model/EvQueue.lean, kept by each of `qIncr / qApp / qSnap / qPop`, hence
under arbitrary interleavings: per thread, dispatched followed by still queued events (batch, then deque) are the
events fired, in fire order; the queued events of one thread have increasing counters, none above the queue's counter.
`exactly_once_fifo` of CV/Props/C03.lean is read off the first clause.
-/
namespace CV
namespace Wake

def sameTidLt (a b : Ev) : Prop := a.tid = b.tid → a.ctr < b.ctr

structure QInv (q : QS) : Prop where
  proj : ∀ t, (q.log ++ (q.batch ++ q.dq)).filter (fun e => e.tid == t)
              = q.fired.filter (fun e => e.tid == t)
  pw : (q.batch ++ q.dq).Pairwise sameTidLt
  le : ∀ e ∈ q.batch ++ q.dq, e.ctr ≤ q.ctr
  lt : ∀ t ∈ q.pend, ∀ e ∈ q.batch ++ q.dq, e.tid = t → e.ctr < q.ctr

theorem qIncr_inv {q : QS} (h : QInv q) (t : Nat) : QInv (qIncr q t) := by
  refine ⟨h.proj, h.pw, ?_, ?_⟩
  · intro e he
    have := h.le e he
    simp only [qIncr]; omega
  · intro t' ht' e he hte
    simp only [qIncr] at ht' ⊢
    rcases List.mem_cons.mp ht' with rfl | hm
    · have := h.le e he; omega
    · have := h.lt t' hm e he hte; omega

theorem qApp_some {q q' : QS} {t seq : Nat} {g : Bool} (h : qApp q t seq g = some q') :
    t ∈ q.pend ∧ q' = { q with pend := q.pend.filter (· ≠ t), dq := q.dq ++ [⟨t, seq, q.ctr, g⟩],
                               fired := q.fired ++ [⟨t, seq, q.ctr, g⟩] } := by
  unfold qApp at h
  split at h
  · next hm => exact ⟨hm, (Option.some.inj h).symm⟩
  · cases h

theorem qSnap_some {q q' : QS} {n : Nat} (h : qSnap q n = some q') :
    q.batch = [] ∧ q' = { q with batch := q.dq, dq := [] } := by
  unfold qSnap at h
  split at h
  · next hc => exact ⟨hc.1, (Option.some.inj h).symm⟩
  · cases h

theorem qApp_inv {q q' : QS} (h : QInv q) {t seq : Nat} {g : Bool}
    (hq : qApp q t seq g = some q') : QInv q' := by
  obtain ⟨hmem, rfl⟩ := qApp_some hq
  -- the new entry goes to the end of what is queued; its thread has nothing queued with the present counter
  have hp : ∀ l : List Ev, q.batch ++ (q.dq ++ l) = (q.batch ++ q.dq) ++ l := fun l => (List.append_assoc ..).symm
  refine ⟨fun t' => ?_, ?_, fun e he => ?_, fun t' ht' e he hte => ?_⟩
  · have := h.proj t'
    simp only [← List.append_assoc, List.filter_append] at this ⊢
    rw [this]
  · show (q.batch ++ (q.dq ++ [_])).Pairwise sameTidLt
    rw [hp, List.pairwise_append]
    refine ⟨h.pw, List.pairwise_singleton _ _, fun a ha b hb hab => ?_⟩
    rw [List.mem_singleton.mp hb] at hab ⊢
    exact h.lt t hmem a ha hab
  · rcases List.mem_append.mp (hp _ ▸ he) with he | he
    · exact h.le e he
    · rw [List.mem_singleton.mp he]; exact Nat.le_refl _
  · simp only [List.mem_filter, decide_eq_true_eq] at ht'
    rcases List.mem_append.mp (hp _ ▸ he) with he | he
    · exact h.lt t' ht'.1 e he hte
    · rw [List.mem_singleton.mp he] at hte; exact absurd hte.symm ht'.2

theorem qSnap_inv {q q' : QS} (h : QInv q) {n : Nat} (hq : qSnap q n = some q') : QInv q' := by
  obtain ⟨hb, rfl⟩ := qSnap_some hq
  -- what is queued is the same list
  have e : q.batch ++ q.dq = q.dq ++ [] := by rw [hb, List.append_nil, List.nil_append]
  exact ⟨fun t => e ▸ h.proj t, e ▸ h.pw, e ▸ h.le, e ▸ h.lt⟩

theorem splitAtEv_spec {tid seq : Nat} : ∀ {l p x r}, splitAtEv tid seq l = some (p, x, r) →
    l = p ++ x :: r ∧ x.tid = tid ∧ x.seq = seq
  | [], _, _, _, h => by simp [splitAtEv] at h
  | e :: es, p, x, r, h => by
    unfold splitAtEv at h
    split at h
    · rename_i hc
      injection h with h
      simp only [Prod.mk.injEq] at h
      obtain ⟨rfl, rfl, rfl⟩ := h
      exact ⟨rfl, hc.1, hc.2⟩
    · split at h
      · rename_i p' x' r' heq
        injection h with h
        simp only [Prod.mk.injEq] at h
        obtain ⟨rfl, rfl, rfl⟩ := h
        have := splitAtEv_spec heq
        exact ⟨by rw [this.1]; rfl, this.2⟩
      · cases h

theorem qPop_some {q q' : QS} {tid seq : Nat} {x : Ev} (h : qPop q tid seq = some (q', x)) :
    ∃ p r, q.batch = p ++ x :: r ∧ (∀ y ∈ q.batch, x.ctr ≤ y.ctr) ∧
      q' = { q with batch := p ++ r, log := q.log ++ [x] } := by
  unfold qPop at h
  split at h
  · next p x' r hs =>
    split at h
    · next hmin =>
      obtain ⟨rfl, rfl⟩ := Prod.mk.inj (Option.some.inj h)
      exact ⟨p, r, (splitAtEv_spec hs).1, fun y hy => by simpa using List.all_eq_true.mp hmin y hy, rfl⟩
    · cases h
  · cases h

theorem qPop_inv {q q' : QS} (h : QInv q) {tid seq : Nat} {x : Ev}
    (hq : qPop q tid seq = some (q', x)) : QInv q' := by
  obtain ⟨p, r, hb, hmin, rfl⟩ := qPop_some hq
  have hpw := h.pw
  rw [hb] at hpw
  -- what stays queued is a sublist of what was queued
  have hsub : ((p ++ r) ++ q.dq).Sublist (q.batch ++ q.dq) := by
    rw [hb]; exact ((List.sublist_cons_self _ _).append_left _).append_right _
  refine ⟨fun t => ?_, h.pw.sublist hsub, fun e he => h.le e (hsub.subset he),
    fun t ht e he => h.lt t ht e (hsub.subset he)⟩
  have hp := h.proj t
  rw [hb] at hp
  show ((q.log ++ [x]) ++ ((p ++ r) ++ q.dq)).filter _ = _
  rw [← hp]
  by_cases hx : x.tid = t
  · -- no entry of thread t precedes x in the batch: its counter would be smaller, and x has a minimal one
    have hnone : p.filter (fun e => e.tid == t) = [] := by
      rw [List.filter_eq_nil_iff]
      intro y hy hyt
      have h1 := hmin y (by rw [hb]; exact List.mem_append_left _ hy)
      have h2 : sameTidLt y x :=
        (List.pairwise_append.mp (List.pairwise_append.mp hpw).1).2.2 y hy x List.mem_cons_self
      have := h2 (by rw [hx]; simpa using hyt)
      omega
    simp only [List.filter_append, List.append_assoc, hnone, List.nil_append]
    simp [hx]
  · have hx' : (x.tid == t) = false := by simpa using hx
    simp only [List.filter_append, List.append_assoc, List.filter_cons, hx', List.filter_nil]
    simp

theorem qInit_inv (e : Ev) (c : Nat) (hc : e.ctr ≤ c) :
    QInv { ctr := c, dq := [e], fired := [e] } := by
  refine ⟨?_, ?_, ?_, ?_⟩
  · intro t; simp
  · simp
  · intro x hx; simp at hx; subst hx; exact hc
  · intro t ht; simp at ht

end Wake
end CV
