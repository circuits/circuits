import CV.Model.Basic
/-
Runs of a reader.  Many models have the shape "state, one input, new state and the outputs of that
input", and a function that folds it over a list of inputs and appends the outputs (`Line.feedAll`,
`Line.serverFeedAll`, `WS.feedAll`, `WSE.run`).  `runAll` is that fold; what holds of every such fold
is proved here once: an invariant of the step is an invariant of the run, a reader that is a
homomorphism for `++` on its input gives the same run for every segmentation, and a table of
per-key states that a step touches only at the key of its input keeps the keys apart.
-/
namespace CV.Feed

variable {σ ι ο : Type}

def runAll (f : σ → ι → σ × List ο) (s : σ) : List ι → σ × List ο
  | [] => (s, [])
  | d :: ds => ((runAll f (f s d).1 ds).1, (f s d).2 ++ (runAll f (f s d).1 ds).2)

/-- a model's own fold, written with `let`s, is `runAll` of its step -/
theorem eq_runAll {f : σ → ι → σ × List ο} {g : σ → List ι → σ × List ο} (hnil : ∀ s, g s [] = (s, []))
    (hcons : ∀ s d ds, g s (d :: ds) = ((g (f s d).1 ds).1, (f s d).2 ++ (g (f s d).1 ds).2)) :
    ∀ (ds : List ι) (s : σ), g s ds = runAll f s ds
  | [], s => hnil s
  | d :: ds, s => by rw [hcons, runAll, eq_runAll hnil hcons ds]

theorem runAll_inv {f : σ → ι → σ × List ο} {P : σ → Prop} (hf : ∀ s d, P s → P (f s d).1) :
    ∀ (ds : List ι) (s : σ), P s → P (runAll f s ds).1
  | [], _, h => h
  | d :: ds, s, h => runAll_inv hf ds _ (hf s d h)

/-- Segmentation.  `P` is what the reader needs of its state (the carried buffer holds no complete
    unit) for the empty read to do nothing. -/
theorem runAll_flatten {α : Type} {f : σ → List α → σ × List ο} {P : σ → Prop}
    (hinv : ∀ s d, P s → P (f s d).1) (hnil : ∀ s, P s → f s [] = (s, []))
    (hhom : ∀ s a b, f s (a ++ b) = ((f (f s a).1 b).1, (f s a).2 ++ (f (f s a).1 b).2)) :
    ∀ (segs : List (List α)) (s : σ), P s → runAll f s segs = f s segs.flatten
  | [], s, h => (hnil s h).symm
  | d :: ds, s, h => by
    rw [runAll, runAll_flatten hinv hnil hhom ds _ (hinv s d h), List.flatten_cons, hhom]

section keyed
variable {τ κ υ ε : Type}

/-- A table `t` read by `get t k`, a step that changes the table only at the key of its event, tags
    its outputs with that key and looks at nothing but the entry of that key: what key `k` sees and
    the state of its entry depend on the events of `k` only. -/
theorem runAll_keyed [DecidableEq κ] {get : τ → κ → υ} {key : ε → κ} {step : τ → ε → τ × List (κ × ο)} (k : κ)
    (hother : ∀ t e, key e ≠ k → get (step t e).1 k = get t k)
    (htag : ∀ t e, ∀ p ∈ (step t e).2, p.1 = key e)
    (hsame : ∀ t t' e, get t (key e) = get t' (key e) →
      get (step t e).1 (key e) = get (step t' e).1 (key e) ∧ (step t e).2 = (step t' e).2) :
    ∀ (evs : List ε) (t t' : τ), get t k = get t' k →
      get (runAll step t evs).1 k = get (runAll step t' (evs.filter (fun e => key e == k))).1 k ∧
      (runAll step t evs).2.filter (fun p => p.1 == k) =
        (runAll step t' (evs.filter (fun e => key e == k))).2
  | [], _, _, h => ⟨h, rfl⟩
  | e :: es, t, t', h => by
    by_cases hk : key e = k
    · obtain ⟨h1, h2⟩ := hsame t t' e (by rw [hk]; exact h)
      have ih := runAll_keyed k hother htag hsame es (step t e).1 (step t' e).1 (by rw [← hk]; exact h1)
      have hall : (step t e).2.filter (fun p => p.1 == k) = (step t e).2 :=
        List.filter_eq_self.2 fun p hp => by simp [htag t e p hp, hk]
      simp only [List.filter_cons, hk, beq_self_eq_true, if_true, runAll, List.filter_append, hall, ← h2]
      exact ⟨ih.1, by rw [ih.2]⟩
    · have ih := runAll_keyed k hother htag hsame es (step t e).1 t' (by rw [hother t e hk]; exact h)
      have hnone : (step t e).2.filter (fun p => p.1 == k) = [] :=
        List.filter_eq_nil_iff.2 fun p hp => by simp [htag t e p hp, hk]
      simp only [List.filter_cons, hk, beq_iff_eq, if_false, runAll, List.filter_append, hnone,
        List.nil_append]
      exact ih

/-- Events of one key `k` that the step handles by running the reader `f` on the entry of `k`:
    the table's run is the reader's run on that entry, outputs tagged with `k`. -/
theorem runAll_single {get : τ → κ → υ} {step : τ → ε → τ × List (κ × ο)} {f : υ → ι → υ × List ο}
    (k : κ) (val : ε → ι) (Q : ε → Prop)
    (h : ∀ t e, Q e → get (step t e).1 k = (f (get t k) (val e)).1 ∧
      (step t e).2 = (f (get t k) (val e)).2.map (fun o => (k, o))) :
    ∀ (evs : List ε) (t : τ), (∀ e ∈ evs, Q e) →
      get (runAll step t evs).1 k = (runAll f (get t k) (evs.map val)).1 ∧
      (runAll step t evs).2 = (runAll f (get t k) (evs.map val)).2.map (fun o => (k, o))
  | [], _, _ => ⟨rfl, rfl⟩
  | e :: es, t, hq => by
    obtain ⟨h1, h2⟩ := h t e (hq e (by simp))
    have ih := runAll_single k val Q h es (step t e).1 (fun e he => hq e (by simp [he]))
    rw [h1] at ih
    simp only [runAll, List.map_cons, List.map_append, h2, ih.2]
    exact ⟨ih.1, trivial⟩

end keyed

end CV.Feed
