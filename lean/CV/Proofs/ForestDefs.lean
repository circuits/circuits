import CV.Proofs.CoreReach
import CV.Proofs.CoreStep
import CV.Proofs.CoreStack
/-
The forest invariant of the component tree (C07), as a definition shared by the C07 proof (which establishes it for every
reachable configuration) and the C01 proof (which uses the `rootOk` part: the cache flag lands on the component that will
dispatch), with what both proofs start from: the two defining equations of `updateRootAll` (`_nil`, `_cons`), that it writes only the
field `root`, that registering logs nothing,
`registerPre` in closed form (the phases `regA` to `regD`, each with what it writes; `regT`), and that no arm pushes an `.updateRoot` frame, so that none is ever on the stack
(`step_noUR`, `reach_noUR`).
-/
namespace CV.Core

/-- parent and child links agree, every component has one parent (itself for a root), there are
    no cycles, and `root` is the top of the tree the component is in -/
structure ForestInv (s : St) : Prop where
  parentLt : ∀ c, c < s.comps.length → (s.comp c).parent < s.comps.length
  rootLt : ∀ c, c < s.comps.length → (s.comp c).root < s.comps.length
  childOf : ∀ c d, c < s.comps.length → d ∈ (s.comp c).children →
      d < s.comps.length ∧ (s.comp d).parent = c ∧ d ≠ c
  parentHas : ∀ c, c < s.comps.length → (s.comp c).parent ≠ c → c ∈ (s.comp (s.comp c).parent).children
  childrenNodup : ∀ c, c < s.comps.length → (s.comp c).children.Nodup
  acyclic : ∃ rk : Nat → Nat, ∀ c, c < s.comps.length → (s.comp c).parent ≠ c → rk (s.comp c).parent < rk c
  rootOk : ∀ c, c < s.comps.length →
      (s.comp c).root = (if (s.comp c).parent = c then c else (s.comp (s.comp c).parent).root)

/-- the clause `rootOk` in its two cases -/
theorem ForestInv.root_top {s : St} (h : ForestInv s) {c : Nat} (hc : c < s.comps.length) (hp : (s.comp c).parent = c) :
    (s.comp c).root = c := (h.rootOk c hc).trans (if_pos hp)

theorem ForestInv.root_child {s : St} (h : ForestInv s) {c : Nat} (hc : c < s.comps.length)
    (hp : (s.comp c).parent ≠ c) : (s.comp c).root = (s.comp (s.comp c).parent).root :=
  (h.rootOk c hc).trans (if_neg hp)

/-- the state a driver session starts from: every component is a detached root without children -/
def InitForest (s : St) : Prop :=
  ∀ c, c < s.comps.length → (s.comp c).parent = c ∧ (s.comp c).root = c ∧ (s.comp c).children = []

theorem ForestInv.of_init (s : St) (h : InitForest s) : ForestInv s := by
  refine ⟨?_, ?_, ?_, ?_, ?_, ?_, ?_⟩
  · intro c hc; rw [(h c hc).1]; exact hc
  · intro c hc; rw [(h c hc).2.1]; exact hc
  · intro c d hc hd; rw [(h c hc).2.2] at hd; cases hd
  · intro c hc hp; exact absurd (h c hc).1 hp
  · intro c hc; rw [(h c hc).2.2]; exact List.nodup_nil
  · exact ⟨fun _ => 0, fun c hc hp => absurd (h c hc).1 hp⟩
  · intro c hc; simp [(h c hc).1, (h c hc).2.1]

theorem St.updateRootAll_nil (fuel : Nat) (root : Nat) (s : St) : St.updateRootAll fuel [] root s = s := by
  cases fuel <;> rfl

theorem St.updateRootAll_cons (fuel : Nat) (x : Nat) (rest : List Nat) (root : Nat) (s : St) :
    St.updateRootAll (fuel + 1) (x :: rest) root s =
      St.updateRootAll fuel (((s.modComp x fun y => { y with root := root }).comp x).children ++ rest) root
        (s.modComp x fun y => { y with root := root }) := rfl

/-- `updateRootAll` writes no field of a component but `root` -/
theorem St.updateRootAll_comp_pres {β} (p : Comp → β) (hp : ∀ (y : Comp) r, p { y with root := r } = p y)
    (fuel : Nat) (todo : List Nat) (root : Nat) (s : St) (d : Nat) :
    p ((St.updateRootAll fuel todo root s).comp d) = p (s.comp d) :=
  St.updateRootAll_pres (P := fun t => p (t.comp d) = p (s.comp d)) root
    (fun a x h => (St.w6_modComp_comp_pres a p x _ (fun y => hp y root) d).trans h) fuel todo s rfl

/-- the event queues stay (`.eq` is the queue of a component) -/
theorem St.updateRootAll_queue (fuel : Nat) (todo : List Nat) (root : Nat) (s : St) (d : Nat) :
    ((St.updateRootAll fuel todo root s).comp d).eq = (s.comp d).eq :=
  St.updateRootAll_comp_pres (·.eq) (fun _ _ => rfl) fuel todo root s d

theorem St.updateRootAll_ge (n : Nat) (s : St) (x root : Nat) (hx : s.comps.length ≤ x) :
    St.updateRootAll (n + 1) [x] root s = s := by
  rw [St.updateRootAll_cons, St.w6_modComp_ge s x _ hx, St.w6_comp_ge s x hx]
  exact St.updateRootAll_nil _ _ _

/-! Registering logs nothing: the announcement is the next step, `registerFin`. -/

theorem St.updateRootAll_log (fuel : Nat) (todo : List Nat) (root : Nat) (s : St) :
    (St.updateRootAll fuel todo root s).log = s.log :=
  St.updateRootAll_pres (P := fun t => t.log = s.log) root (fun _ _ h => h) fuel todo s rfl

theorem St.registerPre_log (s : St) (c p : Nat) : (s.registerPre c p).2.log = s.log :=
  St.registerPre_pres (P := fun a => a.log = s.log) rfl c p (fun _ => rfl) (fun _ _ h => h) (fun _ h => h)
    (fun _ _ _ _ h => h)

theorem Cfg.register_log (c : Cfg) (k : List Frame) (x p : Nat) : (c.register k x p).st.log = c.st.log := by
  unfold Cfg.register
  dsimp only
  repeat' split
  all_goals first
    | rfl
    | (simp only [Cfg.goto_st, Cfg.pop_st, Cfg.raise_st, St.updateRootAll_log, St.registerPre_log])

theorem St.admissible_iff (s : St) (x p : Nat) : s.admissible x p = true ↔
    x < s.comps.length ∧ p < s.comps.length ∧ (s.comp x).parent = x ∧
    (p = x ∨ ((s.comp x).pending = false ∧ (s.comp p).root ≠ x ∧
       ((s.comp x).executing && (s.comp (s.comp p).root).executing) = false)) := by
  unfold St.admissible
  simp only [Bool.and_eq_true, Bool.or_eq_true, decide_eq_true_eq, beq_iff_eq, bne_iff_ne, ne_eq,
    Bool.not_eq_true', and_assoc]

/-- a proper registration (`p ≠ c`) is admissible for a root `c` outside the tree of `p`, not both executing -/
theorem St.admissible_proper {s : St} {c p : Nat} (hadm : s.admissible c p = true) (hpc : p ≠ c) :
    c < s.comps.length ∧ p < s.comps.length ∧ (s.comp c).parent = c ∧ (s.comp p).root ≠ c ∧
      ((s.comp c).executing && (s.comp (s.comp p).root).executing) = false := by
  obtain ⟨hc, hp, hroot, hrest⟩ := (St.admissible_iff s c p).mp hadm
  rcases hrest with e | ⟨_, hrp, hcl⟩
  · exact absurd e hpc
  · exact ⟨hc, hp, hroot, hrp, hcl⟩

/-- `register`: set `parent` and `root` of the child -/
def regA (s : St) (c p : Nat) : St :=
  s.modComp c fun x => { x with parent := p, root := (s.comp p).root }

/-- hand the executing thread over to the new root -/
def regB (t : St) (c r : Nat) : St :=
  if (t.comp c).executing
  then (t.modComp r fun x => { x with executing := true }).modComp c fun x => { x with executing := false }
  else t

/-- `registerChild`: add to the parent's children -/
def regC (t : St) (c p : Nat) : St :=
  t.modComp p fun x => { x with children := addUniq x.children c }

/-- move the child's queue to the root, mark the root's cache dirty -/
def regD (t : St) (c r : Nat) : St :=
  if r != c
  then (t.modComp r fun x => { x with eq := ((t.comp r).eq.drainFrom (t.comp c).eq).1, dirty := true }).modComp c
         fun x => { x with eq := ((t.comp r).eq.drainFrom (t.comp c).eq).2 }
  else t

/-! What a phase writes: `regA` the `parent` and `root` of `c`, `regB` `executing` flags, `regC` the `children` of `p`,
`regD` queues and the `dirty` flag of `r`.  Every other field of every component stays (`reg?_comp_pres`, for a reading
`f` of a component that ignores the fields written), and so does the number of components (`reg?_len`).  Proofs about
`registerPre` go through these and do not unfold the phases. -/

theorem regA_len (s : St) (c p : Nat) : (regA s c p).comps.length = s.comps.length :=
  St.w6_modComp_comps_length ..

theorem regA_comp (s : St) (c p d : Nat) (hc : c < s.comps.length) :
    (regA s c p).comp d = if d = c then { s.comp c with parent := p, root := (s.comp p).root } else s.comp d := by
  unfold regA
  rw [St.w6_modComp_comp_eq]
  by_cases e : d = c
  · subst e; rw [if_pos ⟨rfl, hc⟩, if_pos rfl]
  · rw [if_neg (fun h => e h.1), if_neg e]

theorem regA_comp_pres {β} (f : Comp → β) (hf : ∀ (y : Comp) a b, f { y with parent := a, root := b } = f y)
    (s : St) (c p d : Nat) : f ((regA s c p).comp d) = f (s.comp d) :=
  St.w6_modComp_comp_pres s f c _ (fun y => hf y _ _) d

theorem regB_len (t : St) (c r : Nat) : (regB t c r).comps.length = t.comps.length := by
  unfold regB; split
  · rw [St.w6_modComp_comps_length, St.w6_modComp_comps_length]
  · rfl

theorem regB_comp_pres {β} (f : Comp → β) (hf : ∀ (y : Comp) b, f { y with executing := b } = f y)
    (t : St) (c r d : Nat) : f ((regB t c r).comp d) = f (t.comp d) := by
  unfold regB; split
  · exact (St.w6_modComp_comp_pres _ f c _ (fun y => hf y _) d).trans
      (St.w6_modComp_comp_pres _ f r _ (fun y => hf y _) d)
  · rfl

theorem regC_len (t : St) (c p : Nat) : (regC t c p).comps.length = t.comps.length :=
  St.w6_modComp_comps_length ..

theorem regC_comp_pres {β} (f : Comp → β) (hf : ∀ (y : Comp) l, f { y with children := l } = f y)
    (t : St) (c p d : Nat) : f ((regC t c p).comp d) = f (t.comp d) :=
  St.w6_modComp_comp_pres t f p _ (fun y => hf y _) d

theorem regC_children (t : St) (c p d : Nat) :
    ((regC t c p).comp d).children =
      if d = p ∧ d < t.comps.length then addUniq (t.comp d).children c else (t.comp d).children := by
  unfold regC
  rw [St.w6_modComp_comp_eq]; split <;> rfl

theorem regD_of_ne (t : St) {c r : Nat} (h : r ≠ c) :
    regD t c r =
      (t.modComp r fun x => { x with eq := ((t.comp r).eq.drainFrom (t.comp c).eq).1, dirty := true }).modComp c
        fun x => { x with eq := ((t.comp r).eq.drainFrom (t.comp c).eq).2 } := by
  unfold regD
  rw [if_pos (by simpa using h)]

theorem regD_len (t : St) (c r : Nat) : (regD t c r).comps.length = t.comps.length := by
  unfold regD; split
  · rw [St.w6_modComp_comps_length, St.w6_modComp_comps_length]
  · rfl

theorem regD_comp_pres {β} (f : Comp → β) (hf : ∀ (y : Comp) q b, f { y with eq := q, dirty := b } = f y)
    (t : St) (c r d : Nat) : f ((regD t c r).comp d) = f (t.comp d) := by
  unfold regD; split
  · exact (St.w6_modComp_comp_pres _ f c _ (fun y => hf y _ y.dirty) d).trans
      (St.w6_modComp_comp_pres _ f r _ (fun y => hf y _ _) d)
  · rfl

theorem St.registerPre_eq (s : St) (c p : Nat) :
    s.registerPre c p =
      if p != c then
        if ((regA s c p).comp c).executing && ((regA s c p).comp (s.comp p).root).executing
        then (false, regA s c p)
        else (true, regD (regC (regB (regA s c p) c (s.comp p).root) c p) c (s.comp p).root)
      else (true, regA s c p) := rfl

/-- self-registration (of a detached root, if admissible) stops after the first phase -/
theorem St.registerPre_self (s : St) (p : Nat) : s.registerPre p p = (true, regA s p p) := by
  rw [St.registerPre_eq, if_neg (by simp)]

/-- the state after a proper `register(c, p)` (`p ≠ c`, admissible): `regA` to `regD` in turn, with the root of `p` as the new root
    (`St.registerPre_proper`) -/
def regT (s : St) (c p : Nat) : St := regD (regC (regB (regA s c p) c (s.comp p).root) c p) c (s.comp p).root

theorem St.registerPre_proper (s : St) (c p : Nat) (hadm : s.admissible c p = true) (hpc : p ≠ c) :
    s.registerPre c p = (true, regT s c p) := by
  -- `regA` leaves the `executing` flags, so the test of `registerPre` is the one `admissible` made
  have hcl := (St.admissible_proper hadm hpc).2.2.2.2
  rw [← regA_comp_pres (·.executing) (fun _ _ _ => rfl) s c p c,
    ← regA_comp_pres (·.executing) (fun _ _ _ => rfl) s c p (s.comp p).root] at hcl
  rw [St.registerPre_eq, if_pos (by simpa using hpc), hcl]; rfl

/-- an admissible registration does not raise `UnregistrableError` -/
theorem St.registerPre_ok (s : St) (x p : Nat) (hadm : s.admissible x p = true) :
    (s.registerPre x p).1 = true := by
  by_cases hpx : p = x
  · rw [hpx, St.registerPre_self]
  · rw [St.registerPre_proper s x p hadm hpx]

/-- the registering step: the arm of an admissible `register` -/
theorem Cfg.register_adm (c : Cfg) (k : List Frame) (x p : Nat) (hadm : c.st.admissible x p = true) :
    (c.register k x p).st =
      St.updateRootAll (c.st.comps.length + 1) [x] (c.st.comp p).root (c.st.registerPre x p).2 := by
  unfold Cfg.register
  dsimp only
  rw [if_neg (by simp [hadm]), if_pos (St.registerPre_ok _ _ _ hadm)]
  split <;> rfl

theorem reg_root (t : St) (c p r y : Nat) : ((regD (regC (regB t c r) c p) c r).comp y).root = (t.comp y).root :=
  (regD_comp_pres (·.root) (fun _ _ _ => rfl) ..).trans
    ((regC_comp_pres (·.root) (fun _ _ => rfl) ..).trans (regB_comp_pres (·.root) (fun _ _ => rfl) ..))

/-! ## the stack never holds an `updateRoot` frame

The model runs `_updateRoot` inside the registering / detaching step (`updateRootAll`), so nothing
pushes a `.updateRoot` frame; the arm exists and would overwrite roots, so the invariants need "no such
frame on the stack". -/

def Frame.isUR : Frame → Bool
  | .updateRoot .. => true
  | _ => false

/-- no `.updateRoot` frame in `k`; holds of every reachable stack (`reach_noUR`), since no arm pushes one.  `NoUR` of
    InvForest.lean is `noUR k = true` as a `Prop`. -/
def noUR (k : List Frame) : Bool := k.all (fun f => !f.isUR)

theorem noUR_nil : noUR [] = true := rfl
theorem noUR_cons (f : Frame) (k : List Frame) : noUR (f :: k) = (!f.isUR && noUR k) := rfl

theorem noUR_cons_iff (f : Frame) (k : List Frame) : noUR (f :: k) = true ↔ f.isUR = false ∧ noUR k = true := by
  rw [noUR_cons, Bool.and_eq_true, Bool.not_eq_true']

theorem Frame.Pushes.nour {c : Cfg} {f : Frame} {fs : List Frame} (h : f.Pushes c fs) : noUR fs = true := by
  cases h
  case actsCall hg | stepGenCall hg => cases hg <;> rfl
  all_goals rfl

theorem step_noUR (c : Cfg) (h : noUR c.stack = true) : noUR (step c).stack = true := by
  unfold step
  split
  · exact h
  · rename_i f k hst
    have hk := ((noUR_cons_iff f k).mp (hst ▸ h)).2
    split
    · exact stack_all (unwind_all c k _ f fun _ => rfl) hk
    · exact stack_all (stepFrame_all c k f fun _ hp => hp.nour) hk

theorem reach_noUR {s0 : St} {c : Cfg} (h : Reach s0 c) : noUR c.stack = true := by
  induction h with
  | init d tape op => cases op <;> rfl
  | step _ ih => exact step_noUR _ ih
  | next d tape op _ _ _ => cases op <;> rfl

end CV.Core
