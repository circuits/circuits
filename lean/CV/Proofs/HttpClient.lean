import CV.Model.HttpClient
import CV.Model.HttpSpec
import CV.Proofs.HttpLexRound
/-
Lemmas for the client component (C13): the reads of one response seen through the component, the shape of the serialised
request head, `occurs` on serialised header blocks, the framing the client's own headers announce, the target `parse_url` yields.
-/
namespace CV
namespace Http
namespace Client

theorem readAll_eq (lex : Lex) (segs : List Bytes) : ∀ st : State,
    readAll lex st segs =
      (⟨st.connected && !((clientAll lex st.parser segs).2.any closes), (clientAll lex st.parser segs).1⟩,
       (clientAll lex st.parser segs).2.flatMap respEvents) := by
  induction segs with
  | nil => intro st; simp [readAll, clientAll]
  | cons d ds ih =>
    intro st
    simp only [readAll, onRead, clientAll]
    rw [ih]
    simp [List.any_cons, Bool.and_assoc, Bool.not_or]

theorem flatMap_replicate_none (n : Nat) (r : Resp) :
    (List.replicate n (none : Option Resp) ++ [some r]).flatMap respEvents = respEvents (some r) := by
  simp [List.flatMap_replicate, respEvents]

theorem any_replicate_none (n : Nat) (r : Resp) :
    (List.replicate n (none : Option Resp) ++ [some r]).any closes = closes (some r) := by
  simp [List.any_replicate, closes]

theorem serHeaderLines_eq (fs : List Field) (hne : fs ≠ []) :
    serHeaderLines fs ++ [13, 10] = serFields fs ++ CRLF2 := by
  induction fs with
  | nil => exact absurd rfl hne
  | cons f fs ih =>
    cases fs with
    | nil => simp [serHeaderLines, serFields, fieldLine, CRLF2]
    | cons g gs =>
      have := ih (by simp)
      simp only [serHeaderLines, serFields, fieldLine, List.append_assoc, List.cons_append] at this ⊢
      rw [this]

theorem serHead_eq (m t : Bytes) (fs : List Field) (hne : fs ≠ []) :
    serHead m t fs = reqLineOf m t [49] [49] ++ CRLF ++ serFields fs ++ CRLF2 := by
  unfold serHead
  rw [serHeaderLines_eq fs hne]
  simp [reqLineOf, sHttp11, httpSlash, CRLF]

theorem occurs_no_head (pat : Bytes) (c : UInt8) (p : Bytes) (hp : pat = c :: p) (l r : Bytes)
    (h : ∀ b ∈ l, b ≠ c) : occurs pat (l ++ r) = occurs pat r := by
  induction l with
  | nil => rfl
  | cons a l ih =>
    have ha : a ≠ c := h a (by simp)
    rw [List.cons_append, occurs, ih (fun b hb => h b (List.mem_cons_of_mem _ hb))]
    subst hp
    simp [ha]

theorem occurs_crlf_no_lf (x : Bytes) (h : ∀ b ∈ x, b ≠ 10) : occurs CRLF x = false := by
  induction x with
  | nil => rfl
  | cons a r ih =>
    rw [occurs, ih (fun b hb => h b (List.mem_cons_of_mem _ hb))]
    cases r with
    | nil => simp [CRLF]
    | cons b r' =>
      have : b ≠ 10 := h b (by simp)
      simp [CRLF, this]

theorem occurs_crlf2_step (c : UInt8) (rest : Bytes) (hc : c ≠ 13) :
    occurs CRLF2 (13 :: 10 :: c :: rest) = occurs CRLF2 (c :: rest) := by
  rw [occurs, occurs]
  cases rest <;> simp [CRLF2, hc]

theorem fieldLine_head {f : Field} (hf : FieldOk0 f) : ∃ c r, fieldLine f = c :: r ∧ c ≠ 13 := by
  obtain ⟨hne, htc, _, _⟩ := hf
  cases hn : f.1 with
  | nil => exact absurd hn hne
  | cons c r =>
    refine ⟨c, r ++ 58 :: 32 :: f.2, by simp [fieldLine, hn], ?_⟩
    exact (lx_tchar_facts c (htc c (by simp [hn]))).2.1

theorem serFields_head (fs : List Field) (hne : fs ≠ []) (hok : ∀ f ∈ fs, FieldOk f) :
    ∃ c r, serFields fs = c :: r ∧ c ≠ 13 := by
  cases fs with
  | nil => exact absurd rfl hne
  | cons f gs =>
    obtain ⟨c, r, e, hc⟩ := fieldLine_head (hok f (by simp)).1
    cases gs with
    | nil => exact ⟨c, r, by simp [serFields, e], hc⟩
    | cons g gs' => exact ⟨c, r ++ 13 :: 10 :: serFields (g :: gs'), by simp [serFields, e], hc⟩

theorem occurs_crlf2_ser (fs : List Field) (hne : fs ≠ []) (hok : ∀ f ∈ fs, FieldOk f) :
    occurs CRLF2 (serFields fs ++ [13, 10, 13]) = false := by
  induction fs with
  | nil => exact absurd rfl hne
  | cons f gs ih =>
    have hcr := fun b hb => (lx_fieldLine_no_cr_bs (hok f (by simp)).1 b hb).1
    cases gs with
    | nil =>
      simp only [serFields]
      rw [occurs_no_head CRLF2 13 [10, 13, 10] rfl _ _ hcr]
      decide
    | cons g gs' =>
      have ih' := ih (by simp) (fun x hx => hok x (List.mem_cons_of_mem _ hx))
      obtain ⟨c, r, e, hc⟩ := serFields_head (g :: gs') (by simp) (fun x hx => hok x (List.mem_cons_of_mem _ hx))
      simp only [serFields, List.append_assoc, List.cons_append]
      rw [occurs_no_head CRLF2 13 [10, 13, 10] rfl _ _ hcr]
      rw [e] at ih' ⊢
      rw [List.cons_append] at ih' ⊢
      rw [occurs_crlf2_step c _ hc]
      exact ih'

theorem wire_eq (q : Request) (u : Url) :
    wireBytes (requestWrites q u) =
      serHead q.method u.path (requestFields u q.headers q.body) ++ q.body.getD [] := by
  unfold requestWrites
  cases q.body <;> simp [wireBytes]

theorem hdrSet_ne_nil (fs : List Field) (k v : Bytes) : hdrSet fs k v ≠ [] := by
  cases fs with
  | nil => simp [hdrSet]
  | cons f fs => obtain ⟨n, w⟩ := f; simp only [hdrSet]; split <;> simp

theorem requestFields_ne_nil (u : Url) (user : List Field) (body : Option Bytes) :
    requestFields u user body ≠ [] := by
  unfold requestFields
  cases body with
  | some b => exact hdrSet_ne_nil _ _ _
  | none =>
    simp only
    split
    · next h =>
      intro e
      rw [e] at h
      simp [hdrHas] at h
    · exact hdrSet_ne_nil _ _ _

theorem reqLine_no_lf (m t : Bytes) (hm : methodOk m = true) (ht : ∀ b ∈ t, isUSpace b = false) :
    ∀ b ∈ reqLineOf m t [49] [49] ++ [13], b ≠ 10 := by
  unfold methodOk at hm
  simp only [Bool.and_eq_true, List.all_eq_true] at hm
  have hsp : isUSpace 10 = true := by decide
  intro b hb e
  subst e
  simp only [reqLineOf, httpSlash, List.mem_append, List.mem_cons, List.not_mem_nil, or_false] at hb
  rcases hb with (h | h | h | h | h) | h
  · have := (lx_method_char (hm.2 _ h)).1; rw [hsp] at this; cases this
  · cases h
  · have := ht _ h; rw [hsp] at this; cases this
  · cases h
  · revert h; decide
  · cases h

theorem upper_facts : ∀ b : UInt8, upperA (upperA b) = upperA b ∧ upperA (lowerA b) = upperA b :=
  lx_forall_uint8 _ (by decide +kernel)

theorem titleGo_upper (s : Bytes) : ∀ p, (titleGo p s).map upperA = s.map upperA := by
  induction s with
  | nil => intro p; rfl
  | cons b r ih =>
    intro p
    simp only [titleGo, List.map_cons, ih]
    cases p <;> simp [(upper_facts b).1, (upper_facts b).2]

theorem titleA_upper (s : Bytes) : (titleA s).map upperA = s.map upperA := titleGo_upper s false

def NoName (K : Bytes) (fs : List Field) : Prop := ∀ f ∈ fs, f.1.map upperA ≠ K

theorem noName_hdrSet {K : Bytes} {fs : List Field} (k v : Bytes) (h : NoName K fs) (hk : k.map upperA ≠ K) :
    NoName K (hdrSet fs k v) := by
  induction fs with
  | nil => intro f hf; simp [hdrSet] at hf; subst hf; exact hk
  | cons g gs ih =>
    obtain ⟨n, w⟩ := g
    have hg : n.map upperA ≠ K := h (n, w) (by simp)
    have ih' := ih (fun f hf => h f (List.mem_cons_of_mem _ hf))
    intro f hf
    simp only [hdrSet] at hf
    split at hf
    · simp only [List.mem_cons] at hf
      rcases hf with rfl | hf
      · exact hg
      · exact h f (List.mem_cons_of_mem _ hf)
    · simp only [List.mem_cons] at hf
      rcases hf with rfl | hf
      · exact hg
      · exact ih' f hf

theorem noName_foldl {K : Bytes} (user : List Field) (h : NoName K user) : ∀ acc, NoName K acc →
    NoName K (user.foldl (fun acc f => hdrSet acc (titleA f.1) f.2) acc) := by
  induction user with
  | nil => intro acc ha; exact ha
  | cons g gs ih =>
    intro acc ha
    simp only [List.foldl_cons]
    apply ih (fun f hf => h f (List.mem_cons_of_mem _ hf))
    apply noName_hdrSet _ _ ha
    rw [titleA_upper]
    exact h g (by simp)

theorem noName_mkHeaders {K : Bytes} (user : List Field) (h : NoName K user) : NoName K (mkHeaders user) :=
  noName_foldl user h [] (fun f hf => by cases hf)

theorem hdrGet_append_noName {K : Bytes} (fs gs : List Field) (h : NoName K fs) :
    hdrGet ((fs ++ gs).map normField) K = hdrGet (gs.map normField) K := by
  induction fs with
  | nil => rfl
  | cons g fs ih =>
    have hg : g.1.map upperA ≠ K := h g (by simp)
    simp only [List.cons_append, List.map_cons, normField, hdrGet, hg, if_false]
    exact ih (fun f hf => h f (List.mem_cons_of_mem _ hf))

theorem hdrGet_noName {K : Bytes} (fs : List Field) (h : NoName K fs) : hdrGet (fs.map normField) K = none := by
  simpa [hdrGet] using hdrGet_append_noName fs [] h

theorem hdrSet_append {fs : List Field} (k v : Bytes) (h : NoName (k.map upperA) fs) : hdrSet fs k v = fs ++ [(k, v)] := by
  induction fs with
  | nil => rfl
  | cons g gs ih =>
    obtain ⟨n, w⟩ := g
    have hg : n ≠ k := fun e => h (n, w) (by simp) (by rw [e])
    simp only [hdrSet, hg, if_false, List.cons_append]
    rw [ih (fun f hf => h f (List.mem_cons_of_mem _ hf))]

theorem decVal_snoc (xs : Bytes) (d : UInt8) : decVal (xs ++ [d]) = decVal xs * 10 + (d.toNat - 48) := by
  simp [decVal, List.foldl_append]

theorem digitChar_facts : ∀ d, d < 10 →
    (UInt8.ofNat (48 + d)).toNat - 48 = d ∧ isDigit (UInt8.ofNat (48 + d)) = true := by decide

theorem decStrGo_facts : ∀ f n, n < f →
    decVal (decStrGo f n) = n ∧ decStrGo f n ≠ [] ∧ ∀ b ∈ decStrGo f n, isDigit b = true := by
  intro f
  induction f with
  | zero => intro n h; omega
  | succ f ih =>
    intro n hn
    unfold decStrGo
    by_cases h10 : n < 10
    · obtain ⟨e, hd⟩ := digitChar_facts n h10
      rw [if_pos h10]
      refine ⟨?_, List.cons_ne_nil _ _, fun b hb => ?_⟩
      · show 0 * 10 + ((UInt8.ofNat (48 + n)).toNat - 48) = n
        rw [e, Nat.zero_mul, Nat.zero_add]
      · rw [List.mem_singleton.mp hb]; exact hd
    · obtain ⟨i1, i2, i3⟩ := ih (n / 10) (by omega)
      obtain ⟨e, hd⟩ := digitChar_facts (n % 10) (Nat.mod_lt _ (by decide))
      rw [if_neg h10]
      refine ⟨?_, fun h => absurd (List.append_eq_nil_iff.mp h).2 (List.cons_ne_nil _ _), fun b hb => ?_⟩
      · rw [decVal_snoc, i1, e]; omega
      · rcases List.mem_append.mp hb with hb | hb
        · exact i3 b hb
        · rw [List.mem_singleton.mp hb]; exact hd

theorem decStr_facts (n : Nat) : decVal (decStr n) = n ∧ decStr n ≠ [] ∧ ∀ b ∈ decStr n, isDigit b = true :=
  decStrGo_facts (n + 1) n (by omega)

/-- the application sets none of the framing headers itself -/
def NoFraming (user : List Field) : Prop :=
  NoName nContentLength user ∧ NoName nTransferEncoding user ∧ NoName nConnection user

theorem noName_h1 {K : Bytes} (u : Url) (user : List Field) (h : NoName K user) (hK : sHost.map upperA ≠ K) :
    NoName K (if hdrHas (mkHeaders user) sHost then mkHeaders user else hdrSet (mkHeaders user) sHost (hostValue u)) := by
  split
  · exact noName_mkHeaders user h
  · exact noName_hdrSet _ _ (noName_mkHeaders user h) hK

theorem info_of_gets (gs : List Field) (hi : HdrInfo) (h : infoOfFields gs = .ok hi)
    (hte : hdrGet gs nTransferEncoding = none) (hconn : hdrGet gs nConnection = none) :
    hi.te = false ∧ hi.upgrade = false := by
  unfold infoOfFields at h
  cases hcl : clenOfFields gs with
  | ok cl =>
    simp only [hcl, Lx.map, hte, hconn, Option.getD_none, Lx.ok.injEq] at h
    subst h
    exact ⟨rfl, rfl⟩
  | invalid => simp [hcl, Lx.map] at h
  | unsupported => simp [hcl, Lx.map] at h

theorem info_absent (gs : List Field) (h : hdrGet gs nContentLength = none) :
    ∃ hi, infoOfFields gs = .ok hi ∧ hi.clen = .absent := by
  unfold infoOfFields clenOfFields
  simp only [h, Lx.map]
  exact ⟨_, rfl, rfl⟩

theorem framing_none (H : List Field) (h1cl : NoName nContentLength H) (h1te : NoName nTransferEncoding H)
    (h1co : NoName nConnection H) :
    ∃ h, infoOfFields (H.map normField) = .ok h ∧ h.upgrade = false ∧ bodyOk .request h [] [] = true := by
  obtain ⟨hi, e, ecl⟩ := info_absent _ (hdrGet_noName _ h1cl)
  obtain ⟨t1, t2⟩ := info_of_gets _ hi e (hdrGet_noName _ h1te) (hdrGet_noName _ h1co)
  exact ⟨hi, e, t2, by simp [bodyOk, ecl, t1]⟩

theorem framing_some (H : List Field) (b : Bytes) (h1cl : NoName nContentLength H)
    (h1te : NoName nTransferEncoding H) (h1co : NoName nConnection H) (hlen : (decStr b.length).length ≤ 4000) :
    ∃ h, infoOfFields ((hdrSet H sContentLength (decStr b.length)).map normField) = .ok h ∧ h.upgrade = false ∧
      bodyOk .request h b b = true := by
  have hcn : sContentLength.map upperA = nContentLength := by decide
  rw [hdrSet_append _ _ (by rw [hcn]; exact h1cl)]
  obtain ⟨d1, d2, d3⟩ := decStr_facts b.length
  have g1 : hdrGet ((H ++ [(sContentLength, decStr b.length)]).map normField) nContentLength = some (decStr b.length) := by
    rw [hdrGet_append_noName _ _ h1cl]; simp [normField, hdrGet, hcn]
  have n2 := noName_hdrSet sContentLength (decStr b.length) h1te (by decide)
  have n3 := noName_hdrSet sContentLength (decStr b.length) h1co (by decide)
  rw [hdrSet_append _ _ (by rw [hcn]; exact h1cl)] at n2 n3
  obtain ⟨hi, e, ecl⟩ := lx_clen_digits _ _ g1 d2 d3 hlen
  obtain ⟨t1, t2⟩ := info_of_gets _ hi e (hdrGet_noName _ n2) (hdrGet_noName _ n3)
  exact ⟨hi, e, t2, by simp [bodyOk, ecl, d1]⟩

/-- a byte of a modelled URL other than `#` -/
def PathCh (b : UInt8) : Prop :=
  (33 ≤ b.toNat ∧ b.toNat ≤ 126 ∧ b ≠ 92 ∧ b ≠ 91 ∧ b ≠ 93) ∧ b ≠ 35

theorem splitScheme_sub (u : Bytes) : ∀ b ∈ (splitScheme u).2, b ∈ u := by
  intro b hb
  unfold splitScheme at hb
  simp only at hb
  split at hb
  · exact (List.dropWhile_sublist _).mem ((List.drop_sublist _ _).mem hb)
  · exact hb

theorem splitNetloc_sub (r : Bytes) : ∀ b ∈ (splitNetloc r).2, b ∈ r := by
  intro b hb
  unfold splitNetloc at hb
  split at hb
  · exact (List.drop_sublist _ _).mem ((List.dropWhile_sublist _).mem hb)
  · exact hb

theorem dropParams_sub (p : Bytes) : ∀ b ∈ dropParams p, b ∈ p := by
  intro b hb
  unfold dropParams at hb
  simp only at hb
  split at hb
  · rw [List.mem_append] at hb
    rcases hb with hb | hb
    · exact (List.take_sublist _ _).mem hb
    · have := (List.takeWhile_sublist _).mem hb
      rw [List.mem_reverse] at this
      have := (List.takeWhile_sublist _).mem this
      rwa [List.mem_reverse] at this
  · exact (List.takeWhile_sublist _).mem hb

theorem urlPath_chars (u : Bytes) (hd : urlInDomain u = true) : ∀ b ∈ urlPath u, PathCh b := by
  unfold urlInDomain at hd
  simp only [List.all_eq_true, Bool.and_eq_true, decide_eq_true_eq, bne_iff_ne, ne_eq] at hd
  have hnf : ∀ b ∈ ((splitNetloc (splitScheme u).2).2.takeWhile (fun b => b != 35)), PathCh b := by
    intro b hb
    have h35 := lx_mem_takeWhile hb
    have hu := splitScheme_sub u b (splitNetloc_sub _ b ((List.takeWhile_sublist _).mem hb))
    have := hd b hu
    exact ⟨⟨this.1.1.1.1.1.1, this.1.1.1.1.1.2, this.1.1.1.1.2, this.1.1.1.2, this.1.1.2⟩, by simpa using h35⟩
  intro b hb
  unfold urlPath at hb
  simp only [List.mem_append] at hb
  rcases hb with hb | hb
  · split at hb
    · simp only [List.mem_singleton] at hb; subst hb; exact ⟨by decide, by decide⟩
    · exact hnf b ((List.takeWhile_sublist _).mem (dropParams_sub _ b hb))
  · split at hb
    · cases hb
    · simp only [List.mem_cons] at hb
      rcases hb with rfl | hb
      · exact ⟨by decide, by decide⟩
      · exact hnf b ((List.dropWhile_sublist _).mem ((List.drop_sublist _ _).mem hb))

theorem urlPath_ne_nil (u : Bytes) : urlPath u ≠ [] := by
  unfold urlPath
  simp only
  split <;> simp_all

theorem pathCh_facts : ∀ b : UInt8, PathCh b →
    isUSpace b = false ∧ (b == 91 || b == 93 || decide (128 ≤ b.toNat)) = false ∧ (b != 35) = true := by
  apply lx_forall_uint8
  unfold PathCh
  decide +kernel

theorem parseUrl_path (url : Bytes) (u : Url) (h : parseUrl url = .ok u) :
    u.path = urlPath url ∧ urlInDomain url = true := by
  unfold parseUrl at h
  split at h
  · cases h
  · next hdom =>
    simp only [Bool.or_eq_true, Bool.not_eq_true', not_or, Bool.not_eq_false] at hdom
    refine ⟨?_, hdom.1⟩
    simp only at h
    split at h
    · cases h
    · split at h
      · split at h
        · cases h
        · simp only [UrlRes.ok.injEq] at h
          rw [← h]
      · cases h

end Client
end Http
end CV
