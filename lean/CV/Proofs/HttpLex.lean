import CV.Model.HttpLex
import CV.Model.HttpSpec
import CV.Proofs.ListFacts
/-
The concrete HTTP lexers (CV/Model/HttpLex.lean; every lemma about them carries the prefix `lx_`, here and in
HttpLexRound.lean): list facts about `takeWhile` / `dropWhile` / `rstripP`, the digit readers, the chunk-size lexer
against the RFC reader `rfcChunkSize`.
-/
namespace CV
namespace Http

theorem lx_dropWhile_head {p : UInt8 → Bool} {l : Bytes} (h : ∀ b, l.head? = some b → p b = false) :
    l.dropWhile p = l := by
  cases l with
  | nil => rfl
  | cons a r => exact List.dropWhile_cons_of_neg (by simp [h a rfl])

theorem lx_takeWhile_all {p : UInt8 → Bool} {l : Bytes} (h : ∀ b ∈ l, p b = true) : l.takeWhile p = l :=
  takeWhile_all p l h

theorem lx_dropWhile_all {p : UInt8 → Bool} {l : Bytes} (h : ∀ b ∈ l, p b = true) : l.dropWhile p = [] :=
  dropWhile_all p l h

theorem lx_takeWhile_stop {p : UInt8 → Bool} {l : Bytes} {c : UInt8} {r : Bytes}
    (h : ∀ b ∈ l, p b = true) (hc : p c = false) : (l ++ c :: r).takeWhile p = l :=
  takeWhile_append_stop p l c r h hc

theorem lx_dropWhile_stop {p : UInt8 → Bool} {l : Bytes} {c : UInt8} {r : Bytes}
    (h : ∀ b ∈ l, p b = true) (hc : p c = false) : (l ++ c :: r).dropWhile p = c :: r :=
  dropWhile_append_stop p l c r h hc

theorem lx_mem_takeWhile {p : UInt8 → Bool} {l : Bytes} {b : UInt8} (h : b ∈ l.takeWhile p) : p b = true :=
  List.all_eq_true.mp List.all_takeWhile b h

theorem lx_rstripP_id {p : UInt8 → Bool} {l : Bytes} (h : ∀ b, l.getLast? = some b → p b = false) :
    rstripP p l = l := by
  unfold rstripP
  rw [lx_dropWhile_head (l := l.reverse)]
  · simp
  · intro b hb
    apply h
    simpa using hb

theorem lx_rstripP_append {p : UInt8 → Bool} {l w : Bytes} (hw : ∀ b ∈ w, p b = true)
    (h : ∀ b, l.getLast? = some b → p b = false) : rstripP p (l ++ w) = l := by
  unfold rstripP
  rw [List.reverse_append, List.dropWhile_append_of_pos (by simpa using hw)]
  exact lx_rstripP_id h

theorem lx_stripP_append {p : UInt8 → Bool} {l w : Bytes} (hw : ∀ b ∈ w, p b = true)
    (hh : ∀ b, l.head? = some b → p b = false) (hl : ∀ b, l.getLast? = some b → p b = false) :
    stripP p (l ++ w) = l := by
  unfold stripP
  cases l with
  | nil => rw [List.nil_append, lx_dropWhile_all hw]; rfl
  | cons a r =>
    rw [List.cons_append, List.dropWhile_cons_of_neg (by simp [hh a rfl]), ← List.cons_append]
    exact lx_rstripP_append hw hl

theorem lx_digVal_of_hexVal {b : UInt8} {v : Nat} (h : hexVal b = some v) : digVal b = some v ∧ v < 16 := by
  unfold hexVal at h
  unfold digVal
  dsimp only at h ⊢
  by_cases h1 : 48 ≤ b.toNat ∧ b.toNat ≤ 57
  · rw [if_pos h1] at h ⊢; cases h; exact ⟨rfl, by omega⟩
  rw [if_neg h1] at h ⊢
  by_cases h2 : 97 ≤ b.toNat ∧ b.toNat ≤ 102
  · rw [if_pos h2] at h; rw [if_pos ⟨h2.1, by omega⟩]; cases h; exact ⟨rfl, by omega⟩
  rw [if_neg h2] at h
  by_cases h3 : 65 ≤ b.toNat ∧ b.toNat ≤ 70
  · rw [if_pos h3] at h; rw [if_neg (by omega), if_pos ⟨h3.1, by omega⟩]; cases h; exact ⟨rfl, by omega⟩
  rw [if_neg h3] at h; cases h

theorem lx_hex_ne_underscore {b : UInt8} (h : (hexVal b).isSome = true) : b ≠ 95 := by
  intro e; subst e; revert h; decide

theorem lx_intBody_hex (ds : Bytes) (h : ∀ b ∈ ds, (hexVal b).isSome = true) (acc : Nat) (need : Bool)
    (hn : need = true → ds ≠ []) : intBody 16 acc need ds = hexNum acc ds := by
  induction ds generalizing acc need with
  | nil =>
    cases need
    · rfl
    · exact absurd rfl (hn rfl)
  | cons b r ih =>
    have hb := h b (by simp)
    cases hv : hexVal b with
    | none => simp [hv] at hb
    | some v =>
      obtain ⟨hd, hlt⟩ := lx_digVal_of_hexVal hv
      simp only [intBody, hexNum, hv, hd, if_neg (lx_hex_ne_underscore hb), if_pos hlt]
      exact ih (fun b hb => h b (List.mem_cons_of_mem _ hb)) _ false (fun h => nomatch h)

theorem lx_hexNum_isSome (ds : Bytes) (h : ∀ b ∈ ds, (hexVal b).isSome = true) (acc : Nat) :
    ∃ n, hexNum acc ds = some n := by
  induction ds generalizing acc with
  | nil => exact ⟨acc, rfl⟩
  | cons b r ih =>
    have hb := h b (by simp)
    cases hv : hexVal b with
    | none => simp [hv] at hb
    | some v =>
      simp only [hexNum, hv]
      exact ih (fun b hb => h b (List.mem_cons_of_mem _ hb)) _

/-- a hexadecimal digit is no sign, no `x`, no space, no `;` -/
theorem lx_hex_facts {b : UInt8} (h : (hexVal b).isSome = true) :
    b ≠ 43 ∧ b ≠ 45 ∧ b ≠ 120 ∧ b ≠ 88 ∧ b ≠ 59 ∧ isASpace b = false := by
  have key : 48 ≤ b.toNat := by
    unfold hexVal at h
    simp only at h
    split at h
    · omega
    · split at h
      · omega
      · split at h
        · omega
        · simp at h
  have h120 : (hexVal 120).isSome = false := by decide
  have h88 : (hexVal 88).isSome = false := by decide
  have h59 : (hexVal 59).isSome = false := by decide
  refine ⟨?_, ?_, ?_, ?_, ?_, ?_⟩
  · intro e; subst e; revert key; decide
  · intro e; subst e; revert key; decide
  · intro e; subst e; rw [h120] at h; cases h
  · intro e; subst e; rw [h88] at h; cases h
  · intro e; subst e; rw [h59] at h; cases h
  · unfold isASpace
    simp only
    have : ¬ b.toNat ≤ 13 := by omega
    have h32 : ¬ b.toNat = 32 := by omega
    simp [this, h32]

theorem lx_pyInt16_hex (ds : Bytes) (hne : ds ≠ []) (h : ∀ b ∈ ds, (hexVal b).isSome = true) :
    pyIntCore 16 ds = (hexNum 0 ds).map Int.ofNat := by
  cases ds with
  | nil => exact absurd rfl hne
  | cons b r =>
    obtain ⟨h43, h45, _, _, _, _⟩ := lx_hex_facts (h b (by simp))
    have hx : strip0x (b :: r) = b :: r := by
      unfold strip0x
      cases r with
      | nil => simp
      | cons c r' =>
        obtain ⟨_, _, h120, h88, _, _⟩ := lx_hex_facts (h c (by simp))
        simp [h120, h88]
    obtain ⟨n, hn⟩ := lx_hexNum_isSome (b :: r) h 0
    have hb := lx_intBody_hex (b :: r) h 0 true (fun _ => by simp)
    unfold pyIntCore
    simp [h43, h45, hx, hb, hn]

theorem lx_lexChunk_hex (ds w ext : Bytes) (hne : ds ≠ []) (h : ∀ b ∈ ds, (hexVal b).isSome = true)
    (hw : ∀ b ∈ w, isASpace b = true) (he : ext = [] ∨ ext.head? = some 59) :
    ∃ n, hexNum 0 ds = some n ∧ lexChunk (ds ++ w ++ ext) = .ok n := by
  obtain ⟨n, hn⟩ := lx_hexNum_isSome ds h 0
  refine ⟨n, hn, ?_⟩
  have hpre : (ds ++ w ++ ext).takeWhile (fun b => b != 59) = ds ++ w := by
    have hall : ∀ b ∈ ds ++ w, (b != 59) = true := by
      intro b hb
      rcases List.mem_append.mp hb with hb | hb
      · simpa using (lx_hex_facts (h b hb)).2.2.2.2.1
      · have := hw b hb
        have : b ≠ 59 := by intro e; subst e; revert this; decide
        simpa using this
    rcases he with rfl | he
    · simpa using lx_takeWhile_all hall
    · cases ext with
      | nil => simp at he
      | cons c r =>
        simp only [List.head?_cons, Option.some.injEq] at he
        subst he
        exact lx_takeWhile_stop hall (by decide)
  have hstrip : stripP isASpace (ds ++ w) = ds :=
    lx_stripP_append hw (fun b hb => (lx_hex_facts (h b (List.mem_of_mem_head? hb))).2.2.2.2.2)
      fun b hb => (lx_hex_facts (h b (List.mem_of_getLast? hb))).2.2.2.2.2
  unfold lexChunk
  rw [hpre, hstrip, lx_pyInt16_hex ds hne h, hn]
  simp

theorem lx_lexChunk_rfc (l : Bytes) (n : Nat) (hr : rfcChunkSize l = some n) : lexChunk l = .ok n := by
  unfold rfcChunkSize at hr
  simp only at hr
  split at hr
  · cases hr
  · rename_i hd
    split at hr
    · rename_i hrest
      let p : UInt8 → Bool := fun b => (hexVal b).isSome
      let q : UInt8 → Bool := fun b => b = 32 || b = 9
      have hsplit : l = l.takeWhile p ++ (l.dropWhile p).takeWhile q ++ (l.dropWhile p).dropWhile q := by
        rw [List.append_assoc, List.takeWhile_append_dropWhile, List.takeWhile_append_dropWhile]
      obtain ⟨m, hm, hl⟩ := lx_lexChunk_hex (l.takeWhile p) ((l.dropWhile p).takeWhile q) ((l.dropWhile p).dropWhile q)
        (by intro e; simp [p, e] at hd)
        (fun b hb => by have := lx_mem_takeWhile hb; simpa [p] using this)
        (fun b hb => by
          have := lx_mem_takeWhile hb
          simp only [q, Bool.or_eq_true, decide_eq_true_eq] at this
          rcases this with rfl | rfl <;> decide)
        (by
          simp only [Bool.or_eq_true, List.isEmpty_iff, decide_eq_true_eq] at hrest
          exact hrest)
      rw [← hsplit] at hl
      rw [hl]
      have : some m = some n := by rw [← hm]; exact hr
      cases this
      rfl
    · cases hr

theorem lx_request_no_status (l : Bytes) (f : FirstLine) (h : (lexFirst .request l).toOption = some f) :
    f.status = none := by
  unfold lexFirst at h
  simp only at h
  cases hl : lexRequestLine l with
  | unsupported => simp [hl, Lx.map, Lx.toOption] at h
  | invalid => simp [hl, Lx.map, Lx.toOption] at h
  | ok r =>
    simp only [hl, Lx.map, Lx.toOption, Option.some.injEq] at h
    subst h
    rfl

end Http
end CV
