import CV.Proofs.HttpLex
/-
Round-trip lemmas for the concrete HTTP lexers: a serialised request line, status line or header block (with or without
continuation lines) lexes back to what was serialised; what `infoOfFields` reads from a Content-Length of digits and from
a chunked Transfer-Encoding.
-/
namespace CV
namespace Http

theorem lx_pySplit_succ (n : Nat) (w rest : Bytes) (c : UInt8) (hw : w ≠ [])
    (hnw : ∀ b ∈ w, isUSpace b = false) (hc : isUSpace c = true) :
    pySplit (n + 1) (w ++ c :: rest) = w :: pySplit n (c :: rest) := by
  rw [pySplit]
  have h1 : (w ++ c :: rest).dropWhile isUSpace = w ++ c :: rest := by
    apply lx_dropWhile_head
    intro b hb
    cases w with
    | nil => exact absurd rfl hw
    | cons a r =>
      simp only [List.cons_append, List.head?_cons, Option.some.injEq] at hb
      subst hb
      exact hnw _ (by simp)
  have h2 : (w ++ c :: rest).isEmpty = false := List.isEmpty_eq_false_iff.mpr (by simp)
  have hp : ∀ b ∈ w, (fun b => !isUSpace b) b = true := by
    intro b hb; simp [hnw b hb]
  simp only [h1, h2, Bool.false_eq_true, if_false]
  rw [lx_takeWhile_stop hp (by simp [hc]), lx_dropWhile_stop hp (by simp [hc])]

theorem lx_pySplit_skip (n : Nat) (s : Bytes) (c : UInt8) (hc : isUSpace c = true) :
    pySplit n (c :: s) = pySplit n s := by
  cases n <;> simp [pySplit, List.dropWhile_cons_of_pos hc]

theorem lx_pySplit_last (v : Bytes) (c : UInt8) (hv : v ≠ []) (hc : isUSpace c = true)
    (hh : ∀ b, v.head? = some b → isUSpace b = false) : pySplit 0 (c :: v) = [v] := by
  rw [pySplit]
  have h1 : (c :: v).dropWhile isUSpace = v := by
    rw [List.dropWhile_cons_of_pos hc]
    exact lx_dropWhile_head hh
  have h2 : v.isEmpty = false := List.isEmpty_eq_false_iff.mpr hv
  simp only [h1, h2, Bool.false_eq_true, if_false]

theorem lx_lexVersion (d1 d2 : Bytes) (h1 : d1 ≠ []) (h2 : d2 ≠ [])
    (hd1 : ∀ b ∈ d1, isDigit b = true) (hd2 : ∀ b ∈ d2, isDigit b = true) :
    lexVersion (httpSlash ++ d1 ++ 46 :: d2) = some (decVal d1, decVal d2) := by
  unfold lexVersion
  have e1 : (httpSlash ++ d1 ++ 46 :: d2).take 5 = httpSlash := by simp [httpSlash]
  have e2 : (httpSlash ++ d1 ++ 46 :: d2).drop 5 = d1 ++ 46 :: d2 := by simp [httpSlash]
  have e3 : (d1 ++ 46 :: d2).getLast? ≠ some 10 := by
    intro e
    rw [show d1 ++ 46 :: d2 = (d1 ++ [46]) ++ d2 by simp, getLast?_append_of_ne_nil _ h2] at e
    exact absurd (hd2 _ (List.mem_of_getLast? e)) (by decide)
  have e4 : (d1 ++ 46 :: d2).takeWhile isDigit = d1 := lx_takeWhile_stop hd1 (by decide)
  have e5 : (d1 ++ 46 :: d2).dropWhile isDigit = 46 :: d2 := lx_dropWhile_stop hd1 (by decide)
  have e6 : d1.isEmpty = false := List.isEmpty_eq_false_iff.mpr h1
  have e7 : d2.isEmpty = false := List.isEmpty_eq_false_iff.mpr h2
  have e8 : d2.all isDigit = true := List.all_eq_true.mpr hd2
  simp only [e1, e2, ne_eq, not_true_eq_false, if_false, if_neg e3, e4, e5, e6, e7, e8]
  simp

theorem lx_method_char {b : UInt8} (h : isMethodCh b = true) : isUSpace b = false ∧ upperA b = b := by
  unfold isMethodCh at h
  simp only [Bool.and_eq_true, decide_eq_true_eq] at h
  constructor
  · unfold isUSpace
    simp only
    have a1 : ¬ b.toNat ≤ 13 := by omega
    have a2 : ¬ b.toNat ≤ 32 := by omega
    have a3 : ¬ b.toNat = 133 := by omega
    have a4 : ¬ b.toNat = 160 := by omega
    simp [a1, a2, a3, a4]
  · unfold upperA
    have : ¬ (97 ≤ b.toNat ∧ b.toNat ≤ 122) := by omega
    simp [this]

/-- the request line `METHOD SP target SP HTTP/ 1*DIGIT . 1*DIGIT` -/
def reqLineOf (m t d1 d2 : Bytes) : Bytes := m ++ 32 :: (t ++ 32 :: (httpSlash ++ d1 ++ 46 :: d2))

theorem lx_request_roundtrip (m t d1 d2 : Bytes)
    (hm : methodOk m = true) (ht : t ≠ []) (hts : ∀ b ∈ t, isUSpace b = false)
    (hfrag : hasFragment t = false) (hurl : urlRefused t = false)
    (h1 : d1 ≠ []) (h2 : d2 ≠ []) (hd1 : ∀ b ∈ d1, isDigit b = true) (hd2 : ∀ b ∈ d2, isDigit b = true)
    (href : lineRefused (reqLineOf m t d1 d2) = false) :
    lexRequestLine (reqLineOf m t d1 d2) = .ok ⟨m, t, decVal d1, decVal d2⟩ := by
  have hm' := hm
  unfold methodOk at hm'
  simp only [Bool.and_eq_true, decide_eq_true_eq, List.all_eq_true] at hm'
  obtain ⟨⟨hlen1, _⟩, hmc⟩ := hm'
  have hmne : m ≠ [] := by intro e; subst e; simp at hlen1
  have hsp : isUSpace 32 = true := by decide
  have hv : httpSlash ++ d1 ++ 46 :: d2 ≠ [] := by simp [httpSlash]
  have hvh : ∀ b, (httpSlash ++ d1 ++ 46 :: d2).head? = some b → isUSpace b = false := by
    intro b hb
    simp [httpSlash] at hb
    subst hb; decide
  have hsplit : pySplit 2 (reqLineOf m t d1 d2) = [m, t, httpSlash ++ d1 ++ 46 :: d2] := by
    unfold reqLineOf
    rw [lx_pySplit_succ 1 m _ 32 hmne (fun b hb => (lx_method_char (hmc b hb)).1) hsp,
      lx_pySplit_skip 1 _ 32 hsp, lx_pySplit_succ 0 t _ 32 ht hts hsp, lx_pySplit_last _ 32 hv hsp hvh]
  unfold lexRequestLine
  rw [href, hsplit]
  simp only [Bool.false_eq_true, if_false, hm, Bool.not_true, hurl, hfrag,
    lx_lexVersion d1 d2 h1 h2 hd1 hd2,
    (List.map_congr_left fun b hb => (lx_method_char (hmc b hb)).2).trans (List.map_id' m)]

theorem lx_forall_uint8 (P : UInt8 → Prop) (h : ∀ n, n < 256 → P (UInt8.ofNat n)) : ∀ b, P b := by
  intro b
  have := h b.toNat (UInt8.toNat_lt b)
  simpa using this

/-- RFC 7230 3.2.6 `tchar` -/
def isTchar (b : UInt8) : Bool :=
  let n := b.toNat
  (48 ≤ n && n ≤ 57) || (65 ≤ n && n ≤ 90) || (97 ≤ n && n ≤ 122) ||
  n == 33 || n == 35 || n == 36 || n == 37 || n == 38 || n == 39 || n == 42 || n == 43 || n == 45 ||
  n == 46 || n == 94 || n == 95 || n == 96 || n == 124 || n == 126

theorem lx_tchar_facts : ∀ b, isTchar b = true →
    (b != 58) = true ∧ b ≠ 13 ∧ b ≠ 92 ∧ isSpTab b = false ∧ hdrSpecial (upperA b) = false ∧
    decide (128 ≤ (upperA b).toNat) = false :=
  lx_forall_uint8 _ (by decide +kernel)

def fieldLine (f : Field) : Bytes := f.1 ++ 58 :: 32 :: f.2

/-- `name: value` lines joined by CRLF (the header block without the final CRLF CRLF) -/
def serFields : List Field → Bytes
  | [] => []
  | [f] => fieldLine f
  | f :: g :: fs => fieldLine f ++ 13 :: 10 :: serFields (g :: fs)

/-- a header field as RFC 7230 3.2 writes it: the name a token, the value without CR / LF / backslash
    and without leading (`FieldOk`: or trailing) whitespace (it may be empty and may contain blanks inside) -/
def FieldOk0 (f : Field) : Prop :=
  f.1 ≠ [] ∧ (∀ b ∈ f.1, isTchar b = true) ∧
  (∀ b ∈ f.2, b ≠ 13 ∧ b ≠ 10 ∧ b ≠ 92) ∧
  (∀ b, f.2.head? = some b → isUSpace b = false)

def FieldOk (f : Field) : Prop := FieldOk0 f ∧ (∀ b, f.2.getLast? = some b → isUSpace b = false)

/-- what the code stores for the field: the name upper-cased -/
def normField (f : Field) : Field := (f.1.map upperA, f.2)

theorem lx_splitCRLF_line (l rest : Bytes) (h : ∀ b ∈ l, b ≠ 13) :
    splitCRLF (l ++ 13 :: 10 :: rest) = l :: splitCRLF rest := by
  induction l with
  | nil => simp [splitCRLF]
  | cons a r ih =>
    have ha : a ≠ 13 := h a (by simp)
    have ih' := ih (fun b hb => h b (List.mem_cons_of_mem _ hb))
    cases r with
    | nil =>
      simp [splitCRLF, ha]
    | cons b r' =>
      simp only [List.cons_append] at ih' ⊢
      rw [splitCRLF]
      simp [ha, ih']

theorem lx_splitCRLF_last (l : Bytes) (h : ∀ b ∈ l, b ≠ 13) : splitCRLF l = [l] := by
  induction l with
  | nil => simp [splitCRLF]
  | cons a r ih =>
    have ha : a ≠ 13 := h a (by simp)
    have ih' := ih (fun b hb => h b (List.mem_cons_of_mem _ hb))
    cases r with
    | nil => simp [splitCRLF]
    | cons b r' =>
      rw [splitCRLF]
      simp [ha, ih']

/-- a field line holds neither CR nor backslash -/
theorem lx_fieldLine_no_cr_bs {f : Field} (hf : FieldOk0 f) : ∀ b ∈ fieldLine f, b ≠ 13 ∧ b ≠ 92 := by
  obtain ⟨_, hn, hv, _⟩ := hf
  intro b hb
  simp only [fieldLine, List.mem_append, List.mem_cons] at hb
  rcases hb with hb | rfl | rfl | hb
  · exact ⟨(lx_tchar_facts b (hn b hb)).2.1, (lx_tchar_facts b (hn b hb)).2.2.1⟩
  · decide
  · decide
  · exact ⟨(hv b hb).1, (hv b hb).2.2⟩

theorem lx_lexHeaderLine {f : Field} (hf : FieldOk0 f) : lexHeaderLine (fieldLine f) = .ok (normField f) := by
  obtain ⟨hne, hn, hv, hh⟩ := hf
  have hp : ∀ b ∈ f.1, (fun b => b != 58) b = true := fun b hb => (lx_tchar_facts b (hn b hb)).1
  have e0 : (fieldLine f).contains 58 = true := by simp [fieldLine]
  have e1 : (fieldLine f).takeWhile (fun b => b != 58) = f.1 := lx_takeWhile_stop hp (by decide)
  have e2 : (fieldLine f).dropWhile (fun b => b != 58) = 58 :: 32 :: f.2 := lx_dropWhile_stop hp (by decide)
  have e3 : rstripP isSpTab f.1 = f.1 := by
    apply lx_rstripP_id
    intro b hb
    exact (lx_tchar_facts b (hn b (List.mem_of_getLast? hb))).2.2.2.1
  have e4 : (f.1.map upperA).any (fun b => decide (128 ≤ b.toNat)) = false := by
    rw [List.any_eq_false]
    intro x hx
    obtain ⟨b, hb, rfl⟩ := List.mem_map.mp hx
    have := (lx_tchar_facts b (hn b hb)).2.2.2.2.2
    simpa using this
  have e5 : (f.1.map upperA).any hdrSpecial = false := by
    rw [List.any_eq_false]
    intro x hx
    obtain ⟨b, hb, rfl⟩ := List.mem_map.mp hx
    simp [(lx_tchar_facts b (hn b hb)).2.2.2.2.1]
  have e6 : (32 :: f.2).dropWhile isUSpace = f.2 := by
    rw [List.dropWhile_cons_of_pos (by decide)]
    exact lx_dropWhile_head hh
  unfold lexHeaderLine
  simp only [e0, e1, e2, e3, e4, e5, List.drop_succ_cons, List.drop_zero, e6, Bool.not_true,
    Bool.false_eq_true, if_false, normField]

theorem lx_startsSpTab {f : Field} (hf : FieldOk0 f) : startsSpTab (fieldLine f) = false := by
  obtain ⟨hne, hn, _, _⟩ := hf
  cases h : f.1 with
  | nil => exact absurd h hne
  | cons a r =>
    have := (lx_tchar_facts a (hn a (by simp [h]))).2.2.2.1
    simp [startsSpTab, fieldLine, h, this]

def joinCRLF : List Bytes → Bytes
  | [] => []
  | [l] => l
  | l :: m :: ls => l ++ 13 :: 10 :: joinCRLF (m :: ls)

/-- a header field followed by its continuation lines (obs-fold) -/
abbrev CField := Field × List Bytes

def cfieldLines (cf : CField) : List Bytes := fieldLine cf.1 :: cf.2

/-- what the code stores for it: name upper-cased, the continuation lines appended as they are
    (with their leading blank), the whole right-stripped -/
def foldedField (cf : CField) : Field := (cf.1.1.map upperA, rstripP isUSpace (cf.1.2 ++ cf.2.flatten))

def CFieldOk (cf : CField) : Prop :=
  FieldOk0 cf.1 ∧ ∀ c ∈ cf.2, startsSpTab c = true ∧ ∀ b ∈ c, b ≠ 13 ∧ b ≠ 10 ∧ b ≠ 92

theorem lx_splitCRLF_join (ls : List Bytes) (hne : ls ≠ []) (h : ∀ l ∈ ls, ∀ b ∈ l, b ≠ 13) :
    splitCRLF (joinCRLF ls) = ls := by
  induction ls with
  | nil => exact absurd rfl hne
  | cons l r ih =>
    cases r with
    | nil => simpa [joinCRLF] using lx_splitCRLF_last _ (h l (by simp))
    | cons m r' =>
      rw [joinCRLF, lx_splitCRLF_line _ _ (h l (by simp)),
        ih (by simp) (fun x hx => h x (List.mem_cons_of_mem _ hx))]

theorem lx_join_no_bs (ls : List Bytes) (h : ∀ l ∈ ls, ∀ b ∈ l, b ≠ 92) : ∀ b ∈ joinCRLF ls, b ≠ 92 := by
  induction ls with
  | nil => simp [joinCRLF]
  | cons l r ih =>
    cases r with
    | nil => simpa [joinCRLF] using h l (by simp)
    | cons m r' =>
      intro b hb
      rw [joinCRLF] at hb
      simp only [List.mem_append, List.mem_cons] at hb
      rcases hb with hb | rfl | rfl | hb
      · exact h l (by simp) b hb
      · decide
      · decide
      · exact ih (fun x hx => h x (List.mem_cons_of_mem _ hx)) b hb

theorem lx_lexLines_conts (cs rest : List Bytes) (n v : Bytes) (h : ∀ c ∈ cs, startsSpTab c = true) :
    lexLines (some (n, v)) (cs ++ rest) = lexLines (some (n, v ++ cs.flatten)) rest := by
  induction cs generalizing v with
  | nil => simp
  | cons c r ih =>
    rw [List.cons_append, lexLines, ih _ (fun x hx => h x (List.mem_cons_of_mem _ hx))]
    · simp [List.append_assoc]
    · exact h c (by simp)

theorem lx_lexLines_cfields (cfs : List CField) (hok : ∀ cf ∈ cfs, CFieldOk cf) (cur : Option Field) :
    lexLines cur (cfs.flatMap cfieldLines) = .ok (closeField cur ++ cfs.map foldedField) := by
  induction cfs generalizing cur with
  | nil => simp [lexLines]
  | cons cf r ih =>
    obtain ⟨hf, hc⟩ := hok cf (by simp)
    have ih' := ih (fun x hx => hok x (List.mem_cons_of_mem _ hx))
      (some ((normField cf.1).1, (normField cf.1).2 ++ cf.2.flatten))
    rw [List.flatMap_cons, cfieldLines, List.cons_append, lexLines]
    · simp only [lx_lexHeaderLine hf]
      rw [show normField cf.1 = ((normField cf.1).1, (normField cf.1).2) from rfl,
        lx_lexLines_conts cf.2 _ _ _ (fun c hcm => (hc c hcm).1), ih']
      simp [Lx.map, closeField, foldedField, normField]
    · intro n v _ h
      rw [lx_startsSpTab hf] at h
      cases h

theorem lx_hdrs_fold (cfs : List CField) (hne : cfs ≠ []) (hok : ∀ cf ∈ cfs, CFieldOk cf) :
    lexFieldList (joinCRLF (cfs.flatMap cfieldLines)) = .ok (cfs.map foldedField) := by
  have hlines : ∀ l ∈ cfs.flatMap cfieldLines, ∀ b ∈ l, b ≠ 13 ∧ b ≠ 92 := by
    intro l hl b hb
    obtain ⟨cf, hcf, hl⟩ := List.mem_flatMap.mp hl
    obtain ⟨hf, hc⟩ := hok cf hcf
    simp only [cfieldLines, List.mem_cons] at hl
    rcases hl with rfl | hl
    · exact lx_fieldLine_no_cr_bs hf b hb
    · exact ⟨((hc l hl).2 b hb).1, ((hc l hl).2 b hb).2.2⟩
  have hne' : cfs.flatMap cfieldLines ≠ [] := by
    cases cfs with
    | nil => exact absurd rfl hne
    | cons a r => simp [cfieldLines]
  have hb : (joinCRLF (cfs.flatMap cfieldLines)).contains 92 = false := by
    cases h : (joinCRLF (cfs.flatMap cfieldLines)).contains 92 with
    | false => rfl
    | true =>
      have := lx_join_no_bs _ (fun l hl b hb => (hlines l hl b hb).2) 92 (by simpa using h)
      exact absurd rfl this
  unfold lexFieldList
  rw [hb, lx_splitCRLF_join _ hne' (fun l hl b hb => (hlines l hl b hb).1), lx_lexLines_cfields cfs hok none]
  simp [closeField]

theorem serFields_eq_join (fs : List Field) :
    serFields fs = joinCRLF ((fs.map fun f => ((f, []) : CField)).flatMap cfieldLines) := by
  induction fs with
  | nil => rfl
  | cons f r ih =>
    cases r with
    | nil => simp [serFields, joinCRLF, cfieldLines]
    | cons g r' => rw [serFields, ih]; simp [joinCRLF, cfieldLines]

theorem lx_hdrs_roundtrip (fs : List Field) (hne : fs ≠ []) (hok : ∀ f ∈ fs, FieldOk f) :
    lexFieldList (serFields fs) = .ok (fs.map normField) := by
  rw [serFields_eq_join, lx_hdrs_fold _ (by simpa using hne), List.map_map]
  · congr 1
    apply List.map_congr_left
    intro f hf
    simp [foldedField, normField, lx_rstripP_id (hok f hf).2]
  · intro cf hcf
    obtain ⟨f, hf, rfl⟩ := List.mem_map.mp hcf
    exact ⟨(hok f hf).1, by simp⟩

theorem lx_digit_facts : ∀ b, isDigit b = true →
    digVal b = some (b.toNat - 48) ∧ b.toNat - 48 < 10 ∧ b ≠ 95 ∧ b ≠ 43 ∧ b ≠ 45 ∧ isIntSpace b = false :=
  lx_forall_uint8 _ (by decide +kernel)

theorem lx_intBody_dec (ds : Bytes) (h : ∀ b ∈ ds, isDigit b = true) (acc : Nat) :
    intBody 10 acc false ds = some (ds.foldl (fun acc b => acc * 10 + (b.toNat - 48)) acc) := by
  induction ds generalizing acc with
  | nil => simp [intBody]
  | cons b r ih =>
    obtain ⟨hd, hlt, h95, _⟩ := lx_digit_facts b (h b (by simp))
    simp only [intBody, hd, if_neg h95, if_pos hlt, List.foldl_cons]
    exact ih (fun b hb => h b (List.mem_cons_of_mem _ hb)) _

theorem lx_pyInt10_dec (ds : Bytes) (hne : ds ≠ []) (h : ∀ b ∈ ds, isDigit b = true) :
    pyIntCore 10 (stripP isIntSpace ds) = some (decVal ds : Int) := by
  have hs : stripP isIntSpace ds = ds := by
    unfold stripP
    rw [lx_dropWhile_head (fun b hb => (lx_digit_facts b (h b (List.mem_of_mem_head? hb))).2.2.2.2.2)]
    exact lx_rstripP_id (fun b hb => (lx_digit_facts b (h b (List.mem_of_getLast? hb))).2.2.2.2.2)
  rw [hs]
  cases ds with
  | nil => exact absurd rfl hne
  | cons b r =>
    obtain ⟨hd, hlt, h95, h43, h45, _⟩ := lx_digit_facts b (h b (by simp))
    have hb := lx_intBody_dec r (fun b hb => h b (List.mem_cons_of_mem _ hb)) (b.toNat - 48)
    unfold pyIntCore
    simp [h43, h45, intBody, hd, h95, hlt, hb, decVal]

theorem lx_clen_digits (gs : List Field) (ds : Bytes) (hg : hdrGet gs nContentLength = some ds)
    (hne : ds ≠ []) (h : ∀ b ∈ ds, isDigit b = true) (hlen : ds.length ≤ 4000) :
    ∃ hi, infoOfFields gs = .ok hi ∧ hi.clen = .val (decVal ds) := by
  unfold infoOfFields clenOfFields
  have : ¬ 4000 < ds.length := by omega
  simp only [hg, if_neg this, lx_pyInt10_dec ds hne h, Lx.map]
  exact ⟨_, rfl, rfl⟩

theorem lx_te_chunked (gs : List Field) (v : Bytes) (hc : hdrGet gs nContentLength = none)
    (ht : hdrGet gs nTransferEncoding = some v) (hv : v.map lowerA = sChunked) :
    ∃ hi, infoOfFields gs = .ok hi ∧ hi.clen = .absent ∧ hi.te = true := by
  unfold infoOfFields clenOfFields
  simp only [hc, ht, Lx.map, Option.getD_some, hv]
  exact ⟨_, rfl, rfl, by simp⟩

/-- the status line `HTTP/ 1*DIGIT . 1*DIGIT SP 3DIGIT SP reason` -/
def statusLineOf (d1 d2 code reason : Bytes) : Bytes :=
  (httpSlash ++ d1 ++ 46 :: d2) ++ 32 :: (code ++ 32 :: reason)

theorem lx_digit_not_space : ∀ b, isDigit b = true → isUSpace b = false :=
  lx_forall_uint8 _ (by decide +kernel)

theorem lx_version_nospace (d1 d2 : Bytes) (hd1 : ∀ b ∈ d1, isDigit b = true) (hd2 : ∀ b ∈ d2, isDigit b = true) :
    ∀ b ∈ httpSlash ++ d1 ++ 46 :: d2, isUSpace b = false := by
  intro b hb
  simp only [List.mem_append, List.mem_cons] at hb
  rcases hb with (hb | hb) | rfl | hb
  · simp only [httpSlash, List.mem_cons, List.not_mem_nil, or_false] at hb
    rcases hb with rfl | rfl | rfl | rfl | rfl <;> decide
  · exact lx_digit_not_space b (hd1 b hb)
  · decide
  · exact lx_digit_not_space b (hd2 b hb)

theorem lx_lexStatus (code reason : Bytes) (hc3 : code.length = 3) (hc : ∀ b ∈ code, isDigit b = true)
    (hr : ∀ b ∈ reason, (isUSpace b || isWord b) = true)
    (hrh : ∀ b, reason.head? = some b → isUSpace b = false) :
    lexStatus (code ++ 32 :: reason) = some (decVal code, reason) := by
  have hsp : isUSpace 32 = true := by decide
  have e1 : (code ++ 32 :: reason).take 3 = code := by rw [← hc3]; simp
  have e2 : (code ++ 32 :: reason).drop 3 = 32 :: reason := by rw [← hc3]; simp
  have e3 : code.all isDigit = true := List.all_eq_true.mpr hc
  have e4 : (32 :: reason).all (fun b => isUSpace b || isWord b) = true := by
    rw [List.all_cons, hsp, Bool.true_or, Bool.true_and]
    exact List.all_eq_true.mpr hr
  have e5 : (32 :: reason).dropWhile isUSpace = reason := by
    rw [List.dropWhile_cons_of_pos hsp]
    exact lx_dropWhile_head hrh
  unfold lexStatus
  simp only [e1, e2, hc3, e3, e4, e5, List.head?_cons, Option.map_some, hsp]
  simp

theorem lx_status_roundtrip (d1 d2 code reason : Bytes)
    (h1 : d1 ≠ []) (h2 : d2 ≠ []) (hd1 : ∀ b ∈ d1, isDigit b = true) (hd2 : ∀ b ∈ d2, isDigit b = true)
    (hc3 : code.length = 3) (hc : ∀ b ∈ code, isDigit b = true)
    (hr : ∀ b ∈ reason, (isUSpace b || isWord b) = true)
    (hrh : ∀ b, reason.head? = some b → isUSpace b = false)
    (href : lineRefused (statusLineOf d1 d2 code reason) = false) :
    lexStatusLine (statusLineOf d1 d2 code reason) = .ok ⟨decVal d1, decVal d2, decVal code, reason⟩ := by
  have hsp : isUSpace 32 = true := by decide
  have hch : ∀ b, (code ++ 32 :: reason).head? = some b → isUSpace b = false := by
    intro b hb
    cases code with
    | nil => simp at hc3
    | cons a r =>
      simp only [List.cons_append, List.head?_cons, Option.some.injEq] at hb
      exact hb ▸ lx_digit_not_space _ (hc _ (by simp))
  have hsplit : pySplit 1 (statusLineOf d1 d2 code reason) = [httpSlash ++ d1 ++ 46 :: d2, code ++ 32 :: reason] := by
    unfold statusLineOf
    rw [lx_pySplit_succ 0 _ _ 32 (by simp [httpSlash]) (lx_version_nospace d1 d2 hd1 hd2) hsp,
      lx_pySplit_last _ 32 (by simp) hsp hch]
  unfold lexStatusLine
  rw [href, hsplit]
  simp only [Bool.false_eq_true, if_false, lx_lexVersion d1 d2 h1 h2 hd1 hd2, lx_lexStatus code reason hc3 hc hr hrh]

end Http
end CV
