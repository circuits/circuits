import CV.Model.HttpParse
/-
Lemmas for C13 about the parser `exec`: `find` is stable under extension of the buffer; each phase is a homomorphism in
the bytes when the run on the whole is clean (`exec_hom`), so reads in segments end in the state of one-piece delivery
(`execAll_eq`).  Last the invariant behind C14's `lexed_consistent`: in every parser state reachable by `exec` the
recorded lexer verdicts (`fl`, `hi`) are the lexers' verdicts on exactly the recorded byte strings (`firstLine`,
`hdrBlock`), for every instantiation of the lexers.
-/
namespace CV
namespace Http

theorem find_bound {pat x : Bytes} {i : Nat} (h : find pat x = some i) : i + pat.length ≤ x.length := by
  induction x generalizing i with
  | nil => simp [find] at h
  | cons a r ih =>
    unfold find at h
    split at h
    · rename_i ht
      cases h
      have := congrArg List.length ht
      simp at this
      simp; omega
    · cases hr : find pat r with
      | none => simp [hr] at h
      | some j =>
        simp [hr] at h
        have := ih hr
        simp; omega

theorem find_append {pat x : Bytes} {i : Nat} (y : Bytes) (h : find pat x = some i) :
    find pat (x ++ y) = some i := by
  induction x generalizing i with
  | nil => simp [find] at h
  | cons a r ih =>
    unfold find at h
    rw [List.cons_append]
    unfold find
    split at h
    · rename_i ht
      cases h
      have hl := congrArg List.length ht
      simp at hl
      have : (a :: (r ++ y)).take pat.length = pat := by
        rw [← List.cons_append, List.take_append_of_le_length (by simp; omega)]
        exact ht
      simp [this]
    · rename_i hnt
      cases hr : find pat r with
      | none => simp [hr] at h
      | some j =>
        simp [hr] at h
        have hb := find_bound hr
        have : ¬ (a :: (r ++ y)).take pat.length = pat := by
          rw [← List.cons_append, List.take_append_of_le_length (by simp; omega)]
          exact hnt
        simp [this, ih hr, h]

theorem find_none_of_append {pat x y : Bytes} (h : find pat (x ++ y) = none) : find pat x = none := by
  cases hx : find pat x with
  | none => rfl
  | some i => rw [find_append y hx] at h; cases h

theorem find_stable {pat x : Bytes} {i : Nat} (n : Nat) (y : Bytes) (h : find pat x = some i)
    (hn : pat.length = n := by rfl) :
    find pat (x ++ y) = some i ∧ (x ++ y).take i = x.take i ∧ (x ++ y).drop (i + n) = x.drop (i + n) ++ y :=
  ⟨find_append y h, List.take_append_of_le_length (Nat.le_of_add_right_le (find_bound h)),
    List.drop_append_of_le_length (hn ▸ find_bound h)⟩

theorem trailersDone_append {d : Bytes} (y : Bytes) (h : trailersDone d = true) :
    trailersDone (d ++ y) = true ∧ trailerRest (d ++ y) = trailerRest d ++ y := by
  unfold trailersDone at h
  by_cases h2 : d.take 2 = CRLF
  · have hl : 2 ≤ d.length := by
      have := congrArg List.length h2
      simp [CRLF] at this; omega
    have h2' : (d ++ y).take 2 = CRLF := by rw [List.take_append_of_le_length hl]; exact h2
    simp [trailersDone, trailerRest, h2, h2', List.drop_append_of_le_length hl]
  · simp [h2] at h
    cases hf : find CRLF2 d with
    | none => simp [hf] at h
    | some i =>
      have hb := find_bound hf
      simp [CRLF2] at hb
      have h2' : ¬ (d ++ y).take 2 = CRLF := by rw [List.take_append_of_le_length (by omega)]; exact h2
      have hf' := find_append y hf
      simp [trailersDone, trailerRest, h2, h2', hf, hf', List.drop_append_of_le_length (show i + 4 ≤ d.length by omega)]

theorem chunkStep_size {lex : Lex} {x : Bytes} {idx n : Nat} (c : Core) (hf : find CRLF x = some idx)
    (hl : lex.chunk (x.take idx) = some n) :
    chunkStep lex c x =
      if n = 0 then
        if trailersDone (x.drop (idx + 2)) then
          .stop ⟨{ c with complete := true, over := c.over || !(trailerRest (x.drop (idx + 2))).isEmpty }, x⟩
        else .stop ⟨c, x⟩
      else if (x.drop (idx + 2)).length < n + 2 then .stop ⟨c, x⟩
      else .more { c with body := c.body ++ (x.drop (idx + 2)).take n } ((x.drop (idx + 2)).drop (n + 2)) := by
  simp only [chunkStep, hf, hl]

/-- the four ways a pass can go: wait, bad size line, last chunk, one chunk consumed -/
theorem chunkStep_spec (lex : Lex) (c : Core) (x : Bytes) :
    chunkStep lex c x = .stop ⟨c, x⟩ ∨
    (∃ idx, find CRLF x = some idx ∧ lex.chunk (x.take idx) = none ∧
      chunkStep lex c x = .stop ⟨{ c with errno := some 2 }, x⟩) ∨
    (∃ idx, find CRLF x = some idx ∧ lex.chunk (x.take idx) = some 0 ∧
      trailersDone (x.drop (idx + 2)) = true ∧
      chunkStep lex c x =
        .stop ⟨{ c with complete := true, over := c.over || !(trailerRest (x.drop (idx + 2))).isEmpty }, x⟩) ∨
    (∃ idx size, find CRLF x = some idx ∧ lex.chunk (x.take idx) = some size ∧ size ≠ 0 ∧
      size + 2 ≤ (x.drop (idx + 2)).length ∧
      chunkStep lex c x = .more { c with body := c.body ++ (x.drop (idx + 2)).take size }
        ((x.drop (idx + 2)).drop (size + 2))) := by
  cases hf : find CRLF x with
  | none => exact .inl (by simp only [chunkStep, hf])
  | some idx =>
    cases hl : lex.chunk (x.take idx) with
    | none => exact .inr (.inl ⟨idx, rfl, hl, by simp only [chunkStep, hf, hl]⟩)
    | some size =>
      rw [chunkStep_size c hf hl]
      by_cases hz : size = 0
      · subst hz
        by_cases ht : trailersDone (x.drop (idx + 2)) = true
        · exact .inr (.inr (.inl ⟨idx, rfl, hl, ht, by rw [if_pos rfl, if_pos ht]⟩))
        · exact .inl (by rw [if_pos rfl, if_neg ht])
      · by_cases hlen : (x.drop (idx + 2)).length < size + 2
        · exact .inl (by rw [if_neg hz, if_pos hlen])
        · exact .inr (.inr (.inr ⟨idx, size, rfl, hl, hz, Nat.le_of_not_lt hlen,
            by rw [if_neg hz, if_neg hlen]⟩))

/-- `chunkStep_spec` read from a `.stop` result: wait, bad size line, last chunk -/
theorem chunkStep_stop {lex : Lex} {c : Core} {x : Bytes} {p : PState} (h : chunkStep lex c x = .stop p) :
    p = ⟨c, x⟩ ∨
    (∃ idx, find CRLF x = some idx ∧ lex.chunk (x.take idx) = none ∧ p = ⟨{ c with errno := some 2 }, x⟩) ∨
    (∃ idx, find CRLF x = some idx ∧ lex.chunk (x.take idx) = some 0 ∧ trailersDone (x.drop (idx + 2)) = true ∧
      p = ⟨{ c with complete := true, over := c.over || !(trailerRest (x.drop (idx + 2))).isEmpty }, x⟩) := by
  rcases chunkStep_spec lex c x with e | ⟨i, hf, hl, e⟩ | ⟨i, hf, hl, ht, e⟩ | ⟨_, _, _, _, _, _, e⟩ <;>
    rw [e] at h <;> cases h
  · exact .inl rfl
  · exact .inr (.inl ⟨i, hf, hl, rfl⟩)
  · exact .inr (.inr ⟨i, hf, hl, ht, rfl⟩)

/-- and from a `.more` result: one chunk consumed -/
theorem chunkStep_more {lex : Lex} {c c' : Core} {x x' : Bytes} (h : chunkStep lex c x = .more c' x') :
    ∃ idx size, find CRLF x = some idx ∧ lex.chunk (x.take idx) = some size ∧ size ≠ 0 ∧
      size + 2 ≤ (x.drop (idx + 2)).length ∧ c' = { c with body := c.body ++ (x.drop (idx + 2)).take size } ∧
      x' = (x.drop (idx + 2)).drop (size + 2) := by
  rcases chunkStep_spec lex c x with e | ⟨_, _, _, e⟩ | ⟨_, _, _, _, e⟩ | ⟨i, n, hf, hl, hz, hlen, e⟩ <;>
    rw [e] at h <;> cases h
  exact ⟨i, n, hf, hl, hz, hlen, rfl, rfl⟩

theorem chunkLoop_stop {lex : Lex} {c : Core} {x : Bytes} {p : PState}
    (h : chunkStep lex c x = .stop p) : chunkLoop lex c x = p := by
  rw [chunkLoop]; split <;> simp_all

theorem chunkLoop_more {lex : Lex} {c c' : Core} {x x' : Bytes}
    (h : chunkStep lex c x = .more c' x') : chunkLoop lex c x = chunkLoop lex c' x' := by
  rw [chunkLoop]; split <;> simp_all

theorem chunkStep_more_append {lex : Lex} {c c' : Core} {x x' : Bytes} (b : Bytes)
    (h : chunkStep lex c x = .more c' x') : chunkStep lex c (x ++ b) = .more c' (x' ++ b) := by
  obtain ⟨idx, size, hf, hl, hz, hlen, rfl, rfl⟩ := chunkStep_more h
  obtain ⟨hf', ht, hd⟩ := find_stable 2 b hf
  rw [chunkStep_size c hf' (ht ▸ hl), if_neg hz, hd,
    if_neg (by rw [List.length_append]; omega), List.take_append_of_le_length (by omega),
    List.drop_append_of_le_length hlen]

theorem chunkStep_stop_append {lex : Lex} {c : Core} {x : Bytes} {p : PState} (b : Bytes) (hb : b ≠ [])
    (h : chunkStep lex c x = .stop p) :
    p = ⟨c, x⟩ ∨ ∃ p', chunkStep lex c (x ++ b) = .stop p' ∧ p'.core.bad = true := by
  rcases chunkStep_stop h with rfl | ⟨idx, hf, hl, rfl⟩ | ⟨idx, hf, hl, ht, rfl⟩
  · exact .inl rfl
  · obtain ⟨hf', ht, -⟩ := find_stable 2 b hf
    have e' : chunkStep lex c (x ++ b) = .stop ⟨{ c with errno := some 2 }, x ++ b⟩ := by
      simp only [chunkStep, hf', ht, hl]
    exact .inr ⟨_, e', by simp [Core.bad]⟩
  · obtain ⟨hf', ht', hd⟩ := find_stable 2 b hf
    have ⟨ht'', hr⟩ := trailersDone_append b ht
    have e' := chunkStep_size c hf' (ht' ▸ hl)
    rw [if_pos rfl, hd, if_pos ht''] at e'
    exact .inr ⟨_, e', by simp [Core.bad, hr, hb]⟩

/-- the part of the state that is fixed once the headers are complete -/
def Core.hdrPart (c : Core) :=
  (c.kind, c.onFirst, c.hdrDone, c.firstLine, c.fl, c.hdrBlock, c.hi, c.chunked, c.clen)

/-- the error flags persist from `c` to `c'` -/
def Raised (c c' : Core) : Prop :=
  (c.over = true → c'.over = true) ∧ (c.errno.isSome = true → c'.errno.isSome = true) ∧
  (c.exn = true → c'.exn = true)

theorem Raised.trans {a b c : Core} (h1 : Raised a b) (h2 : Raised b c) : Raised a c :=
  ⟨h2.1 ∘ h1.1, h2.2.1 ∘ h1.2.1, h2.2.2 ∘ h1.2.2⟩

theorem Raised.bad {c c' : Core} (r : Raised c c') (h : c.bad = true) : c'.bad = true := by
  simp only [Core.bad, Bool.or_eq_true] at h ⊢
  exact h.imp (Or.imp r.1 r.2.1) r.2.2

/-- `c'` is `c` after some body-phase work: header part untouched, error flags only raised -/
def Ext (c c' : Core) : Prop := c'.hdrPart = c.hdrPart ∧ Raised c c'

theorem Ext.refl (c : Core) : Ext c c := ⟨rfl, id, id, id⟩

section
variable {c c' : Core} (e : Ext c c')
include e
theorem Ext.kind : c'.kind = c.kind := congrArg (·.1) e.1
theorem Ext.onFirst : c'.onFirst = c.onFirst := congrArg (·.2.1) e.1
theorem Ext.hdrDone : c'.hdrDone = c.hdrDone := congrArg (·.2.2.1) e.1
theorem Ext.firstLine : c'.firstLine = c.firstLine := congrArg (·.2.2.2.1) e.1
theorem Ext.fl : c'.fl = c.fl := congrArg (·.2.2.2.2.1) e.1
theorem Ext.hdrBlock : c'.hdrBlock = c.hdrBlock := congrArg (·.2.2.2.2.2.1) e.1
theorem Ext.hi : c'.hi = c.hi := congrArg (·.2.2.2.2.2.2.1) e.1
theorem Ext.clen : c'.clen = c.clen := congrArg (·.2.2.2.2.2.2.2.2) e.1
theorem Ext.status : c'.status = c.status := by simp only [Core.status, e.fl]
end

theorem Ext.trans {a b c : Core} (h1 : Ext a b) (h2 : Ext b c) : Ext a c :=
  ⟨h2.1.trans h1.1, h1.2.trans h2.2⟩

theorem chunkLoop_ext (lex : Lex) (c : Core) (x : Bytes) : Ext c (chunkLoop lex c x).core := by
  fun_induction chunkLoop lex c x with
  | case1 c x p hs =>
    rcases chunkStep_stop hs with rfl | ⟨_, _, _, rfl⟩ | ⟨_, _, _, _, rfl⟩
    · exact Ext.refl c
    · exact ⟨rfl, id, fun _ => rfl, id⟩
    · exact ⟨rfl, fun h => by simp [h], id, id⟩
  | case2 c x c' x' hs ih =>
    obtain ⟨_, _, _, _, _, _, rfl, rfl⟩ := chunkStep_more hs
    exact Ext.trans ⟨rfl, id, id, id⟩ ih

theorem execBody_ext (lex : Lex) (c : Core) (x : Bytes) (nil : Bool) : Ext c (execBody lex c x nil).core := by
  unfold execBody
  extract_lets c1
  have hm : Ext c c1 := ⟨rfl, id, id, id⟩
  clear_value c1
  -- `split` is slow on this goal
  have ite {b : Prop} [Decidable b] {p q : PState} (hp : Ext c1 p.core) (hq : Ext c1 q.core) :
      Ext c1 (if b then p else q).core := by split <;> assumption
  refine hm.trans (ite ⟨rfl, id, id, id⟩ (ite (ite (ite ⟨rfl, id, id, id⟩ (Ext.refl c1)) ?_)
    (chunkLoop_ext lex c1 x)))
  cases c1.clenRest with
  | none => exact ⟨rfl, id, id, fun _ => rfl⟩
  | some r => exact ⟨rfl, fun h => by simp [h], id, id⟩

/-! `split` is slow on the phase functions; the case lemmas below are proved once and every fact about
a phase is a `refine ..._cases (P := ..)` with one goal per way the phase can go. -/

theorem exec_exn {lex : Lex} {s : PState} {d : Bytes} (hd : d ≠ []) (hx : s.core.exn = true) : exec lex s d = s := by
  simp only [exec, List.isEmpty_eq_false_iff.mpr hd, hx, if_true, Bool.false_eq_true, if_false]

theorem exec_first {lex : Lex} {s : PState} {d : Bytes} (hd : d ≠ []) (hx : s.core.exn = false) (h1 : s.core.onFirst = false) :
    exec lex s d = execFirst lex s.core (s.buf ++ d) := by
  simp only [exec, List.isEmpty_eq_false_iff.mpr hd, hx, h1, Bool.not_false, if_true,
    Bool.false_eq_true, if_false]

theorem exec_headers {lex : Lex} {s : PState} {d : Bytes} (hd : d ≠ []) (hx : s.core.exn = false) (h1 : s.core.onFirst = true)
    (h2 : s.core.hdrDone = false) : exec lex s d = execHeaders lex s.core (s.buf ++ d) := by
  simp only [exec, List.isEmpty_eq_false_iff.mpr hd, hx, h1, h2, Bool.not_false, Bool.not_true,
    if_true, Bool.false_eq_true, if_false]

theorem exec_body {lex : Lex} {s : PState} {d : Bytes} (hd : d ≠ []) (hx : s.core.exn = false) (h1 : s.core.onFirst = true)
    (h2 : s.core.hdrDone = true) (h3 : s.core.complete = false) :
    exec lex s d = execBody lex s.core (s.buf ++ d) false := by
  simp only [exec, List.isEmpty_eq_false_iff.mpr hd, hx, h1, h2, h3, Bool.not_false, Bool.not_true,
    if_true, Bool.false_eq_true, if_false]

theorem exec_done {lex : Lex} {s : PState} {d : Bytes} (hd : d ≠ []) (hx : s.core.exn = false) (h1 : s.core.onFirst = true)
    (h2 : s.core.hdrDone = true) (h3 : s.core.complete = true) :
    exec lex s d = ⟨{ s.core with over := true }, s.buf⟩ := by
  simp only [exec, List.isEmpty_eq_false_iff.mpr hd, hx, h1, h2, h3, Bool.not_true,
    Bool.false_eq_true, if_false]

theorem exec_cases {lex : Lex} {s : PState} {d : Bytes} {P : PState → Prop}
    (nil : d = [] → P ⟨{ s.core with complete := true }, s.buf⟩)
    (exn : d ≠ [] → s.core.exn = true → P s)
    (first : d ≠ [] → s.core.exn = false → s.core.onFirst = false →
      P (execFirst lex s.core (s.buf ++ d)))
    (hdrs : d ≠ [] → s.core.exn = false → s.core.onFirst = true → s.core.hdrDone = false →
      P (execHeaders lex s.core (s.buf ++ d)))
    (body : d ≠ [] → s.core.exn = false → s.core.onFirst = true → s.core.hdrDone = true →
      s.core.complete = false → P (execBody lex s.core (s.buf ++ d) false))
    (done : d ≠ [] → s.core.exn = false → s.core.onFirst = true → s.core.hdrDone = true →
      s.core.complete = true → P ⟨{ s.core with over := true }, s.buf⟩) :
    P (exec lex s d) := by
  by_cases hd : d = []
  · subst hd; exact nil rfl
  cases hx : s.core.exn with
  | true => rw [exec_exn hd hx]; exact exn hd hx
  | false =>
  cases h1 : s.core.onFirst with
  | false => rw [exec_first hd hx h1]; exact first hd hx h1
  | true =>
  cases h2 : s.core.hdrDone with
  | false => rw [exec_headers hd hx h1 h2]; exact hdrs hd hx h1 h2
  | true =>
  cases h3 : s.core.complete with
  | false => rw [exec_body hd hx h1 h2 h3]; exact body hd hx h1 h2 h3
  | true => rw [exec_done hd hx h1 h2 h3]; exact done hd hx h1 h2 h3

theorem execFirst_wait {lex : Lex} {x : Bytes} (c : Core) (hf : find CRLF x = none) :
    execFirst lex c x = ⟨c, x⟩ := by
  simp only [execFirst, hf]

theorem execFirst_bad {lex : Lex} {c : Core} {x : Bytes} {idx : Nat} (hf : find CRLF x = some idx)
    (hl : lex.first c.kind (x.take idx) = none) :
    execFirst lex c x =
      ⟨{ c with onFirst := true, firstLine := some (x.take idx), errno := some 0 }, x⟩ := by
  simp only [execFirst, hf, hl]

theorem execFirst_ok {lex : Lex} {c : Core} {x : Bytes} {idx : Nat} {f : FirstLine}
    (hf : find CRLF x = some idx) (hl : lex.first c.kind (x.take idx) = some f) :
    execFirst lex c x =
      execHeaders lex { c with onFirst := true, firstLine := some (x.take idx), fl := some f }
        (x.drop (idx + 2)) := by
  simp only [execFirst, hf, hl]

theorem execFirst_cases {lex : Lex} {c : Core} {x : Bytes} {P : PState → Prop}
    (wait : find CRLF x = none → P ⟨c, x⟩)
    (bad : ∀ idx, find CRLF x = some idx → lex.first c.kind (x.take idx) = none →
      P ⟨{ c with onFirst := true, firstLine := some (x.take idx), errno := some 0 }, x⟩)
    (ok : ∀ idx f, find CRLF x = some idx → lex.first c.kind (x.take idx) = some f →
      P (execHeaders lex { c with onFirst := true, firstLine := some (x.take idx), fl := some f }
        (x.drop (idx + 2)))) :
    P (execFirst lex c x) := by
  cases hf : find CRLF x with
  | none => rw [execFirst_wait c hf]; exact wait hf
  | some idx =>
    cases hl : lex.first c.kind (x.take idx) with
    | none => rw [execFirst_bad hf hl]; exact bad idx hf hl
    | some f => rw [execFirst_ok hf hl]; exact ok idx f hf hl

theorem execHeaders_crlf (lex : Lex) (c : Core) :
    execHeaders lex c CRLF = execBody lex { c with hdrDone := true, hi := some noHdrs } [] true := by
  simp only [execHeaders, if_true]

theorem execHeaders_wait {lex : Lex} {x : Bytes} (c : Core) (hx : x ≠ CRLF) (hf : find CRLF2 x = none) :
    execHeaders lex c x = ⟨{ c with over := c.over || decide (x.take 2 = CRLF) }, x⟩ := by
  simp only [execHeaders, if_neg hx, hf]

theorem execHeaders_bad {lex : Lex} {x : Bytes} {idx : Nat} (c : Core) (hx : x ≠ CRLF)
    (hf : find CRLF2 x = some idx) (hl : lex.hdrs (x.take idx) = none) :
    execHeaders lex c x =
      ⟨{ c with over := c.over || decide (x.take 2 = CRLF), hdrBlock := some (x.take idx),
                errno := some 1 }, x⟩ := by
  simp only [execHeaders, if_neg hx, hf, hl]

theorem execHeaders_ok {lex : Lex} {x : Bytes} {idx : Nat} {h : HdrInfo} (c : Core) (hx : x ≠ CRLF)
    (hf : find CRLF2 x = some idx) (hl : lex.hdrs (x.take idx) = some h) :
    execHeaders lex c x =
      execBody lex
        (let c := { c with over := c.over || decide (x.take 2 = CRLF), hdrBlock := some (x.take idx),
                           hdrDone := true, hi := some h }
         match h.clen with
         | .absent => { c with chunked := h.te, clenRest := if h.te then none else some maxsize }
         | .bad => c
         | .val n => { c with clen := some n, clenRest := some n })
        (x.drop (idx + 4)) false := by
  simp only [execHeaders, if_neg hx, hf, hl]
  rfl

theorem execHeaders_cases {lex : Lex} {c : Core} {x : Bytes} {P : PState → Prop}
    (empty : x = CRLF → P (execBody lex { c with hdrDone := true, hi := some noHdrs } [] true))
    (wait : x ≠ CRLF → find CRLF2 x = none →
      P ⟨{ c with over := c.over || decide (x.take 2 = CRLF) }, x⟩)
    (bad : x ≠ CRLF → ∀ idx, find CRLF2 x = some idx → lex.hdrs (x.take idx) = none →
      P ⟨{ c with over := c.over || decide (x.take 2 = CRLF), hdrBlock := some (x.take idx),
                  errno := some 1 }, x⟩)
    (ok : x ≠ CRLF → ∀ idx h, find CRLF2 x = some idx → lex.hdrs (x.take idx) = some h →
      P (execBody lex
        (let c := { c with over := c.over || decide (x.take 2 = CRLF), hdrBlock := some (x.take idx),
                           hdrDone := true, hi := some h }
         match h.clen with
         | .absent => { c with chunked := h.te, clenRest := if h.te then none else some maxsize }
         | .bad => c
         | .val n => { c with clen := some n, clenRest := some n })
        (x.drop (idx + 4)) false)) :
    P (execHeaders lex c x) := by
  by_cases hx : x = CRLF
  · rw [hx, execHeaders_crlf]; exact empty hx
  cases hf : find CRLF2 x with
  | none => rw [execHeaders_wait c hx hf]; exact wait hx hf
  | some idx =>
    cases hl : lex.hdrs (x.take idx) with
    | none => rw [execHeaders_bad c hx hf hl]; exact bad hx idx hf hl
    | some h => rw [execHeaders_ok c hx hf hl]; exact ok hx idx h hf hl

theorem execBody_raised {c0 : Core} (lex : Lex) (c : Core) (x : Bytes) (nil : Bool) (h : Raised c0 c) :
    Raised c0 (execBody lex c x nil).core :=
  h.trans (execBody_ext lex c x nil).2

theorem execHeaders_raised {c0 : Core} (lex : Lex) (c : Core) (x : Bytes) (h : Raised c0 c) :
    Raised c0 (execHeaders lex c x).core := by
  have ho : c0.over = true → (c.over || decide (x.take 2 = CRLF)) = true := fun h' => by simp [h.1 h']
  refine execHeaders_cases (P := fun p => Raised c0 p.core) (fun _ => execBody_raised lex _ _ _ h)
    (fun _ _ => ⟨ho, h.2⟩) (fun _ _ _ _ => ⟨ho, fun _ => rfl, h.2.2⟩) fun _ _ hi _ _ => ?_
  apply execBody_raised
  cases hi.clen <;> exact ⟨ho, h.2⟩

theorem exec_raised (lex : Lex) (s : PState) (d : Bytes) : Raised s.core (exec lex s d).core :=
  exec_cases (P := fun p => Raised s.core p.core) (fun _ => ⟨id, id, id⟩) (fun _ _ => ⟨id, id, id⟩)
    (fun _ _ _ => execFirst_cases (P := fun p => Raised s.core p.core) (fun _ => ⟨id, id, id⟩)
      (fun _ _ _ => ⟨id, fun _ => rfl, id⟩) fun _ _ _ _ => execHeaders_raised lex _ _ ⟨id, id, id⟩)
    (fun _ _ _ _ => execHeaders_raised lex _ _ ⟨id, id, id⟩)
    (fun _ _ _ _ _ => (execBody_ext lex _ _ _).2) (fun _ _ _ _ _ => ⟨fun _ => rfl, id, id⟩)

theorem clean_of_exec {lex : Lex} {s : PState} {d : Bytes} (h : (exec lex s d).core.bad = false) :
    s.core.bad = false :=
  Bool.eq_false_iff.2 fun hb => Bool.eq_false_iff.1 h ((exec_raised lex s d).bad hb)

theorem execBody_kind (lex : Lex) (c : Core) (x : Bytes) (nil : Bool) : (execBody lex c x nil).core.kind = c.kind :=
  (execBody_ext lex c x nil).kind

theorem execHeaders_kind (lex : Lex) (c : Core) (x : Bytes) : (execHeaders lex c x).core.kind = c.kind := by
  refine execHeaders_cases (P := fun p => p.core.kind = c.kind) (fun _ => execBody_kind ..) (fun _ _ => rfl)
    (fun _ _ _ _ => rfl) fun _ _ h _ _ => ?_
  rw [execBody_kind]
  cases h.clen <;> rfl

theorem exec_kind (lex : Lex) (s : PState) (d : Bytes) : (exec lex s d).core.kind = s.core.kind :=
  exec_cases (P := fun p => p.core.kind = s.core.kind) (fun _ => rfl) (fun _ _ => rfl)
    (fun _ _ _ => execFirst_cases (P := fun p => p.core.kind = s.core.kind) (fun _ => rfl)
      (fun _ _ _ => rfl) fun _ _ _ _ => execHeaders_kind ..)
    (fun _ _ _ _ => execHeaders_kind ..) (fun _ _ _ _ _ => execBody_kind ..) (fun _ _ _ _ _ => rfl)

theorem execAll_induct {lex : Lex} {P : PState → Prop} {segs : List Bytes}
    (h : ∀ s, ∀ d ∈ segs, P s → P (exec lex s d)) : ∀ s, P s → P (execAll lex s segs) := by
  induction segs with
  | nil => exact fun _ hs => hs
  | cons d r ih => exact fun s hs => ih (fun s x hx => h s x (.tail _ hx)) _ (h s d (.head _) hs)

theorem execAll_kind (lex : Lex) (segs : List Bytes) (s : PState) : (execAll lex s segs).core.kind = s.core.kind :=
  execAll_induct (P := fun p => p.core.kind = s.core.kind) (fun p d _ hp => (exec_kind lex p d).trans hp) s rfl

theorem execBody_chunked (lex : Lex) {c : Core} (x : Bytes) (hch : c.chunked = true) :
    execBody lex c x false = chunkLoop lex { c with msgBegin := true } x := by
  simp [execBody, hch]

/-- body phase, not chunked, on a buffer that counts as body: all of it is consumed -/
theorem execBody_len {lex : Lex} {c : Core} {y : Bytes} {r : Int} (hch : c.chunked = false)
    (hr : c.clenRest = some r) (hy : (y.isEmpty && c.clen.isNone) = false) :
    execBody lex c y false =
      ⟨{ c with msgBegin := true, clenRest := some (r - y.length), body := c.body ++ y,
                complete := decide (r - y.length ≤ 0),
                over := c.over || decide (r - y.length < 0) || (c.clen.isNone && c.status.isNone) }, []⟩ := by
  simp only [execBody, hch, hr, hy, Bool.and_false, Bool.false_eq_true, if_false, Bool.not_false, if_true,
    Core.status]

def InChunk (c : Core) : Prop :=
  c.onFirst = true ∧ c.hdrDone = true ∧ c.complete = false ∧ c.chunked = true ∧ c.msgBegin = true ∧ c.exn = false

theorem exec_wait_chunk {lex : Lex} {c : Core} (x : Bytes) {b : Bytes} (hc : InChunk c) (hb : b ≠ []) :
    exec lex ⟨c, x⟩ b = chunkLoop lex c (x ++ b) := by
  obtain ⟨h1, h2, h3, h4, h5, h6⟩ := hc
  rw [exec_body hb h6 h1 h2 h3, execBody_chunked lex _ h4]
  cases c
  cases h5
  rfl

theorem chunk_hom (lex : Lex) (c : Core) (x b : Bytes) (hc : InChunk c) (hb : b ≠ [])
    (hclean : (chunkLoop lex c (x ++ b)).core.bad = false) :
    exec lex (chunkLoop lex c x) b = chunkLoop lex c (x ++ b) := by
  fun_induction chunkLoop lex c x with
  | case1 c x p h =>
    rcases chunkStep_stop_append b hb h with rfl | ⟨p', hs, hbad⟩
    · exact exec_wait_chunk x hc hb
    · rw [chunkLoop_stop hs, hbad] at hclean
      cases hclean
  | case2 c x c' x' h ih =>
    have hs := chunkStep_more_append b h
    rw [chunkLoop_more hs] at hclean ⊢
    refine ih ?_ hclean
    obtain ⟨_, _, _, _, _, _, rfl, -⟩ := chunkStep_more h
    exact hc

def InBody (c : Core) : Prop :=
  c.onFirst = true ∧ c.hdrDone = true ∧ c.complete = false ∧ c.exn = false

theorem body_hom (lex : Lex) (c : Core) (x b : Bytes) (hc : InBody c) (hb : b ≠ [])
    (hclean : (execBody lex c (x ++ b) false).core.bad = false) :
    exec lex (execBody lex c x false) b = execBody lex c (x ++ b) false := by
  obtain ⟨h1, h2, h3, h6⟩ := hc
  have hxb : ((x ++ b).isEmpty && c.clen.isNone) = false := by
    rw [List.isEmpty_eq_false_iff.mpr (List.append_ne_nil_of_right_ne_nil x hb), Bool.false_and]
  cases hch : c.chunked with
  | true =>
    rw [execBody_chunked lex _ hch] at hclean ⊢
    rw [execBody_chunked lex _ hch]
    exact chunk_hom lex _ x b ⟨h1, h2, h3, hch, rfl, h6⟩ hb hclean
  | false =>
  cases hr : c.clenRest with
  | none =>
    have : (execBody lex c (x ++ b) false).core.exn = true := by
      simp [execBody, hch, hr, hxb, Core.status]
    simp [Core.bad, this] at hclean
  | some r =>
    -- the run is clean: the length is not exceeded, and a message without length is a response
    have hcl := hclean
    rw [execBody_len hch hr hxb] at hcl
    simp only [Core.bad, Core.status, Bool.or_eq_false_iff, decide_eq_false_iff_not, List.length_append,
      Int.natCast_add] at hcl
    obtain ⟨⟨⟨⟨hov, hlen⟩, hst⟩, _⟩, _⟩ := hcl
    have hblen : 0 < b.length := List.length_pos_iff.mpr hb
    by_cases hx : (x.isEmpty && c.clen.isNone) = true
    · -- nothing to read yet: the body phase waits
      rw [Bool.and_eq_true, List.isEmpty_iff] at hx
      obtain ⟨rfl, hcl⟩ := hx
      rw [hcl, Bool.true_and] at hst
      have e : execBody lex c [] false = ⟨{ c with msgBegin := true }, []⟩ := by
        simp [execBody, hch, hcl, hst, Core.status]
      rw [e, exec_body hb h6 h1 h2 h3]
      rfl
    · rw [Bool.not_eq_true] at hx
      rw [execBody_len hch hr hx, exec_body hb h6 h1 h2 (by simp; omega), execBody_len hch hr hxb]
      have hx0 : ¬ r - x.length < 0 := by omega
      -- both sides are the same record; the remaining lengths agree by `r - |x| - |b| = r - (|x| + |b|)`
      simp [execBody, hch, hb, hov, hst, Core.status, Int.sub_sub, hlen, hx0]

def InHeaders (c : Core) : Prop :=
  c.onFirst = true ∧ c.hdrDone = false ∧ c.complete = false ∧ c.exn = false

theorem execHeaders_over_of_crlf (lex : Lex) (c : Core) (x : Bytes) (hne : x ≠ CRLF) (h2 : x.take 2 = CRLF) :
    (execHeaders lex c x).core.over = true := by
  have ho : (c.over || decide (x.take 2 = CRLF)) = true := by simp [h2]
  refine execHeaders_cases (P := fun p => p.core.over = true) (fun h => absurd h hne) (fun _ _ => ho)
    (fun _ _ _ _ => ho) fun _ idx h _ _ => (execBody_ext lex _ _ _).2.1 ?_
  cases h.clen <;> exact ho

theorem headers_hom (lex : Lex) (c : Core) (x b : Bytes) (hc : InHeaders c) (hb : b ≠ [])
    (hclean : (execHeaders lex c (x ++ b)).core.bad = false) :
    exec lex (execHeaders lex c x) b = execHeaders lex c (x ++ b) := by
  have hne : 2 ≤ x.length → x ++ b ≠ CRLF := fun hl h => by
    have := congrArg List.length h
    have := List.length_pos_iff.mpr hb
    simp [CRLF] at *; omega
  -- a buffer that starts with CRLF and goes on is not a single message
  have h2 : ¬ x.take 2 = CRLF := fun h2 => by
    have hl : 2 ≤ x.length := by
      have := congrArg List.length h2
      simp [CRLF] at this; omega
    have := execHeaders_over_of_crlf lex c _ (hne hl) (by rw [List.take_append_of_le_length hl]; exact h2)
    simp [Core.bad, this] at hclean
  have hx : x ≠ CRLF := fun hx => h2 (by rw [hx]; rfl)
  obtain ⟨h1, hd, h3, h6⟩ := hc
  cases hf : find CRLF2 x with
  | none =>
    have e : execHeaders lex c x = ⟨c, x⟩ := by simp [execHeaders_wait c hx hf, h2]
    rw [e, exec_headers hb h6 h1 hd]
  | some idx =>
    -- the header block is complete in `x`: the same block is found in `x ++ b`, the body phase gets `b` as well
    have hbd : idx + 4 ≤ x.length := find_bound hf
    obtain ⟨hf', hti, hdr⟩ := find_stable 4 b hf
    cases hl : lex.hdrs (x.take idx) with
    | none =>
      rw [execHeaders_bad c (hne (by omega)) hf' (hti ▸ hl)] at hclean
      simp [Core.bad] at hclean
    | some h =>
      have e := execHeaders_ok c (hne (by omega)) hf' (hti ▸ hl)
      rw [hti, List.take_append_of_le_length (show 2 ≤ x.length by omega), hdr] at e
      rw [e] at hclean ⊢
      rw [execHeaders_ok c hx hf hl]
      refine body_hom _ _ _ _ ?_ hb hclean
      cases h.clen <;> exact ⟨h1, rfl, h3, h6⟩

def InFirst (c : Core) : Prop :=
  c.onFirst = false ∧ c.hdrDone = false ∧ c.complete = false ∧ c.exn = false

theorem first_hom (lex : Lex) (c : Core) (x b : Bytes) (hc : InFirst c) (hb : b ≠ [])
    (hclean : (execFirst lex c (x ++ b)).core.bad = false) :
    exec lex (execFirst lex c x) b = execFirst lex c (x ++ b) := by
  obtain ⟨h1, h2, h3, h6⟩ := hc
  cases hf : find CRLF x with
  | none => rw [execFirst_wait c hf, exec_first hb h6 h1]
  | some idx =>
    obtain ⟨hf', hti, hdr⟩ := find_stable 2 b hf
    cases hl : lex.first c.kind (x.take idx) with
    | none =>
      rw [execFirst_bad hf' (hti ▸ hl)] at hclean
      simp [Core.bad] at hclean
    | some f =>
      have e := execFirst_ok hf' (hti ▸ hl)
      rw [hti, hdr] at e
      rw [e] at hclean ⊢
      rw [execFirst_ok hf hl]
      exact headers_hom _ _ _ _ ⟨rfl, h2, h3, h6⟩ hb hclean

/-- consistency of the phase flags (holds of `init`, preserved by `exec`) -/
def WF (c : Core) : Prop :=
  (c.onFirst = false → c.hdrDone = false) ∧ (c.hdrDone = false → c.complete = false)

theorem exec_hom (lex : Lex) (s : PState) (a b : Bytes) (hwf : WF s.core) (ha : a ≠ []) (hb : b ≠ [])
    (hclean : (exec lex s (a ++ b)).core.bad = false) :
    exec lex (exec lex s a) b = exec lex s (a ++ b) := by
  have hab : a ++ b ≠ [] := List.append_ne_nil_of_left_ne_nil ha b
  obtain ⟨w1, w2⟩ := hwf
  cases hx : s.core.exn with
  | true =>
    rw [exec_exn hab hx] at hclean
    simp [Core.bad, hx] at hclean
  | false =>
  cases h1 : s.core.onFirst with
  | false =>
    rw [exec_first hab hx h1, ← List.append_assoc] at hclean ⊢
    rw [exec_first ha hx h1]
    exact first_hom _ _ _ _ ⟨h1, w1 h1, w2 (w1 h1), hx⟩ hb hclean
  | true =>
  cases h2 : s.core.hdrDone with
  | false =>
    rw [exec_headers hab hx h1 h2, ← List.append_assoc] at hclean ⊢
    rw [exec_headers ha hx h1 h2]
    exact headers_hom _ _ _ _ ⟨h1, h2, w2 h2, hx⟩ hb hclean
  | true =>
  cases h3 : s.core.complete with
  | false =>
    rw [exec_body hab hx h1 h2 h3, ← List.append_assoc] at hclean ⊢
    rw [exec_body ha hx h1 h2 h3]
    exact body_hom _ _ _ _ ⟨h1, h2, h3, hx⟩ hb hclean
  | true =>
    rw [exec_done hab hx h1 h2 h3] at hclean
    cases hclean

theorem wf_of_flags {c : Core} (a : c.onFirst = true) (b : c.hdrDone = true) : WF c :=
  ⟨fun h => by (rw [a] at h; cases h), fun h => by (rw [b] at h; cases h)⟩

theorem wf_of_first {c : Core} (a : c.onFirst = true) (b : c.hdrDone = false → c.complete = false) : WF c :=
  ⟨fun h => by (rw [a] at h; cases h), b⟩

theorem execBody_wf (lex : Lex) (c : Core) (y : Bytes) (n : Bool) (a : c.onFirst = true) (b : c.hdrDone = true) :
    WF (execBody lex c y n).core := by
  have e := execBody_ext lex c y n
  exact wf_of_flags (e.onFirst.trans a) (e.hdrDone.trans b)

theorem execHeaders_wf (lex : Lex) (c : Core) (x : Bytes) (h1 : c.onFirst = true)
    (h2 : c.hdrDone = false → c.complete = false) : WF (execHeaders lex c x).core := by
  refine execHeaders_cases (P := fun p => WF p.core) (fun _ => execBody_wf _ _ _ _ h1 rfl)
    (fun _ _ => wf_of_first h1 h2) (fun _ _ _ _ => wf_of_first h1 h2) fun _ _ h _ _ => ?_
  apply execBody_wf <;> cases h.clen <;> first | exact h1 | rfl

theorem exec_wf (lex : Lex) (s : PState) (d : Bytes) (hd : d ≠ []) (hwf : WF s.core) :
    WF (exec lex s d).core := by
  refine exec_cases (P := fun p => WF p.core) (fun h => absurd h hd) (fun _ _ => hwf) (fun _ _ h1 => ?_)
    (fun _ _ h1 _ => execHeaders_wf lex _ _ h1 hwf.2) (fun _ _ h1 h2 _ => execBody_wf _ _ _ _ h1 h2)
    (fun _ _ h1 h2 _ => wf_of_flags h1 h2)
  have hc : s.core.complete = false := hwf.2 (hwf.1 h1)
  exact execFirst_cases (P := fun p => WF p.core) (fun _ => hwf) (fun _ _ _ => wf_of_first rfl fun _ => hc)
    fun _ _ _ _ => execHeaders_wf lex _ _ rfl fun _ => hc

theorem execAll_exec (lex : Lex) (segs : List Bytes) (r : Bytes) (hne : ∀ d ∈ segs, d ≠ []) (hr : r ≠ []) :
    ∀ s : PState, WF s.core → (exec lex s (segs.flatten ++ r)).core.bad = false →
      exec lex (execAll lex s segs) r = exec lex s (segs.flatten ++ r) := by
  induction segs with
  | nil => exact fun _ _ _ => rfl
  | cons a rest ih =>
    intro s hwf hclean
    have ha : a ≠ [] := hne a (.head _)
    rw [List.flatten_cons, List.append_assoc] at hclean ⊢
    have hom := exec_hom lex s a _ hwf ha (List.append_ne_nil_of_right_ne_nil _ hr) hclean
    rw [← hom] at hclean ⊢
    exact ih (fun d hd => hne d (.tail _ hd)) _ (exec_wf lex s a ha hwf) hclean

theorem execAll_take (lex : Lex) (s : PState) (segs : List Bytes) (k : Nat) (hwf : WF s.core)
    (hne : ∀ d ∈ segs, d ≠ []) (hk : k < segs.length) (hclean : (exec lex s segs.flatten).core.bad = false) :
    (segs.drop k).flatten ≠ [] ∧
      exec lex (execAll lex s (segs.take k)) (segs.drop k).flatten = exec lex s segs.flatten := by
  have hR : (segs.drop k).flatten ≠ [] := by
    cases h : segs.drop k with
    | nil => have := List.drop_eq_nil_iff.1 h; omega
    | cons d r =>
      intro e
      exact hne d (List.mem_of_mem_drop (h ▸ List.mem_cons_self : d ∈ segs.drop k)) (List.append_eq_nil_iff.1 e).1
  have e : (segs.take k).flatten ++ (segs.drop k).flatten = segs.flatten := by
    rw [← List.flatten_append, List.take_append_drop]
  refine ⟨hR, ?_⟩
  rw [execAll_exec lex _ _ (fun d hd => hne d (List.mem_of_mem_take hd)) hR s hwf (e ▸ hclean), e]

theorem execAll_concat (lex : Lex) (segs : List Bytes) (d : Bytes) :
    ∀ s : PState, execAll lex s (segs ++ [d]) = exec lex (execAll lex s segs) d := by
  induction segs with
  | nil => exact fun _ => rfl
  | cons a rest ih => exact fun s => ih _

theorem execAll_eq (lex : Lex) (s : PState) (segs : List Bytes) (hwf : WF s.core)
    (hne : ∀ d ∈ segs, d ≠ []) (hs : segs ≠ [])
    (hclean : (exec lex s segs.flatten).core.bad = false) :
    execAll lex s segs = exec lex s segs.flatten := by
  rw [← List.dropLast_concat_getLast hs] at hne hclean ⊢
  rw [List.flatten_append, List.flatten_singleton] at hclean ⊢
  rw [execAll_concat]
  exact execAll_exec lex _ _ (fun x hx => hne x (by simp [hx])) (hne _ (by simp)) s hwf hclean

/-- the recorded verdicts are the lexers' verdicts on the recorded bytes (+ two auxiliary clauses that
    make it inductive: a header block recorded before the headers are complete is still in the buffer,
    and nothing is recorded before the first line is complete) -/
structure Lexed (lex : Lex) (p : PState) : Prop where
  first : ∀ f, p.core.fl = some f → ∃ l, p.core.firstLine = some l ∧ lex.first p.core.kind l = some f
  hdrs : p.core.hdrDone = true →
    p.core.hi = (match p.core.hdrBlock with | some b => lex.hdrs b | none => some noHdrs)
  pending : p.core.hdrDone = false → ∀ b, p.core.hdrBlock = some b → ∃ i, find CRLF2 p.buf = some i
  fresh : p.core.onFirst = false → p.core.fl = none ∧ p.core.hdrDone = false ∧ p.core.hdrBlock = none

theorem lexed_init (lex : Lex) (k : Kind) : Lexed lex (init k) :=
  ⟨fun f h => by simp [init] at h, fun h => by simp [init] at h, fun _ b h => by simp [init] at h,
   fun _ => ⟨rfl, rfl, rfl⟩⟩

theorem lexed_of_ext {lex : Lex} {c : Core} {p' : PState} (e : Ext c p'.core)
    (ho : c.onFirst = true) (hd : c.hdrDone = true)
    (h1 : ∀ f, c.fl = some f → ∃ l, c.firstLine = some l ∧ lex.first c.kind l = some f)
    (h2 : c.hi = (match c.hdrBlock with | some b => lex.hdrs b | none => some noHdrs)) :
    Lexed lex p' := by
  refine ⟨?_, ?_, ?_, ?_⟩
  · intro f hf
    rw [e.fl] at hf
    rw [e.firstLine, e.kind]
    exact h1 f hf
  · intro _
    rw [e.hi, e.hdrBlock]
    exact h2
  · intro h
    rw [e.hdrDone, hd] at h
    cases h
  · intro h
    rw [e.onFirst, ho] at h
    cases h

theorem lexed_execHeaders (lex : Lex) (c : Core) (x : Bytes) (ho : c.onFirst = true) (hd : c.hdrDone = false)
    (h1 : ∀ f, c.fl = some f → ∃ l, c.firstLine = some l ∧ lex.first c.kind l = some f)
    (hp : ∀ b, c.hdrBlock = some b → ∃ i, find CRLF2 x = some i) :
    Lexed lex (execHeaders lex c x) := by
  have hf : ∀ {P : Prop}, c.onFirst = false → P := fun h => (nomatch ho.symm.trans h)
  have hh : ∀ {P : Prop}, c.hdrDone = true → P := fun h => (nomatch hd.symm.trans h)
  refine execHeaders_cases (P := Lexed lex) (fun hx => ?_) (fun _ _ => ⟨h1, hh, fun _ => hp, hf⟩)
    (fun _ idx hfind _ => ⟨h1, hh, fun _ _ _ => ⟨idx, hfind⟩, hf⟩) fun _ idx h _ hl => ?_
  · have hnone : c.hdrBlock = none := by
      cases hb : c.hdrBlock with
      | none => rfl
      | some b =>
        obtain ⟨i, hi⟩ := hp b hb
        have := find_bound hi
        rw [hx] at this
        simp [CRLF, CRLF2] at this
    exact lexed_of_ext (execBody_ext lex _ [] true) ho rfl h1 (by simp [hnone])
  · apply lexed_of_ext (execBody_ext lex _ _ false)
    · cases h.clen <;> exact ho
    · cases h.clen <;> rfl
    · cases h.clen <;> exact h1
    · cases h.clen <;> simp [hl]

theorem lexed_exec (lex : Lex) (s : PState) (d : Bytes) (h : Lexed lex s) : Lexed lex (exec lex s d) := by
  refine exec_cases (P := Lexed lex) (fun _ => ⟨h.first, h.hdrs, h.pending, h.fresh⟩) (fun _ _ => h)
    (fun _ _ hf => ?_) (fun _ _ hf hh => ?_)
    (fun _ _ hf hh _ => lexed_of_ext (execBody_ext lex _ _ false) hf hh h.first (h.hdrs hh))
    (fun _ _ hf hh _ => ⟨h.first, fun _ => h.hdrs hh, fun hd => (nomatch hh.symm.trans hd),
      fun ho => (nomatch hf.symm.trans ho)⟩)
  · obtain ⟨f1, f2, f3⟩ := h.fresh hf
    have hb : ∀ {P : Prop} {b}, s.core.hdrBlock = some b → P := fun hb => (nomatch f3.symm.trans hb)
    refine execFirst_cases (P := Lexed lex) (fun _ => ⟨h.first, h.hdrs, fun _ _ => hb, fun _ => ⟨f1, f2, f3⟩⟩)
      (fun _ _ _ => ?_) fun idx f _ hfl => ?_
    · exact ⟨fun f hf' => (nomatch f1.symm.trans hf'), fun hh => (nomatch f2.symm.trans hh),
        fun _ _ => hb, fun hh => (nomatch hh)⟩
    · refine lexed_execHeaders lex _ _ rfl f2 ?_ (fun _ => hb)
      intro f' hf'
      cases hf'
      exact ⟨_, rfl, hfl⟩
  · refine lexed_execHeaders lex _ _ hf hh h.first fun b hb => ?_
    obtain ⟨i, hi⟩ := h.pending hh b hb
    exact ⟨i, find_append d hi⟩

theorem lexed_execAll (lex : Lex) (segs : List Bytes) : ∀ s, Lexed lex s → Lexed lex (execAll lex s segs) :=
  execAll_induct fun s d _ => lexed_exec lex s d

end Http
end CV
