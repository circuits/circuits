import CV.Model.HttpResp
import CV.Model.HttpRespSpec
import CV.Proofs.ListFacts
/-
Lemmas and specification-side definitions for C15: numbers as text, line splitting, the chunked coding against `decodeChunks`,
what `respond` writes (`respond_eq`), `prepare`'s framing decisions and how the RFC reader reads them back from the headers,
successive requests on one connection.
-/
namespace CV
namespace HttpResp
open CV.HttpSpec

theorem digitVal_digitByte : ∀ d, d < 16 → digitVal (digitByte d) = some d := by decide

theorem digitByte_ne_LF : ∀ d, d < 16 → digitByte d ≠ 10 := by decide

theorem digitsRev_lt (b : Nat) (hb : 0 < b) : ∀ f n d, d ∈ digitsRev b f n → d < b := by
  intro f
  induction f with
  | zero => intro n d h; simp [digitsRev] at h
  | succ f ih =>
    intro n d h
    unfold digitsRev at h
    split at h
    · simp at h; omega
    · simp at h
      rcases h with h | h
      · subst h; exact Nat.mod_lt _ hb
      · exact ih _ _ h

theorem digitsRev_ne_nil (b f n : Nat) : digitsRev b (f + 1) n ≠ [] := by
  unfold digitsRev; split <;> simp

theorem foldr_digitsRev (b : Nat) (hb : 2 ≤ b) :
    ∀ f n, n < f → (digitsRev b f n).foldr (fun d a => a * b + d) 0 = n := by
  intro f
  induction f with
  | zero => intro n h; omega
  | succ f ih =>
    intro n h
    unfold digitsRev
    split
    · simp
    · rename_i hn
      have hlt : n / b < f := by
        have : n / b < n := Nat.div_lt_self (by omega) (by omega)
        omega
      simp only [List.foldr_cons, ih _ hlt]
      have := Nat.div_add_mod n b
      rw [Nat.mul_comm] at this
      exact this

theorem parseDigits_map (b : Nat) (hb : b ≤ 16) :
    ∀ (ds : List Nat) (acc : Nat), (∀ d ∈ ds, d < b) →
      parseDigits b (ds.map digitByte) acc = some (ds.foldl (fun a d => a * b + d) acc) := by
  intro ds
  induction ds with
  | nil => intro acc _; simp [parseDigits]
  | cons d ds ih =>
    intro acc h
    have hd : d < b := h d (by simp)
    simp only [List.map_cons, parseDigits, digitVal_digitByte d (by omega), hd, if_true, List.foldl_cons]
    exact ih _ (fun x hx => h x (by simp [hx]))

theorem digits_lt (b n : Nat) (hb : 0 < b) : ∀ d ∈ digits b n, d < b := by
  intro d h
  unfold digits at h
  rw [List.mem_reverse] at h
  exact digitsRev_lt b hb _ _ _ h

theorem parseNat_natBytes (b n : Nat) (hb : 2 ≤ b) (hb' : b ≤ 16) :
    parseNat b (natBytes b n) = some n := by
  unfold parseNat natBytes
  have hne : (List.map digitByte (digits b n)).isEmpty = false := by
    unfold digits
    have := digitsRev_ne_nil b n n
    cases h : digitsRev b (n + 1) n with
    | nil => exact absurd h this
    | cons x xs => simp
  rw [hne]
  simp only [Bool.false_eq_true, if_false]
  rw [parseDigits_map b hb' _ _ (digits_lt b n (by omega))]
  unfold digits
  rw [List.foldl_reverse]
  congr 1
  exact foldr_digitsRev b hb _ _ (by omega)

theorem natBytes_digit (b n : Nat) (hb : 0 < b) (hb' : b ≤ 16) :
    ∀ c ∈ natBytes b n, ∃ d, d < 16 ∧ c = digitByte d := by
  intro c h
  unfold natBytes at h
  rw [List.mem_map] at h
  obtain ⟨d, hd, rfl⟩ := h
  exact ⟨d, by have := digits_lt b n hb d hd; omega, rfl⟩

theorem splitLine_append : ∀ (l rest : Bytes), (∀ c ∈ l, c ≠ 10) →
    splitLine (l ++ 13 :: 10 :: rest) = some (l, rest) := by
  intro l
  induction l with
  | nil => intro rest _; simp [splitLine]
  | cons a l ih =>
    intro rest h
    have hl : ∀ c ∈ l, c ≠ 10 := fun c hc => h c (by simp [hc])
    cases l with
    | nil =>
      have ih' := ih rest hl
      simp only [List.nil_append] at ih'
      simp only [List.cons_append, List.nil_append]
      unfold splitLine
      have : ((13 : UInt8) == 10) = false := by decide
      simp [this, ih']
    | cons b l' =>
      have hb : b ≠ 10 := h b (by simp)
      have ih' := ih rest hl
      simp only [List.cons_append] at ih' ⊢
      unfold splitLine
      have : (b == 10) = false := by simp [hb]
      simp [this, ih']

theorem natBytes_noLF (b n : Nat) (hb : 0 < b) (hb' : b ≤ 16) : ∀ c ∈ natBytes b n, c ≠ 10 := by
  intro c h
  obtain ⟨d, hd, rfl⟩ := natBytes_digit b n hb hb' c h
  exact digitByte_ne_LF d hd

theorem chunkSize_hexBytes (n : Nat) : chunkSize (hexBytes n) = some n := by
  have hall : ∀ c ∈ hexBytes n, (digitVal c).isSome = true := by
    intro c h
    obtain ⟨d, hd, rfl⟩ := natBytes_digit 16 n (by omega) (by omega) c h
    simp [digitVal_digitByte d hd]
  unfold chunkSize
  simp only [takeWhile_all _ _ hall, dropWhile_all _ _ hall]
  exact parseNat_natBytes 16 n (by omega) (by omega)

theorem chunk_shape (q : Bytes) (tail : Bytes) :
    chunk q ++ tail = hexBytes q.length ++ 13 :: 10 :: (q ++ 13 :: 10 :: tail) := by
  simp [chunk, CRLF, List.append_assoc]

/-- what a reader finds at one non-empty chunk: the size line, then (`rest`) the data, CR LF and what follows -/
theorem chunk_read (q tail : Bytes) (hq : q ≠ []) :
    ∃ k rest, q.length = k + 1 ∧ splitLine (chunk q ++ tail) = some (hexBytes q.length, rest) ∧
      ¬ rest.length < k + 1 + 2 ∧ (rest.drop (k + 1)).take 2 = [13, 10] ∧ rest.take (k + 1) = q ∧
      rest.drop (k + 1 + 2) = tail := by
  obtain ⟨k, hk⟩ : ∃ k, q.length = k + 1 := ⟨q.length - 1, by have := List.length_pos_iff.mpr hq; omega⟩
  refine ⟨k, q ++ 13 :: 10 :: tail, hk, ?_, ?_, ?_, ?_, ?_⟩
  · rw [chunk_shape]
    exact splitLine_append _ _ (natBytes_noLF 16 _ (by omega) (by omega))
  · rw [← hk]; simp
  · rw [← hk]; simp
  · rw [← hk]; simp
  · rw [← hk, ← List.drop_drop]; simp

theorem decodeChunks_chunk (f : Nat) (q tail : Bytes) (hq : q ≠ []) :
    decodeChunks (f + 1) (chunk q ++ tail) =
      match decodeChunks f tail with
      | some (d, r) => some (q ++ d, r)
      | none => none := by
  obtain ⟨k, rest, hk, hs, hl, h2, ht, hd⟩ := chunk_read q tail hq
  rw [decodeChunks, hs]
  simp only [chunkSize_hexBytes, hk, hl, if_false, h2, ht, hd, beq_self_eq_true, if_true]
  rfl

theorem decodeChunks_chunked : ∀ (qs : List Bytes) (f : Nat) (rest : Bytes),
    (∀ q ∈ qs, q ≠ []) → qs.length < f →
    decodeChunks f (qs.flatMap chunk ++ sTerminator ++ rest) = some (qs.flatten, rest) := by
  intro qs
  induction qs with
  | nil =>
    intro f rest _ hf
    obtain ⟨f, rfl⟩ : ∃ f', f = f' + 1 := ⟨f - 1, by simp at hf; omega⟩
    show decodeChunks (f + 1) ([48] ++ 13 :: 10 :: ([] ++ 13 :: 10 :: rest)) = _
    have h0 : chunkSize [48] = some 0 := by decide
    rw [decodeChunks, splitLine_append [48] _ (by decide)]
    simp only [h0, splitLine_append [] rest (by simp)]
    rfl
  | cons q qs ih =>
    intro f rest hne hf
    obtain ⟨f, rfl⟩ : ∃ f', f = f' + 1 := ⟨f - 1, by simp at hf; omega⟩
    have e : (q :: qs).flatMap chunk ++ sTerminator ++ rest = chunk q ++ (qs.flatMap chunk ++ sTerminator ++ rest) := by
      simp [List.append_assoc]
    rw [e, decodeChunks_chunk f q _ (hne q (by simp)),
      ih f rest (fun x hx => hne x (by simp [hx])) (by simp at hf; omega)]
    rfl

theorem length_le_flatMap_chunk : ∀ qs : List Bytes, qs.length ≤ (qs.flatMap chunk).length := by
  intro qs
  induction qs with
  | nil => simp
  | cons q qs ih => simp [List.flatMap_cons, chunk, CRLF] at ih ⊢; omega

/-- the framing information `prepare` puts into the header block, as the RFC reader sees it -/
def framing (p : Prep) : Framing := { clen := p.clen, chunked := p.chunked, conn := p.conn }

/-- bytes written after the header block -/
def bodyBytes (rq : Req) (r : Resp) : Bytes := bytesOf (bodyActs rq r (prepare rq r))

/-- what the client must recover as the body -/
def expectedBody (rq : Req) (r : Resp) : Bytes :=
  if rq.isHead || bodylessStatus r.status then [] else r.body.parts.flatten

/-- the response is delimited by the end of the connection -/
def untilClose (rq : Req) (r : Resp) : Bool :=
  !(rq.isHead || bodylessStatus r.status) && !(prepare rq r).chunked && (prepare rq r).clen.isNone

def piecesOf (body : Bytes) : List Bytes := if body.isEmpty then [] else [body]

/-- the non-empty pieces that are written one by one -/
def pieces : Body → List Bytes
  | .stream ps => ps.filter (fun d => !d.isEmpty)
  | .sized ps => piecesOf ps.flatten
  | .iter ps => piecesOf ps.flatten

theorem flatten_filter_nonempty : ∀ ps : List Bytes, (ps.filter (fun d => !d.isEmpty)).flatten = ps.flatten := by
  intro ps
  induction ps with
  | nil => rfl
  | cons p ps ih =>
    cases p with
    | nil => simp [List.filter, ih]
    | cons a p' => simp [List.filter, ih]

theorem piecesOf_flatten (b : Bytes) : (piecesOf b).flatten = b := by
  cases b <;> simp [piecesOf]

theorem piecesOf_ne (b : Bytes) : ∀ q ∈ piecesOf b, q ≠ [] := by
  cases b <;> simp [piecesOf]

theorem pieces_flatten (b : Body) : (pieces b).flatten = b.parts.flatten := by
  cases b with
  | stream ps => simp [pieces, Body.parts, flatten_filter_nonempty]
  | sized ps => simp [pieces, Body.parts, piecesOf_flatten]
  | iter ps => simp [pieces, Body.parts, piecesOf_flatten]

theorem pieces_ne (b : Body) : ∀ q ∈ pieces b, q ≠ [] := by
  intro q h
  cases b with
  | stream ps =>
    simp [pieces] at h
    exact h.2
  | sized ps => exact piecesOf_ne _ q h
  | iter ps => exact piecesOf_ne _ q h

theorem bytesOf_append (a b : List Act) : bytesOf (a ++ b) = bytesOf a ++ bytesOf b := by
  induction a with
  | nil => rfl
  | cons x a ih => cases x <;> simp [bytesOf, ih]

/-- Everything the response path puts on a connection has one shape: writes, then the close if there is one
    (`respond_eq`, `allActs_eq`, `respondFail_eq`). -/
def closeTail (b : Bool) : List Act := if b then [Act.close] else []

theorem bytesOf_writes (ws : List Bytes) (b : Bool) : bytesOf (ws.map Act.write ++ closeTail b) = ws.flatten := by
  induction ws with
  | nil => cases b <;> rfl
  | cons w ws ih => simp only [List.map_cons, List.cons_append, bytesOf, ih, List.flatten_cons]

theorem hasClose_writes (ws : List Bytes) (b : Bool) : hasClose (ws.map Act.write ++ closeTail b) = b := by
  induction ws with
  | nil => cases b <;> rfl
  | cons w ws ih =>
    have : (Act.write w == Act.close) = false := by simp
    rw [List.map_cons, List.cons_append, hasClose, List.any_cons, this, Bool.false_or]
    exact ih

def bodyWrites (rq : Req) (r : Resp) (p : Prep) : List Bytes :=
  if rq.isHead || bodylessStatus r.status then []
  else (pieces r.body).map (frame p.chunked) ++ (if p.chunked then [sTerminator] else [])

theorem finish_eq (p : Prep) (t : Bool) :
    finish p t = (if t && p.chunked then [sTerminator] else []).map Act.write ++ closeTail p.close := by
  rcases p with ⟨_, ch, _, _⟩
  cases t <;> cases ch <;> rfl

theorem bodyActs_eq (rq : Req) (r : Resp) (p : Prep) :
    bodyActs rq r p = (bodyWrites rq r p).map Act.write ++ closeTail p.close := by
  unfold bodyActs bodyWrites
  split
  · exact finish_eq p false
  · have one : ∀ b : Bytes, (if b.isEmpty then [] else [Act.write (frame p.chunked b)]) =
        (piecesOf b).map fun d => Act.write (frame p.chunked d) := fun b => by cases b <;> rfl
    rw [finish_eq, Bool.true_and]
    cases r.body with
    | stream ps => simp only [pieces, List.map_append, List.map_map, List.append_assoc, Function.comp_def]
    | sized ps | iter ps =>
      show (if ps.flatten.isEmpty then [] else [Act.write (frame p.chunked ps.flatten)]) ++ _ = _
      rw [one]
      simp only [pieces, List.map_append, List.map_map, List.append_assoc, Function.comp_def]

def writesOf (rq : Req) (r : Resp) : List Bytes :=
  renderHead rq.v11 r.status r.reason (headers r (prepare rq r)) :: bodyWrites rq r (prepare rq r)

theorem respond_eq (rq : Req) (r : Resp) :
    respond rq r = (writesOf rq r).map Act.write ++ closeTail (prepare rq r).close := by
  rw [respond, bodyActs_eq]; rfl

theorem listSum_length_flatten : ∀ ps : List Bytes, listSum (ps.map List.length) = ps.flatten.length := by
  intro ps
  induction ps with
  | nil => rfl
  | cons p ps ih => simp [listSum, ih]

theorem prepare_clen (rq : Req) (r : Resp) : (prepare rq r).clen = cLength r.body := rfl

/-- `prepare`'s decision on `chunked` and `close`, with the two tests for "no body announced" merged -/
theorem prepare_cc (rq : Req) (r : Resp) :
    ((prepare rq r).chunked, (prepare rq r).close) =
      if r.status == 413 then (false, true)
      else if (cLength r.body).isSome || bodylessStatus r.status then (false, !rq.keep || r.forceClose)
      else if rq.v11 && !rq.isHead then (true, !rq.keep || r.forceClose)
      else (false, true) := by
  unfold prepare
  cases cLength r.body <;> rfl

theorem prepare_chunked {rq : Req} {r : Resp} (h : (prepare rq r).chunked = true) :
    rq.v11 = true ∧ rq.isHead = false ∧ cLength r.body = none ∧ bodylessStatus r.status = false := by
  have e := prepare_cc rq r
  rw [h] at e
  split at e
  · cases e
  · split at e
    · cases e
    · rename_i h1
      split at e
      · rename_i h2
        simpa [and_assoc] using And.intro h2 h1
      · cases e

theorem prepare_open {rq : Req} {r : Resp} (h : (prepare rq r).close = false) :
    rq.keep = true ∧ r.forceClose = false ∧
      ((cLength r.body).isSome = true ∨ bodylessStatus r.status = true ∨ (prepare rq r).chunked = true) := by
  have hb : ∀ {k f : Bool}, false = (!k || f) → k = true ∧ f = false := by decide
  have e := prepare_cc rq r
  rw [h] at e
  split at e
  · cases (Prod.mk.inj e).2
  · split at e
    · rename_i h1
      obtain ⟨_, e2⟩ := Prod.mk.inj e
      rw [Bool.or_eq_true] at h1
      exact ⟨(hb e2).1, (hb e2).2, h1.elim .inl (.inr ∘ .inl)⟩
    · split at e
      · obtain ⟨e1, e2⟩ := Prod.mk.inj e
        exact ⟨(hb e2).1, (hb e2).2, .inr (.inr e1)⟩
      · cases (Prod.mk.inj e).2

/-- `httperror.__init__` sets `response.close = True`: such a response closes the connection -/
theorem prepare_close_of_force (rq : Req) (r : Resp) (h : r.forceClose = true) :
    (prepare rq r).close = true := by
  cases hc : (prepare rq r).close with
  | true => rfl
  | false => rw [(prepare_open hc).2.1] at h; cases h

theorem noBody_eq (rq : Req) (r : Resp) :
    noBody rq.isHead r.status = (rq.isHead || bodylessStatus r.status) := by
  simp [noBody, bodylessStatus, Bool.or_assoc]

theorem bodyBytes_eq (rq : Req) (r : Resp) : bodyBytes rq r = (bodyWrites rq r (prepare rq r)).flatten := by
  rw [bodyBytes, bodyActs_eq, bytesOf_writes]

theorem bodyBytes_nobody (rq : Req) (r : Resp) (h : (rq.isHead || bodylessStatus r.status) = true) :
    bodyBytes rq r = [] := by
  simp [bodyBytes_eq, bodyWrites, h]

theorem bodyBytes_body (rq : Req) (r : Resp) (h : (rq.isHead || bodylessStatus r.status) = false) :
    bodyBytes rq r = (pieces r.body).flatMap (frame (prepare rq r).chunked)
      ++ (if (prepare rq r).chunked then sTerminator else []) := by
  rw [bodyBytes_eq, bodyWrites, h, if_neg Bool.false_ne_true, List.flatten_append, List.flatMap_def]
  cases (prepare rq r).chunked <;> simp

theorem flatMap_frame_false (qs : List Bytes) : qs.flatMap (frame false) = qs.flatten := List.flatMap_id

theorem flatMap_frame_true (qs : List Bytes) : qs.flatMap (frame true) = qs.flatMap chunk := rfl

theorem prepare_clen_exact {rq : Req} {r : Resp} {n : Nat} (h : (prepare rq r).clen = some n) :
    n = r.body.parts.flatten.length := by
  rw [prepare_clen] at h
  cases hb : r.body with
  | sized ps =>
    rw [hb, cLength, listSum_length_flatten] at h
    exact (Option.some.inj h).symm
  | iter ps => rw [hb] at h; cases h
  | stream ps => rw [hb] at h; cases h

/-- the chunked coding of non-empty pieces is decoded with the reader's own fuel, whatever follows it -/
theorem decodeChunks_pieces (qs : List Bytes) (rest : Bytes) (hne : ∀ q ∈ qs, q ≠ []) :
    decodeChunks ((qs.flatMap chunk ++ sTerminator ++ rest).length + 1) (qs.flatMap chunk ++ sTerminator ++ rest)
      = some (qs.flatten, rest) :=
  decodeChunks_chunked qs _ rest hne (by
    have := length_le_flatMap_chunk qs
    simp only [List.length_append]; omega)

theorem decodeBody_delimited (rq : Req) (r : Resp) (rest : Bytes) (eof : Bool)
    (h : untilClose rq r = false) :
    decodeBody rq.isHead r.status (framing (prepare rq r)) (bodyBytes rq r ++ rest) eof
      = some (expectedBody rq r, rest) := by
  unfold decodeBody expectedBody
  rw [noBody_eq]
  cases hn : (rq.isHead || bodylessStatus r.status) with
  | true => simp [bodyBytes_nobody rq r hn]
  | false =>
    simp only [Bool.false_eq_true, if_false]
    rw [bodyBytes_body rq r hn]
    cases hc : (prepare rq r).chunked with
    | true =>
      simp only [framing, hc, if_true, flatMap_frame_true]
      rw [decodeChunks_pieces _ rest (pieces_ne r.body), pieces_flatten]
    | false =>
      -- not chunked and not until close: Content-Length, which is exact
      simp only [framing, hc, Bool.false_eq_true, if_false, flatMap_frame_false, List.append_nil,
        pieces_flatten]
      cases hl : (prepare rq r).clen with
      | none => simp [untilClose, hn, hc, hl] at h
      | some n => simp [prepare_clen_exact hl]

theorem decodeBody_untilClose (rq : Req) (r : Resp) (h : untilClose rq r = true) :
    decodeBody rq.isHead r.status (framing (prepare rq r)) (bodyBytes rq r) true
      = some (expectedBody rq r, []) := by
  simp only [untilClose, Bool.and_eq_true, Bool.not_eq_true', Option.isNone_iff_eq_none] at h
  obtain ⟨⟨hn, hc⟩, hl⟩ := h
  unfold decodeBody expectedBody
  rw [noBody_eq, hn, bodyBytes_body rq r hn]
  simp [framing, hc, hl, flatMap_frame_false, pieces_flatten]

theorem hasClose_append (a b : List Act) : hasClose (a ++ b) = (hasClose a || hasClose b) := by
  simp [hasClose]

theorem hasClose_respond (rq : Req) (r : Resp) : hasClose (respond rq r) = (prepare rq r).close := by
  rw [respond_eq, hasClose_writes]

theorem announces_prepare (rq : Req) (r : Resp) :
    announcesClose rq.v11 (prepare rq r).conn = (prepare rq r).close := by
  show announcesClose rq.v11 (if rq.v11 then (if (prepare rq r).close then some true else none)
    else (if (prepare rq r).close then none else some false)) = _
  cases rq.v11 <;> cases (prepare rq r).close <;> rfl

theorem untilClose_closes (rq : Req) (r : Resp) (h : untilClose rq r = true) :
    (prepare rq r).close = true := by
  cases hc : (prepare rq r).close with
  | true => rfl
  | false =>
    simp only [untilClose, Bool.and_eq_true, Bool.not_eq_true', Bool.or_eq_false_iff, prepare_clen] at h
    obtain ⟨⟨⟨_, hb⟩, hch⟩, hl⟩ := h
    rcases (prepare_open hc).2.2 with h | h | h
    · rw [Option.isNone_iff_eq_none.mp hl] at h; cases h
    · rw [hb] at h; cases h
    · rw [hch] at h; cases h

def framingNamesL : List Bytes := [lContentLength, lTransferEncoding, lConnection]

/-- the application leaves Content-Length / Transfer-Encoding / Connection alone -/
def neutral (hs : List (Bytes × Bytes)) : Bool :=
  hs.all (fun h => !(framingNamesL.contains (lowerAll h.1)))

theorem lookupCI_append_neutral (n : Bytes) (hn : n ∈ framingNamesL) :
    ∀ (a b : List (Bytes × Bytes)), neutral a = true → lookupCI n (a ++ b) = lookupCI n b := by
  intro a
  induction a with
  | nil => intro b _; rfl
  | cons h a ih =>
    intro b hnt
    have hnt : (!framingNamesL.contains (lowerAll h.1) && neutral a) = true := hnt
    rw [Bool.and_eq_true, Bool.not_eq_true'] at hnt
    have hne : (lowerAll h.1 == n) = false := by
      cases hq : (lowerAll h.1 == n) with
      | false => rfl
      | true =>
        rw [eq_of_beq hq, List.contains_iff_mem.mpr hn] at hnt
        cases hnt.1
    simp only [List.cons_append, lookupCI, hne, Bool.false_eq_true, if_false]
    exact ih b hnt.2

theorem framingOf_append_neutral (a b : List (Bytes × Bytes)) (h : neutral a = true) :
    framingOf (a ++ b) = framingOf b := by
  unfold framingOf
  rw [lookupCI_append_neutral lTransferEncoding (by simp [framingNamesL]) a b h,
      lookupCI_append_neutral lConnection (by simp [framingNamesL]) a b h,
      lookupCI_append_neutral lContentLength (by simp [framingNamesL]) a b h]

def tailHeaders (ct : Bool) (p : Prep) : List (Bytes × Bytes) :=
  (if ct then [] else [(hContentType, sDefaultCT)])
  ++ (match p.clen with | some n => [(hContentLength, decBytes n)] | none => [])
  ++ (if p.chunked then [(hTransferEncoding, sChunked)] else [])
  ++ (match p.conn with
      | some true => [(hConnection, sClose)]
      | some false => [(hConnection, sKeepAlive)]
      | none => [])

theorem headers_eq (r : Resp) (p : Prep) :
    headers r p = r.hdrs ++ tailHeaders (hasHeader hContentType r.hdrs) p := by
  simp only [headers, tailHeaders, List.append_assoc]
  rfl

/-- the names and values `prepare` writes, against the RFC reader's lower-case constants -/
theorem framing_names :
    (lowerAll hContentLength == lContentLength) = true ∧ (lowerAll hContentLength == lTransferEncoding) = false ∧
    (lowerAll hContentLength == lConnection) = false ∧ (lowerAll hTransferEncoding == lContentLength) = false ∧
    (lowerAll hTransferEncoding == lTransferEncoding) = true ∧ (lowerAll hTransferEncoding == lConnection) = false ∧
    (lowerAll hConnection == lContentLength) = false ∧ (lowerAll hConnection == lTransferEncoding) = false ∧
    (lowerAll hConnection == lConnection) = true ∧ (lowerAll sChunked == lChunked) = true ∧
    (lowerAll sClose == lClose) = true ∧ (lowerAll sKeepAlive == lClose) = false ∧
    (lowerAll sKeepAlive == lKeepAlive) = true := by decide

theorem framingOf_tail (ct : Bool) (p : Prep) : framingOf (tailHeaders ct p) = some (framing p) := by
  have hct : neutral (if ct then [] else [(hContentType, sDefaultCT)]) = true := by cases ct <;> decide
  rcases p with ⟨clen, chunked, close, conn⟩
  simp only [tailHeaders, List.append_assoc]
  rw [framingOf_append_neutral _ _ hct]
  cases clen <;> cases chunked <;> rcases conn with _ | _ | _ <;>
    simp [framingOf, lookupCI, framing, framing_names, decBytes, parseNat_natBytes]

theorem framingOf_headers (r : Resp) (p : Prep) (h : neutral r.hdrs = true) :
    framingOf (headers r p) = some (framing p) := by
  rw [headers_eq, framingOf_append_neutral _ _ h, framingOf_tail]

def closes (x : Req × Resp) : Bool := (prepare x.1 x.2).close

/-- the requests that get an answer: up to and including the first whose response closes -/
def answered : List (Req × Resp) → List (Req × Resp)
  | [] => []
  | x :: xs => if closes x then [x] else x :: answered xs

theorem run_closed : ∀ (xs : List (Req × Resp)) (c : Conn), c.closed = true → run c xs = [] := by
  intro xs
  induction xs with
  | nil => intro c _; rfl
  | cons x xs ih =>
    intro c h
    simp only [run, serve, h, if_true]
    simpa using ih c h

theorem serve_clean (c : Conn) (x : Req × Resp) (hs : c.stale = none) (hc : c.closed = false) :
    serve c x = ({ stale := none, closed := closes x }, respond x.1 x.2) := by
  simp [serve, hs, hc, dropsEntry, hasClose_respond, closes]

theorem run_clean : ∀ (xs : List (Req × Resp)) (c : Conn), c.stale = none → c.closed = false →
    run c xs = (answered xs).flatMap (fun x => respond x.1 x.2) := by
  intro xs
  induction xs with
  | nil => intro c _ _; rfl
  | cons x xs ih =>
    intro c hs hc
    simp only [run, serve_clean c x hs hc, answered]
    cases hx : closes x with
    | true => simp [run_closed xs { stale := none, closed := true } rfl]
    | false => simp [ih { stale := none, closed := false } rfl rfl]

end HttpResp
end CV
