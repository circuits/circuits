import CV.Proofs.HttpResp
import CV.Model.HttpRespFail
/-
For the failure part of C15: a chunked body that stops without a last-chunk.
-/
namespace CV
namespace HttpResp
open CV.HttpSpec

theorem isPrefix_append : ∀ (a b : Bytes), isPrefix a (a ++ b) = true := by
  intro a; induction a with
  | nil => intro b; simp [isPrefix]
  | cons x a ih => intro b; simp [isPrefix, ih]

theorem failPieces_flatten (ps : List Bytes) (k : Nat) : (failPieces ps k).flatten = (ps.take k).flatten := by
  unfold failPieces; exact flatten_filter_nonempty _

theorem failPieces_ne (ps : List Bytes) (k : Nat) : ∀ q ∈ failPieces ps k, q ≠ [] := by
  intro q hq
  unfold failPieces at hq
  simp at hq
  intro h; simp [h] at hq

theorem isPrefix_failPieces (ps : List Bytes) (k : Nat) :
    isPrefix (failPieces ps k).flatten ps.flatten = true := by
  have := isPrefix_append (ps.take k).flatten (ps.drop k).flatten
  rwa [← List.flatten_append, List.take_append_drop, ← failPieces_flatten] at this

theorem chunkPrefix_chunk (f : Nat) (q tail : Bytes) (hq : q ≠ []) :
    chunkPrefix (f + 1) (chunk q ++ tail) =
      match chunkPrefix f tail with
      | some d => some (q ++ d)
      | none => none := by
  obtain ⟨k, rest, hk, hs, hl, h2, ht, hd⟩ := chunk_read q tail hq
  have hne : (chunk q ++ tail).isEmpty = false := by
    rw [chunk_shape]; cases hexBytes q.length <;> rfl
  rw [chunkPrefix, hne, hs]
  simp only [Bool.false_eq_true, chunkSize_hexBytes, hk, hl, if_false, h2, ht, hd, beq_self_eq_true, if_true]
  rfl

theorem chunkPrefix_chunks : ∀ (qs : List Bytes) (f : Nat),
    (∀ q ∈ qs, q ≠ []) → qs.length < f → chunkPrefix f (qs.flatMap chunk) = some qs.flatten := by
  intro qs
  induction qs with
  | nil =>
    intro f _ hf
    obtain ⟨f, rfl⟩ : ∃ f', f = f' + 1 := ⟨f - 1, by simp at hf; omega⟩
    rfl
  | cons q qs ih =>
    intro f hne hf
    obtain ⟨f, rfl⟩ : ∃ f', f = f' + 1 := ⟨f - 1, by simp at hf; omega⟩
    rw [List.flatMap_cons, chunkPrefix_chunk f q _ (hne q (by simp)),
      ih f (fun x hx => hne x (by simp [hx])) (by simp at hf; omega)]
    rfl

theorem decodeChunks_cut : ∀ (qs : List Bytes) (f : Nat),
    (∀ q ∈ qs, q ≠ []) → decodeChunks f (qs.flatMap chunk) = none := by
  intro qs
  induction qs with
  | nil => intro f _; cases f <;> rfl
  | cons q qs ih =>
    intro f hne
    cases f with
    | zero => rfl
    | succ f =>
      rw [List.flatMap_cons, decodeChunks_chunk f q _ (hne q (by simp)),
        ih f fun x hx => hne x (by simp [hx])]

/-- the bytes that follow the header block when the iterator raises at piece `k` -/
def failBytes (rq : Req) (r : Resp) (k : Nat) : Bytes := bytesOf (bodyActsFail rq r (prepare rq r) k)

/-- what the application's iterator would have produced -/
def producedOf (r : Resp) : Bytes := r.body.parts.flatten

theorem touched_cases (rq : Req) (r : Resp) (h : touched rq r = true) :
    (rq.isHead || bodylessStatus r.status) = false ∧ ((∃ ps, r.body = .iter ps) ∨ (∃ ps, r.body = .stream ps)) := by
  unfold touched at h
  cases hb : r.body <;> simp_all

theorem touched_clen (rq : Req) (r : Resp) (h : touched rq r = true) : (prepare rq r).clen = none := by
  rw [prepare_clen]
  rcases (touched_cases rq r h).2 with ⟨ps, hb⟩ | ⟨ps, hb⟩ <;> simp [hb, cLength]

theorem bytesOf_abort : bytesOf abortActs = [] := rfl

def failWrites (r : Resp) (p : Prep) (k : Nat) : List Bytes :=
  match r.body with
  | .stream ps => (failPieces ps k).map (frame p.chunked)
  | _ => []

theorem bodyActsFail_eq (rq : Req) (r : Resp) (p : Prep) (k : Nat) (h : touched rq r = true) :
    bodyActsFail rq r p k = (failWrites r p k).map Act.write ++ closeTail true := by
  obtain ⟨hn, hb⟩ := touched_cases rq r h
  rcases hb with ⟨ps, hb⟩ | ⟨ps, hb⟩ <;>
    simp [bodyActsFail, failWrites, hn, hb, abortActs, closeTail, List.map_map, Function.comp_def]

theorem failBytes_eq (rq : Req) (r : Resp) (k : Nat) (h : touched rq r = true) :
    failBytes rq r k = (failWrites r (prepare rq r) k).flatten := by
  rw [failBytes, bodyActsFail_eq rq r _ k h, bytesOf_writes]

theorem cutOk_fail (rq : Req) (r : Resp) (k : Nat) (h : touched rq r = true) :
    cutOk (framing (prepare rq r)) (failBytes rq r k) true false (producedOf r) = true := by
  obtain ⟨hn, hb⟩ := touched_cases rq r h
  have hc := touched_clen rq r h
  unfold cutOk
  simp only [framing, hc, Bool.not_false, Bool.and_true, Bool.true_and]
  rw [failBytes_eq rq r k h]
  rcases hb with ⟨ps, hb⟩ | ⟨ps, hb⟩
  · simp only [failWrites, hb, List.flatten_nil]
    cases (prepare rq r).chunked <;> simp [chunkPrefix, isPrefix, decodeChunks, splitLine]
  · have hprod : producedOf r = ps.flatten := by simp [producedOf, hb, Body.parts]
    simp only [failWrites, hb, hprod, ← List.flatMap_def]
    cases hch : (prepare rq r).chunked
    · simp only [Bool.false_eq_true, if_false]
      rw [flatMap_frame_false]
      exact isPrefix_failPieces ps k
    · simp only [if_true]
      rw [flatMap_frame_true]
      rw [chunkPrefix_chunks _ _ (failPieces_ne ps k)
            (Nat.lt_succ_of_le (length_le_flatMap_chunk _)),
          decodeChunks_cut _ _ (failPieces_ne ps k)]
      simp [isPrefix_failPieces]

theorem respondFail_eq (rq : Req) (r : Resp) (k : Nat) (h : touched rq r = true) :
    respondFail rq r k =
      (renderHead rq.v11 r.status r.reason (headers r (prepare rq r)) :: failWrites r (prepare rq r) k).map Act.write
        ++ closeTail true := by
  rw [respondFail, bodyActsFail_eq rq r _ k h]; rfl

theorem runMaybe_closed : ∀ (xs : List ((Req × Resp) × Option Nat)) (c : Conn), c.closed = true →
    runMaybe c xs = [] := by
  intro xs
  induction xs with
  | nil => intro c _; rfl
  | cons x xs ih =>
    intro c h
    obtain ⟨x, k⟩ := x
    cases k <;> simp [runMaybe, serveMaybe, serve, h, ih c h]

end HttpResp
end CV
