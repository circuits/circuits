import CV.Proofs.HttpParse
import CV.Model.HttpServerRead
import CV.Model.HttpServerPipe
/-
For C13: the invariant `Reach` of the parser states `exec` reaches, which says when
`_on_read` and `_on_client_read` keep waiting; what is known in the middle of a clean stream
(`midstream`); the segmentation theorem for `connRead`; and, at the end, the lemmas for the pipelined-delivery model
(CV/Model/HttpServerPipe.lean), whose property-level statements are `pipe_*` in CV/Props/C13.lean.
-/
namespace CV
namespace Http

/-- with headers `h` complete, the server does not fire yet (or the run is not a clean request) -/
def Quiet (c : Core) (h : HdrInfo) : Prop :=
  c.exn = true ∨ c.over = true ∨ c.status.isSome = true ∨ h.clen = .bad ∨ h.clenVal ≠ 0 ∨ h.te = true

theorem wf_init (k : Kind) : WF (init k).core := ⟨fun _ => rfl, fun _ => rfl⟩

/-- What holds of every parser state reached from `init` by non-empty reads.  `post` is what keeps `_on_read`
    waiting in the middle of a request, `pre` and `clen0` are what keeps `_on_client_read` waiting in the middle
    of a response. -/
structure Reach (c : Core) : Prop where
  wf : WF c
  pre : c.hdrDone = false → c.clen = none ∧ c.chunked = false ∧ c.hi = none
  post : c.hdrDone = true → ∃ h, c.hi = some h ∧ (c.complete = true ∨ Quiet c h)
  clen0 : c.hdrDone = true → c.clen = some 0 → c.complete = true

theorem reach_init (k : Kind) : Reach (init k).core :=
  ⟨wf_init k, fun _ => ⟨rfl, rfl, rfl⟩, fun h => (nomatch h), fun h => (nomatch h)⟩

/-- an exception, `over` and the status persist through body-phase work; the other reasons speak of `h` alone -/
theorem Quiet.ext {c c' : Core} {h : HdrInfo} (q : Quiet c h) (e : Ext c c') : Quiet c' h :=
  q.imp e.2.2.2 (Or.imp e.2.1 (Or.imp (fun q => by rw [e.status]; exact q) id))

theorem reach_pre {c : Core} (ho : c.onFirst = true) (hd : c.hdrDone = false) (hc : c.complete = false)
    (h : c.clen = none ∧ c.chunked = false ∧ c.hi = none) : Reach c :=
  ⟨wf_of_first ho fun _ => hc, fun _ => h, fun x => (nomatch hd.symm.trans x), fun x => (nomatch hd.symm.trans x)⟩

theorem reach_body {c c' : Core} {h : HdrInfo} (e : Ext c c') (ho : c.onFirst = true) (hd : c.hdrDone = true)
    (hh : c.hi = some h) (hq : c'.complete = true ∨ Quiet c' h) (h0 : c.clen = some 0 → c'.complete = true) :
    Reach c' := by
  have hd' := e.hdrDone.trans hd
  exact ⟨wf_of_flags (e.onFirst.trans ho) hd', fun x => (nomatch hd'.symm.trans x),
    fun _ => ⟨h, e.hi.trans hh, hq⟩, fun _ hc => h0 (e.clen ▸ hc)⟩

theorem execBody_plain (lex : Lex) (c : Core) (x : Bytes) (nil : Bool) (h : HdrInfo) (h1 : c.chunked = false)
    (h2 : c.clen = none) (h3 : x = [] ∨ ∃ r, c.clenRest = some r) :
    (execBody lex c x nil).core.complete = true ∨ Quiet (execBody lex c x nil).core h := by
  cases hs : c.status with
  | some st => exact .inr (Quiet.ext (.inr (.inr (.inl (by rw [hs]; rfl)))) (execBody_ext lex c x nil))
  | none =>
    have hs' : ({ c with msgBegin := true } : Core).status = none := hs
    unfold execBody
    dsimp only
    rw [hs']
    rcases h3 with rfl | ⟨r, h3⟩
    · simp [h1, h2]
    · cases x <;> simp [h1, h2, h3, Quiet]

theorem execBody_clen0 (lex : Lex) (c : Core) (x : Bytes) (nil : Bool) (h1 : c.chunked = false)
    (h2 : c.clen = some 0) (h3 : c.clenRest = some 0) :
    (execBody lex c x nil).core.complete = true := by
  unfold execBody
  dsimp only
  -- (`split` would abstract the chunk loop as well, which is slow)
  by_cases h : ((({ c with msgBegin := true } : Core).status = some 204 : Bool) && nil) = true
  · rw [if_pos h]
  · rw [if_neg h, h1, h2, h3]
    simp only [Bool.not_false, if_true, Option.isNone_some, Bool.and_false, Bool.false_eq_true, if_false,
      decide_eq_true_eq]
    omega

/-- the call that completes the headers: a message without body is complete at once (or is no clean request),
    every other one is `Quiet` -/
theorem execHeaders_reach (lex : Lex) (c : Core) (x : Bytes) (h1 : c.onFirst = true) (hd : c.hdrDone = false)
    (hc : c.complete = false) (hp : c.clen = none ∧ c.chunked = false ∧ c.hi = none) :
    Reach (execHeaders lex c x).core := by
  have hnone : ∀ {P : Prop}, c.clen = some 0 → P := fun h => (nomatch hp.1.symm.trans h)
  refine execHeaders_cases (P := fun p => Reach p.core)
    (fun _ => reach_body (execBody_ext lex _ _ _) h1 rfl rfl (execBody_plain lex _ _ _ _ hp.2.1 hp.1 (.inl rfl)) hnone)
    (fun _ _ => reach_pre h1 hd hc hp) (fun _ _ _ _ => reach_pre h1 hd hc hp) fun _ _ h _ _ => ?_
  have quiet {A : Prop} {c2 : Core} {y : Bytes} (q : Quiet c2 h) : A ∨ Quiet (execBody lex c2 y false).core h :=
    .inr (q.ext (execBody_ext lex _ _ _))
  cases hcl : h.clen with
  | bad => exact reach_body (execBody_ext lex _ _ _) h1 rfl rfl (quiet (.inr (.inr (.inr (.inl hcl))))) hnone
  | val n =>
    by_cases hn : n = 0
    · subst hn
      exact reach_body (execBody_ext lex _ _ _) h1 rfl rfl (.inl (execBody_clen0 lex _ _ _ hp.2.1 rfl rfl))
        fun _ => execBody_clen0 lex _ _ _ hp.2.1 rfl rfl
    · exact reach_body (execBody_ext lex _ _ _) h1 rfl rfl
        (quiet (.inr (.inr (.inr (.inr (.inl (by simp [HdrInfo.clenVal, hcl, hn])))))))
        fun h0 => absurd (Option.some.inj h0) hn
  | absent =>
    cases hte : h.te with
    | true =>
      exact reach_body (execBody_ext lex _ _ _) h1 rfl rfl (quiet (.inr (.inr (.inr (.inr (.inr hte)))))) hnone
    | false =>
      exact reach_body (execBody_ext lex _ _ _) h1 rfl rfl
        (execBody_plain lex _ _ _ _ rfl hp.1 (.inr ⟨_, rfl⟩)) hnone

theorem exec_reach (lex : Lex) (s : PState) (d : Bytes) (hd : d ≠ []) (hr : Reach s.core) :
    Reach (exec lex s d).core := by
  refine exec_cases (P := fun p => Reach p.core) (fun h => absurd h hd) (fun _ _ => hr) (fun _ _ h1 => ?_)
    (fun _ _ h1 h2 => execHeaders_reach lex _ _ h1 h2 (hr.wf.2 h2) (hr.pre h2)) (fun _ _ h1 h2 h3 => ?_)
    (fun _ _ h1 h2 h3 => ?_)
  · have h2 := hr.wf.1 h1
    have h3 := hr.wf.2 h2
    exact execFirst_cases (P := fun p => Reach p.core) (fun _ => hr)
      (fun _ _ _ => reach_pre rfl h2 h3 (hr.pre h2))
      fun _ _ _ _ => execHeaders_reach lex _ _ rfl h2 h3 (hr.pre h2)
  · obtain ⟨h, hh, hq⟩ := hr.post h2
    have e := execBody_ext lex s.core (s.buf ++ d) false
    exact reach_body e h1 h2 hh (.inr ((hq.resolve_left fun k => (nomatch h3.symm.trans k)).ext e))
      fun h0 => (nomatch h3.symm.trans (hr.clen0 h2 h0))
  · obtain ⟨h, hh, _⟩ := hr.post h2
    exact ⟨wf_of_flags h1 h2, fun x => (nomatch h2.symm.trans x), fun _ => ⟨h, hh, .inr (.inr (.inl rfl))⟩,
      fun _ _ => h3⟩

theorem execAll_reach (lex : Lex) (segs : List Bytes) (hne : ∀ d ∈ segs, d ≠ []) :
    ∀ s : PState, Reach s.core → Reach (execAll lex s segs).core :=
  execAll_induct (P := fun p => Reach p.core) fun s d hd => exec_reach lex s d (hne d hd)

theorem exec_ext_hdr (lex : Lex) (s : PState) (d : Bytes) (hwf : WF s.core) (hh : s.core.hdrDone = true) :
    Ext s.core (exec lex s d).core :=
  exec_cases (P := fun p => Ext s.core p.core) (fun _ => ⟨rfl, id, id, id⟩) (fun _ _ => Ext.refl _)
    (fun _ _ h1 => (nomatch hh.symm.trans (hwf.1 h1))) (fun _ _ _ h2 => (nomatch hh.symm.trans h2))
    (fun _ _ _ _ _ => execBody_ext lex _ _ _) (fun _ _ _ _ _ => ⟨rfl, fun _ => rfl, id, id⟩)

theorem midstream (lex : Lex) {s : PState} {r : Bytes} (hwf : WF s.core) (hr : r ≠ [])
    (hclean : (exec lex s r).core.bad = false) :
    s.core.bad = false ∧ s.core.complete = false := by
  have hb := clean_of_exec hclean
  refine ⟨hb, Bool.eq_false_iff.2 fun hc => ?_⟩
  have h2 : s.core.hdrDone = true := Decidable.by_contra fun h =>
    (nomatch hc.symm.trans (hwf.2 (Bool.eq_false_iff.2 h)))
  have h1 : s.core.onFirst = true := Decidable.by_contra fun h =>
    (nomatch h2.symm.trans (hwf.1 (Bool.eq_false_iff.2 h)))
  simp only [Core.bad, Bool.or_eq_false_iff] at hb hclean
  rw [exec_done hr hb.2 h1 h2 hc] at hclean
  exact (nomatch hclean.1.1)

theorem afterExec_hdr {lex : Lex} {cn : Conn} {p : PState} {req : Req} (hx : p.core.exn = false)
    (hd : p.core.hdrDone = true) (hr : reqOf cn.client p = some req) :
    afterExec lex cn p =
      match verdict lex cn.client.isNone req p.core.complete with
      | .e505 => (⟨some p, some req⟩, .err505)
      | .exn => (⟨some p, some req⟩, .exn500)
      | .wait => (⟨some p, some req⟩, .wait)
      | .noHost => (⟨none, some req⟩, .err400NoHost)
      | .redirect => (⟨some p, some req⟩, .redirect301)
      | .fire => (⟨none, some req⟩, .request req.firstLine req.hdrBlock p.core.body) := by
  simp only [afterExec, hx, hd, hr, Bool.false_eq_true, if_false, Bool.not_true]
  cases verdict lex cn.client.isNone req p.core.complete <;> rfl

theorem afterExec_wait {lex : Lex} {cn : Conn} {p : PState} {req : Req} (hx : p.core.exn = false)
    (hd : p.core.hdrDone = true) (hr : reqOf cn.client p = some req)
    (hv : verdict lex cn.client.isNone req p.core.complete = .wait) :
    afterExec lex cn p = (⟨some p, some req⟩, .wait) := by
  rw [afterExec_hdr hx hd hr, hv]

theorem afterExec_request {lex : Lex} {cn : Conn} {p : PState} {req : Req} (hx : p.core.exn = false)
    (hd : p.core.hdrDone = true) (hr : reqOf cn.client p = some req)
    (hv : verdict lex cn.client.isNone req p.core.complete = .fire) :
    afterExec lex cn p = (⟨none, some req⟩, .request req.firstLine req.hdrBlock p.core.body) := by
  rw [afterExec_hdr hx hd hr, hv]

theorem afterExec_fire {lex : Lex} {cn : Conn} {p : PState} {cn1 : Conn} {fl : Bytes} {hb : Option Bytes}
    {body : Bytes} (h : afterExec lex cn p = (cn1, .request fl hb body)) :
    p.core.exn = false ∧ p.core.hdrDone = true ∧ ∃ req, reqOf cn.client p = some req ∧
      verdict lex cn.client.isNone req p.core.complete = .fire ∧ cn1 = ⟨none, some req⟩ ∧
      fl = req.firstLine ∧ hb = req.hdrBlock ∧ body = p.core.body := by
  cases hexn : p.core.exn with
  | true => simp [afterExec, hexn] at h
  | false =>
    cases hh : p.core.hdrDone with
    | false =>
      simp [afterExec, hexn, hh] at h
      split at h <;> simp at h
    | true =>
      cases hr : reqOf cn.client p with
      | none => simp [afterExec, hexn, hh, hr] at h
      | some req =>
        rw [afterExec_hdr hexn hh hr] at h
        cases hv : verdict lex cn.client.isNone req p.core.complete <;> rw [hv] at h <;> cases h
        exact ⟨rfl, rfl, req, rfl, hv, rfl, rfl, rfl, rfl⟩

theorem ssl_prefix (a r : Bytes) (ha : a ≠ []) (h : sslHandshake (a ++ r) = false) : sslHandshake a = false := by
  cases a with
  | nil => exact absurd rfl ha
  | cons b0 t =>
    cases t with
    | nil =>
      cases hd : decide (b0.toNat ≥ 128) with
      | false => simp [sslHandshake, hd]
      | true =>
        have h' : decide ((b0.toNat % 128) * 256 + (r.headD 0).toNat > 9) = false := by
          simpa [sslHandshake, hd] using h
        have h'' := of_decide_eq_false h'
        have z : (0 : UInt8).toNat = 0 := rfl
        simp only [sslHandshake, hd, List.headD_nil, Bool.true_and, z]
        apply decide_eq_false
        generalize b0.toNat % 128 * 256 = n at h'' ⊢
        generalize (r.headD 0).toNat = m at h''
        omega
    | cons b1 t' => simpa [sslHandshake] using h

theorem connRead_fresh_request {lex : Lex} {secure : Bool} {d : Bytes} {cn1 : Conn} {fl : Bytes}
    {hb : Option Bytes} {body : Bytes} (h : connRead lex secure {} d = (cn1, .request fl hb body)) :
    (sslHandshake d && !secure) = false ∧
      afterExec lex {} (exec lex (init .request) d) = (cn1, .request fl hb body) := by
  have e : connRead lex secure {} d = if (sslHandshake d && !secure) = true then ({}, .closeSsl)
      else afterExec lex {} (exec lex (init .request) d) := rfl
  rw [e] at h
  split at h
  · cases h
  · next hs => exact ⟨Bool.eq_false_iff.2 hs, h⟩

theorem reqOf_ext {p q : PState} (cl : Option Req) (e : Ext p.core q.core) : reqOf cl q = reqOf cl p := by
  unfold reqOf
  rw [e.firstLine, e.fl, e.hdrBlock, e.hi]

theorem ite_eq_iff_of_ne {α : Type} {c : Prop} [Decidable c] {a b x : α} (h : a ≠ x) :
    (if c then a else b) = x ↔ ¬ c ∧ b = x := by
  by_cases hc : c
  · simp [hc, h]
  · simp [hc]

theorem verdict_fire_iff {lex : Lex} {n : Bool} {req : Req} {c : Bool} :
    verdict lex n req c = .fire ↔
      (n = true → req.fl.vmajor = 1) ∧ req.hi.clen ≠ .bad ∧
      ((req.hi.clenVal ≠ 0 ∨ req.hi.te = true) → c = true) ∧
      ((req.fl.vmajor, req.fl.vminor) = (1, 0) ∨ req.hi.host = true) ∧
      lex.pathOk req.firstLine req.hdrBlock = true := by
  -- `fire` is the last of six exits: it is taken iff none of the five tests before it holds
  rw [verdict, ite_eq_iff_of_ne (by decide), ite_eq_iff_of_ne (by decide), ite_eq_iff_of_ne (by decide),
    ite_eq_iff_of_ne (by decide), ite_eq_iff_of_ne (by decide)]
  refine and_congr ?_ (and_congr Iff.rfl (and_congr ?_ (and_congr ?_ ?_)))
  · cases n <;> simp
  · cases c <;> simp
  · cases req.hi.host <;> simp
  · simp

theorem verdict_wait {lex : Lex} {n : Bool} {req : Req} (h1 : n = true → req.fl.vmajor = 1)
    (h2 : req.hi.clen ≠ .bad) (h3 : req.hi.clenVal ≠ 0 ∨ req.hi.te = true) :
    verdict lex n req false = .wait := by
  rw [verdict, if_neg (by simpa using h1), if_neg h2, if_pos (by simpa using h3)]

theorem reqOf_none {p : PState} {req : Req} (h : reqOf none p = some req) :
    p.core.firstLine = some req.firstLine ∧ p.core.fl = some req.fl ∧ p.core.hdrBlock = req.hdrBlock ∧
      p.core.hi = some req.hi := by
  unfold reqOf at h
  dsimp only at h
  split at h
  · next h1 h2 h3 => cases h; exact ⟨h1, h2, rfl, h3⟩
  · cases h

theorem Quiet.pending {c : Core} {h : HdrInfo} (q : Quiet c h) (hx : c.exn = false) (ho : c.over = false)
    (hs : c.status = none) (hb : h.clen ≠ .bad) : h.clenVal ≠ 0 ∨ h.te = true := by
  rcases q with q | q | q | q | q | q
  · exact nomatch hx.symm.trans q
  · exact nomatch ho.symm.trans q
  · rw [hs] at q; cases q
  · exact absurd q hb
  · exact .inl q
  · exact .inr q

/-- a read that is not the last one of a clean request only waits, and leaves the connection
    in a state from which the remaining bytes fire the same event -/
theorem conn_step (lex : Lex) (secure : Bool) {s : PState} {cl : Option Req} {a R : Bytes} (hr : Reach s.core)
    (hcl : ∀ r, cl = some r → s.core.hdrDone = true ∧ s.core.hi = some r.hi)
    (ha : a ≠ []) (hR : R ≠ [])
    (hclean : (exec lex (exec lex s a) R).core.bad = false)
    (hst : (exec lex (exec lex s a) R).core.status = none)
    {cn1 : Conn} {fl : Bytes} {hb : Option Bytes} {body : Bytes}
    (hone : afterExec lex ⟨some s, cl⟩ (exec lex (exec lex s a) R) = (cn1, .request fl hb body)) :
    ∃ cl', connRead lex secure ⟨some s, cl⟩ a = (⟨some (exec lex s a), cl'⟩, .wait) ∧
      (∀ r, cl' = some r → (exec lex s a).core.hdrDone = true ∧ (exec lex s a).core.hi = some r.hi) ∧
      afterExec lex ⟨some (exec lex s a), cl'⟩ (exec lex (exec lex s a) R) = (cn1, .request fl hb body) := by
  obtain ⟨fexn, fhd, req, freq, fverd, rfl, rfl, rfl, rfl⟩ := afterExec_fire hone
  obtain ⟨v1, v2, v3, v4, v5⟩ := verdict_fire_iff.1 fverd
  have hr' := exec_reach lex s a ha hr
  obtain ⟨pbad, pcomp⟩ := midstream lex hr'.wf hR hclean
  simp only [Core.bad, Bool.or_eq_false_iff] at pbad
  obtain ⟨⟨pover, perr⟩, pexn⟩ := pbad
  -- the header part of `s`, once complete, is that of `exec lex s a`
  have hext := exec_ext_hdr lex s a hr.wf
  show ∃ cl', afterExec lex ⟨some s, cl⟩ (exec lex s a) = _ ∧ _
  generalize exec lex s a = p at *
  cases phd : p.core.hdrDone with
  | false =>
    refine ⟨cl, by simp [afterExec, pexn, phd, perr], fun r hr => ?_, hone⟩
    rw [(hext (hcl r hr).1).hdrDone, (hcl r hr).1] at phd; cases phd
  | true =>
    have e := exec_ext_hdr lex p R hr'.wf phd
    have preq : reqOf cl p = some req := (reqOf_ext cl e).symm.trans freq
    have hreqhi : p.core.hi = some req.hi := by
      cases cl with
      | some r =>
        obtain rfl : r = req := Option.some.inj preq
        rw [(hext (hcl r rfl).1).hi, (hcl r rfl).2]
      | none => exact (reqOf_none preq).2.2.2
    obtain ⟨h, hh, hq⟩ := hr'.post phd
    obtain rfl : h = req.hi := Option.some.inj (hh.symm.trans hreqhi)
    -- `Quiet` without being complete, in a clean request: a body is still to come, so the verdict is `wait`
    have hq := hq.resolve_left fun k => (nomatch pcomp.symm.trans k)
    have pverd := verdict_wait (lex := lex) v1 v2 (hq.pending pexn pover (e.status.symm.trans hst) v2)
    refine ⟨some req, ?_, fun r hr => Option.some.inj hr ▸ ⟨rfl, hreqhi⟩, ?_⟩
    · exact afterExec_wait pexn phd preq (pcomp ▸ pverd)
    · exact afterExec_request (cn := ⟨some p, some req⟩) fexn fhd rfl
        (verdict_fire_iff.2 ⟨fun k => (nomatch k), v2, v3, v4, v5⟩)

theorem conn_segments (lex : Lex) (secure : Bool) (segs : List Bytes) :
    ∀ (s : PState) (cl : Option Req), Reach s.core →
      (∀ r, cl = some r → s.core.hdrDone = true ∧ s.core.hi = some r.hi) →
      (∀ d ∈ segs, d ≠ []) → segs ≠ [] →
      (exec lex s segs.flatten).core.bad = false →
      (exec lex s segs.flatten).core.status = none →
      ∀ cn1 fl hb body,
        afterExec lex ⟨some s, cl⟩ (exec lex s segs.flatten) = (cn1, .request fl hb body) →
        connReadAll lex secure ⟨some s, cl⟩ segs =
          (cn1, List.replicate (segs.length - 1) .wait ++ [.request fl hb body]) := by
  induction segs with
  | nil => intro s cl _ _ _ hs; exact absurd rfl hs
  | cons a rest ih =>
    intro s cl hr hcl hne _ hclean hst cn1 fl hb body hone
    cases rest with
    | nil =>
      simp only [List.flatten_cons, List.flatten_nil, List.append_nil] at hone
      simp [connReadAll, connRead, hone]
    | cons b rest' =>
      have ha : a ≠ [] := hne a (.head _)
      have hR : (b :: rest').flatten ≠ [] := fun h =>
        hne b (.tail _ (.head _)) (List.append_eq_nil_iff.1 h).1
      have hom := exec_hom lex s a _ hr.wf ha hR (by rw [← List.flatten_cons]; exact hclean)
      rw [List.flatten_cons, ← hom] at hclean hst hone
      obtain ⟨cl', hstep, hcl', hone'⟩ := conn_step lex secure hr hcl ha hR hclean hst hone
      have hrec := ih (exec lex s a) cl' (exec_reach lex s a ha hr) hcl'
        (fun d hd => hne d (.tail _ hd)) (by simp) hclean hst cn1 fl hb body hone'
      rw [connReadAll, hstep]
      dsimp only
      rw [hrec]
      simp [List.replicate_succ]

theorem connReadAll_cons (lex : Lex) (secure : Bool) (cn : Conn) (d : Bytes) (ds : List Bytes) :
    connReadAll lex secure cn (d :: ds) =
      ((connReadAll lex secure (connRead lex secure cn d).1 ds).1,
       (connRead lex secure cn d).2 :: (connReadAll lex secure (connRead lex secure cn d).1 ds).2) := rfl

/-- a read that dispatches leaves no parser (hence no buffered byte) for the socket -/
theorem connRead_request_drops {lex : Lex} {secure : Bool} {cn cn' : Conn} {d fl : Bytes} {hb : Option Bytes}
    {body : Bytes} (h : connRead lex secure cn d = (cn', .request fl hb body)) :
    ∃ req, cn' = ⟨none, some req⟩ := by
  unfold connRead at h
  split at h
  · obtain ⟨_, _, req, _, _, hcn, _⟩ := afterExec_fire h
    exact ⟨req, hcn⟩
  · split at h
    · cases h
    · obtain ⟨_, _, req, _, _, hcn, _⟩ := afterExec_fire h
      exact ⟨req, hcn⟩

theorem pipeRead_request {lex : Lex} {secure : Bool} {cn cn' : Conn} {d fl : Bytes} {hb : Option Bytes}
    {body : Bytes} (h : connRead lex secure cn d = (cn', .request fl hb body)) :
    pipeRead lex secure cn d = ({}, .request fl hb body) := by
  obtain ⟨req, hcn⟩ := connRead_request_drops h
  unfold pipeRead
  rw [h, hcn]
  rfl

theorem pipeRead_wait {lex : Lex} {secure : Bool} {cn : Conn} {d : Bytes}
    (h : (connRead lex secure cn d).2 = .wait) :
    pipeRead lex secure cn d = ((connRead lex secure cn d).1, .wait) := by
  unfold pipeRead
  simp [h, Out.answered]

/-- reads of which only the last one dispatches, followed by more reads: the rest is served from empty tables -/
theorem pipeAll_of_connReadAll (lex : Lex) (secure : Bool) (fl : Bytes) (hb : Option Bytes) (body : Bytes)
    (more : List Bytes) :
    ∀ (segs : List Bytes) (cn : Conn), segs ≠ [] →
      (connReadAll lex secure cn segs).2 = List.replicate (segs.length - 1) .wait ++ [.request fl hb body] →
      pipeAll lex secure cn (segs ++ more) =
        ((pipeAll lex secure {} more).1,
         List.replicate (segs.length - 1) .wait ++ [.request fl hb body] ++ (pipeAll lex secure {} more).2) := by
  intro segs
  induction segs with
  | nil => intro _ h; exact absurd rfl h
  | cons d rest ih =>
    intro cn _ h
    rw [connReadAll_cons] at h
    cases rest with
    | nil =>
      have h1 : connRead lex secure cn d = ((connRead lex secure cn d).1, .request fl hb body) := by
        rw [← List.head_eq_of_cons_eq h]
      simp only [List.cons_append, List.nil_append, pipeAll, pipeRead_request h1, List.length_cons, List.length_nil,
        Nat.zero_add, Nat.sub_self, List.replicate_zero]
    | cons d' rest' =>
      have hlen : (d :: d' :: rest').length - 1 = ((d' :: rest').length - 1) + 1 := by simp
      rw [hlen, List.replicate_succ, List.cons_append] at h ⊢
      obtain ⟨h2, h3⟩ := List.cons.inj h
      rw [List.cons_append, pipeAll, pipeRead_wait h2]
      simp only
      rw [← List.cons_append, ih _ (by simp) h3]
      simp

theorem dispatched_waits (n : Nat) (fl : Bytes) (hb : Option Bytes) (body : Bytes) (rest : List Out) :
    dispatched (List.replicate n .wait ++ [.request fl hb body] ++ rest) = (fl, hb, body) :: dispatched rest := by
  induction n with
  | zero => simp [dispatched]
  | succ n ih => simpa [List.replicate_succ, dispatched] using ih

end Http
end CV
