import CV.Proofs.HttpParse
import CV.Model.HttpServerErr
import CV.Proofs.HttpServer
import CV.Proofs.HttpSeq
import CV.Proofs.ListFacts
/-
The connection model of C14: association-list tables, the frame property of `step`, error responses are delimited
and closing, the acceptance conditions behind a `dispatch`.
-/
namespace CV
namespace Http14
open Http

theorem lookup_del_self {α} (l : List (Nat × α)) (k : Nat) : (del l k).lookup k = none :=
  List.lookup_eq_none_iff.mpr fun p hp =>
    bne_iff_ne.mpr (Ne.symm (of_decide_eq_true (List.mem_filter.mp hp).2))

theorem lookup_del_ne {α} (l : List (Nat × α)) (k k' : Nat) (h : k' ≠ k) :
    (del l k).lookup k' = l.lookup k' := by
  simp only [del, ne_eq, decide_not]
  exact lookup_filter_ne l k k' h

theorem lookup_upd_self {α} (l : List (Nat × α)) (k : Nat) (v : Option α) : (upd l k v).lookup k = v := by
  cases v with
  | none => exact lookup_del_self l k
  | some v => simp [upd, put]

theorem lookup_upd_ne {α} (l : List (Nat × α)) (k k' : Nat) (v : Option α) (h : k' ≠ k) :
    (upd l k v).lookup k' = l.lookup k' := by
  cases v with
  | none => exact lookup_del_ne l k k' h
  | some v =>
    have hk : (k' == k) = false := by simp; exact h
    simp only [upd, put, List.lookup, hk]
    exact lookup_del_ne l k k' h

theorem get_set_self (t : Tables) (s : Nat) (cn : Conn) : (t.set s cn).get s = cn := by
  simp [Tables.get, Tables.set, lookup_upd_self]

theorem get_set_ne (t : Tables) (s s' : Nat) (cn : Conn) (h : s' ≠ s) : (t.set s cn).get s' = t.get s' := by
  simp [Tables.get, Tables.set, lookup_upd_ne _ _ _ _ h]

theorem contains_filter_ne_other (l : List Nat) (s s' : Nat) (h : s' ≠ s) :
    (l.filter (· ≠ s)).contains s' = l.contains s' := by
  simp [List.contains_eq_mem, List.mem_filter, h]

/-- nothing is kept for socket `s`: no table entry, and it is not being closed -/
def World.clean (w : World) (s : Nat) : Prop := w.t.get s = {} ∧ w.closing.contains s = false

theorem World.clean_iff (w : World) (s : Nat) :
    w.clean s ↔ w.t.buffers.lookup s = none ∧ w.t.clients.lookup s = none ∧ w.closing.contains s = false := by
  simp only [World.clean, Tables.get, Conn.mk.injEq, and_assoc]

theorem step_disconnect_clean (le : LexE) (secure : Bool) (w : World) (s : Nat) :
    (step le secure w (.disconnect s)).1.clean s := by
  simp only [step, World.clean]
  exact ⟨get_set_self _ _ _, by simp⟩

def Ev.sock : Ev → Nat
  | .read s _ _ => s
  | .disconnect s => s

theorem step_frame (le : LexE) (secure : Bool) (w : World) (e : Ev) (s : Nat) (h : s ≠ e.sock) :
    (step le secure w e).1.t.get s = w.t.get s ∧
    (step le secure w e).1.closing.contains s = w.closing.contains s := by
  cases e with
  | read s' d b =>
    simp only [Ev.sock] at h
    simp only [step]
    refine ⟨get_set_ne _ _ _ _ h, ?_⟩
    split
    · have : (s == s') = false := by simp; exact h
      simp only [List.contains_cons, this, Bool.false_or]
      exact contains_filter_ne_other _ _ _ h
    · exact contains_filter_ne_other _ _ _ h
  | disconnect s' =>
    simp only [Ev.sock] at h
    simp only [step]
    exact ⟨get_set_ne _ _ _ _ h, contains_filter_ne_other _ _ _ h⟩

theorem alive_false_const (s : Nat) (evs : List Ev) (a : Bool) (h : ∀ e ∈ evs, e.sock ≠ s) :
    alive s evs a = a := by
  induction evs generalizing a with
  | nil => rfl
  | cons e es ih =>
    have he := h e (by simp)
    cases e <;> simp only [Ev.sock] at he <;> simp only [alive, he, if_false] <;>
      exact ih a (fun e' h' => h e' (by simp [h']))

/-- one event: a socket that is not alive after it (`a`: was alive before) has nothing in the world after it -
    the event was its disconnect, or it had nothing before and the event was on another socket -/
theorem step_clean (le : LexE) (secure : Bool) (w : World) (e : Ev) (x : Nat) (a : Bool)
    (hinv : a = false → w.clean x) (h : alive x [e] a = false) : (step le secure w e).1.clean x := by
  have frame : x ≠ e.sock → a = false → (step le secure w e).1.clean x := fun hs ha =>
    have f := step_frame le secure w e x hs
    ⟨f.1.trans (hinv ha).1, f.2.trans (hinv ha).2⟩
  cases e with
  | read s' d b =>
    have h' : (if s' = x then true else a) = false := h
    by_cases hs : s' = x
    · rw [if_pos hs] at h'; cases h'
    · exact frame (fun e => hs e.symm) (by rwa [if_neg hs] at h')
  | disconnect s' =>
    have h' : (if s' = x then false else a) = false := h
    by_cases hs : s' = x
    · exact hs ▸ step_disconnect_clean le secure w s'
    · exact frame (fun e => hs e.symm) (by rwa [if_neg hs] at h')

theorem run_clean (le : LexE) (secure : Bool) (evs : List Ev) (w : World) (a : Nat → Bool)
    (hinv : ∀ s, a s = false → w.clean s) :
    ∀ s, alive s evs (a s) = false → (run le secure w evs).1.clean s := by
  induction evs generalizing w a with
  | nil => intro s h; exact hinv s h
  | cons e es ih =>
    intro s h
    have hstep : ∀ x a0, alive x (e :: es) a0 = alive x es (alive x [e] a0) := fun x a0 => by cases e <;> rfl
    simp only [run]
    exact ih (step le secure w e).1 (fun x => alive x [e] (a x))
      (fun x hx => step_clean le secure w e x (a x) (hinv x) hx) s (hstep s (a s) ▸ h)

theorem eq_nil_of_lookup_none {α} {l : List (Nat × α)} (h : ∀ k, l.lookup k = none) : l = [] := by
  cases l with
  | nil => rfl
  | cons x l => have := h x.1; simp [List.lookup] at this

theorem empty_of_all_clean (w : World) (h : ∀ s, w.clean s) :
    w.t.buffers = [] ∧ w.t.clients = [] ∧ w.closing = [] := by
  have hc := fun s => (World.clean_iff w s).1 (h s)
  refine ⟨eq_nil_of_lookup_none fun s => (hc s).1, eq_nil_of_lookup_none fun s => (hc s).2.1, ?_⟩
  cases hb : w.closing with
  | nil => rfl
  | cons x l =>
    have := (hc x).2.2
    simp [hb] at this

open HttpResp in
theorem errResp_prepare (env : Env) (rq : HttpResp.Req) (code : Nat) (fl hb : Option Bytes) :
    (prepare rq (errResp env code fl hb)).close = true ∧
    untilClose rq (errResp env code fl hb) = false := by
  refine ⟨prepare_close_of_force rq _ rfl, ?_⟩
  unfold untilClose
  rw [prepare_clen]; simp [errResp, cLength]

/-- The part of `_on_read` after `execute` ends in one of four ways: nothing, a bare close, one error response
    after which no request / response pair is kept, or the dispatch - which is the `fire` verdict of C13's
    `afterExec` with no leaf raising, and leaves nothing for the socket once it is answered. -/
theorem afterExec14_cases (le : LexE) (cn : Conn) (p : PState) (beh : Beh) :
    (afterExec14 le cn p beh).2 = .wait ∨ (afterExec14 le cn p beh).2 = .closeOnly ∨
    (∃ e rq fl hb, (afterExec14 le cn p beh).2 = .reject e rq fl hb ∧ (afterExec14 le cn p beh).1.client = none) ∨
    (∃ fl hb body rq, afterExec14 le cn p beh = ({}, .dispatch fl hb body rq (answerOf beh)) ∧
      raisedIn le p.core = false ∧ exn400 le p.core = false ∧ exnReq le cn p.core = false ∧
      (afterExec le.base cn p).2 = .request fl hb body) := by
  unfold afterExec14
  split
  · exact .inr (.inr (.inl ⟨_, _, _, _, rfl, rfl⟩))
  · next hg =>
    simp only [Bool.or_eq_true, not_or, Bool.not_eq_true] at hg
    cases hx : afterExec le.base cn p with
    | mk cn' o =>
      cases o with
      | wait => exact .inl rfl
      | closeSsl => exact .inr (.inl rfl)
      | request fl hb body =>
        obtain ⟨_, _, req, _, _, rfl, _⟩ := afterExec_fire hx
        exact .inr (.inr (.inr ⟨fl, hb, body, _, rfl, hg.1.1, hg.1.2, hg.2, rfl⟩))
      | exn500 => exact .inr (.inr (.inl ⟨_, _, _, _, rfl, rfl⟩))
      | err400 =>
        refine .inr (.inr (.inl ?_))
        simp only [mapOut]
        split
        · exact ⟨_, _, _, _, rfl, rfl⟩
        · split <;> exact ⟨_, _, _, _, rfl, rfl⟩
      | err505 | err400NoHost | redirect301 =>
        refine .inr (.inr (.inl ?_))
        simp only [mapOut]
        split
        · exact ⟨_, _, _, _, rfl, rfl⟩
        · next hc => exact ⟨_, _, _, _, rfl, hc⟩

/-- the same for a whole read: a TLS hello on a plain port is a bare close, everything else goes through
    `afterExec14` on the parser state after `execute` -/
theorem connRead14_cases (le : LexE) (secure : Bool) (cn : Conn) (data : Bytes) (beh : Beh) :
    (connRead14 le secure cn data beh).2 = .wait ∨ (connRead14 le secure cn data beh).2 = .closeOnly ∨
    (∃ e rq fl hb, (connRead14 le secure cn data beh).2 = .reject e rq fl hb ∧
      (connRead14 le secure cn data beh).1.client = none) ∨
    (∃ fl hb body rq, connRead14 le secure cn data beh = ({}, .dispatch fl hb body rq (answerOf beh)) ∧
      raisedIn le (exec le.base (cn.parser.getD (init .request)) data).core = false ∧
      exn400 le (exec le.base (cn.parser.getD (init .request)) data).core = false ∧
      exnReq le cn (exec le.base (cn.parser.getD (init .request)) data).core = false ∧
      (afterExec le.base cn (exec le.base (cn.parser.getD (init .request)) data)).2 = .request fl hb body) := by
  unfold connRead14
  cases cn.parser with
  | some p => exact afterExec14_cases le cn _ beh
  | none =>
    dsimp only
    split
    · exact .inr (.inl rfl)
    · exact afterExec14_cases le cn _ beh

end Http14
end CV
