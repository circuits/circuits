import CV.Proofs.HttpParse
import CV.Model.HttpSpec
import CV.Proofs.HttpServer
/-
For C13's `wellformed_*` / `client_*` (hence the prefix `wf13_`), from the bottom up: the declarative notions of the RFC-derived spec
(`occurs`, `splitLine`, `trailerExact`) against the parser model's `find`, `trailersDone`, `trailerRest`; the chunk loop
of the parser model reads what the RFC chunked-body decoder `decodeChunked` reads; `exec lex (init k) msg` on a message
accepted by the RFC-derived decomposition `isReading` (CV/Model/HttpSpec.lean), phase by phase; what `_on_read` does
with a cleanly read request, and when exactly `_on_client_read` fires before the message is complete (read off the
invariant `Reach` of CV/Proofs/HttpServer.lean).
-/
namespace CV
namespace Http

theorem wf13_find_here (pat rest : Bytes) (hp : pat ≠ []) : find pat (pat ++ rest) = some 0 := by
  cases hpr : pat ++ rest with
  | nil =>
    have := (List.append_eq_nil_iff.mp hpr).1
    exact absurd this hp
  | cons a r =>
    unfold find
    have : (a :: r).take pat.length = pat := by rw [← hpr]; simp
    simp [this]

theorem wf13_find_at (pat a rest : Bytes) (hp : pat ≠ [])
    (h : occurs pat (a ++ pat.dropLast) = false) :
    find pat (a ++ (pat ++ rest)) = some a.length := by
  induction a with
  | nil => simpa using wf13_find_here pat rest hp
  | cons b a' ih =>
    simp only [List.cons_append] at h ⊢
    unfold occurs at h
    simp only [Bool.or_eq_false_iff] at h
    obtain ⟨h1, h2⟩ := h
    have hlen : pat.length ≤ (b :: (a' ++ pat.dropLast)).length := by
      simp only [List.length_cons, List.length_append, List.length_dropLast]
      have : 0 < pat.length := List.length_pos_iff.mpr hp
      omega
    have hne : ¬ (b :: (a' ++ (pat ++ rest))).take pat.length = pat := by
      intro heq
      have e : b :: (a' ++ (pat ++ rest)) =
          (b :: (a' ++ pat.dropLast)) ++ (pat.getLast hp :: rest) := by
        have := List.dropLast_concat_getLast hp
        calc b :: (a' ++ (pat ++ rest))
            = b :: (a' ++ ((pat.dropLast ++ [pat.getLast hp]) ++ rest)) := by rw [this]
          _ = _ := by simp
      rw [e, List.take_append_of_le_length hlen] at heq
      rw [heq] at h1
      simp at h1
    unfold find
    simp [hne, ih h2]

theorem wf13_splitLine {x l t : Bytes} (h : splitLine x = some (l, t)) :
    x = l ++ (CRLF ++ t) ∧ find CRLF x = some l.length := by
  induction x using splitLine.induct generalizing l t with
  | case1 => simp [splitLine] at h
  | case2 => simp [splitLine] at h
  | case3 a b r hab =>
    simp [splitLine, hab] at h
    obtain ⟨rfl, rfl⟩ := h
    obtain ⟨rfl, rfl⟩ := hab
    exact ⟨rfl, by simp [find, CRLF]⟩
  | case4 a b r hab l' t' hs ih =>
    simp [splitLine, hab, hs] at h
    obtain ⟨rfl, rfl⟩ := h
    obtain ⟨e, f⟩ := ih hs
    refine ⟨by rw [e]; rfl, ?_⟩
    have hne : ¬ (a :: b :: r).take CRLF.length = CRLF := by
      simp only [CRLF, List.length_cons, List.length_nil, List.take_succ_cons, List.take_zero]
      intro hh
      injection hh with h1 h2
      injection h2 with h2 _
      exact hab ⟨h1, h2⟩
    unfold find
    simp [hne, f]
  | case5 a b r hab hs => simp [splitLine, hab, hs] at h

theorem wf13_trailer {t : Bytes} (h : trailerExact t = true) :
    trailersDone t = true ∧ trailerRest t = [] := by
  unfold trailerExact at h
  simp only [Bool.or_eq_true, Bool.and_eq_true, beq_iff_eq, bne_iff_ne, ne_eq, decide_eq_true_eq,
    Bool.not_eq_true'] at h
  rcases h with h | ⟨⟨⟨h1, h2⟩, h3⟩, h4⟩
  · subst h
    exact ⟨by decide, by decide⟩
  · have e : t = t.take (t.length - 4) ++ (CRLF2 ++ []) := by
      rw [List.append_nil, ← h2, List.take_append_drop]
    have hdl : t.dropLast = t.take (t.length - 4) ++ CRLF2.dropLast := by
      have := List.dropLast_append_of_ne_nil (l' := t.take (t.length - 4)) (l := CRLF2) (by simp [CRLF2])
      rw [← this, ← h2, List.take_append_drop]
    rw [hdl] at h4
    have hf := wf13_find_at CRLF2 (t.take (t.length - 4)) [] (by simp [CRLF2]) h4
    rw [← e] at hf
    have hl : (t.take (t.length - 4)).length = t.length - 4 := by
      rw [List.length_take]; omega
    rw [hl] at hf
    refine ⟨by simp [trailersDone, hf], ?_⟩
    simp only [trailerRest, h1, if_false, hf]
    apply List.drop_eq_nil_of_le
    omega

theorem wf13_chunkStep (lex : Lex) (c : Core) {x line rest : Bytes} {n : Nat}
    (hs : splitLine x = some (line, rest)) (hl : lex.chunk line = some n) :
    chunkStep lex c x =
      if n = 0 then
        if trailersDone rest then
          .stop ⟨{ c with complete := true, over := c.over || !(trailerRest rest).isEmpty }, x⟩
        else .stop ⟨c, x⟩
      else if rest.length < n + 2 then .stop ⟨c, x⟩
      else .more { c with body := c.body ++ rest.take n } (rest.drop (n + 2)) := by
  obtain ⟨rfl, hf⟩ := wf13_splitLine hs
  have hd : (line ++ (CRLF ++ rest)).drop (line.length + 2) = rest := by rw [← List.drop_drop]; simp [CRLF]
  rw [chunkStep_size c hf (by simpa using hl), hd]

theorem wf13_chunkLoop (lex : Lex) (hchunk : ∀ l n, rfcChunkSize l = some n → lex.chunk l = some n)
    (x : Bytes) : ∀ (c : Core) (body : Bytes), decodeChunked x = some body →
      (chunkLoop lex c x).core = { c with body := c.body ++ body, complete := true } := by
  fun_induction decodeChunked x with
  | case1 => intro c body h; cases h
  | case2 => intro c body h; cases h
  | case3 x line rest hs hr ht =>
    -- the last chunk, followed by exactly one trailer section: complete, nothing left over
    intro c body h
    cases h
    obtain ⟨t1, t2⟩ := wf13_trailer ht
    have hstep := wf13_chunkStep lex c hs (hchunk _ _ hr)
    simp only [t1, t2, if_true] at hstep
    rw [chunkLoop_stop hstep]
    cases c
    simp
  | case4 => intro c body h; cases h
  | case5 x line rest hs size hr hcond b hd ih =>
    -- one chunk: the loop appends its data and goes round on what `decodeChunked` goes on with
    intro c body h
    cases h
    have hstep := wf13_chunkStep lex c hs (hchunk _ _ hr)
    rw [if_neg (Nat.succ_ne_zero _), if_neg (by omega)] at hstep
    rw [chunkLoop_more hstep, ih _ b hd]
    simp
  | case6 => intro c body h; cases h
  | case7 => intro c body h; cases h

/-- the header info the parser ends with for header block `hb` (`none`: no header fields); part of C13's
    `WellFormedRequest`, stated here because the lemmas below speak of it -/
def _root_.CV.C13.hdrInfoOf (lex : Lex) : Option Bytes → Option HdrInfo
  | none => some noHdrs
  | some b => lex.hdrs b

/-- what a clean, complete reading of one message leaves in the parser -/
structure wf13_Read (p : PState) (fl : Bytes) (f : FirstLine) (hb : Option Bytes) (h : HdrInfo)
    (body : Bytes) : Prop where
  bad : p.core.bad = false
  complete : p.core.complete = true
  hdrDone : p.core.hdrDone = true
  firstLine : p.core.firstLine = some fl
  fl : p.core.fl = some f
  hdrBlock : p.core.hdrBlock = hb
  hi : p.core.hi = some h
  body : p.core.body = body

/-- for `simp`, which then proves the fields one by one on a computed state -/
theorem wf13_read_iff {p : PState} {fl : Bytes} {f : FirstLine} {hb : Option Bytes} {h : HdrInfo}
    {body : Bytes} :
    wf13_Read p fl f hb h body ↔
      p.core.bad = false ∧ p.core.complete = true ∧ p.core.hdrDone = true ∧ p.core.firstLine = some fl ∧
      p.core.fl = some f ∧ p.core.hdrBlock = hb ∧ p.core.hi = some h ∧ p.core.body = body :=
  ⟨fun ⟨a, b, c, d, e, f, g, h⟩ => ⟨a, b, c, d, e, f, g, h⟩, fun ⟨a, b, c, d, e, f, g, h⟩ => ⟨a, b, c, d, e, f, g, h⟩⟩

theorem wf13_Read.ne_nil {lex : Lex} {k : Kind} {msg fl : Bytes} {f : FirstLine} {hb : Option Bytes} {h : HdrInfo}
    {body : Bytes} (hp : wf13_Read (exec lex (init k) msg) fl f hb h body) : msg ≠ [] := by
  rintro rfl
  have := hp.firstLine
  simp [exec, init] at this

theorem wf13_exec_init (lex : Lex) (k : Kind) (msg : Bytes) (hne : msg ≠ []) :
    exec lex (init k) msg = execFirst lex { kind := k } msg :=
  exec_first hne rfl rfl

theorem wf13_execFirst (lex : Lex) (c : Core) (fl tail : Bytes) (f : FirstLine)
    (hocc : occurs CRLF (fl ++ [13]) = false) (hf : lex.first c.kind fl = some f) :
    execFirst lex c (fl ++ (CRLF ++ tail)) =
      execHeaders lex { c with onFirst := true, firstLine := some fl, fl := some f } tail := by
  have ht : (fl ++ (CRLF ++ tail)).take fl.length = fl := by simp
  have hd : (fl ++ (CRLF ++ tail)).drop (fl.length + 2) = tail := by
    rw [← List.drop_drop]; simp [CRLF]
  rw [execFirst_ok (wf13_find_at CRLF fl tail (by simp [CRLF]) hocc) (by rw [ht]; exact hf), ht, hd]

theorem wf13_take2 (hb rest : Bytes) (hne : hb ≠ []) (h2 : hb.take 2 ≠ CRLF) :
    (hb ++ (CRLF2 ++ rest)).take 2 ≠ CRLF := by
  cases hb with
  | nil => exact absurd rfl hne
  | cons a t =>
    cases t with
    | nil => simp [CRLF, CRLF2]
    | cons b t' => simpa using h2

theorem wf13_execHeaders (lex : Lex) (c : Core) (hb enc : Bytes) (h : HdrInfo)
    (hne : hb ≠ []) (h2 : hb.take 2 ≠ CRLF) (hocc : occurs CRLF2 (hb ++ [13, 10, 13]) = false)
    (hl : lex.hdrs hb = some h) (hov : c.over = false) :
    execHeaders lex c (hb ++ (CRLF2 ++ enc)) =
      execBody lex
        (match h.clen with
          | .absent => { c with hdrBlock := some hb, hdrDone := true, hi := some h, chunked := h.te,
                                clenRest := if h.te then none else some maxsize }
          | .bad => { c with hdrBlock := some hb, hdrDone := true, hi := some h }
          | .val n => { c with hdrBlock := some hb, hdrDone := true, hi := some h, clen := some n,
                               clenRest := some n })
        enc false := by
  have hx : hb ++ (CRLF2 ++ enc) ≠ CRLF := by
    intro e
    have := congrArg List.length e
    have hpos : 0 < hb.length := List.length_pos_iff.mpr hne
    simp [CRLF, CRLF2] at this
    omega
  have ht2 := wf13_take2 hb enc hne h2
  have ht : (hb ++ (CRLF2 ++ enc)).take hb.length = hb := by simp
  have hd : (hb ++ (CRLF2 ++ enc)).drop (hb.length + 4) = enc := by
    rw [← List.drop_drop]; simp [CRLF2]
  rw [execHeaders_ok c hx (wf13_find_at CRLF2 hb enc (by simp [CRLF2]) hocc) (by rw [ht]; exact hl), ht, hd]
  simp only [ht2, decide_false, Bool.or_false]
  cases c
  simp only at hov
  subst hov
  cases h.clen <;> rfl

theorem isReading_iff {lex : Lex} {k : Kind} {msg fl : Bytes} {hb : Option Bytes} {body : Bytes} :
    isReading lex k msg fl hb body = true ↔
      occurs CRLF (fl ++ [13]) = false ∧ ∃ f, lex.first k fl = some f ∧
        match hb with
        | none => msg = fl ++ CRLF ++ CRLF ∧ body = [] ∧ (k = .request ∨ f.status = some 204)
        | some b => b ≠ [] ∧ b.take 2 ≠ CRLF ∧ occurs CRLF2 (b ++ [13, 10, 13]) = false ∧
            ∃ h enc, lex.hdrs b = some h ∧ msg = fl ++ (CRLF ++ (b ++ (CRLF2 ++ enc))) ∧ h.upgrade = false ∧
              bodyOk k h enc body = true := by
  unfold isReading
  cases hf : lex.first k fl with
  | none => simp
  | some f =>
    cases hb with
    | none => simp [and_assoc]
    | some b =>
      have hpre : ∀ enc', ((fl ++ CRLF ++ b ++ CRLF2).isPrefixOf msg = true ∧
            msg.drop (fl ++ CRLF ++ b ++ CRLF2).length = enc') ↔ msg = fl ++ (CRLF ++ (b ++ (CRLF2 ++ enc'))) := by
        intro enc'
        rw [List.isPrefixOf_iff_prefix, List.prefix_iff_eq_append]
        constructor
        · rintro ⟨e, rfl⟩; simpa using e.symm
        · intro e
          have e' : msg = (fl ++ CRLF ++ b ++ CRLF2) ++ enc' := by simpa using e
          rw [e', List.drop_left]; exact ⟨rfl, rfl⟩
      cases hl : lex.hdrs b with
      | none => simp [hl]
      | some h =>
        simp only [hl, Option.some.injEq, exists_eq_left']
        constructor
        · intro hr
          simp only [Bool.and_eq_true, Bool.not_eq_true', bne_iff_ne, ne_eq, List.isEmpty_eq_false_iff] at hr
          obtain ⟨hocc, ⟨⟨hne, h2⟩, hocc2⟩, ⟨hp, hup⟩, hbody⟩ := hr
          exact ⟨hocc, hne, h2, hocc2, _, _, rfl, (hpre _).1 ⟨hp, rfl⟩, hup, hbody⟩
        · rintro ⟨hocc, hne, h2, hocc2, _, enc, rfl, hm, hup, hbody⟩
          obtain ⟨hp, hd⟩ := (hpre enc).2 hm
          simp only [Bool.and_eq_true, Bool.not_eq_true', bne_iff_ne, ne_eq, List.isEmpty_eq_false_iff]
          exact ⟨hocc, ⟨⟨hne, h2⟩, hocc2⟩, ⟨hp, hup⟩, hd ▸ hbody⟩

theorem bodyOk_iff {k : Kind} {h : HdrInfo} {enc body : Bytes} :
    bodyOk k h enc body = true ↔
      (∃ n, h.clen = .val n ∧ 0 ≤ n ∧ enc = body ∧ (body.length : Int) = n) ∨
      (h.clen = .absent ∧ h.te = true ∧ decodeChunked enc = some body) ∨
      (h.clen = .absent ∧ h.te = false ∧ k = .request ∧ enc = [] ∧ body = []) := by
  unfold bodyOk
  cases h.clen with
  | bad => simp
  | val n => simp [and_assoc]
  | absent => cases h.te <;> simp [and_assoc]

/-- One-piece delivery of a message that `isReading` accepts ends in the state `wf13_Read` describes.
    `hreq`: a request line carries no status code. -/
theorem wf13_exec (lex : Lex) (k : Kind) (msg fl : Bytes) (hb : Option Bytes) (body : Bytes)
    (hr : isReading lex k msg fl hb body = true)
    (hchunk : ∀ l n, rfcChunkSize l = some n → lex.chunk l = some n)
    (hreq : k = .request → ∀ f, lex.first k fl = some f → f.status = none) :
    ∃ f hi, lex.first k fl = some f ∧ C13.hdrInfoOf lex hb = some hi ∧ hi.clen ≠ .bad ∧ hi.upgrade = false ∧
      wf13_Read (exec lex (init k) msg) fl f hb hi body := by
  obtain ⟨hocc, f, hf, hr⟩ := isReading_iff.1 hr
  refine ⟨f, ?_⟩
  cases hb with
  | none =>
    obtain ⟨rfl, rfl, hk⟩ := hr
    refine ⟨noHdrs, hf, rfl, by simp [noHdrs], rfl, ?_⟩
    rw [wf13_exec_init lex k _ (by simp [CRLF]), List.append_assoc, wf13_execFirst lex _ fl CRLF f hocc hf,
      execHeaders_crlf, wf13_read_iff]
    -- no header fields: complete at once for a request and for a 204
    rcases hk with hk | hk
    · simp [execBody, Core.status, hreq hk f hf, Core.bad]
    · simp [execBody, Core.status, hk, Core.bad]
  | some hb =>
    obtain ⟨hne, h2, hocc2, h, enc, hl, rfl, hup, hbody⟩ := hr
    refine ⟨h, hf, hl, fun hc => ?_, hup, ?_⟩
    · rcases bodyOk_iff.1 hbody with ⟨_, e, _⟩ | ⟨e, _⟩ | ⟨e, _⟩ <;> rw [hc] at e <;> cases e
    rw [wf13_exec_init lex k _ (by simp [CRLF]), wf13_execFirst lex _ fl _ f hocc hf,
      wf13_execHeaders lex _ hb enc h hne h2 hocc2 hl rfl]
    rcases bodyOk_iff.1 hbody with ⟨n, hc, hn, rfl, hlen⟩ | ⟨hc, hte, hdec⟩ | ⟨hc, hte, hk, rfl, rfl⟩
    · -- Content-Length: the body phase takes all of `enc`, which is exactly the announced length
      have hz : n - (enc.length : Int) = 0 := by omega
      simp [wf13_read_iff, hc, execBody, Core.status, Core.bad, hz]
    · -- chunked: the chunk loop reads what the RFC decoder reads
      simp only [hc, hte, if_true]
      rw [execBody_chunked lex enc rfl]
      have hcl := wf13_chunkLoop lex hchunk enc
        { kind := k, onFirst := true, firstLine := some fl, fl := some f, hdrBlock := some hb,
          hdrDone := true, hi := some h, chunked := true, clenRest := none, msgBegin := true }
        body hdec
      simp [wf13_read_iff, hcl, Core.bad]
    · -- no framing header: a request without body
      simp [wf13_read_iff, hc, hte, execBody, Core.status, hreq hk f hf, Core.bad]

theorem wf13_afterExec {lex : Lex} {p : PState} {fl : Bytes} {f : FirstLine} {hb : Option Bytes}
    {h : HdrInfo} {body : Bytes} (hp : wf13_Read p fl f hb h body)
    (hv : verdict lex true ⟨fl, f, hb, h⟩ true = .fire) :
    afterExec lex {} p = (⟨none, some ⟨fl, f, hb, h⟩⟩, .request fl hb body) := by
  have hbad := hp.bad
  simp only [Core.bad, Bool.or_eq_false_iff] at hbad
  have hreq : reqOf none p = some ⟨fl, f, hb, h⟩ := by
    simp [reqOf, hp.firstLine, hp.fl, hp.hi, hp.hdrBlock]
  rw [afterExec_request hbad.2 hp.hdrDone hreq (by rw [hp.complete]; exact hv), hp.body]

/-- **when the client fires before the end of a clean stream**: in a state `s` that still has
    bytes `r` to come, `_on_client_read` fires iff the headers are complete and they are an
    Upgrade (`is_upgrade()`); the other two disjuncts of its test cannot hold -/
theorem wf13_client_mid (lex : Lex) (s : PState) (r : Bytes) (hr : r ≠ []) (hs : Reach s.core)
    (hclean : (exec lex s r).core.bad = false) :
    clientFires s.core = (s.core.hdrDone && isUpgrade (exec lex s r).core) := by
  obtain ⟨_, hc⟩ := midstream lex hs.wf hr hclean
  cases hd : s.core.hdrDone with
  | false => simp [clientFires, isUpgrade, (hs.pre hd).2.2, hc, hd]
  | true =>
    have hcl : (s.core.clen == some 0) = false :=
      Bool.eq_false_iff.2 fun h => nomatch hc.symm.trans (hs.clen0 hd (eq_of_beq h))
    simp [clientFires, isUpgrade, (exec_ext_hdr lex s r hs.wf hd).hi, hc, hd, hcl]

end Http
end CV
