import CV.Proofs.InvForest
/-
C07, "announced once": apart from the steps `.registerFin` and the detaching `invoke`, no step of
the machine logs the `fire` of an event named `registered` / `unregistered` - provided no user
template carries one of these names (and there are no timers: a timer re-fires a stored event
object, whose name would need one more invariant).  Proof pattern of CV/Proofs/Pres.lean: the lemmas
of `Quiet` carry `st_pres`.
-/
namespace CV.Core

/-- one of the two names the tree operations announce with -/
def RegName (n : Name) : Prop := n = Name.registered ∨ n = Name.unregistered

instance : DecidablePred RegName := fun n => inferInstanceAs (Decidable (_ ∨ _))

/-- a log entry for the `fire` of an event named `registered` / `unregistered` -/
def RegFire : Entry → Prop
  | .fire _ n _ _ => RegName n
  | _ => False

/-- no user template carries one of the two names, so that firing from a template (`Quiet.fireTmplEv_tmpl`) announces nothing -/
def TmplOk (ts : List Tmpl) : Prop := ∀ t, t ∈ ts → ¬ RegName t.name

theorem not_regName_child (n : Name) (sfx : Nat) : ¬ RegName (n.child sfx) := by
  intro h
  rcases h with h | h <;>
  · have := congrArg Name.sfx h
    simp [Name.child, Name.registered, Name.unregistered] at this

theorem TmplOk.getD {ts : List Tmpl} (h : TmplOk ts) (i : Nat) :
    ¬ RegName (ts.getD i { name := ⟨0, []⟩ }).name := by
  rw [List.getD_eq_getElem?_getD]
  cases hi : ts[i]? with
  | none => decide
  | some t => exact h t (List.mem_of_getElem? hi)

/-- from `t` to `u` the templates stay, no timer appears, and the log grows by entries none of which is a `RegFire` -/
structure QStep (t u : St) : Prop where
  tmpls : u.tmpls = t.tmpls
  timers : t.timers = [] → u.timers = []
  log : ∃ es, u.log = es ++ t.log ∧ ∀ x, x ∈ es → ¬ RegFire x

/-- C07's `Quiet`: nothing is announced from `s` to `t`.  The two hypotheses on `s` are inside, because a walk needs them
    again at `t` (`Quiet.fireTmplEv_tmpl`, `Quiet.timerTick`), where `QStep` hands them on.  `CV.Core.C05.Quiet` of
    InvEffects.lean is another relation (the effects accounting is not touched); InvPending.lean and CV/Props/C07.lean open
    both namespaces. -/
def Quiet (s t : St) : Prop := TmplOk s.tmpls → s.timers = [] → QStep s t

namespace Quiet

@[st_pres ↓] theorem refl (s : St) : Quiet s s := fun _ _ => ⟨rfl, fun e => e, [], rfl, fun _ h => by cases h⟩

variable {s t : St}

theorem step_of (h : Quiet s t) {u : St} (h1 : TmplOk t.tmpls → t.timers = [] → QStep t u) : Quiet s u := by
  intro hT h0
  obtain ⟨a1, a2, es1, a3, a4⟩ := h hT h0
  obtain ⟨b1, b2, es2, b3, b4⟩ := h1 (a1 ▸ hT) (a2 h0)
  refine ⟨b1.trans a1, fun _ => b2 (a2 h0), es2 ++ es1, by rw [b3, a3, List.append_assoc], ?_⟩
  intro x hx
  rcases List.mem_append.mp hx with hx | hx
  · exact b4 x hx
  · exact a4 x hx

theorem same (h : Quiet s t) {u : St} (ht : u.tmpls = t.tmpls) (hm : t.timers = [] → u.timers = [])
    (hl : u.log = t.log) : Quiet s u :=
  h.step_of fun _ _ => ⟨ht, hm, [], hl, fun _ hx => by cases hx⟩

@[st_pres ↓] theorem modComp (h : Quiet s t) (c : Nat) (f : Comp → Comp) : Quiet s (t.modComp c f) := h.same rfl (fun e => e) rfl
@[st_pres ↓] theorem modEv (h : Quiet s t) (e : Nat) (f : Ev → Ev) : Quiet s (t.modEv e f) := h.same rfl (fun e => e) rfl
@[st_pres ↓] theorem modWait (h : Quiet s t) (w : Nat) (f : WaitSt → WaitSt) : Quiet s (t.modWait w f) := h.same rfl (fun e => e) rfl

@[st_pres ↓] theorem modTimer (h : Quiet s t) (i : Nat) (f : TimerSt → TimerSt) : Quiet s (t.modTimer i f) :=
  h.same rfl (fun e => by simp [St.modTimer, e]) rfl

@[st_pres ↓] theorem setGen (h : Quiet s t) (g : Nat) (x : GenRec) : Quiet s (t.setGen g x) := h.same rfl (fun e => e) rfl
@[st_pres ↓] theorem addEv (h : Quiet s t) (e : Ev) : Quiet s (t.addEv e) := h.same rfl (fun e => e) rfl
@[st_pres ↓] theorem addH (h : Quiet s t) (x : Handler) : Quiet s (t.addH x) := h.same rfl (fun e => e) rfl
@[st_pres ↓] theorem addGen (h : Quiet s t) (g : GenRec) : Quiet s (t.addGen g) := h.same rfl (fun e => e) rfl
@[st_pres ↓] theorem addWait (h : Quiet s t) (w : WaitSt) : Quiet s (t.addWait w) := h.same rfl (fun e => e) rfl
@[st_pres ↓] theorem tick1 (h : Quiet s t) (d : Int) : Quiet s (t.tick1 d) := h.same rfl (fun e => e) rfl

@[st_pres ↓] theorem logE (h : Quiet s t) (x : Entry) (hx : ¬ RegFire x) : Quiet s (t.logE x) :=
  h.step_of fun _ _ => ⟨rfl, fun e => e, [x], rfl, fun _ hy => List.mem_singleton.mp hy ▸ hx⟩

end Quiet

theorem Quiet.fireRaw {s t : St} (h : Quiet s t) (self e : Nat) (chans : List Chan) (prio : Int)
    (hn : ¬ RegName (t.ev e).name) : Quiet s (t.fireRaw self e chans prio) :=
  h.step_of fun _ _ => ⟨St.fireRaw_tmpls .., fun h0 => (St.fireRaw_timers ..).trans h0,
    [Entry.fire e (t.ev e).name chans prio], St.fireRaw_log t self e chans prio,
    fun _ hy => List.mem_singleton.mp hy ▸ hn⟩

@[st_pres ↓] theorem Quiet.fireChild {s t : St} (h : Quiet s t) (self p sfx : Nat) (chans : List Chan) :
    Quiet s (t.fireChild self p sfx chans) := by
  unfold St.fireChild St.childEv
  refine Quiet.fireRaw (h.addEv _) _ _ _ _ ?_
  rw [St.w6_addEv_ev, if_pos rfl]
  exact not_regName_child _ _

@[st_pres ↓] theorem Quiet.fireTmplEv {s t : St} (h : Quiet s t) (self : Nat) (ev : Ev) (target : Option Chan) (prio : Int)
    (hn : ¬ RegName ev.name) : Quiet s (t.fireTmplEv self ev target prio) := by
  unfold St.fireTmplEv
  dsimp only
  refine Quiet.fireRaw (h.addEv _) _ _ _ _ ?_
  rw [St.w6_addEv_ev, if_pos rfl]
  exact hn

@[st_pres ↓] theorem Quiet.fireTmplEv_tmpl {s t : St} (h : Quiet s t) (self i : Nat) (target : Option Chan) (prio : Int) :
    Quiet s (t.fireTmplEv self (mkEvOfTmpl t i) target prio) := by
  intro hT h0
  have hTt : TmplOk t.tmpls := (h hT h0).tmpls ▸ hT
  exact Quiet.fireTmplEv h self _ target prio (by unfold mkEvOfTmpl; exact hTt.getD i) hT h0

@[st_pres ↓] theorem Quiet.tickGenerate {s t : St} (h : Quiet s t) (c : Nat) : Quiet s (t.tickGenerate c) := by
  unfold St.tickGenerate
  dsimp only
  split
  · refine Quiet.fireRaw ((h.tick1 1).addEv _) _ _ _ _ ?_
    rw [St.w6_addEv_ev, if_pos rfl]
    decide
  · exact h

@[st_pres ↓] theorem Quiet.timerTick {s t : St} (h : Quiet s t) (i e : Nat) : Quiet s (t.timerTick i e) := by
  refine h.step_of fun hT h0 => ?_
  rw [t.timerTick_nil i e h0]
  exact Quiet.refl t hT h0

/-- the side conditions of `Quiet.logE` (the entry is not a `fire`) and `Quiet.fireTmplEv` (a literal name) -/
macro_rules | `(tactic| st_pres_side) => `(tactic| first
  | (with_reducible show ¬ RegFire _) <;> with_unfolding_all exact id (fun h => h)
  | (with_reducible show ¬ RegName _) <;> (try dsimp only) <;> decide)

@[st_pres ↓] theorem Quiet.addHandler {s t : St} (h : Quiet s t) (x : Nat) : Quiet s (t.addHandler x) :=
  St.addHandler_pres t x h (fun _ h => by st_pres) (fun _ _ h => by st_pres) (fun _ _ h => by st_pres)

@[st_pres ↓] theorem Quiet.removeHandler {s t : St} (h : Quiet s t) (x : Nat) (n : Option Name) :
    Quiet s ((t.removeHandler x n).2) := by
  st_pres_unfold St.removeHandler

@[st_pres ↓] theorem Quiet.inform {s t : St} (h : Quiet s t) (e : Nat) (force : Bool) :
    Quiet s (t.inform e force) := by
  st_pres_unfold St.inform

@[st_pres ↓] theorem Quiet.setValue {s t : St} (h : Quiet s t) (e : Nat) (x : VItem) :
    Quiet s (t.setValue e x) := by
  st_pres_unfold St.setValue

@[st_pres ↓] theorem Quiet.effectDone1 {s t : St} (h : Quiet s t) (r e : Nat) (announce : Bool) :
    Quiet s ((t.effectDone1 r e announce).2) :=
  St.effectDone1_pres t r e announce h (fun _ => by st_pres) (fun _ _ h => by st_pres) (fun _ h => by st_pres)

@[st_pres ↓] theorem Quiet.eventDonePre {s t : St} (h : Quiet s t) (r e : Nat) (err : Bool) :
    Quiet s ((t.eventDonePre r e err).2) := by
  st_pres_unfold St.eventDonePre

@[st_pres ↓] theorem Quiet.registerTask {s t : St} (h : Quiet s t) (c : Nat) (x : Task) :
    Quiet s (t.registerTask c x) := by
  st_pres_unfold St.registerTask

@[st_pres ↓] theorem Quiet.unregisterTask {s t : St} (h : Quiet s t) (c : Nat) (x : Task) :
    Quiet s (t.unregisterTask c x) := by
  st_pres_unfold St.unregisterTask

@[st_pres ↓] theorem Quiet.reduceTimeLeft {s t : St} (h : Quiet s t) (e : Nat) (d : Int) :
    Quiet s (t.reduceTimeLeft e d) := by
  st_pres_unfold St.reduceTimeLeft

@[st_pres ↓] theorem Quiet.registerPre {s t : St} (h : Quiet s t) (c p : Nat) :
    Quiet s ((t.registerPre c p).2) :=
  St.registerPre_pres h c p (fun _ => by st_pres) (fun _ _ h => by st_pres) (fun _ h => by st_pres)
    (fun _ _ _ _ h => by st_pres)

@[st_pres ↓] theorem Quiet.unregister {s t : St} (h : Quiet s t) (c : Nat) :
    Quiet s (t.unregister c) := by
  st_pres_unfold St.unregister

@[st_pres ↓] theorem Quiet.prepUnregFin {s t : St} (h : Quiet s t) (c : Nat) :
    Quiet s (t.prepUnregFin c) := by
  st_pres_unfold St.prepUnregFin

@[st_pres ↓] theorem Quiet.actFire {s t : St} (h : Quiet s t) (self i : Nat) (target : Option Chan) (prio : Int) (cancel : Bool) :
    Quiet s (t.actFire self i target prio cancel) := by
  st_pres_unfold St.actFire

@[st_pres ↓] theorem Quiet.actStopEv {s t : St} (h : Quiet s t) (ev : Option Nat) :
    Quiet s (t.actStopEv ev) := by
  st_pres_unfold St.actStopEv

@[st_pres ↓] theorem Quiet.timerReset {s t : St} (h : Quiet s t) (i : Nat) :
    Quiet s (t.timerReset i) := by
  st_pres_unfold St.timerReset

@[st_pres ↓] theorem Quiet.timerCreate {s t : St} (h : Quiet s t) (i : Nat) :
    Quiet s (t.timerCreate i) := by
  st_pres_unfold St.timerCreate

@[st_pres ↓] theorem Quiet.startWait {s t : St} (h : Quiet s t) (w : Nat) :
    Quiet s (t.startWait w) :=
  St.startWait_pres t w h (fun _ _ => by st_pres) (fun _ _ _ _ _ h => by st_pres) (fun _ _ _ _ _ h => by st_pres)

@[st_pres ↓] theorem Quiet.stopBegin {s t : St} (h : Quiet s t) (c : Nat) :
    Quiet s (t.stopBegin c) := by
  st_pres_unfold St.stopBegin

@[st_pres ↓] theorem Quiet.stopSetCode {s t : St} (h : Quiet s t) (r : Nat) (code : Code) :
    Quiet s (t.stopSetCode r code) := by
  st_pres_unfold St.stopSetCode

@[st_pres ↓] theorem Quiet.genCall {s t : St} (h : Quiet s t) (owner i : Nat) (target : Option Chan) (timeout : Option Nat) :
    Quiet s (t.genCall owner i target timeout) := by
  st_pres_unfold St.genCall

@[st_pres ↓] theorem Quiet.genWait {s t : St} (h : Quiet s t) (owner : Nat) (name : Name) (target : Option Chan) (timeout : Option Nat) :
    Quiet s (t.genWait owner name target timeout) := by
  st_pres_unfold St.genWait

@[st_pres ↓] theorem Quiet.resumeGenPre {s t : St} (h : Quiet s t) (g : Nat) (silent : Bool) :
    Quiet s (t.resumeGenPre g silent) := by
  st_pres_unfold St.resumeGenPre

@[st_pres ↓] theorem Quiet.stopIteration {s t : St} (h : Quiet s t) (r : Nat) (x : Task) :
    Quiet s ((t.stopIteration r x).2) :=
  St.stopIteration_pres t r x (by st_pres) (fun _ _ h => by st_pres) (fun _ h => by st_pres)

@[st_pres ↓] theorem Quiet.fireException {s t : St} (h : Quiet s t) (r e : Nat) :
    Quiet s (t.fireException r e) := by
  st_pres_unfold St.fireException

@[st_pres ↓] theorem Quiet.errorBranch {s t : St} (h : Quiet s t) (r : Nat) (x : Task) (resumed : Bool) :
    Quiet s ((t.errorBranch r x resumed).2) :=
  St.errorBranch_pres t r x resumed (by st_pres) (fun _ h => by st_pres) (fun _ h => by st_pres)
    (fun _ _ h => by st_pres) (fun _ _ h => by st_pres) (fun _ h => by st_pres) (fun _ _ h => by st_pres)

@[st_pres ↓] theorem Quiet.ownSub {s t : St} (h : Quiet s t) (r : Nat) (x : Task) (w : Nat) :
    Quiet s (t.ownSub r x w) := by
  st_pres_unfold St.ownSub

@[st_pres ↓] theorem Quiet.setValueOpt {s t : St} (h : Quiet s t) (e : Nat) (v : Option Nat) :
    Quiet s (t.setValueOpt e v) := by
  st_pres_unfold St.setValueOpt

@[st_pres ↓] theorem Quiet.parentSub {s t : St} (h : Quiet s t) (r : Nat) (x : Task) (p w2 : Nat) (viaThrow : Bool) :
    Quiet s (t.parentSub r x p w2 viaThrow) := by
  st_pres_unfold St.parentSub

@[st_pres ↓] theorem Quiet.parentPlain {s t : St} (h : Quiet s t) (r : Nat) (x : Task) (p : Nat) (v : Option Nat) (viaThrow : Bool) :
    Quiet s (t.parentPlain r x p v viaThrow) := by
  st_pres_unfold St.parentPlain

@[st_pres ↓] theorem Quiet.onWaitEvent {s t : St} (h : Quiet s t) (w e : Nat) :
    Quiet s ((t.onWaitEvent w e).2) := by
  st_pres_unfold St.onWaitEvent

@[st_pres ↓] theorem Quiet.onWaitDone {s t : St} (h : Quiet s t) (w e : Nat) :
    Quiet s ((t.onWaitDone w e).2) :=
  St.onWaitDone_pres t w e h (fun _ _ _ h => by st_pres) (fun _ _ => by st_pres)

@[st_pres ↓] theorem Quiet.onWaitTick {s t : St} (h : Quiet s t) (w : Nat) :
    Quiet s ((t.onWaitTick w).2) :=
  St.onWaitTick_pres t w h (fun _ _ _ h => by st_pres) (fun _ _ _ => by st_pres) (by st_pres)

@[st_pres ↓] theorem Quiet.onFallbackGE {s t : St} (h : Quiet s t) (e : Nat) :
    Quiet s ((t.onFallbackGE e).2) := by
  st_pres_unfold St.onFallbackGE

@[st_pres ↓] theorem Quiet.computeHandlers {s t : St} (h : Quiet s t) (r : Nat) (name : Name) (chans : List Chan) :
    Quiet s ((t.computeHandlers r name chans).2) := by
  st_pres_unfold St.computeHandlers

@[st_pres ↓] theorem Quiet.dispComplete {s t : St} (h : Quiet s t) (e : Nat) (ev : Ev) :
    Quiet s (t.dispComplete e ev) := by
  st_pres_unfold St.dispComplete

@[st_pres ↓] theorem Quiet.cacheRefresh {s t : St} (h : Quiet s t) (r : Nat) :
    Quiet s (t.cacheRefresh r) := by
  st_pres_unfold St.cacheRefresh

@[st_pres ↓] theorem Quiet.lookupHandlers {s t : St} (h : Quiet s t) (r : Nat) (name : Name) (chans : List Chan) :
    Quiet s ((t.lookupHandlers r name chans).2) := by
  st_pres_unfold St.lookupHandlers

@[st_pres ↓] theorem Quiet.dispGE {s t : St} (h : Quiet s t) (r e remaining : Nat) (name : Name) :
    Quiet s (t.dispGE r e remaining name) := by
  st_pres_unfold St.dispGE

@[st_pres ↓] theorem Quiet.dispatchPre {s t : St} (h : Quiet s t) (r e remaining : Nat) :
    Quiet s ((t.dispatchPre r e remaining).2) := by
  st_pres_unfold St.dispatchPre

@[st_pres ↓] theorem Quiet.handlerRaised {s t : St} (h : Quiet s t) (r e : Nat) :
    Quiet s (t.handlerRaised r e) := by
  st_pres_unfold St.handlerRaised

@[st_pres ↓] theorem Quiet.applyValue {s t : St} (h : Quiet s t) (r e : Nat) (value : Outcome) :
    Quiet s (t.applyValue r e value) := by
  st_pres_unfold St.applyValue

@[st_pres ↓] theorem Quiet.geTasksCheck {s t : St} (h : Quiet s t) (r e : Nat) :
    Quiet s (t.geTasksCheck r e) := by
  st_pres_unfold St.geTasksCheck

@[st_pres ↓] theorem Quiet.flushBegin {s t : St} (h : Quiet s t) (r : Nat) :
    Quiet s (t.flushBegin r) := by
  st_pres_unfold St.flushBegin

@[st_pres ↓] theorem Quiet.runBegin {s t : St} (h : Quiet s t) (c : Nat) :
    Quiet s (t.runBegin c) := by
  st_pres_unfold St.runBegin

@[st_pres ↓] theorem Quiet.runEnd {s t : St} (h : Quiet s t) (c : Nat) :
    Quiet s ((t.runEnd c).2) := by
  st_pres_unfold St.runEnd

@[st_pres ↓] theorem Quiet.actStep {s t : St} (h : Quiet s t) (ctx : HCtx) (a : Act) : Quiet s (actStep t ctx a).st := by
  cases a <;> (unfold CV.Core.actStep; (try dsimp only); st_pres)

@[st_pres ↓] theorem Quiet.updateRootAll (s : St) : ∀ (fuel : Nat) (todo : List Nat) (root : Nat) (t : St),
    Quiet s t → Quiet s (St.updateRootAll fuel todo root t) := fun fuel todo root t =>
  St.updateRootAll_pres root (fun _ _ h => h.modComp _ _) fuel todo t

theorem Quiet.keeps (s : St) (o : Op) (ho : o ∉ [Op.registerFin, .prepUnregPre]) : o.Keeps (Quiet s) := by
  cases o
  case registerFin | prepUnregPre => exact absurd (by decide) ho
  all_goals (intro t h; intros; st_pres)

theorem Cfg.invoke_quiet (c : Cfg) (k : List Frame) (r h e : Nat)
    (hk : (c.st.handler h).kind ≠ HKind.prepUnregComplete) : Quiet c.st (c.invoke k r h e).st :=
  Cfg.invoke_pres_ne c k r h e hk (avoids_keeps (by rfl) (Quiet.keeps _)) (Quiet.refl _)

def Frame.announces (s : St) : Frame → Prop
  | .registerFin _ => True
  | .invoke _ h _ => (s.handler h).kind = HKind.prepUnregComplete
  | _ => False

theorem stepFrame_quiet (c : Cfg) (k : List Frame) (f : Frame) (hf : ¬ f.announces c.st) :
    Quiet c.st (stepFrame c k f).st := by
  cases f with
  | registerFin x => exact absurd trivial hf
  | invoke r h e => exact Cfg.invoke_quiet c k r h e hf
  | _ => exact stepFrame_pres_avoiding c k (Quiet.keeps _) _ rfl (Quiet.refl _)

theorem unwind_quiet (c : Cfg) (k : List Frame) (ex : Exn) (f : Frame) : Quiet c.st (unwind c k ex f).st :=
  unwind_pres_avoiding c k (Quiet.keeps _) ex f rfl (Quiet.refl _)

theorem step_quiet (c : Cfg) (hT : TmplOk c.st.tmpls) (h0 : c.st.timers = [])
    (hf : ∀ f k, c.stack = f :: k → c.exn = none → ¬ f.announces c.st) :
    ∃ es, (step c).st.log = es ++ c.st.log ∧ ∀ x, x ∈ es → ¬ RegFire x := by
  unfold step
  split
  · exact ⟨[], rfl, fun _ h => by cases h⟩
  · rename_i f k hst
    split
    · exact (unwind_quiet c k _ f hT h0).log
    · rename_i hx
      exact (stepFrame_quiet c k f (hf f k hst hx) hT h0).log

end CV.Core
