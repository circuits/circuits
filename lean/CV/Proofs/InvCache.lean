import CV.Proofs.InvCacheBase
import CV.Proofs.ForestDefs
import CV.Proofs.CoreQueue
/-
C01, cache layer: the step proof, the invariant of every reachable configuration and the dispatch theorem.

`J E t` (forest fact + cache invariant with exemptions `E`) goes through every pure helper in continuation form
(`J E t → J E (helper t)`, lemmas tagged `st_pres`: pattern of CV/Proofs/Pres.lean) and survives every operation of the arms
but the two that write `root` fields (`J.keeps`); these belong to the arms `.register` and `.invoke` (detach).  The detaching
step leaves the detached component, by then its own root, without the flag until the next step, of frame `.prepUnregFin`:
that window is the second case of the configuration invariant `P`, and `reach_live` exempts the component in it.

The invariant carried along a run is `K` alone (`P` speaks of `K`).  The tree half of `J` is not: the helpers need it while
they work, the arms (`Cfg.<arm>_ci`, "keeps the cache invariant") drop it with `.k`, and at the next step it is supplied
afresh from the forest invariant of C07 (`TreeFacts`, hypothesis `hF` of `reach_live`, by `ForestInv.cacheFacts`).
-/
namespace CV.Core.Live

variable {E : Nat → Prop} {t : St}

@[st_pres ↓] theorem J.modEv (h : J E t) (e : Nat) (f : Ev → Ev) : J E (t.modEv e f) := h.of_same (Same.of_eq rfl rfl)
@[st_pres ↓] theorem J.modWait (h : J E t) (w : Nat) (f : WaitSt → WaitSt) : J E (t.modWait w f) := h.of_same (Same.of_eq rfl rfl)
@[st_pres ↓] theorem J.modTimer (h : J E t) (i : Nat) (f : TimerSt → TimerSt) : J E (t.modTimer i f) := h.of_same (Same.of_eq rfl rfl)
@[st_pres ↓] theorem J.setGen (h : J E t) (g : Nat) (x : GenRec) : J E (t.setGen g x) := h.of_same (Same.of_eq rfl rfl)
@[st_pres ↓] theorem J.logE (h : J E t) (x : Entry) : J E (t.logE x) := h.of_same (Same.of_eq rfl rfl)
@[st_pres ↓] theorem J.addEv (h : J E t) (e : Ev) : J E (t.addEv e) := h.of_same (Same.of_eq rfl rfl)
@[st_pres ↓] theorem J.addGen (h : J E t) (g : GenRec) : J E (t.addGen g) := h.of_same (Same.of_eq rfl rfl)
@[st_pres ↓] theorem J.addWait (h : J E t) (w : WaitSt) : J E (t.addWait w) := h.of_same (Same.of_eq rfl rfl)
@[st_pres ↓] theorem J.tick1 (h : J E t) (d : Int) : J E (t.tick1 d) := h.of_same (Same.of_eq rfl rfl)
@[st_pres ↓] theorem J.addH (h : J E t) (x : Handler) : J E (t.addH x) := h.of_same (Same.addH t x)

@[st_pres ↓] theorem J.flagOnly (h : J E t) (r : Nat) (f : Comp → Comp) (hf : Flag f) : J E (t.modComp r f) :=
  h.flag r f hf (fun _ hy => Or.inl hy)

/-- the seven fields of `Neutral` / `Flag`, each by `rfl` -/
macro "keep7" : tactic =>
  `(tactic| (refine ⟨?_, ?_, ?_, ?_, ?_, ?_, ?_⟩ <;> intro _ <;> rfl))

/-- the side condition of `J.modComp` / `J.flagOnly` -/
macro_rules | `(tactic| st_pres_side) => `(tactic| first
  | (with_reducible show Neutral _) <;> with_unfolding_all keep7
  | (with_reducible show Flag _) <;> with_unfolding_all keep7)

@[st_pres ↓] theorem J.fireContext (h : J E t) (r e : Nat) : J E (t.fireContext r e) :=
  St.fireContext_pres t r e h (fun _ _ h => by st_pres) (fun _ _ h => by st_pres) (fun _ _ h => by st_pres)

@[st_pres ↓] theorem J.fireRaw (h : J E t) (self e : Nat) (chans : List Chan) (prio : Int) :
    J E (t.fireRaw self e chans prio) := by
  st_pres_unfold St.fireRaw

theorem plain_addH_new (s : St) (x : Handler) (hx : x.kind.isFallback = false) : (s.addH x).plain s.hs.length := by
  unfold St.plain; rw [St.w6_addH_handler, if_pos rfl]; exact hx

@[st_pres ↓] theorem J.childEv (h : J E t) (p sfx : Nat) :
    J E (t.childEv p sfx) := by
  st_pres_unfold St.childEv

@[st_pres ↓] theorem J.fireChild (h : J E t) (self p sfx : Nat) (chans : List Chan) :
    J E (t.fireChild self p sfx chans) := by
  st_pres_unfold St.fireChild

@[st_pres ↓] theorem J.inform (h : J E t) (e : Nat) (force : Bool) :
    J E (t.inform e force) := by
  st_pres_unfold St.inform

@[st_pres ↓] theorem J.setValue (h : J E t) (e : Nat) (x : VItem) :
    J E (t.setValue e x) := by
  st_pres_unfold St.setValue

@[st_pres ↓] theorem J.fireTmplEv (h : J E t) (self : Nat) (ev : Ev) (target : Option Chan) (prio : Int) :
    J E (t.fireTmplEv self ev target prio) := by
  st_pres_unfold St.fireTmplEv

@[st_pres ↓] theorem J.effectDone1 (h : J E t) (r e : Nat) (announce : Bool) :
    J E ((t.effectDone1 r e announce).2) :=
  St.effectDone1_pres t r e announce h (fun _ => h.modEv _ _) (fun _ _ h => h.fireChild _ _ _ _) (fun _ h => h.modEv _ _)

@[st_pres ↓] theorem J.eventDonePre (h : J E t) (r e : Nat) (err : Bool) :
    J E ((t.eventDonePre r e err).2) := by
  st_pres_unfold St.eventDonePre

@[st_pres ↓] theorem J.registerTask (h : J E t) (c : Nat) (x : Task) :
    J E (t.registerTask c x) := by
  st_pres_unfold St.registerTask

@[st_pres ↓] theorem J.unregisterTask (h : J E t) (c : Nat) (x : Task) :
    J E (t.unregisterTask c x) := by
  st_pres_unfold St.unregisterTask

@[st_pres ↓] theorem J.reduceTimeLeft (h : J E t) (e : Nat) (d : Int) :
    J E (t.reduceTimeLeft e d) := by
  st_pres_unfold St.reduceTimeLeft

/-- `register(x, p)` up to `updateRoot`, phase by phase (`St.registerPre_proper`): `x` gets the root `r` of `p`, which is
    its own root (`regA`); the executing flags move (`regB`, nothing the invariant reads); `p` gets a child (`regC`: only
    `r` reaches `p`, and `r` is exempted) until the root is flagged (`regD`) -/
theorem K.registerPre {t : St} (hJ : J noE t) (x p : Nat) (hadm : t.admissible x p = true)
    (hS : (t.comp (t.comp p).root).root = (t.comp p).root) :
    K noE (t.registerPre x p).2 ∧
    ((t.registerPre x p).2.comp (t.comp p).root).root = (t.comp p).root := by
  obtain ⟨hxl, _, _, hcase⟩ := (St.admissible_iff t x p).mp hadm
  generalize hr : (t.comp p).root = r at hS hcase
  have hA : ∀ y, ((regA t x p).comp y).root = if y = x then r else (t.comp y).root := fun y => by
    unfold regA
    rw [St.w6_modComp_comp_eq, hr]
    by_cases hy : y = x
    · rw [if_pos ⟨hy, hy ▸ hxl⟩, if_pos hy]
    · rw [if_neg fun h => hy h.1, if_neg hy]
  have h1 : K noE (regA t x p) := hJ.k.setRoot x r _ (hr ▸ ⟨fun _ => rfl, fun _ => rfl, fun _ => rfl, fun _ => rfl,
    fun _ => rfl, fun _ => rfl, fun _ => rfl⟩) (Or.inr (Or.inl hS))
  have hr1 : ((regA t x p).comp r).root = r := by rw [hA]; split <;> first | rfl | exact hS
  by_cases hpx : p = x
  · rw [St.registerPre_eq, if_neg (by simp [hpx])]
    exact ⟨h1, hr1⟩
  · have hrx : r ≠ x := hcase.resolve_left hpx |>.2.1
    rw [St.registerPre_proper t x p hadm hpx]
    unfold regT
    rw [hr]
    refine ⟨?_, (reg_root _ x p r r).trans hr1⟩
    have hs12 : Same (regA t x p) (regB (regA t x p) x r) := by
      unfold regB; split
      · exact (Same.modComp _ r _ (by keep7)).trans (Same.modComp _ x _ (by keep7))
      · exact Same.refl _
    have h2 := h1.of_same hs12
    -- a self-root other than `r` that reached `p` would be the root of `p`
    have hun : Unreach (fun y => y = r) (regB (regA t x p) x r) p := by
      intro c hrc hne hreach
      rw [hs12.root, hA] at hrc
      split at hrc
      · exact hne hrc.symm
      · refine hne ((hJ.tree c p t.comps.length hrc ?_).symm.trans hr)
        have hAc : ∀ y, ((regA t x p).comp y).children = (t.comp y).children :=
          St.w6_modComp_comp_pres t (fun y => y.children) x (fun y => { y with parent := p, root := (t.comp p).root })
            fun _ => rfl
        have := hreach.mono_children (t' := t) fun y d hd => by rwa [hs12.children, hAc] at hd
        rwa [hs12.len, show (regA t x p).comps.length = _ from St.w6_modComp_comps_length t x _] at this
    have h3 : K (fun y => y = r) (regC (regB (regA t x p) x r) x p) :=
      (h2.weaken fun _ h => h.elim).touch p _ ⟨fun _ => rfl, fun _ => rfl, fun _ => rfl⟩ (h2.hid p) (h2.gid p) hun
    unfold regD
    rw [if_pos (by simpa using hrx)]
    exact K.of_same (K.flag h3 r _ (by keep7) fun y hy => Or.inr hy) (Same.modComp _ x _ (by keep7))

@[st_pres ↓] theorem J.registerFin (h : J E t) (c : Nat) :
    J E (t.registerFin c) := by
  st_pres_unfold St.registerFin

@[st_pres ↓] theorem J.unregister (h : J E t) (c : Nat) : J E (t.unregister c) := by
  st_pres_unfold St.unregister

@[st_pres ↓] theorem J.prepUnregPre (h : J E t) (c : Nat) : J E (t.prepUnregPre c) := by
  unfold St.prepUnregPre
  dsimp only
  have h2 : J E ((t.modComp c fun x => { x with pending := false }).fireTmplEv c
      { name := Name.unregistered, arg := c } none 0) := by st_pres
  generalize ((t.modComp c fun x => { x with pending := false }).fireTmplEv c
      { name := Name.unregistered, arg := c } none 0) = s2 at h2 ⊢
  split
  · generalize (s2.comp c).parent = p
    -- the parent loses a child; its root is flagged
    let E' : Nat → Prop := fun y => E y ∨ y = (s2.comp p).root
    have h3 : J E' (s2.modComp p fun x => { x with children := x.children.erase c }) := by
      refine (h2.weaken (fun y hy => Or.inl hy)).touch p _ ?_ ?_ ?_ ?_ (Or.inr rfl)
      · exact ⟨fun _ => rfl, fun _ => rfl, fun _ => rfl⟩
      · exact fun _ d hd => List.mem_of_mem_erase hd
      · exact fun k h' hm => h2.k.hid p k h' hm
      · exact fun h' hm => h2.k.gid p h' hm
    have h4 : J E ((s2.modComp p fun x => { x with children := x.children.erase c }).modComp (s2.comp p).root
        fun x => { x with dirty := true }) := by
      refine h3.flag _ _ ?_ (fun y hy => hy)
      keep7
    st_pres
  · exact h2

@[st_pres ↓] theorem J.prepUnregFin (h : J E t) (c : Nat) : J E (t.prepUnregFin c) := by
  st_pres_unfold St.prepUnregFin

@[st_pres ↓] theorem J.actFire (h : J E t) (self i : Nat) (target : Option Chan) (prio : Int) (cancel : Bool) :
    J E (t.actFire self i target prio cancel) := by
  st_pres_unfold St.actFire

@[st_pres ↓] theorem J.actStopEv (h : J E t) (ev : Option Nat) :
    J E (t.actStopEv ev) := by
  st_pres_unfold St.actStopEv

@[st_pres ↓] theorem J.timerReset (h : J E t) (i : Nat) :
    J E (t.timerReset i) := by
  st_pres_unfold St.timerReset

@[st_pres ↓] theorem J.timerCreate (h : J E t) (i : Nat) :
    J E (t.timerCreate i) := by
  st_pres_unfold St.timerCreate

@[st_pres ↓] theorem J.timerTick (h : J E t) (i e : Nat) :
    J E (t.timerTick i e) :=
  St.timerTick_pres t i e h (fun _ _ h => h.reduceTimeLeft _ _) (fun _ => (h.addEv _).modTimer _ _)
    (fun _ _ _ _ h => h.fireRaw _ _ _ _) (fun _ _ h => h.modTimer _ _) (fun _ _ h => h.unregister _)

@[st_pres ↓] theorem J.startWait (h : J E t) (w : Nat) :
    J E (t.startWait w) :=
  St.startWait_pres t w h (fun _ _ => by st_pres)
    (fun _ _ _ _ hk h => (h.addH _).addHandler _ (plain_addH_new _ _ (by rcases hk with rfl | rfl | rfl <;> rfl)))
    (fun _ _ _ _ _ h => by st_pres)

@[st_pres ↓] theorem J.stopBegin (h : J E t) (c : Nat) :
    J E (t.stopBegin c) := by
  st_pres_unfold St.stopBegin

@[st_pres ↓] theorem J.stopSetCode (h : J E t) (r : Nat) (code : Code) :
    J E (t.stopSetCode r code) := by
  st_pres_unfold St.stopSetCode

@[st_pres ↓] theorem J.genCall (h : J E t) (owner i : Nat) (target : Option Chan) (timeout : Option Nat) :
    J E (t.genCall owner i target timeout) := by
  st_pres_unfold St.genCall

@[st_pres ↓] theorem J.genWait (h : J E t) (owner : Nat) (name : Name) (target : Option Chan) (timeout : Option Nat) :
    J E (t.genWait owner name target timeout) := by
  st_pres_unfold St.genWait

@[st_pres ↓] theorem J.resumeGenPre (h : J E t) (g : Nat) (silent : Bool) :
    J E (t.resumeGenPre g silent) := by
  st_pres_unfold St.resumeGenPre

@[st_pres ↓] theorem J.stopIteration (h : J E t) (r : Nat) (x : Task) :
    J E ((t.stopIteration r x).2) :=
  St.stopIteration_pres t r x (by st_pres) (fun _ _ h => by st_pres) (fun _ h => by st_pres)

@[st_pres ↓] theorem J.fireException (h : J E t) (r e : Nat) :
    J E (t.fireException r e) := by
  st_pres_unfold St.fireException

@[st_pres ↓] theorem J.errorBranch (h : J E t) (r : Nat) (x : Task) (resumed : Bool) :
    J E ((t.errorBranch r x resumed).2) :=
  St.errorBranch_pres t r x resumed (h.unregisterTask _ _) (fun _ h => h.modEv _ _) (fun _ h => h.modEv _ _)
    (fun _ _ h => h.inform _ _) (fun _ _ h => h.fireChild _ _ _ _) (fun _ h => h.fireException _ _) (fun _ _ h => h.modEv _ _)

@[st_pres ↓] theorem J.ownSub (h : J E t) (r : Nat) (x : Task) (w : Nat) :
    J E (t.ownSub r x w) := by
  st_pres_unfold St.ownSub

@[st_pres ↓] theorem J.setValueOpt (h : J E t) (e : Nat) (v : Option Nat) :
    J E (t.setValueOpt e v) := by
  st_pres_unfold St.setValueOpt

@[st_pres ↓] theorem J.parentSub (h : J E t) (r : Nat) (x : Task) (p w2 : Nat) (viaThrow : Bool) :
    J E (t.parentSub r x p w2 viaThrow) := by
  st_pres_unfold St.parentSub

@[st_pres ↓] theorem J.parentPlain (h : J E t) (r : Nat) (x : Task) (p : Nat) (v : Option Nat) (viaThrow : Bool) :
    J E (t.parentPlain r x p v viaThrow) := by
  st_pres_unfold St.parentPlain

@[st_pres ↓] theorem J.onWaitEvent (h : J E t) (w e : Nat) :
    J E ((t.onWaitEvent w e).2) := by
  st_pres_unfold St.onWaitEvent

@[st_pres ↓] theorem J.onWaitDone (h : J E t) (w e : Nat) :
    J E ((t.onWaitDone w e).2) :=
  St.onWaitDone_pres t w e h (fun _ _ _ h => by st_pres) (fun _ _ => by st_pres)

@[st_pres ↓] theorem J.onWaitTick (h : J E t) (w : Nat) :
    J E ((t.onWaitTick w).2) :=
  St.onWaitTick_pres t w h (fun _ _ _ h => by st_pres) (fun _ _ _ => by st_pres) (by st_pres)

@[st_pres ↓] theorem J.onFallbackGE (h : J E t) (e : Nat) :
    J E ((t.onFallbackGE e).2) := by
  st_pres_unfold St.onFallbackGE

@[st_pres ↓] theorem J.computeHandlers (h : J E t) (r : Nat) (name : Name) (chans : List Chan) :
    J E (t.computeHandlers r name chans).2 := by
  refine ⟨?_, (h.k.computeHandlers r name chans).1⟩
  rw [St.computeHandlers_eq]
  exact (h.tree.of_same (h.k.fbRes r name chans).1).modComp _ _ (fun _ => rfl) (fun _ _ hd => hd)

@[st_pres ↓] theorem J.dispComplete (h : J E t) (e : Nat) (ev : Ev) :
    J E (t.dispComplete e ev) := by
  st_pres_unfold St.dispComplete

@[st_pres ↓] theorem J.cacheRefresh (h : J E t) (r : Nat) : J E (t.cacheRefresh r) := by
  unfold St.cacheRefresh
  split
  · exact h.clear r _ ⟨fun _ => rfl, fun _ => rfl, fun _ => rfl, fun _ => rfl, fun _ => rfl, fun _ => rfl⟩
  · exact h

@[st_pres ↓] theorem J.lookupHandlers (h : J E t) (r : Nat) (name : Name) (chans : List Chan) :
    J E ((t.lookupHandlers r name chans).2) := by
  st_pres_unfold St.lookupHandlers

@[st_pres ↓] theorem J.dispGE (h : J E t) (r e remaining : Nat) (name : Name) :
    J E (t.dispGE r e remaining name) := by
  st_pres_unfold St.dispGE

@[st_pres ↓] theorem J.dispatchPre (h : J E t) (r e remaining : Nat) :
    J E ((t.dispatchPre r e remaining).2) := by
  st_pres_unfold St.dispatchPre

@[st_pres ↓] theorem J.handlerRaised (h : J E t) (r e : Nat) :
    J E (t.handlerRaised r e) := by
  st_pres_unfold St.handlerRaised

@[st_pres ↓] theorem J.applyValue (h : J E t) (r e : Nat) (value : Outcome) :
    J E (t.applyValue r e value) := by
  st_pres_unfold St.applyValue

@[st_pres ↓] theorem J.geTasksCheck (h : J E t) (r e : Nat) :
    J E (t.geTasksCheck r e) := by
  st_pres_unfold St.geTasksCheck

@[st_pres ↓] theorem J.flushBegin (h : J E t) (r : Nat) :
    J E (t.flushBegin r) := by
  st_pres_unfold St.flushBegin

@[st_pres ↓] theorem J.tickGenerate (h : J E t) (c : Nat) :
    J E (t.tickGenerate c) := by
  st_pres_unfold St.tickGenerate

@[st_pres ↓] theorem J.runBegin (h : J E t) (c : Nat) :
    J E (t.runBegin c) := by
  st_pres_unfold St.runBegin

@[st_pres ↓] theorem J.runEnd (h : J E t) (c : Nat) :
    J E ((t.runEnd c).2) := by
  st_pres_unfold St.runEnd

@[st_pres ↓] theorem J.actStep (h : J E t) (ctx : HCtx) (a : Act) : J E (actStep t ctx a).st := by
  cases a
  case addH x =>
    unfold CV.Core.actStep; dsimp only
    split
    · rename_i hc
      have hp : t.plain x := plain_of_code0 t x hc
      st_pres
    · exact h
  all_goals (unfold CV.Core.actStep; (try dsimp only); st_pres)

/-- `register` and `_updateRoot` write `root` fields: the arms `.register`, `.invoke` (detach), `.updateRoot` -/
def J.bad : List Op := [.registerPre, .updateRootAll]

theorem J.keeps (E : Nat → Prop) (o : Op) (ho : o ∉ J.bad) : o.Keeps (J E) := by
  cases o
  case registerPre | updateRootAll => exact absurd (by decide) ho
  all_goals (intro t h; intros; st_pres)

def RootIdem (s : St) : Prop :=
  ∀ q, q < s.comps.length → (s.comp (s.comp q).root).root = (s.comp q).root

theorem Cfg.register_ci (c : Cfg) (k : List Frame) (x p : Nat) (hJ : J noE c.st) (hS : RootIdem c.st) :
    K noE (c.register k x p).st := by
  unfold Cfg.register
  dsimp only
  split
  · exact hJ.k
  · rename_i hadm
    have hadm' : c.st.admissible x p = true := by simpa using hadm
    have hp : p < c.st.comps.length := ((St.admissible_iff c.st x p).mp hadm').2.1
    obtain ⟨h1, h2⟩ := K.registerPre hJ x p hadm' (hS p hp)
    have h3 := K.updateRootAll (E := noE) (c.st.comp p).root (c.st.comps.length + 1) [x] _ h1 (Or.inl h2)
    exact pred_ite_st (pred_ite_st h3 h3) h1

theorem Cfg.prepUnregFin_ci (c : Cfg) (k : List Frame) (x : Nat) (hK : K (fun y => y = x) c.st) :
    K noE (c.prepUnregFin k x).st := by
  unfold Cfg.prepUnregFin St.prepUnregFin
  refine hK.flag x _ ?_ (fun y hy => Or.inr hy)
  keep7

/-- the cache invariant of a configuration: no exemption, or - in the detach window - the top frame is `prepUnregFin x`,
    no exception is pending and only `x` (which has just become its own root) is exempted -/
def P (c : Cfg) : Prop :=
  K noE c.st ∨ (c.exn = none ∧ ∃ x k, c.stack = .prepUnregFin x :: k ∧ K (fun y => y = x) c.st)

theorem Cfg.invoke_ci (c : Cfg) (k : List Frame) (r h e : Nat) (hJ : J noE c.st) (hx : c.exn = none) :
    P (c.invoke k r h e) := by
  have hs : J noE (c.w6_invokeSt h e) := by unfold Cfg.w6_invokeSt; st_pres
  rw [Cfg.invoke_eq]
  generalize c.w6_invokeSt h e = s at hs ⊢
  split
  case h_2 =>
    -- detach: `prepUnregPre`, then `updateRoot` makes the owner its own root; the flag follows
    have h1 := (hs.prepUnregPre (c.st.handler h).owner).k
    exact .inr ⟨hx, _, k, rfl, K.updateRootAll _ _ _ _ (h1.weaken (fun _ hf => hf.elim)) (Or.inr rfl)⟩
  all_goals
    refine .inl (J.k (?_ : J noE _))
    first | exact hs | (unfold Cfg.invokeUser; dsimp only; split <;> st_pres) | st_pres

structure TreeFacts (s : St) : Prop where
  tree : TreeOk s
  idem : RootIdem s

theorem _root_.CV.Core.ForestInv.reach_root {s : St} (hF : ForestInv s) {n c x : Nat} (hr : ReachIn s n c x)
    (hc : c < s.comps.length) : (s.comp x).root = (s.comp c).root := by
  induction hr with
  | here n c => rfl
  | step n c d e hd _ ih =>
    obtain ⟨hdl, hpar, hne⟩ := hF.childOf c d hc hd
    rw [ih hdl, hF.rootOk d hdl, hpar, if_neg (fun h => hne h.symm)]

theorem _root_.CV.Core.ForestInv.treeOk {s : St} (hF : ForestInv s) : TreeOk s := by
  intro c x n hr hreach
  by_cases hc : c < s.comps.length
  · rw [hF.reach_root hreach hc, hr]
  · cases hreach with
    | here => exact hr
    | step _ _ d _ hd _ =>
      change d ∈ (s.comp c).children at hd
      rw [St.w6_comp_ge s c (Nat.le_of_not_lt hc)] at hd
      cases hd

theorem _root_.CV.Core.ForestInv.rootIdem {s : St} (hF : ForestInv s) : RootIdem s := by
  obtain ⟨rk, hrk⟩ := hF.acyclic
  have : ∀ m q, q < s.comps.length → rk q = m → (s.comp (s.comp q).root).root = (s.comp q).root := by
    intro m
    induction m using Nat.strongRecOn with
    | _ m ih =>
      intro q hq hm
      by_cases hp : (s.comp q).parent = q
      · have hroot : (s.comp q).root = q := by rw [hF.rootOk q hq, if_pos hp]
        rw [hroot, hroot]
      · have hroot : (s.comp q).root = (s.comp (s.comp q).parent).root := by rw [hF.rootOk q hq, if_neg hp]
        rw [hroot]
        exact ih (rk (s.comp q).parent) (hm ▸ hrk q hq hp) _ (hF.parentLt q hq) rfl
  exact fun q hq => this _ q hq rfl

/-- the two facts about the forest the cache proof uses, from the invariant of C07 -/
theorem _root_.CV.Core.ForestInv.cacheFacts {s : St} (hF : ForestInv s) : TreeFacts s := ⟨hF.treeOk, hF.rootIdem⟩

/-- `x` is being detached: `_do_prepare_unregister_complete` has made it its own root and the
    very next step (`self._cache_needs_refresh = True`) has not yet run -/
def detaching (c : Cfg) (x : Nat) : Prop := c.exn = none ∧ ∃ k, c.stack = .prepUnregFin x :: k

theorem stepFrame_ci (c : Cfg) (k : List Frame) (f : Frame) (hK : K noE c.st) (hT : TreeFacts c.st)
    (hx : c.exn = none) (hur : f.isUR = false) : P (stepFrame c k f) := by
  have hJ : J noE c.st := ⟨hT.tree, hK⟩
  cases f
  case updateRoot => cases hur
  case register x p => exact .inl (Cfg.register_ci c k x p hJ hT.idem)
  case invoke r h e => exact Cfg.invoke_ci c k r h e hJ hx
  all_goals exact .inl (stepFrame_pres_avoiding c k (J.keeps noE) _ rfl hJ).k

theorem step_P (c : Cfg) (hP : P c) (hT : TreeFacts c.st) (hur : noUR c.stack = true) : P (step c) := by
  unfold step
  split
  · exact hP
  · rename_i f k hst
    split
    · rename_i ex hex
      have hK : K noE c.st := by
        rcases hP with h | ⟨h, _⟩
        · exact h
        · rw [hex] at h; cases h
      exact .inl (unwind_pres_avoiding c k (J.keeps noE) ex f rfl ⟨hT.tree, hK⟩).k
    · rename_i hex
      rcases hP with hK | ⟨_, x, k', hst', hK⟩
      · exact stepFrame_ci c k f hK hT hex ((noUR_cons_iff f k).mp (hst ▸ hur)).1
      · rw [hst] at hst'
        injection hst' with h1 h2
        subst h1 h2
        exact .inl (Cfg.prepUnregFin_ci c k x hK)

/-- hypothesis on the initial state: whatever is installed in a handler table is a declared
    handler record and not one of the two framework fallback records -/
def InitHandlers (s : St) : Prop :=
  (∀ c k h, (k, h) ∈ (s.comp c).htab → s.plain h) ∧ (∀ c h, h ∈ (s.comp c).globals → s.plain h)

/-- hypothesis on the initial state: nothing has been dispatched yet -/
def InitCache (s : St) : Prop := ∀ c, (s.comp c).cache = []

theorem K.init (s0 : St) (hH : InitHandlers s0) (hC : InitCache s0) : K noE s0 :=
  ⟨hH.1, hH.2, fun c key l h hm _ => (by rw [hC c] at hm; cases hm),
   fun c _ _ => Or.inr (fun key l hm => (by rw [hC c] at hm; cases hm))⟩

theorem P.start (s : St) (hK : K noE s) (d : Nat) (tape : List Entry) (op : ExtOp) :
    P (startOf (envChange s d tape) op) := by
  have hK' : K noE (envChange s d tape) := hK.of_same (Same.of_eq rfl rfl)
  cases op <;> exact Or.inl hK'

theorem reach_P {s0 : St} (hinit : K noE s0) (hF : ∀ c, Reach s0 c → TreeFacts c.st) :
    ∀ c, Reach s0 c → P c := by
  intro c h
  induction h with
  | init d tape op => exact P.start s0 hinit d tape op
  | step hr ih => exact step_P _ ih (hF _ hr) (reach_noUR hr)
  | @next c' d tape op _ hd ih =>
    have hK : K noE c'.st := by
      rcases ih with h | ⟨_, x, k, hst, _⟩
      · exact h
      · cases hst.symm.trans ((done_iff _).1 hd)
    exact P.start _ hK d tape op

theorem reach_live {s0 : St} (hinit : K noE s0) (hF : ∀ c, Reach s0 c → TreeFacts c.st) :
    ∀ c, Reach s0 c → CacheLive (detaching c) c.st := by
  intro c h
  rcases reach_P hinit hF c h with hK | ⟨hx, x, k, hst, hK⟩
  · exact (hK.weaken (fun _ hf => hf.elim)).live
  · refine (hK.weaken ?_).live
    intro y hy
    exact ⟨hx, k, hy ▸ hst⟩

theorem cacheRefresh_clean (t : St) (r : Nat) : ((t.cacheRefresh r).comp r).dirty = false := by
  unfold St.cacheRefresh
  split
  · rename_i hd
    rw [St.w6_modComp_comp_eq]
    split
    · rfl
    · rename_i hn
      have hoob : ¬ r < t.comps.length := fun h => hn ⟨rfl, h⟩
      rw [St.w6_comp_ge t r (Nat.le_of_not_lt hoob)]
      rfl
  · rename_i hd
    simpa using hd

theorem cacheRefresh_root (t : St) (r x : Nat) : ((t.cacheRefresh r).comp x).root = (t.comp x).root := by
  unfold St.cacheRefresh
  split
  · refine St.w6_modComp_comp_root t r _ ?_ x
    exact fun _ => rfl
  · rfl

theorem Same.dispGE (t : St) (r e remaining : Nat) (name : Name) : Same t (t.dispGE r e remaining name) := by
  unfold St.dispGE
  split
  · dsimp only
    split
    · exact Same.of_eq rfl rfl
    · split
      · exact Same.of_eq rfl rfl
      · exact Same.refl t
  · exact Same.refl t

theorem K.lookupHandlers_live {E} {t : St} (hK : K E t) (r : Nat) (name : Name) (chans : List Chan)
    (hr : (t.comp r).root = r) (hE : ¬ E r) (hd : (t.comp r).dirty = false) :
    nonFallback (t.lookupHandlers r name chans).2 (t.lookupHandlers r name chans).1
      = freshHandlers (t.lookupHandlers r name chans).2 r name chans ∧
    (∀ h ∈ (t.lookupHandlers r name chans).1, h < (t.lookupHandlers r name chans).2.hs.length) ∧
    K E (t.lookupHandlers r name chans).2 := by
  rcases t.lookupHandlers_cases r name chans with ⟨hs, hm, he⟩ | he <;> rw [he]
  · refine ⟨?_, fun h hh => hK.cid r _ _ h hm hh, hK⟩
    rcases hK.live r hr hE with h | h
    · rw [hd] at h; cases h
    · exact h (name, chans) hs hm
  · have h1 := hK.computeHandlers r name chans
    exact ⟨h1.2.1, h1.2.2, h1.1⟩

theorem J.dispatchPre_live {t : St} (hJ : J noE t) (r e remaining : Nat)
    (hr : (t.comp r).root = r) (hc : (t.ev e).cancelled = false) :
    ∃ hs, (t.dispatchPre r e remaining).1 = some hs ∧
      nonFallback (t.dispatchPre r e remaining).2 hs
        = freshHandlers (t.dispatchPre r e remaining).2 r (t.ev e).name (t.ev e).chans := by
  obtain ⟨s1, res, hs1, hres, he⟩ := t.dispatchPre_live r e remaining hc
  rw [he]
  have h1 : J noE s1 := by rw [hs1]; st_pres
  have hr1 : (s1.comp r).root = r := by
    rw [hs1, cacheRefresh_root]
    have : (((t.logE (Entry.disp e)).dispComplete e (t.ev e)).comp r) = t.comp r := by
      unfold St.dispComplete
      split
      · split <;> rfl
      · rfl
    rw [this]; exact hr
  have hd1 : (s1.comp r).dirty = false := by rw [hs1]; exact cacheRefresh_clean _ r
  obtain ⟨hlive, hlt, hK2⟩ := h1.k.lookupHandlers_live r (t.ev e).name (t.ev e).chans hr1 (fun h => h) hd1
  rw [← hres] at hlive hlt hK2
  refine ⟨res.1, rfl, ?_⟩
  have hs : Same res.2 ((res.2.modComp r fun x => { x with currently := some e }).dispGE r e remaining (t.ev e).name) :=
    (Same.modComp res.2 r _ (by keep7)).trans (Same.dispGE _ _ _ _ _)
  rw [nonFallback_congr _ _ _ hs.recs hlt, hK2.fresh_same hs]
  exact hlive

theorem dispatcher_step_live {s0 : St} (hinit : K noE s0) (hF : ∀ c, Reach s0 c → TreeFacts c.st)
    (c : Cfg) (hc : Reach s0 c) (r e remaining : Nat) (k : List Frame)
    (hst : c.stack = .dispatcher r e remaining :: k) (hx : c.exn = none)
    (hr : (c.st.comp r).root = r) (hcan : (c.st.ev e).cancelled = false) :
    ∃ hs, (step c).stack = .hLoop r e hs false .none :: k ∧
      nonFallback (step c).st hs = freshHandlers (step c).st r (c.st.ev e).name (c.st.ev e).chans := by
  have hK : K noE c.st := by
    rcases reach_P hinit hF c hc with h | ⟨_, x, k', hst', _⟩
    · exact h
    · rw [hst] at hst'; cases hst'
  have hJ : J noE c.st := ⟨(hF c hc).tree, hK⟩
  obtain ⟨hs, h1, h2⟩ := hJ.dispatchPre_live r e remaining hr hcan
  rw [step_cons c _ k hst hx]
  dsimp only [stepFrame]
  unfold Cfg.dispatcher
  rw [h1]
  exact ⟨hs, rfl, h2⟩

theorem mem_freshHandlers (s : St) (r : Nat) (name : Name) (chans : List Chan) (h : Nat) :
    h ∈ freshHandlers s r name chans ↔
      ∃ ch, ch ∈ chans ∧ ∃ d, ReachIn s s.comps.length r d ∧ matchesAt s d name ch h := by
  unfold freshHandlers
  rw [List.mem_mergeSort, List.mem_flatMap]
  constructor
  · rintro ⟨ch, hch, hm⟩
    exact ⟨ch, hch, (mem_collect s name ch h _ r).mp hm⟩
  · rintro ⟨ch, hch, hd⟩
    exact ⟨ch, hch, (mem_collect s name ch h _ r).mpr hd⟩

theorem freshHandlers_sorted (s : St) (r : Nat) (name : Name) (chans : List Chan) :
    (freshHandlers s r name chans).Pairwise
      (fun a b => (s.hs.getD a dfltHandler).prio ≥ (s.hs.getD b dfltHandler).prio) :=
  desc_of_mergeSort (fun h => (s.hs.getD h dfltHandler).prio) _

/-! ## executable forms of the hypotheses (for witnesses and non-vacuity examples) -/

instance (s : St) (h : Nat) : Decidable (s.plain h) := by unfold St.plain; infer_instance

def detachingB (c : Cfg) (x : Nat) : Bool :=
  c.exn.isNone && match c.stack with
    | .prepUnregFin y :: _ => y == x
    | _ => false

theorem detaching_of_B (c : Cfg) (x : Nat) (h : detachingB c x = true) : detaching c x := by
  unfold detachingB at h
  simp only [Bool.and_eq_true, Option.isNone_iff_eq_none] at h
  refine ⟨h.1, ?_⟩
  have h2 := h.2
  split at h2
  · rename_i y k hst
    have : y = x := by simpa using h2
    exact ⟨k, this ▸ hst⟩
  · cases h2

theorem plain_tables_of_bounded (s : St)
    (h : ∀ c, c < s.comps.length →
      (∀ p, p ∈ (s.comp c).htab → s.plain p.2) ∧ (∀ g, g ∈ (s.comp c).globals → s.plain g)) :
    (∀ c k h, (k, h) ∈ (s.comp c).htab → s.plain h) ∧ (∀ c h, h ∈ (s.comp c).globals → s.plain h) := by
  constructor
  · intro c k x hm
    by_cases hc : c < s.comps.length
    · exact (h c hc).1 (k, x) hm
    · rw [St.w6_comp_ge s c (Nat.le_of_not_lt hc)] at hm; cases hm
  · intro c x hm
    by_cases hc : c < s.comps.length
    · exact (h c hc).2 x hm
    · rw [St.w6_comp_ge s c (Nat.le_of_not_lt hc)] at hm; cases hm

theorem caches_empty_of_bounded (s : St) (h : ∀ c, c < s.comps.length → (s.comp c).cache = []) :
    ∀ c, (s.comp c).cache = [] := by
  intro c
  by_cases hc : c < s.comps.length
  · exact h c hc
  · rw [St.w6_comp_ge s c (Nat.le_of_not_lt hc)]; rfl

end CV.Core.Live
