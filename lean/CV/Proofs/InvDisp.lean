import CV.Proofs.InvDispBase
import CV.Proofs.InvQueue
import CV.Proofs.CoreStack
import CV.Proofs.InvRunCode
/-
C08, machine level: the conservation invariant through the arms of `step` and over `Reach`.

`DBal K B` survives every operation of the arms but the two that move an event between queue, flight and log (the pop of
`.dispatchLoop`, `dispatchPre`) and `updateRootAll`, which needs a valid root (`register` and the handler of
`prepare_unregister_complete` are done by hand).  No arm but `.dispatchLoop` pushes a `.dispatcher` frame, and while one
is on the stack no exception is pending, so unwinding never drops a popped event: `DInv`, `d8_step`, `d8_reach`.

Then where the queued copies of an event are, and that an event object is fired once.  `DLoc K cx nb fc`, for a class
`K` of existing event ids none of which is a `Timer`'s re-fired event object, is preserved by every step except
`cx.register(p)` (which drains `cx`'s deque into another manager's), since every `fire` of the machine either creates a
fresh event object (id `|evs|`, not in `K`) or re-fires a `Timer`'s object (not in `K`): `l8_step`.  The first fire of a
fresh event object on a root establishes `DLoc` for the class of that one id (`l8_fresh_fire`).

The lemmas with prefix `r8` go from `DInv` and `DLoc` to "the `started` / `stopped` event of a `run()` has exactly one
`D` entry when `run()` returns".
-/
namespace CV.Core

variable {K : Nat → Bool} {B : Nat}

/-- every frame except `.dispatcher` (pushed only by `.dispatchLoop`, on top) and `.updateRoot`
    (never pushed: `register` runs `_updateRoot` inside its own step) -/
def Frame.d8plain : Frame → Bool
  | .dispatcher _ _ _ => false
  | .updateRoot _ _ => false
  | _ => true

def d8plainAll (fs : List Frame) : Bool := fs.all Frame.d8plain

theorem Frame.Pushes.d8plain {c : Cfg} {f : Frame} {fs : List Frame} (h : f.Pushes c fs) (hf : ∀ r, f ≠ .dispatchLoop r) :
    d8plainAll fs = true := by
  cases h
  case actsCall hg | stepGenCall hg => cases hg <;> rfl
  case dispatchLoop => exact absurd rfl (hf _)
  all_goals rfl

theorem DBal.keeps (o : Op) (ho : o ∉ [Op.dispatchPre, .modCompEq, .updateRootAll]) : o.Keeps (DBal K B) := by
  by_cases h1 : o ∈ [Op.registerPre, .timerTick, .flushBegin]
  · simp only [List.mem_cons, List.not_mem_nil, or_false] at h1
    rcases h1 with rfl | rfl | rfl
    · exact fun h x p => h.registerPre x p
    · exact fun h i e => h.timerTick i e
    · exact fun h r => h.flushBegin r
  · refine Op.Keeps.of_rel (fun hr hb => hr.1 B hb) DKeep.refl fun s => DKeep.keeps s o ?_
    simp only [List.mem_cons, List.not_mem_nil, or_false, not_or] at ho h1 ⊢
    exact ⟨ho.1, ho.2.1, ho.2.2, h1.1, h1.2.1, h1.2.2⟩

theorem d8_registerPre_length (s : St) (x p : Nat) : (s.registerPre x p).2.comps.length = s.comps.length :=
  (St.Le.registerPre (St.Le.refl s) x p).comps

theorem Cfg.register_d8 (c : Cfg) (k : List Frame) (x p : Nat) (h : DBal K B c.st) :
    DBal K B (c.register k x p).st := by
  have h1 := h.registerPre x p
  have hu := DBal.updateRootAll (c.st.comps.length + 1) [x] (c.st.comp p).root _ h1
    (by rw [d8_registerPre_length]; exact h.roots p)
  unfold Cfg.register
  exact pred_ite_st h (pred_ite_st (pred_ite_st hu hu) h1)

theorem d8_prepUnreg_length (s : St) (x : Nat) : (s.prepUnregPre x).comps.length = s.comps.length :=
  (St.Le.prepUnregPre (St.Le.refl s) x).comps

/-- `_do_prepare_unregister_complete`: the component becomes its own root; the owner of a handler record may be out of
    range, then `updateRootAll` does nothing -/
theorem DBal.prepUnregAll {s : St} (h : DBal K B s) (x : Nat) :
    DBal K B (s.detach x) := by
  by_cases ho : x < s.comps.length
  · exact DBal.updateRootAll _ _ _ _ (h.prepUnregPre x) (by rw [d8_prepUnreg_length]; exact ho)
  · rw [St.detach, St.updateRootAll_ge _ _ _ _ (by rw [d8_prepUnreg_length]; exact Nat.le_of_not_lt ho)]
    exact h.prepUnregPre x

theorem Cfg.invoke_d8 (c : Cfg) (k : List Frame) (r h e : Nat) (hb : DBal K B c.st) :
    DBal K B (c.invoke k r h e).st :=
  Cfg.invoke_pres c k r h e (fun o _ => DBal.keeps o (by revert o; decide)) (fun _ _ x hs => hs.prepUnregAll x) hb

def Frame.d8special : Frame → Bool
  | .dispatcher _ _ _ => true
  | .dispatchLoop _ => true
  | .updateRoot _ _ => true
  | _ => false

theorem stepFrame_d8 (c : Cfg) (k : List Frame) (f : Frame) (hf : f.d8special = false) (h : DBal K B c.st) :
    DBal K B (stepFrame c k f).st := by
  cases f
  case dispatcher | dispatchLoop | updateRoot => cases hf
  case register x p => exact Cfg.register_d8 c k x p h
  case invoke r hd e => exact Cfg.invoke_d8 c k r hd e h
  all_goals exact stepFrame_pres_avoiding c k DBal.keeps _ rfl h

theorem Cfg.dispatcher_d8 (c : Cfg) (k : List Frame) (r e remaining : Nat)
    (h : DBal K (B + (if K e then 1 else 0)) c.st) : DBal K B (c.dispatcher k r e remaining).st := by
  rw [Cfg.dispatcher_st]
  exact DBal.dispatchPre r e remaining h

theorem unwind_d8 (c : Cfg) (k : List Frame) (ex : Exn) (f : Frame) (h : DBal K B c.st) :
    DBal K B (unwind c k ex f).st :=
  unwind_pres_avoiding c k DBal.keeps ex f rfl h

/-- events in flight: 1 iff the top frame is the `_dispatcher` call of a popped event of class `K`
    that has not yet logged its `D` -/
def d8pend (K : Nat → Bool) : List Frame → Nat
  | .dispatcher _ e _ :: _ => if K e then 1 else 0
  | _ => 0

/-- all frames are plain and nothing is in flight; or the `_dispatcher` call of the popped event `e` sits on plain
    frames, no exception pending, and `e` is in flight -/
inductive DInv (K : Nat → Bool) (c : Cfg) : Prop
  | plain : DBal K 0 c.st → d8plainAll c.stack = true → DInv K c
  | flight (r e rem : Nat) (k : List Frame) : c.stack = .dispatcher r e rem :: k → c.exn = none →
      d8plainAll k = true → DBal K (if K e then 1 else 0) c.st → DInv K c

theorem d8pend_plain (K : Nat → Bool) (l : List Frame) (h : d8plainAll l = true) : d8pend K l = 0 := by
  cases l with
  | nil => rfl
  | cons f k =>
    cases f <;> first | rfl | (simp [d8plainAll, Frame.d8plain] at h)

theorem DInv.bal {c : Cfg} (h : DInv K c) : DBal K (d8pend K c.stack) c.st := by
  cases h with
  | plain hb hp => rw [d8pend_plain K _ hp]; exact hb
  | flight r e rem k hs _ _ hb => rw [hs]; exact hb

theorem d8_stepFrame_plain (c : Cfg) {k : List Frame} {f : Frame} (hf : ∀ r, f ≠ .dispatchLoop r)
    (hk : d8plainAll k = true) : d8plainAll (stepFrame c k f).stack = true :=
  stack_all (stepFrame_all c k f fun _ hp => hp.d8plain hf) hk

theorem d8_unwind_plain (c : Cfg) {k : List Frame} (ex : Exn) (f : Frame) (hk : d8plainAll k = true) :
    d8plainAll (unwind c k ex f).stack = true :=
  stack_all (unwind_all c k ex f fun _ => rfl) hk

theorem d8_countP_erase (p : QItem → Bool) (it : QItem) : ∀ l : List QItem, it ∈ l →
    (l.erase it).countP p + (if p it then 1 else 0) = l.countP p := by
  intro l h
  rw [(List.perm_cons_erase h).countP_eq p, List.countP_cons]

theorem DBal.popped {t : St} (h : DBal K 0 t) (r : Nat) (it : QItem) (q' : EQ)
    (hit : it ∈ (t.comp r).eq.heap) (hh : q'.heap = (t.comp r).eq.heap.erase it)
    (hq : q'.queue = (t.comp r).eq.queue) :
    DBal K (if K it.ev then 1 else 0) (t.modComp r fun x => { x with eq := q' }) := by
  have hr : r < t.comps.length := St.comp_lt_of_ne fun hd => by rw [hd] at hit; cases hit
  refine ⟨d8_roots_modComp _ _ _ h.roots (fun _ => rfl), ?_⟩
  have h1 := d8_queued_modComp K t r (fun x => { x with eq := q' }) hr
  have h2 := d8_countP_erase (fun i => K i.ev) it _ hit
  have hb := h.bal
  show firedCnt K t.log = dispCnt K t.log + queuedCnt K _ + _
  simp only [EQ.cntK, EQ.dequeCnt, EQ.heapCnt, hh, hq] at h1
  omega

theorem d8_step {c : Cfg} (h : DInv K c) : DInv K (step c) := by
  cases h with
  | flight r e rem k hs hx hk hb =>
    -- the entry step of `_dispatcher` logs the `D` of the event in flight
    rw [step_cons c _ k hs hx]
    exact .plain (Cfg.dispatcher_d8 c k r e rem (by rw [Nat.zero_add]; exact hb))
      (d8_stepFrame_plain c (fun _ hr => by cases hr) hk)
  | plain hb hp =>
    cases hs : c.stack with
    | nil => rw [step_nil c hs]; exact .plain hb hp
    | cons f k =>
      obtain ⟨hf, hk⟩ : f.d8plain = true ∧ d8plainAll k = true := by
        rw [hs] at hp; simpa only [d8plainAll, List.all_cons, Bool.and_eq_true] using hp
      cases hx : c.exn with
      | some ex =>
        rw [step_cons_exn c f k ex hs hx]
        exact .plain (unwind_d8 c k ex f hb) (d8_unwind_plain c ex f hk)
      | none =>
        by_cases hl : ∃ r, f = .dispatchLoop r
        · -- `dispatchEvents` ends, or pops one event, which is in flight under its `_dispatcher` call
          obtain ⟨r, rfl⟩ := hl
          rcases q2_dispatch_pops_min c r k hs hx with ⟨_, h2⟩ | ⟨it, q', _, _, hit, hh, _, hq, _, hst, hex, hstt, _⟩
          · rw [h2]; exact .plain hb hk
          · exact .flight r it.ev q'.batch _ hst hex (by rw [← hs]; exact hp) (by rw [hstt]; exact hb.popped r it q' hit hh hq)
        · -- any other plain frame keeps the balance and puts plain frames in its place
          have hsp : f.d8special = false := by
            cases f <;> first | rfl | exact absurd ⟨_, rfl⟩ hl | cases hf
          rw [step_cons c f k hs hx]
          exact .plain (stepFrame_d8 c k f hsp hb) (d8_stepFrame_plain c (fun r hr => hl ⟨r, hr⟩) hk)

theorem d8_startOf (s : St) (op : ExtOp) (h : DBal K 0 s) : DInv K (startOf s op) := by
  cases op <;> exact .plain h rfl

theorem DBal.envChange {s : St} (h : DBal K B s) (d : Nat) (tape : List Entry) : DBal K B (envChange s d tape) :=
  h.of_eq rfl rfl

theorem d8_reach {s0 : St} (h0 : DBal K 0 s0) : ∀ c, Reach s0 c → DInv K c := by
  apply Reach.inv
  · intro d tape op; exact d8_startOf _ op (h0.envChange d tape)
  · intro c h; exact d8_step h
  · intro c d tape op h hd
    have hs : c.stack = [] := (done_iff c).1 hd
    have hb : DBal K 0 c.st := by have := h.bal; rw [hs] at this; exact this
    exact d8_startOf _ op (hb.envChange d tape)

variable {cx nb fc : Nat}

/- The helper lemmas of `DLoc` by name: the second component of the joint walk `DKeep.<helper>`. -/
theorem DLoc.addHandler {t : St} (h : DLoc K cx nb fc t) (y : Nat) : DLoc K cx nb fc (t.addHandler y) :=
  (DKeep.addHandler (.refl t) y).2 cx nb fc h

theorem DLoc.inform {t : St} (h : DLoc K cx nb fc t) (e : Nat) (force : Bool) :
    DLoc K cx nb fc (t.inform e force) :=
  (DKeep.inform (.refl t) e force).2 cx nb fc h

theorem DLoc.prepUnregPre {t : St} (h : DLoc K cx nb fc t) (c : Nat) :
    DLoc K cx nb fc (t.prepUnregPre c) :=
  (DKeep.prepUnregPre (.refl t) c).2 cx nb fc h

theorem DLoc.registerTask {t : St} (h : DLoc K cx nb fc t) (c : Nat) (x : Task) :
    DLoc K cx nb fc (t.registerTask c x) :=
  (DKeep.registerTask (.refl t) c x).2 cx nb fc h

theorem DLoc.removeHandler {t : St} (h : DLoc K cx nb fc t) (y : Nat) (n : Option Name) :
    DLoc K cx nb fc ((t.removeHandler y n).2) :=
  (DKeep.removeHandler (.refl t) y n).2 cx nb fc h

theorem DLoc.setValue {t : St} (h : DLoc K cx nb fc t) (e : Nat) (x : VItem) :
    DLoc K cx nb fc (t.setValue e x) :=
  (DKeep.setValue (.refl t) e x).2 cx nb fc h

theorem DLoc.startWait {t : St} (h : DLoc K cx nb fc t) (w : Nat) :
    DLoc K cx nb fc (t.startWait w) :=
  (DKeep.startWait (.refl t) w).2 cx nb fc h

theorem DLoc.unregister {t : St} (h : DLoc K cx nb fc t) (c : Nat) :
    DLoc K cx nb fc (t.unregister c) :=
  (DKeep.unregister (.refl t) c).2 cx nb fc h

theorem DLoc.unregisterTask {t : St} (h : DLoc K cx nb fc t) (c : Nat) (x : Task) :
    DLoc K cx nb fc (t.unregisterTask c x) :=
  (DKeep.unregisterTask (.refl t) c x).2 cx nb fc h

theorem DLoc.dispatchPre {t : St} (h : DLoc K cx nb fc t) (r e remaining : Nat) :
    DLoc K cx nb fc ((t.dispatchPre r e remaining).2) :=
  (DKeep.dispatchPre_rest t r e remaining).2 cx nb fc (h.logE (.disp e) rfl)

/-- the event a timer fires is the one it holds, not in `K` by `DLoc.timers`, or a fresh one -/
theorem DLoc.timerTick {t : St} (h : DLoc K cx nb fc t) (i e : Nat) : DLoc K cx nb fc (t.timerTick i e) := by
  refine St.timerTick_pres_ev (P := DLoc K cx nb fc) t i e h (fun _ _ h => (DKeep.reduceTimeLeft (.refl _) _ _).2 _ _ _ h)
    (fun tm c ch htm => ?_) (fun _ _ h => h.modTimer _ _ fun _ => rfl) (fun _ _ h => h.unregister _)
  split
  · rename_i e0 hev
    exact h.fireRaw _ _ _ _ (h.timers tm (List.mem_of_getElem? htm) e0 hev)
  · refine DLoc.fireRaw (DLoc.modTimer' (h.addEv _) _ _ fun y e' he' => .inr ?_) _ _ _ _ h.fresh
    cases he'
    exact h.fresh

theorem DLoc.flushBegin {t : St} (h : DLoc K cx nb fc t) (r : Nat) : DLoc K cx nb fc (t.flushBegin r) := by
  unfold St.flushBegin
  dsimp only
  apply DLoc.modCompLe
  · st_pres
  · intro y; rw [d8_begin_cnt]; exact Nat.le_refl _

theorem DLoc.updateRootAll : ∀ (fuel : Nat) (todo : List Nat) (root : Nat) (t : St),
    DLoc K cx nb fc t → DLoc K cx nb fc (St.updateRootAll fuel todo root t) :=
  fun fuel todo root t h => St.updateRootAll_pres root (fun _ _ h => h.modComp _ _ fun _ => rfl) fuel todo t h

/-- the drain of `register(c, p)` for `c ≠ cx`: `c`'s deque holds no `K` item, so none moves -/
theorem DLoc.drain {t : St} (h : DLoc K cx nb fc t) (r c : Nat) (hc : c ≠ cx) :
    DLoc K cx nb fc ((t.modComp r fun x => { x with eq := ((t.comp r).eq.drainFrom (t.comp c).eq).1, dirty := true }).modComp c
      fun x => { x with eq := ((t.comp r).eq.drainFrom (t.comp c).eq).2 }) := by
  have h0 : (t.comp c).eq.dequeCnt K = 0 ∧ (t.comp c).eq.heapCnt K = 0 := by
    have := h.other c hc
    simp only [EQ.cntK] at this
    omega
  apply DLoc.modCompAt
  · apply DLoc.modCompAt
    · exact h
    · simp only [EQ.drainFrom, EQ.cntK, EQ.dequeCnt, EQ.heapCnt, List.countP_append] at h0 ⊢
      omega
  · simp only [EQ.drainFrom, EQ.cntK, EQ.dequeCnt, EQ.heapCnt, List.countP_nil] at h0 ⊢
    omega

theorem DLoc.registerPre {t : St} (h : DLoc K cx nb fc t) (c p : Nat) (hc : c ≠ cx) :
    DLoc K cx nb fc ((t.registerPre c p).2) := by
  have h1 : DLoc K cx nb fc (t.modComp c fun x => { x with parent := p, root := (t.comp p).root }) :=
    h.modComp _ _ fun _ => rfl
  unfold St.registerPre
  refine pred_ite_snd (pred_ite_snd h1 (pred_ite (DLoc.drain ?_ _ _ hc) ?_)) h1 <;> st_pres

theorem DLoc.popped {t : St} (h : DLoc K cx nb fc t) {r : Nat} {it : QItem} {q : EQ} (hp : t.popEvent r = some (it, q)) :
    DLoc K cx nb fc (t.modComp r fun x => { x with eq := q }) := by
  obtain ⟨_, hit, hq⟩ := pop_spec hp
  refine h.modCompAt _ _ ?_
  rw [hq]
  simp only [EQ.cntK, EQ.dequeCnt, EQ.heapCnt]
  have := d8_countP_erase (fun i => K i.ev) it _ (mem_minCands hit).1
  omega

/-- every operation of the arms but `register`'s drain of the queue of `cx` -/
theorem DLoc.keeps (o : Op) (ho : o ∉ [Op.registerPre]) : o.Keeps (DLoc K cx nb fc) := by
  by_cases h1 : o ∈ [Op.dispatchPre, .modCompEq, .updateRootAll, .timerTick, .flushBegin]
  · simp only [List.mem_cons, List.not_mem_nil, or_false] at h1
    rcases h1 with rfl | rfl | rfl | rfl | rfl
    · exact fun h r e rem => h.dispatchPre r e rem
    · exact fun h _ _ _ hp => h.popped hp
    · exact fun h fuel todo root => DLoc.updateRootAll fuel todo root _ h
    · exact fun h i e => h.timerTick i e
    · exact fun h r => h.flushBegin r
  · refine Op.Keeps.of_rel (fun hr hl => hr.2 cx nb fc hl) DKeep.refl fun s => DKeep.keeps s o ?_
    simp only [List.mem_cons, List.not_mem_nil, or_false, not_or] at ho h1 ⊢
    exact ⟨h1.1, h1.2.1, h1.2.2.1, ho, h1.2.2.2.1, h1.2.2.2.2⟩

theorem Cfg.register_l8 (c : Cfg) (k : List Frame) (x p : Nat) (hb : DLoc K cx nb fc c.st) (hx : x ≠ cx) :
    DLoc K cx nb fc (c.register k x p).st := by
  have h1 := hb.registerPre x p hx
  have h2 := h1.updateRootAll (c.st.comps.length + 1) [x] (c.st.comp p).root
  unfold Cfg.register
  exact pred_ite_st hb (pred_ite_st (pred_ite_st h2 h2) h1)

theorem unwind_l8 (c : Cfg) (k : List Frame) (ex : Exn) (f : Frame) (hb : DLoc K cx nb fc c.st) :
    DLoc K cx nb fc (unwind c k ex f).st :=
  unwind_pres_avoiding c k DLoc.keeps ex f rfl hb

/-- one step, unless it executes `cx.register(p)` -/
theorem l8_step {c : Cfg} (hb : DLoc K cx nb fc c.st)
    (hreg : ∀ p k, c.stack = .register cx p :: k → c.exn ≠ none) : DLoc K cx nb fc (step c).st := by
  cases hs : c.stack with
  | nil => rw [step_nil c hs]; exact hb
  | cons f k =>
    cases hx : c.exn with
    | some ex => rw [step_cons_exn c f k ex hs hx]; exact unwind_l8 c k ex f hb
    | none =>
      rw [step_cons c f k hs hx]
      cases f
      case register x p =>
        have hne : x ≠ cx := by
          intro h; subst h
          exact hreg p k hs hx
        exact Cfg.register_l8 c k x p hb hne
      all_goals exact stepFrame_pres_avoiding c k DLoc.keeps _ rfl hb

theorem l8_fireRaw_fresh (s : St) (x e : Nat) (chans : List Chan) (prio : Int)
    (hroot : (s.comp x).root = x) (he : e < s.evs.length)
    (hq : ∀ y, (s.comp y).eq.cntK (· == e) = 0)
    (hf : firedCnt (· == e) s.log = 0)
    (ht : ∀ tm ∈ s.timers, ∀ e', tm.ev = some e' → e' ≠ e) :
    DLoc (· == e) x (e + 1) 1 (s.fireRaw x e chans prio) := by
  obtain ⟨evs, hev, heq⟩ := s.fireRaw_eq x e chans prio
  rw [heq]
  refine ⟨?_, ?_, fun tm htm e' he' => by simpa using ht tm htm e' he', ?_, ?_⟩
  · intro e' he'; simp only [beq_iff_eq] at he'; omega
  · show e + 1 ≤ evs.length
    omega
  · intro y hy
    show ((s.modComp (s.rootOf x) fun y => { y with eq := y.eq.append e prio }).comp y).eq.cntK _ = 0
    rw [St.w6_modComp_comp_ne _ _ _ _ (by rw [show s.rootOf x = x from hroot]; exact hy)]
    exact hq y
  · show firedCnt _ (Entry.fire e _ chans prio :: s.log) = 1
    simp only [firedCnt, List.countP_cons, d8isFire, beq_self_eq_true, if_true] at hf ⊢
    omega

theorem l8_fresh_fire (s : St) (x : Nat) (ev : Ev) (target : Option Chan) (prio : Int)
    (hroot : (s.comp x).root = x)
    (hq : ∀ y, (s.comp y).eq.cntK (· == s.evs.length) = 0)
    (hf : firedCnt (· == s.evs.length) s.log = 0)
    (ht : ∀ tm ∈ s.timers, ∀ e, tm.ev = some e → e < s.evs.length) :
    DLoc (· == s.evs.length) x (s.evs.length + 1) 1 (s.fireTmplEv x ev target prio) := by
  unfold St.fireTmplEv
  dsimp only
  apply l8_fireRaw_fresh
  · exact hroot
  · simp [St.addEv]
  · exact hq
  · exact hf
  · intro tm htm e he; have := ht tm htm e he; omega

theorem r8_queued_zero (K : Nat → Bool) (s : St) : queuedCnt K s = 0 ↔ ∀ y, (s.comp y).eq.cntK K = 0 := by
  unfold queuedCnt
  rw [List.sum_eq_zero_iff_forall_eq_nat]
  constructor
  · intro h y
    by_cases hy : y < s.comps.length
    · apply h
      refine List.mem_map.mpr ⟨s.comps[y], List.getElem_mem hy, ?_⟩
      unfold St.comp
      rw [List.getD_eq_getElem?_getD, List.getElem?_eq_getElem hy]; rfl
    · rw [St.w6_comp_ge s y (Nat.le_of_not_lt hy)]; rfl
  · intro h a ha
    obtain ⟨c, hc, rfl⟩ := List.mem_map.mp ha
    obtain ⟨i, hi, rfl⟩ := List.getElem_of_mem hc
    have := h i
    unfold St.comp at this
    rw [List.getD_eq_getElem?_getD, List.getElem?_eq_getElem hi] at this
    exact this

theorem r8_modComp_eq_root (s : St) (c : Nat) (f : Comp → Comp) (hf : ∀ y : Comp, (f y).eq = y.eq ∧ (f y).root = y.root)
    (y : Nat) : ((s.modComp c f).comp y).eq = (s.comp y).eq ∧ ((s.modComp c f).comp y).root = (s.comp y).root :=
  ⟨St.w6_modComp_comp_pres s (·.eq) c f (fun x => (hf x).1) y, St.w6_modComp_comp_root s c f (fun x => (hf x).2) y⟩

theorem r8_fresh_fire' (s s' : St) (x : Nat) (ev : Ev) (target : Option Chan) (prio : Int)
    (h1 : s'.evs = s.evs) (h2 : s'.log = s.log) (h3 : s'.timers = s.timers)
    (h4 : ∀ y, ((s'.comp y).eq = (s.comp y).eq ∧ (s'.comp y).root = (s.comp y).root))
    (hroot : (s.comp x).root = x)
    (hq : ∀ y, (s.comp y).eq.cntK (· == s.evs.length) = 0)
    (hf : firedCnt (· == s.evs.length) s.log = 0)
    (ht : ∀ tm ∈ s.timers, ∀ e, tm.ev = some e → e < s.evs.length) :
    DLoc (· == s.evs.length) x (s.evs.length + 1) 1 (s'.fireTmplEv x ev target prio) := by
  have := l8_fresh_fire s' x ev target prio (by rw [(h4 x).2]; exact hroot)
    (by intro y; rw [(h4 y).1, h1]; exact hq y) (by rw [h1, h2]; exact hf) (by rw [h1, h3]; exact ht)
  rw [h1] at this
  exact this

theorem r8_runBegin (s : St) (x : Nat) (hroot : (s.comp x).root = x)
    (hq : ∀ y, (s.comp y).eq.cntK (· == s.evs.length) = 0)
    (hf : firedCnt (· == s.evs.length) s.log = 0)
    (ht : ∀ tm ∈ s.timers, ∀ e, tm.ev = some e → e < s.evs.length) :
    DLoc (· == s.evs.length) x (s.evs.length + 1) 1 (s.runBegin x) := by
  unfold St.runBegin
  dsimp only
  refine r8_fresh_fire' s _ x _ _ _ ?_ ?_ ?_ ?_ hroot hq hf ht
  · rfl
  · rfl
  · rfl
  intro y
  have a1 := r8_modComp_eq_root s x (fun x => { x with running := true }) (fun _ => ⟨rfl, rfl⟩) y
  have a2 := r8_modComp_eq_root (s.modComp x fun x => { x with running := true })
    ((s.modComp x fun x => { x with running := true }).rootOf x) (fun x => { x with executing := true })
    (fun _ => ⟨rfl, rfl⟩) y
  exact ⟨a2.1.trans a1.1, a2.2.trans a1.2⟩

theorem r8_stopBegin (s : St) (x : Nat) (hroot : (s.comp x).root = x)
    (hq : ∀ y, (s.comp y).eq.cntK (· == s.evs.length) = 0)
    (hf : firedCnt (· == s.evs.length) s.log = 0)
    (ht : ∀ tm ∈ s.timers, ∀ e, tm.ev = some e → e < s.evs.length) :
    DLoc (· == s.evs.length) x (s.evs.length + 1) 1 (s.stopBegin x) := by
  unfold St.stopBegin
  refine r8_fresh_fire' s _ x _ _ _ ?_ ?_ ?_ ?_ hroot hq hf ht
  · rfl
  · rfl
  · rfl
  intro y
  exact r8_modComp_eq_root s x (fun x => { x with running := false }) (fun _ => ⟨rfl, rfl⟩) y

theorem r8_fresh_unfired {s : St} (hwf : WF s) : firedCnt (· == s.evs.length) s.log = 0 := by
  unfold firedCnt
  rw [List.countP_eq_zero]
  intro en hen
  cases en <;> simp only [d8isFire, Bool.false_eq_true, not_false_eq_true]
  rename_i e n ch p
  have := (hwf.log e n ch p hen).1
  simp only [beq_iff_eq]
  omega

theorem r8_fresh_unqueued {s : St} (hwf : WF s) {B : Nat} (hb : DBal (· == s.evs.length) B s) :
    ∀ y, (s.comp y).eq.cntK (· == s.evs.length) = 0 := by
  have h1 := hb.bal
  rw [r8_fresh_unfired hwf] at h1
  exact (r8_queued_zero _ s).mp (by omega)

theorem r8_len_cnt (K : Nat → Bool) (q : EQ) (h : q.len = 0) : q.cntK K = 0 := by
  unfold EQ.len at h
  have h1 : q.queue = [] := List.eq_nil_of_length_eq_zero (by omega)
  have h2 : q.heap = [] := List.eq_nil_of_length_eq_zero (by omega)
  simp [EQ.cntK, EQ.dequeCnt, EQ.heapCnt, h1, h2]

theorem r8_loc_run {K : Nat → Bool} {x nb fc : Nat} {c1 : Cfg} (h1 : DLoc K x nb fc c1.st)
    (hnoreg : ∀ i p k, (runN i c1).stack ≠ .register x p :: k) : ∀ j, DLoc K x nb fc (runN j c1).st := by
  intro j
  induction j with
  | zero => exact h1
  | succ j ih =>
    rw [runN_succ']
    exact l8_step ih (fun p k hs => absurd hs (hnoreg j p k))

/-- a located event is dispatched by the time `run()` returns: at `.runFin x` the queue of `x` is empty (`Shape`), no
    other component holds a `K` item (`DLoc`) and nothing is in flight, so by conservation there are as many `D` as `F` -/
theorem r8_tracked {s0 : St} (hwf : WF s0) (hd : ∀ K, DBal K 0 s0) {c1 : Cfg} (hr : Reach s0 c1)
    {K : Nat → Bool} {x nb fc : Nat} (h1 : DLoc K x nb fc c1.st)
    (hnoreg : ∀ i p k, (runN i c1).stack ≠ .register x p :: k)
    (j : Nat) {k : List Frame} (hfin : (runN j c1).stack = .runFin x :: k) (hxn : (runN j c1).exn = none) :
    firedCnt K (runN j c1).st.log = fc ∧ dispCnt K (runN j c1).st.log = fc := by
  have hl := r8_loc_run h1 hnoreg j
  have hrj : Reach s0 (runN j c1) := Reach.runN hr j
  have hinv := d8_reach (hd K) _ hrj
  obtain ⟨_, y, ph, P, hsh⟩ := reach_wf_shape hwf _ hrj
  obtain ⟨e1, _, e3, e4⟩ := hsh.at_runFin hfin
  subst e1 e3 e4
  have hq : ((runN j c1).st.comp x).eq.len = 0 := ((hsh.good.2 hxn).2)
  have hz : queuedCnt K (runN j c1).st = 0 := by
    rw [r8_queued_zero]
    intro y
    by_cases hy : y = x
    · subst hy; exact r8_len_cnt K _ hq
    · exact hl.other y hy
  have hb := hinv.bal.bal
  rw [hfin, hz] at hb
  have hp : d8pend K (Frame.runFin x :: k) = 0 := rfl
  rw [hp] at hb
  have := hl.fired
  omega

/-- the `started` event of `x.run()`, the first event object the run creates (id `|evs|` at its start), has one `F` and
    one `D` entry when `run()` returns -/
theorem r8_started {s0 : St} (hwf : WF s0) (hd : ∀ K, DBal K 0 s0) {c0 : Cfg} (hr : Reach s0 c0) {x : Nat}
    (hs : c0.stack = [.run x]) (hx : c0.exn = none) (hroot : c0.st.rootOf x = x)
    (hnoreg : ∀ i p k, (runN i c0).stack ≠ .register x p :: k)
    (n : Nat) {k : List Frame} (hfin : (runN n c0).stack = .runFin x :: k) (hxn : (runN n c0).exn = none) :
    firedCnt (· == c0.st.evs.length) (runN n c0).st.log = 1 ∧
    dispCnt (· == c0.st.evs.length) (runN n c0).st.log = 1 := by
  cases n with
  | zero =>
    have h0 : runN 0 c0 = c0 := rfl
    rw [h0, hs] at hfin; cases hfin
  | succ n =>
    have hwf0 := (reach_wf_shape hwf c0 hr).1
    have hb0 := (d8_reach (hd (· == c0.st.evs.length)) c0 hr).bal
    have h1 : DLoc (· == c0.st.evs.length) x (c0.st.evs.length + 1) 1 (step c0).st := by
      rw [step_cons c0 _ _ hs hx]
      exact r8_runBegin c0.st x hroot (r8_fresh_unqueued hwf0 hb0) (r8_fresh_unfired hwf0)
        (fun tm htm e he => (hwf0.timers tm htm e he).1)
    rw [runN_succ] at hfin hxn ⊢
    exact r8_tracked hwf hd (Reach.step hr) h1
      (fun i p k => by rw [← runN_succ]; exact hnoreg (i + 1) p k) n hfin hxn

/-- likewise the `stopped` event of the `x.stop()` executed at step `m` of `x.run()` (id `|evs|` at that step) -/
theorem r8_stopped {s0 : St} (hwf : WF s0) (hd : ∀ K, DBal K 0 s0) {c0 : Cfg} (hr : Reach s0 c0) {x : Nat}
    (hnoreg : ∀ i p k, (runN i c0).stack ≠ .register x p :: k)
    (m : Nat) {code : Code} {k' : List Frame} (hst : (runN m c0).stack = .stopMgr x code :: k')
    (hxm : (runN m c0).exn = none) (hrun : ((runN m c0).st.comp x).running = true)
    (hroot : (runN m c0).st.rootOf x = x)
    (n : Nat) (hmn : m < n) {k : List Frame} (hfin : (runN n c0).stack = .runFin x :: k)
    (hxn : (runN n c0).exn = none) :
    firedCnt (· == (runN m c0).st.evs.length) (runN n c0).st.log = 1 ∧
    dispCnt (· == (runN m c0).st.evs.length) (runN n c0).st.log = 1 := by
  have hrm : Reach s0 (runN m c0) := Reach.runN hr m
  have hwfm := (reach_wf_shape hwf _ hrm).1
  have hbm := (d8_reach (hd (· == (runN m c0).st.evs.length)) _ hrm).bal
  have hsb := r8_stopBegin (runN m c0).st x hroot (r8_fresh_unqueued hwfm hbm) (r8_fresh_unfired hwfm)
    (fun tm htm e he => (hwfm.timers tm htm e he).1)
  have h1 : DLoc (· == (runN m c0).st.evs.length) x ((runN m c0).st.evs.length + 1) 1 (step (runN m c0)).st := by
    rw [step_cons _ _ _ hst hxm]
    show DLoc _ _ _ _ (Cfg.stopMgr _ _ _ _).st
    rw [Cfg.stopMgr_st, if_pos hrun]
    split
    · exact (DKeep.stopSetCode (.refl _) _ _).2 _ _ _ hsb
    · exact hsb
  obtain ⟨j, rfl⟩ : ∃ j, n = (m + 1) + j := ⟨n - (m + 1), by omega⟩
  rw [runN_add, runN_succ'] at hfin hxn ⊢
  exact r8_tracked hwf hd (Reach.step hrm) h1
    (fun i p k => by rw [← runN_succ', ← runN_add]; exact hnoreg _ p k) j hfin hxn

end CV.Core
