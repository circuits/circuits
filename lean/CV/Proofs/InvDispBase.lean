import CV.Proofs.CoreStep
import CV.Proofs.CoreReach
import CV.Proofs.CoreFire
/-
C08, machine level: conservation of queued events ("fired = dispatched + still queued").

For a fixed class of event ids `K : Nat → Bool` (one id: `(· == e)`):

    #F entries (K) in the log  =  #D entries (K) in the log
                                 + #items (K) in the deques and batch heaps of ALL components
                                 + B

where `B` counts the `.dispatcher _ e _` frames on the stack (an event popped by `dispatchEvents`
whose `_dispatcher` call has not yet logged its `D`).  `DBal K B s` is this equation as a predicate
on states, together with `∀ x, root(x) < |comps|` (without which a `fire` on a dangling root would
log an `F` and queue nothing).  `DLoc K cx nb fc s` (for CV/Proofs/InvDisp.lean): no component but `cx` holds a `K` item,
and the log has `fc` `F` entries of class `K`.  The helpers are walked for both predicates together (`DKeep`, by the
pattern of CV/Proofs/Pres.lean).  What moves a term of the equation: `fireRaw` (+F, +1 item), `dispatchPre` (+D, B-1),
`flushBegin` (deque → heap), `registerPre` (`drainFrom`: deque of one component → deque of another), the pop of
`.dispatchLoop` (-1 item, B+1); `updateRootAll` writes the roots.
Prefixes of lemma names (8 for C08): `d8` the balance (`DBal`, `DInv`), `l8` the location (`DLoc`), `r8` what follows at
the end of a `run()` (CV/Proofs/InvDisp.lean).
-/
namespace CV.Core

/-- the entry is the fire (`F`) / the `_dispatcher` entry (`D`) of an event whose id is in the class `K` -/
def d8isFire (K : Nat → Bool) : Entry → Bool
  | .fire e _ _ _ => K e
  | _ => false

def d8isDisp (K : Nat → Bool) : Entry → Bool
  | .disp e => K e
  | _ => false

/-- number of `F` (fire) entries of the log whose event id is in the class `K` -/
def firedCnt (K : Nat → Bool) (l : List Entry) : Nat := l.countP (d8isFire K)
/-- number of `D` (`_dispatcher` entered) entries of the log whose event id is in `K` -/
def dispCnt (K : Nat → Bool) (l : List Entry) : Nat := l.countP (d8isDisp K)

def EQ.dequeCnt (K : Nat → Bool) (q : EQ) : Nat := q.queue.countP (fun it => K it.ev)
def EQ.heapCnt (K : Nat → Bool) (q : EQ) : Nat := q.heap.countP (fun it => K it.ev)
def EQ.cntK (K : Nat → Bool) (q : EQ) : Nat := q.dequeCnt K + q.heapCnt K

def queuedCnt (K : Nat → Bool) (s : St) : Nat := (s.comps.map (fun c => c.eq.cntK K)).sum

theorem d8_sum_modify {α} (g : α → Nat) (f : α → α) (d : α) : ∀ (l : List α) (i : Nat), i < l.length →
    ((l.modify i f).map g).sum + g (l.getD i d) = (l.map g).sum + g (f (l.getD i d)) := by
  intro l
  induction l with
  | nil => intro i h; simp at h
  | cons a l ih =>
    intro i h
    cases i with
    | zero => simp; omega
    | succ i =>
      have := ih i (by simpa using h)
      simp at this ⊢
      omega

theorem d8_queued_modComp (K : Nat → Bool) (s : St) (i : Nat) (f : Comp → Comp) (hi : i < s.comps.length) :
    queuedCnt K (s.modComp i f) + (s.comp i).eq.cntK K = queuedCnt K s + (f (s.comp i)).eq.cntK K := by
  unfold queuedCnt St.modComp St.comp
  exact d8_sum_modify (fun c => c.eq.cntK K) f dfltComp s.comps i hi

theorem d8_roots_modComp (t : St) (c : Nat) (f : Comp → Comp) (h : ∀ x, (t.comp x).root < t.comps.length)
    (hf : ∀ y : Comp, (f y).root = y.root) : ∀ x, ((t.modComp c f).comp x).root < (t.modComp c f).comps.length := by
  intro x
  rw [St.w6_modComp_comp_eq, St.w6_modComp_comps_length]
  split
  · rw [hf]; exact h x
  · exact h x

theorem d8_dflt_cnt (K : Nat → Bool) : dfltComp.eq.cntK K = 0 := rfl

/-- conservation for the class `K` with `B` events in flight between pop and `D`, and all roots valid -/
structure DBal (K : Nat → Bool) (B : Nat) (s : St) : Prop where
  roots : ∀ x, (s.comp x).root < s.comps.length
  bal : firedCnt K s.log = dispCnt K s.log + queuedCnt K s + B

namespace DBal
variable {K : Nat → Bool} {B : Nat} {t : St}

theorem of_eq {t' : St} (h : DBal K B t) (hc : t'.comps = t.comps) (hl : t'.log = t.log) : DBal K B t' := by
  refine ⟨?_, ?_⟩
  · intro x; have := h.roots x; unfold St.comp at this ⊢; rw [hc]; exact this
  · have := h.bal; unfold queuedCnt at this ⊢; rw [hc, hl]; exact this

@[st_pres ↓] theorem modEv (h : DBal K B t) (e : Nat) (f : Ev → Ev) : DBal K B (t.modEv e f) := h.of_eq rfl rfl
@[st_pres ↓] theorem modWait (h : DBal K B t) (w : Nat) (f : WaitSt → WaitSt) : DBal K B (t.modWait w f) := h.of_eq rfl rfl
@[st_pres ↓] theorem modTimer (h : DBal K B t) (i : Nat) (f : TimerSt → TimerSt) : DBal K B (t.modTimer i f) := h.of_eq rfl rfl
@[st_pres ↓] theorem setGen (h : DBal K B t) (g : Nat) (y : GenRec) : DBal K B (t.setGen g y) := h.of_eq rfl rfl
@[st_pres ↓] theorem addEv (h : DBal K B t) (e : Ev) : DBal K B (t.addEv e) := h.of_eq rfl rfl
@[st_pres ↓] theorem addH (h : DBal K B t) (y : Handler) : DBal K B (t.addH y) := h.of_eq rfl rfl
@[st_pres ↓] theorem addGen (h : DBal K B t) (g : GenRec) : DBal K B (t.addGen g) := h.of_eq rfl rfl
@[st_pres ↓] theorem addWait (h : DBal K B t) (w : WaitSt) : DBal K B (t.addWait w) := h.of_eq rfl rfl
@[st_pres ↓] theorem tick1 (h : DBal K B t) (d : Int) : DBal K B (t.tick1 d) := h.of_eq rfl rfl

@[st_pres ↓] theorem logE (h : DBal K B t) (y : Entry) (hy : d8isFire K y = false ∧ d8isDisp K y = false) :
    DBal K B (t.logE y) := by
  refine ⟨?_, ?_⟩
  · exact h.roots
  · have := h.bal
    unfold St.logE firedCnt dispCnt queuedCnt at *
    simp only [List.countP_cons, hy.1, hy.2]
    simpa using this

theorem modCompGen (h : DBal K B t) (c : Nat) (f : Comp → Comp) (hq : ∀ y : Comp, (f y).eq.cntK K = y.eq.cntK K)
    (hr : ∀ y : Comp, (f y).root = y.root ∨ (f y).root < t.comps.length) : DBal K B (t.modComp c f) := by
  by_cases hc : c < t.comps.length
  · refine ⟨?_, ?_⟩
    · intro x
      rw [St.w6_modComp_comp_eq, St.w6_modComp_comps_length]
      split
      · rcases hr (t.comp x) with h1 | h1
        · rw [h1]; exact h.roots x
        · exact h1
      · exact h.roots x
    · have h1 := d8_queued_modComp K t c f hc
      rw [hq] at h1
      have := h.bal
      show firedCnt K t.log = dispCnt K t.log + queuedCnt K (t.modComp c f) + B
      omega
  · rw [St.w6_modComp_ge t c f (Nat.le_of_not_lt hc)]; exact h

@[st_pres ↓] theorem modComp (h : DBal K B t) (c : Nat) (f : Comp → Comp) (hf : ∀ y : Comp, (f y).eq = y.eq ∧ (f y).root = y.root) :
    DBal K B (t.modComp c f) :=
  h.modCompGen c f (fun y => by rw [(hf y).1]) (fun y => .inl (hf y).2)

theorem modCompCnt (h : DBal K B t) (c : Nat) (f : Comp → Comp)
    (hf : ∀ y : Comp, (f y).eq.cntK K = y.eq.cntK K ∧ (f y).root = y.root) : DBal K B (t.modComp c f) :=
  h.modCompGen c f (fun y => (hf y).1) (fun y => .inl (hf y).2)

theorem modCompRoot (h : DBal K B t) (c : Nat) (f : Comp → Comp)
    (hf : ∀ y : Comp, (f y).eq = y.eq ∧ (f y).root < t.comps.length) : DBal K B (t.modComp c f) :=
  h.modCompGen c f (fun y => by rw [(hf y).1]) (fun y => .inr (hf y).2)

/-- the one place where a queue grows and an `F` is logged: `_fire` + `fireEvent`'s log entry -/
theorem appendLog (h : DBal K B t) (r e : Nat) (prio : Int) (n : Name) (ch : List Chan) (hr : r < t.comps.length) :
    DBal K B ((t.modComp r fun y => { y with eq := y.eq.append e prio }).logE (.fire e n ch prio)) := by
  refine ⟨?_, ?_⟩
  · exact d8_roots_modComp t r _ h.roots fun _ => rfl
  · have h1 := d8_queued_modComp K t r (fun y => { y with eq := y.eq.append e prio }) hr
    have := h.bal
    show firedCnt K (Entry.fire e n ch prio :: t.log) =
      dispCnt K (Entry.fire e n ch prio :: t.log) + queuedCnt K (t.modComp r _) + B
    cases hk : K e <;>
      simp [firedCnt, dispCnt, d8isFire, d8isDisp, EQ.cntK, EQ.dequeCnt, EQ.heapCnt, EQ.append,
        List.countP_append, hk] at * <;> omega

theorem logDisp (e : Nat) (h : DBal K (B + (if K e then 1 else 0)) t) : DBal K B (t.logE (.disp e)) := by
  refine ⟨h.roots, ?_⟩
  have := h.bal
  show firedCnt K (Entry.disp e :: t.log) = dispCnt K (Entry.disp e :: t.log) + queuedCnt K t + B
  cases hk : K e <;> simp [firedCnt, dispCnt, d8isFire, d8isDisp, hk] at * <;> omega

end DBal

variable {K : Nat → Bool} {B : Nat}

theorem DBal.fireRaw {t : St} (h : DBal K B t) (self e : Nat) (chans : List Chan) (prio : Int) :
    DBal K B (t.fireRaw self e chans prio) := by
  unfold St.fireRaw
  dsimp only
  apply DBal.appendLog
  · exact St.fireContext_pres _ _ _ (h.modEv _ _) (fun _ _ h => h.modEv _ _) (fun _ _ h => h.modEv _ _)
      (fun _ _ h => h.modEv _ _)
  · rw [St.fireContext_comps]
    exact h.roots self

/-- where the queued copies of the events of a class `K` of existing ids are: on `cx` only.  `nb` bounds the ids of `K`
    (`hK`) and is at most `|evs|`, so an event object created later is not in `K`; `timers`: no `Timer` holds an event of
    `K` as the object it re-fires; `fc` is the number of `F` entries of class `K` logged so far. -/
structure DLoc (K : Nat → Bool) (cx nb fc : Nat) (s : St) : Prop where
  hK : ∀ e, K e = true → e < nb
  evs : nb ≤ s.evs.length
  timers : ∀ tm ∈ s.timers, ∀ e, tm.ev = some e → K e = false
  other : ∀ y, y ≠ cx → (s.comp y).eq.cntK K = 0
  fired : firedCnt K s.log = fc

namespace DLoc
variable {K : Nat → Bool} {cx nb fc : Nat} {t : St}

theorem of_eq {t' : St} (h : DLoc K cx nb fc t) (he : t.evs.length ≤ t'.evs.length) (ht : t'.timers = t.timers)
    (hc : t'.comps = t.comps) (hl : t'.log = t.log) : DLoc K cx nb fc t' := by
  refine ⟨h.hK, Nat.le_trans h.evs he, ?_, ?_, ?_⟩
  · rw [ht]; exact h.timers
  · intro y hy; have := h.other y hy; unfold St.comp at this ⊢; rw [hc]; exact this
  · rw [hl]; exact h.fired

@[st_pres ↓] theorem modEv (h : DLoc K cx nb fc t) (e : Nat) (f : Ev → Ev) : DLoc K cx nb fc (t.modEv e f) :=
  h.of_eq (by simp [St.modEv]) rfl rfl rfl

@[st_pres ↓] theorem modWait (h : DLoc K cx nb fc t) (w : Nat) (f : WaitSt → WaitSt) : DLoc K cx nb fc (t.modWait w f) :=
  h.of_eq (Nat.le_refl _) rfl rfl rfl

@[st_pres ↓] theorem setGen (h : DLoc K cx nb fc t) (g : Nat) (y : GenRec) : DLoc K cx nb fc (t.setGen g y) :=
  h.of_eq (Nat.le_refl _) rfl rfl rfl

@[st_pres ↓] theorem addEv (h : DLoc K cx nb fc t) (e : Ev) : DLoc K cx nb fc (t.addEv e) :=
  h.of_eq (by simp [St.addEv]) rfl rfl rfl

@[st_pres ↓] theorem addH (h : DLoc K cx nb fc t) (y : Handler) : DLoc K cx nb fc (t.addH y) := h.of_eq (Nat.le_refl _) rfl rfl rfl
@[st_pres ↓] theorem addGen (h : DLoc K cx nb fc t) (g : GenRec) : DLoc K cx nb fc (t.addGen g) := h.of_eq (Nat.le_refl _) rfl rfl rfl
@[st_pres ↓] theorem addWait (h : DLoc K cx nb fc t) (w : WaitSt) : DLoc K cx nb fc (t.addWait w) := h.of_eq (Nat.le_refl _) rfl rfl rfl
@[st_pres ↓] theorem tick1 (h : DLoc K cx nb fc t) (d : Int) : DLoc K cx nb fc (t.tick1 d) := h.of_eq (Nat.le_refl _) rfl rfl rfl

theorem modTimer' (h : DLoc K cx nb fc t) (i : Nat) (f : TimerSt → TimerSt)
    (hf : ∀ (y : TimerSt) (e : Nat), (f y).ev = some e → y.ev = some e ∨ K e = false) :
    DLoc K cx nb fc (t.modTimer i f) := by
  refine ⟨h.hK, h.evs, ?_, h.other, h.fired⟩
  intro tm htm e he
  rcases mem_modify htm with hm | ⟨b, hb, rfl⟩
  · exact h.timers _ hm e he
  · rcases hf b e he with h1 | h1
    · exact h.timers _ hb e h1
    · exact h1

@[st_pres ↓] theorem modTimer (h : DLoc K cx nb fc t) (i : Nat) (f : TimerSt → TimerSt) (hf : ∀ y : TimerSt, (f y).ev = y.ev) :
    DLoc K cx nb fc (t.modTimer i f) :=
  h.modTimer' i f fun y e he => .inl (hf y ▸ he)

@[st_pres ↓] theorem logE (h : DLoc K cx nb fc t) (y : Entry) (hy : d8isFire K y = false) : DLoc K cx nb fc (t.logE y) := by
  refine ⟨h.hK, h.evs, h.timers, h.other, ?_⟩
  have := h.fired
  unfold St.logE firedCnt at *
  simp only [List.countP_cons, hy]
  simpa using this

theorem modCompAt (h : DLoc K cx nb fc t) (c : Nat) (f : Comp → Comp)
    (hf : (f (t.comp c)).eq.cntK K ≤ (t.comp c).eq.cntK K) : DLoc K cx nb fc (t.modComp c f) := by
  refine ⟨h.hK, h.evs, h.timers, ?_, h.fired⟩
  intro y hy
  rw [St.w6_modComp_comp_eq]
  split
  · rename_i hh; have := h.other y hy; rw [hh.1] at this ⊢; omega
  · exact h.other y hy

theorem modCompLe (h : DLoc K cx nb fc t) (c : Nat) (f : Comp → Comp) (hf : ∀ y : Comp, (f y).eq.cntK K ≤ y.eq.cntK K) :
    DLoc K cx nb fc (t.modComp c f) :=
  h.modCompAt c f (hf _)

@[st_pres ↓] theorem modComp (h : DLoc K cx nb fc t) (c : Nat) (f : Comp → Comp) (hf : ∀ y : Comp, (f y).eq = y.eq) :
    DLoc K cx nb fc (t.modComp c f) :=
  h.modCompLe c f (fun y => by rw [hf]; exact Nat.le_refl _)

theorem fresh (h : DLoc K cx nb fc t) : K t.evs.length = false := by
  cases hk : K t.evs.length with
  | false => rfl
  | true => have := h.hK _ hk; have := h.evs; omega

end DLoc

variable {K : Nat → Bool} {cx nb fc : Nat}

theorem DLoc.fireRaw {t : St} (h : DLoc K cx nb fc t) (self e : Nat) (chans : List Chan) (prio : Int)
    (he : K e = false) : DLoc K cx nb fc (t.fireRaw self e chans prio) := by
  unfold St.fireRaw
  dsimp only
  apply DLoc.logE
  · apply DLoc.modCompLe
    · exact St.fireContext_pres _ _ _ (h.modEv _ _) (fun _ _ h => h.modEv _ _) (fun _ _ h => h.modEv _ _)
        (fun _ _ h => h.modEv _ _)
    · intro y
      simp [EQ.cntK, EQ.dequeCnt, EQ.heapCnt, EQ.append, List.countP_append, he]
  · exact he

/-- the code between `s` and `t` neither fires an existing `K` event nor moves a `K` item.  The helpers are walked once,
for this relation; the lemmas `DBal.<helper>` and `DLoc.<helper>` are read off that walk. -/
def DKeep (K : Nat → Bool) (s t : St) : Prop :=
  (∀ B, DBal K B s → DBal K B t) ∧ (∀ cx nb fc, DLoc K cx nb fc s → DLoc K cx nb fc t)

namespace DKeep
variable {K : Nat → Bool} {s t t' : St}

@[st_pres ↓] theorem refl (s : St) : DKeep K s s := ⟨fun _ h => h, fun _ _ _ h => h⟩

theorem trans {u : St} (h1 : DKeep K s t) (h2 : DKeep K t u) : DKeep K s u :=
  ⟨fun B h => h2.1 B (h1.1 B h), fun cx nb fc h => h2.2 cx nb fc (h1.2 cx nb fc h)⟩

theorem step (h : DKeep K s t) (h1 : ∀ B, DBal K B t → DBal K B t')
    (h2 : ∀ cx nb fc, DLoc K cx nb fc t → DLoc K cx nb fc t') : DKeep K s t' :=
  h.trans ⟨h1, h2⟩

@[st_pres ↓] theorem modEv (h : DKeep K s t) (e : Nat) (f : Ev → Ev) : DKeep K s (t.modEv e f) :=
  h.step (fun _ hb => hb.modEv e f) (fun _ _ _ hl => hl.modEv e f)

@[st_pres ↓] theorem modWait (h : DKeep K s t) (w : Nat) (f : WaitSt → WaitSt) : DKeep K s (t.modWait w f) :=
  h.step (fun _ hb => hb.modWait w f) (fun _ _ _ hl => hl.modWait w f)

@[st_pres ↓] theorem setGen (h : DKeep K s t) (g : Nat) (y : GenRec) : DKeep K s (t.setGen g y) :=
  h.step (fun _ hb => hb.setGen g y) (fun _ _ _ hl => hl.setGen g y)

@[st_pres ↓] theorem addEv (h : DKeep K s t) (e : Ev) : DKeep K s (t.addEv e) :=
  h.step (fun _ hb => hb.addEv e) (fun _ _ _ hl => hl.addEv e)

@[st_pres ↓] theorem addH (h : DKeep K s t) (y : Handler) : DKeep K s (t.addH y) :=
  h.step (fun _ hb => hb.addH y) (fun _ _ _ hl => hl.addH y)

@[st_pres ↓] theorem addGen (h : DKeep K s t) (g : GenRec) : DKeep K s (t.addGen g) :=
  h.step (fun _ hb => hb.addGen g) (fun _ _ _ hl => hl.addGen g)

@[st_pres ↓] theorem addWait (h : DKeep K s t) (w : WaitSt) : DKeep K s (t.addWait w) :=
  h.step (fun _ hb => hb.addWait w) (fun _ _ _ hl => hl.addWait w)

@[st_pres ↓] theorem tick1 (h : DKeep K s t) (d : Int) : DKeep K s (t.tick1 d) :=
  h.step (fun _ hb => hb.tick1 d) (fun _ _ _ hl => hl.tick1 d)

@[st_pres ↓] theorem modTimer (h : DKeep K s t) (i : Nat) (f : TimerSt → TimerSt) (hf : ∀ y : TimerSt, (f y).ev = y.ev) :
    DKeep K s (t.modTimer i f) :=
  h.step (fun _ hb => hb.modTimer i f) (fun _ _ _ hl => hl.modTimer i f hf)

@[st_pres ↓] theorem logE (h : DKeep K s t) (y : Entry) (hy : d8isFire K y = false ∧ d8isDisp K y = false) :
    DKeep K s (t.logE y) :=
  h.step (fun _ hb => hb.logE y hy) (fun _ _ _ hl => hl.logE y hy.1)

@[st_pres ↓] theorem modComp (h : DKeep K s t) (c : Nat) (f : Comp → Comp)
    (hf : ∀ y : Comp, (f y).eq = y.eq ∧ (f y).root = y.root) : DKeep K s (t.modComp c f) :=
  h.step (fun _ hb => hb.modComp c f hf) (fun _ _ _ hl => hl.modComp c f fun y => (hf y).1)

theorem fireFresh (h : DKeep K s t) (ev : Ev) (self : Nat) (chans : List Chan) (prio : Int) :
    DKeep K s ((t.addEv ev).fireRaw self t.evs.length chans prio) :=
  h.step (fun _ hb => (hb.addEv ev).fireRaw ..) (fun _ _ _ hl => (hl.addEv ev).fireRaw _ _ _ _ hl.fresh)

end DKeep

variable {K : Nat → Bool}

@[st_pres ↓] theorem DKeep.addHandler {s t : St} (h : DKeep K s t) (y : Nat) : DKeep K s (t.addHandler y) :=
  St.addHandler_pres t y h (fun _ h => by st_pres) (fun _ _ h => by st_pres) (fun _ _ h => by st_pres)

@[st_pres ↓] theorem DKeep.removeHandler {s t : St} (h : DKeep K s t) (y : Nat) (n : Option Name) :
    DKeep K s ((t.removeHandler y n).2) := by
  st_pres_unfold St.removeHandler

@[st_pres ↓] theorem DKeep.fireContext {s t : St} (h : DKeep K s t) (r e : Nat) :
    DKeep K s (t.fireContext r e) :=
  St.fireContext_pres t r e h (fun _ _ h => h.modEv _ _) (fun _ _ h => h.modEv _ _) (fun _ _ h => h.modEv _ _)

@[st_pres ↓] theorem DKeep.childEv {s t : St} (h : DKeep K s t) (p sfx : Nat) :
    DKeep K s (t.childEv p sfx) := by
  st_pres_unfold St.childEv

@[st_pres ↓] theorem DKeep.fireChild {s t : St} (h : DKeep K s t) (self p sfx : Nat) (chans : List Chan) :
    DKeep K s (t.fireChild self p sfx chans) :=
  h.fireFresh ..

@[st_pres ↓] theorem DKeep.fireTmplEv {s t : St} (h : DKeep K s t) (self : Nat) (ev : Ev) (target : Option Chan) (prio : Int) :
    DKeep K s (t.fireTmplEv self ev target prio) :=
  h.fireFresh ..

@[st_pres ↓] theorem DKeep.tickGenerate {s t : St} (h : DKeep K s t) (c : Nat) : DKeep K s (t.tickGenerate c) := by
  unfold St.tickGenerate
  exact pred_ite ((h.tick1 1).fireFresh ..) h

@[st_pres ↓] theorem DKeep.inform {s t : St} (h : DKeep K s t) (e : Nat) (force : Bool) :
    DKeep K s (t.inform e force) := by
  st_pres_unfold St.inform

@[st_pres ↓] theorem DKeep.setValue {s t : St} (h : DKeep K s t) (e : Nat) (x : VItem) :
    DKeep K s (t.setValue e x) := by
  st_pres_unfold St.setValue

@[st_pres ↓] theorem DKeep.effectDone1 {s t : St} (h : DKeep K s t) (r e : Nat) (announce : Bool) :
    DKeep K s ((t.effectDone1 r e announce).2) :=
  St.effectDone1_pres t r e announce h (fun _ => by st_pres) (fun _ _ h => by st_pres) (fun _ h => by st_pres)

@[st_pres ↓] theorem DKeep.eventDonePre {s t : St} (h : DKeep K s t) (r e : Nat) (err : Bool) :
    DKeep K s ((t.eventDonePre r e err).2) := by
  st_pres_unfold St.eventDonePre

@[st_pres ↓] theorem DKeep.registerTask {s t : St} (h : DKeep K s t) (c : Nat) (x : Task) :
    DKeep K s (t.registerTask c x) := by
  st_pres_unfold St.registerTask

@[st_pres ↓] theorem DKeep.unregisterTask {s t : St} (h : DKeep K s t) (c : Nat) (x : Task) :
    DKeep K s (t.unregisterTask c x) := by
  st_pres_unfold St.unregisterTask

@[st_pres ↓] theorem DKeep.reduceTimeLeft {s t : St} (h : DKeep K s t) (e : Nat) (d : Int) :
    DKeep K s (t.reduceTimeLeft e d) := by
  st_pres_unfold St.reduceTimeLeft

@[st_pres ↓] theorem DKeep.registerFin {s t : St} (h : DKeep K s t) (c : Nat) :
    DKeep K s (t.registerFin c) := by
  st_pres_unfold St.registerFin

@[st_pres ↓] theorem DKeep.unregister {s t : St} (h : DKeep K s t) (c : Nat) :
    DKeep K s (t.unregister c) := by
  st_pres_unfold St.unregister

@[st_pres ↓] theorem DKeep.prepUnregPre {s t : St} (h : DKeep K s t) (c : Nat) :
    DKeep K s (t.prepUnregPre c) := by
  st_pres_unfold St.prepUnregPre

@[st_pres ↓] theorem DKeep.prepUnregFin {s t : St} (h : DKeep K s t) (c : Nat) :
    DKeep K s (t.prepUnregFin c) := by
  st_pres_unfold St.prepUnregFin

@[st_pres ↓] theorem DKeep.actFire {s t : St} (h : DKeep K s t) (self i : Nat) (target : Option Chan) (prio : Int) (cancel : Bool) :
    DKeep K s (t.actFire self i target prio cancel) := by
  st_pres_unfold St.actFire

@[st_pres ↓] theorem DKeep.actStopEv {s t : St} (h : DKeep K s t) (ev : Option Nat) :
    DKeep K s (t.actStopEv ev) := by
  st_pres_unfold St.actStopEv

@[st_pres ↓] theorem DKeep.timerReset {s t : St} (h : DKeep K s t) (i : Nat) :
    DKeep K s (t.timerReset i) := by
  st_pres_unfold St.timerReset

@[st_pres ↓] theorem DKeep.timerCreate {s t : St} (h : DKeep K s t) (i : Nat) :
    DKeep K s (t.timerCreate i) := by
  st_pres_unfold St.timerCreate

@[st_pres ↓] theorem DKeep.startWait {s t : St} (h : DKeep K s t) (w : Nat) :
    DKeep K s (t.startWait w) :=
  St.startWait_pres t w h (fun _ _ => by st_pres) (fun _ _ _ _ _ h => by st_pres) (fun _ _ _ _ _ h => by st_pres)

@[st_pres ↓] theorem DKeep.stopBegin {s t : St} (h : DKeep K s t) (c : Nat) :
    DKeep K s (t.stopBegin c) := by
  st_pres_unfold St.stopBegin

@[st_pres ↓] theorem DKeep.stopSetCode {s t : St} (h : DKeep K s t) (r : Nat) (code : Code) :
    DKeep K s (t.stopSetCode r code) := by
  st_pres_unfold St.stopSetCode

@[st_pres ↓] theorem DKeep.genCall {s t : St} (h : DKeep K s t) (owner i : Nat) (target : Option Chan) (timeout : Option Nat) :
    DKeep K s (t.genCall owner i target timeout) := by
  st_pres_unfold St.genCall

@[st_pres ↓] theorem DKeep.genWait {s t : St} (h : DKeep K s t) (owner : Nat) (name : Name) (target : Option Chan) (timeout : Option Nat) :
    DKeep K s (t.genWait owner name target timeout) := by
  st_pres_unfold St.genWait

@[st_pres ↓] theorem DKeep.resumeGenPre {s t : St} (h : DKeep K s t) (g : Nat) (silent : Bool) :
    DKeep K s (t.resumeGenPre g silent) := by
  st_pres_unfold St.resumeGenPre

@[st_pres ↓] theorem DKeep.stopIteration {s t : St} (h : DKeep K s t) (r : Nat) (x : Task) :
    DKeep K s ((t.stopIteration r x).2) :=
  St.stopIteration_pres t r x (by st_pres) (fun _ _ h => by st_pres) (fun _ h => by st_pres)

@[st_pres ↓] theorem DKeep.fireException {s t : St} (h : DKeep K s t) (r e : Nat) :
    DKeep K s (t.fireException r e) := by
  st_pres_unfold St.fireException

@[st_pres ↓] theorem DKeep.errorBranch {s t : St} (h : DKeep K s t) (r : Nat) (x : Task) (resumed : Bool) :
    DKeep K s ((t.errorBranch r x resumed).2) :=
  St.errorBranch_pres t r x resumed (by st_pres) (fun _ h => by st_pres) (fun _ h => by st_pres)
    (fun _ _ h => by st_pres) (fun _ _ h => by st_pres) (fun _ h => by st_pres) (fun _ _ h => by st_pres)

@[st_pres ↓] theorem DKeep.ownSub {s t : St} (h : DKeep K s t) (r : Nat) (x : Task) (w : Nat) :
    DKeep K s (t.ownSub r x w) := by
  st_pres_unfold St.ownSub

@[st_pres ↓] theorem DKeep.setValueOpt {s t : St} (h : DKeep K s t) (e : Nat) (v : Option Nat) :
    DKeep K s (t.setValueOpt e v) := by
  st_pres_unfold St.setValueOpt

@[st_pres ↓] theorem DKeep.parentSub {s t : St} (h : DKeep K s t) (r : Nat) (x : Task) (p w2 : Nat) (viaThrow : Bool) :
    DKeep K s (t.parentSub r x p w2 viaThrow) := by
  st_pres_unfold St.parentSub

@[st_pres ↓] theorem DKeep.parentPlain {s t : St} (h : DKeep K s t) (r : Nat) (x : Task) (p : Nat) (v : Option Nat) (viaThrow : Bool) :
    DKeep K s (t.parentPlain r x p v viaThrow) := by
  st_pres_unfold St.parentPlain

@[st_pres ↓] theorem DKeep.onWaitEvent {s t : St} (h : DKeep K s t) (w e : Nat) :
    DKeep K s ((t.onWaitEvent w e).2) := by
  st_pres_unfold St.onWaitEvent

@[st_pres ↓] theorem DKeep.onWaitDone {s t : St} (h : DKeep K s t) (w e : Nat) :
    DKeep K s ((t.onWaitDone w e).2) :=
  St.onWaitDone_pres t w e h (fun _ _ _ h => by st_pres) (fun _ _ => by st_pres)

@[st_pres ↓] theorem DKeep.onWaitTick {s t : St} (h : DKeep K s t) (w : Nat) :
    DKeep K s ((t.onWaitTick w).2) :=
  St.onWaitTick_pres t w h (fun _ _ _ h => h.removeHandler _ _) (fun _ _ _ => by st_pres) (by st_pres)

@[st_pres ↓] theorem DKeep.onFallbackGE {s t : St} (h : DKeep K s t) (e : Nat) :
    DKeep K s ((t.onFallbackGE e).2) := by
  st_pres_unfold St.onFallbackGE

@[st_pres ↓] theorem DKeep.computeHandlers {s t : St} (h : DKeep K s t) (r : Nat) (name : Name) (chans : List Chan) :
    DKeep K s ((t.computeHandlers r name chans).2) := by
  st_pres_unfold St.computeHandlers

@[st_pres ↓] theorem DKeep.dispComplete {s t : St} (h : DKeep K s t) (e : Nat) (ev : Ev) :
    DKeep K s (t.dispComplete e ev) := by
  st_pres_unfold St.dispComplete

@[st_pres ↓] theorem DKeep.cacheRefresh {s t : St} (h : DKeep K s t) (r : Nat) :
    DKeep K s (t.cacheRefresh r) := by
  st_pres_unfold St.cacheRefresh

@[st_pres ↓] theorem DKeep.lookupHandlers {s t : St} (h : DKeep K s t) (r : Nat) (name : Name) (chans : List Chan) :
    DKeep K s ((t.lookupHandlers r name chans).2) := by
  st_pres_unfold St.lookupHandlers

@[st_pres ↓] theorem DKeep.dispGE {s t : St} (h : DKeep K s t) (r e remaining : Nat) (name : Name) :
    DKeep K s (t.dispGE r e remaining name) := by
  st_pres_unfold St.dispGE

@[st_pres ↓] theorem DKeep.handlerRaised {s t : St} (h : DKeep K s t) (r e : Nat) :
    DKeep K s (t.handlerRaised r e) := by
  st_pres_unfold St.handlerRaised

@[st_pres ↓] theorem DKeep.applyValue {s t : St} (h : DKeep K s t) (r e : Nat) (value : Outcome) :
    DKeep K s (t.applyValue r e value) := by
  st_pres_unfold St.applyValue

@[st_pres ↓] theorem DKeep.geTasksCheck {s t : St} (h : DKeep K s t) (r e : Nat) :
    DKeep K s (t.geTasksCheck r e) := by
  st_pres_unfold St.geTasksCheck

@[st_pres ↓] theorem DKeep.runBegin {s t : St} (h : DKeep K s t) (c : Nat) :
    DKeep K s (t.runBegin c) := by
  st_pres_unfold St.runBegin

@[st_pres ↓] theorem DKeep.runEnd {s t : St} (h : DKeep K s t) (c : Nat) :
    DKeep K s ((t.runEnd c).2) := by
  st_pres_unfold St.runEnd

@[st_pres ↓] theorem DKeep.actStep {s t : St} (h : DKeep K s t) (ctx : HCtx) (a : Act) : DKeep K s (actStep t ctx a).st := by
  cases a <;> st_pres_unfold CV.Core.actStep

theorem DKeep.dispatchPre_rest (t : St) (r e remaining : Nat) : DKeep K (t.logE (.disp e)) (t.dispatchPre r e remaining).2 := by
  unfold St.dispatchPre
  dsimp only
  st_pres

/-- `DKeep K` survives every operation of the arms but the two that move an event between queue, flight and log, the
two that change the tree, and the two each predicate has a lemma of its own for -/
theorem DKeep.keeps (s : St) (o : Op)
    (ho : o ∉ [Op.dispatchPre, .modCompEq, .updateRootAll, .registerPre, .timerTick, .flushBegin]) : o.Keeps (DKeep K s) := by
  cases o
  case dispatchPre | modCompEq | updateRootAll | registerPre | timerTick | flushBegin => exact absurd (by decide) ho
  all_goals (intro t h; intros; st_pres)

variable {B : Nat}

/- The helper lemmas of `DBal` by name: the first component of the joint walk `DKeep.<helper>`. -/
theorem DBal.addHandler {t : St} (h : DBal K B t) (y : Nat) : DBal K B (t.addHandler y) :=
  (DKeep.addHandler (.refl t) y).1 B h

theorem DBal.inform {t : St} (h : DBal K B t) (e : Nat) (force : Bool) :
    DBal K B (t.inform e force) :=
  (DKeep.inform (.refl t) e force).1 B h

theorem DBal.prepUnregPre {t : St} (h : DBal K B t) (c : Nat) :
    DBal K B (t.prepUnregPre c) :=
  (DKeep.prepUnregPre (.refl t) c).1 B h

theorem DBal.registerTask {t : St} (h : DBal K B t) (c : Nat) (x : Task) :
    DBal K B (t.registerTask c x) :=
  (DKeep.registerTask (.refl t) c x).1 B h

theorem DBal.removeHandler {t : St} (h : DBal K B t) (y : Nat) (n : Option Name) :
    DBal K B ((t.removeHandler y n).2) :=
  (DKeep.removeHandler (.refl t) y n).1 B h

theorem DBal.setValue {t : St} (h : DBal K B t) (e : Nat) (x : VItem) :
    DBal K B (t.setValue e x) :=
  (DKeep.setValue (.refl t) e x).1 B h

theorem DBal.startWait {t : St} (h : DBal K B t) (w : Nat) :
    DBal K B (t.startWait w) :=
  (DKeep.startWait (.refl t) w).1 B h

theorem DBal.unregister {t : St} (h : DBal K B t) (c : Nat) :
    DBal K B (t.unregister c) :=
  (DKeep.unregister (.refl t) c).1 B h

theorem DBal.unregisterTask {t : St} (h : DBal K B t) (c : Nat) (x : Task) :
    DBal K B (t.unregisterTask c x) :=
  (DKeep.unregisterTask (.refl t) c x).1 B h

theorem DBal.dispatchPre {t : St} (r e remaining : Nat) (h : DBal K (B + (if K e then 1 else 0)) t) :
    DBal K B ((t.dispatchPre r e remaining).2) :=
  (DKeep.dispatchPre_rest t r e remaining).1 B (DBal.logDisp e h)

theorem DBal.timerTick {t : St} (h : DBal K B t) (i e : Nat) :
    DBal K B (t.timerTick i e) :=
  St.timerTick_pres t i e h (fun _ _ h => (DKeep.reduceTimeLeft (.refl _) _ _).1 B h) (fun _ => by st_pres)
    (fun _ _ _ _ h => h.fireRaw ..) (fun _ _ h => by st_pres) (fun _ _ h => h.unregister _)

theorem d8_begin_cnt (K : Nat → Bool) (q : EQ) : q.begin.cntK K = q.cntK K := by
  unfold EQ.begin
  split
  · simp only [EQ.cntK, EQ.dequeCnt, EQ.heapCnt, List.countP_append, List.countP_nil]; omega
  · rfl

theorem DBal.flushBegin {t : St} (h : DBal K B t) (r : Nat) : DBal K B (t.flushBegin r) := by
  unfold St.flushBegin
  dsimp only
  apply DBal.modCompCnt
  · st_pres
  · intro y; exact ⟨d8_begin_cnt K y.eq, rfl⟩

theorem DBal.updateRootAll : ∀ (fuel : Nat) (todo : List Nat) (root : Nat) (t : St),
    DBal K B t → root < t.comps.length → DBal K B (St.updateRootAll fuel todo root t) :=
  fun fuel todo root t h hr =>
    (St.updateRootAll_pres (P := fun t => DBal K B t ∧ root < t.comps.length) root
      (fun t _ h => ⟨h.1.modCompRoot _ _ fun _ => ⟨rfl, h.2⟩, by rw [St.w6_modComp_comps_length]; exact h.2⟩)
      fuel todo t ⟨h, hr⟩).1

theorem d8_drain_bal (K : Nat → Bool) (t : St) (r c : Nat) (f1 f2 : Comp → Comp) (hrc : r ≠ c) (hr : r < t.comps.length)
    (h1 : (f1 (t.comp r)).eq.cntK K + (f2 (t.comp c)).eq.cntK K = (t.comp r).eq.cntK K + (t.comp c).eq.cntK K)
    (hoor : ¬ c < t.comps.length → (f1 (t.comp r)).eq.cntK K = (t.comp r).eq.cntK K) :
    queuedCnt K ((t.modComp r f1).modComp c f2) = queuedCnt K t := by
  have q1 := d8_queued_modComp K t r f1 hr
  by_cases hc : c < t.comps.length
  · have q2 := d8_queued_modComp K (t.modComp r f1) c f2 (by rw [St.w6_modComp_comps_length]; exact hc)
    rw [St.w6_modComp_comp_eq, if_neg fun hh => hrc hh.1.symm] at q2
    omega
  · rw [St.w6_modComp_ge _ c _ (by rw [St.w6_modComp_comps_length]; exact Nat.le_of_not_lt hc)]
    have := hoor hc
    omega

/-- `drainFrom` in `register`: the deque of `c` is appended to the deque of `r ≠ c` and cleared -/
theorem DBal.drain {t : St} (h : DBal K B t) (r c : Nat) (hrc : r ≠ c) (hr : r < t.comps.length) :
    DBal K B ((t.modComp r fun x => { x with eq := ((t.comp r).eq.drainFrom (t.comp c).eq).1, dirty := true }).modComp c
      fun x => { x with eq := ((t.comp r).eq.drainFrom (t.comp c).eq).2 }) := by
  refine ⟨?_, ?_⟩
  · exact d8_roots_modComp _ _ _ (d8_roots_modComp _ _ _ h.roots (fun _ => rfl)) (fun _ => rfl)
  · have hb := h.bal
    show firedCnt K t.log = dispCnt K t.log + queuedCnt K _ + B
    rw [d8_drain_bal K t r c _ _ hrc hr]
    · exact hb
    · simp only [EQ.drainFrom, EQ.cntK, EQ.dequeCnt, EQ.heapCnt, List.countP_append, List.countP_nil]
      omega
    · intro hc
      rw [St.w6_comp_ge t c (Nat.le_of_not_lt hc)]
      simp [EQ.drainFrom, EQ.cntK, EQ.dequeCnt, EQ.heapCnt, dfltComp]

theorem DBal.registerPre {t : St} (h : DBal K B t) (c p : Nat) : DBal K B ((t.registerPre c p).2) := by
  have h1 : DBal K B (t.modComp c fun x => { x with parent := p, root := (t.comp p).root }) :=
    h.modCompRoot _ _ (fun y => ⟨rfl, h.roots p⟩)
  unfold St.registerPre
  refine pred_ite_snd (pred_ite_snd h1 (pred_ite_of (fun hne => ?_) fun _ => ?_)) h1
  · refine DBal.drain ?_ _ _ (by simpa using hne) ?_
    · st_pres
    · rw [St.w6_modComp_comps_length]
      refine pred_ite (P := fun s : St => (t.comp p).root < s.comps.length) ?_ ?_ <;>
        simp only [St.w6_modComp_comps_length] <;> exact h.roots p
  · st_pres

end CV.Core
