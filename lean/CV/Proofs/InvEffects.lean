import CV.Proofs.CoreStep
import CV.Proofs.CoreReach
import CV.Proofs.CoreStack
/-
C05: the effects accounting of `complete` tracking (`_fire`'s cause linking, `_dispatcher`'s `event.effects = 1`,
`_eventDone`, `_effectDone`) as an invariant of the small-step machine.  For every tracked event `e`
    effects e = [¬ selfDone e] + (number of events linked under e) + [the decrement of e is pending]
(`EffOk s p z`: `p` is the event of an `.effectDone` frame on top of the stack, `z` the event that an `_effectDone` iteration
has just counted down to 0).  The places that change the accounting are updates of one row of the event table
(`EffOk.update`; `_fire`'s link is two of them); the rest of the machine leaves it alone (`Quiet`, walked once and used
for `EffOk` and for `CS`: every event but `q` keeps its `cause`).  `step` keeps the invariant `CInv` under `Guard`, two
facts about the run that do not follow from the accounting; `s0w`, `cw2` is a run on which the guard fails and `complete`
is fired early.

Lemmas in the namespaces of `St` and `Frame` carry the prefix `e5_` (effects, C05).
-/
namespace CV.Core.C05

theorem _root_.CV.Core.St.e5_lt_of_tracked (s : St) (x : Nat) (hc : (s.ev x).cause ≠ none) : x < s.evs.length :=
  Nat.lt_of_not_le fun hx => hc (by rw [St.w6_ev_ge s x hx]; rfl)

theorem _root_.CV.Core.St.e5_lt_of_cause (s : St) (x h : Nat) (hc : (s.ev x).cause = some h) : x < s.evs.length :=
  s.e5_lt_of_tracked x (by rw [hc]; exact Option.some_ne_none h)

/-- the events linked under `e`; the root of a tracked tree is its own cause and does not count under itself -/
def _root_.CV.Core.St.e5_kids (s : St) (e : Nat) : Nat :=
  (List.range s.evs.length).countP (fun x => x != e && (s.ev x).cause == some e)

theorem countP_range_update (p q : Nat → Bool) (a : Nat) (hpq : ∀ x, x ≠ a → p x = q x) (n : Nat) :
    (List.range n).countP p + (if a < n ∧ q a = true then 1 else 0)
      = (List.range n).countP q + (if a < n ∧ p a = true then 1 else 0) := by
  induction n with
  | zero => simp
  | succ n ih =>
    rw [List.range_succ, List.countP_append, List.countP_append]
    simp only [List.countP_cons, List.countP_nil, Nat.zero_add]
    by_cases hn : n = a
    · subst hn
      have h1 : ¬ (n < n) := by omega
      have h2 : n < n + 1 := by omega
      simp only [h1, false_and, if_false, Nat.add_zero] at ih
      simp only [h2, true_and]
      rw [ih]; omega
    · have hpn := hpq n hn
      have e1 : (a < n + 1) ↔ (a < n) := by constructor <;> intro h <;> omega
      simp only [e1, hpn]
      omega

theorem _root_.CV.Core.St.e5_kids_self (s s' : St) (e0 : Nat) (hlen : s'.evs.length = s.evs.length)
    (hoth : ∀ x, x ≠ e0 → (s'.ev x).cause = (s.ev x).cause) : s'.e5_kids e0 = s.e5_kids e0 := by
  unfold St.e5_kids
  rw [hlen]
  refine List.countP_congr fun x _ => ?_
  by_cases hx : x = e0
  · simp [hx]
  · rw [hoth x hx]

theorem _root_.CV.Core.St.e5_kids_congr (s s' : St) (hlen : s'.evs.length = s.evs.length)
    (hc : ∀ x, (s'.ev x).cause = (s.ev x).cause) (y : Nat) : s'.e5_kids y = s.e5_kids y :=
  St.e5_kids_self s s' y hlen fun x _ => hc x

theorem _root_.CV.Core.St.e5_kids_update (s s' : St) (e0 : Nat) (hlen : s'.evs.length = s.evs.length)
    (hoth : ∀ x, x ≠ e0 → (s'.ev x).cause = (s.ev x).cause) (he : e0 < s.evs.length) (y : Nat) (hy : y ≠ e0) :
    (s'.e5_kids y : Int) + (if (s.ev e0).cause = some y then 1 else 0)
      = s.e5_kids y + (if (s'.ev e0).cause = some y then 1 else 0) := by
  have := countP_range_update (fun x => x != y && (s'.ev x).cause == some y)
    (fun x => x != y && (s.ev x).cause == some y) e0 (fun x hx => by simp only [hoth x hx]) s.evs.length
  have hey : e0 ≠ y := fun a => hy a.symm
  simp only [he, hey, true_and, bne_iff_ne, ne_eq, not_false_eq_true, beq_iff_eq, Bool.and_eq_true] at this
  unfold St.e5_kids
  rw [hlen]
  have := congrArg (Nat.cast (R := Int)) this
  simpa only [Int.natCast_add, apply_ite (Nat.cast (R := Int)), Int.natCast_one, Int.natCast_zero] using this

theorem _root_.CV.Core.St.e5_kids_eq_zero (s : St) (e : Nat) (h : ∀ x, x ≠ e → (s.ev x).cause ≠ some e) : s.e5_kids e = 0 := by
  unfold St.e5_kids
  rw [List.countP_eq_zero]
  intro x _
  by_cases hx : x = e
  · simp [hx]
  · simp [h x hx]

theorem _root_.CV.Core.St.e5_no_kids_of_zero (s : St) (e : Nat) (h : s.e5_kids e = 0) (x : Nat) (hx : x ≠ e) :
    (s.ev x).cause ≠ some e := by
  intro hc
  have hlt := s.e5_lt_of_cause x e hc
  unfold St.e5_kids at h
  rw [List.countP_eq_zero] at h
  have := h x (List.mem_range.mpr hlt)
  simp [hx, hc] at this

theorem _root_.CV.Core.St.e5_kids_pos (s : St) (e : Nat) (h : 0 < s.e5_kids e) :
    ∃ x, x ≠ e ∧ x < s.evs.length ∧ (s.ev x).cause = some e := by
  unfold St.e5_kids at h
  rw [List.countP_pos_iff] at h
  obtain ⟨x, hx, hp⟩ := h
  simp only [Bool.and_eq_true, bne_iff_ne, ne_eq, beq_iff_eq] at hp
  exact ⟨x, hp.1, List.mem_range.mp hx, hp.2⟩

theorem _root_.CV.Core.St.e5_kids_addEv (s : St) (v : Ev) (hv : v.cause = none) (y : Nat) : (s.addEv v).e5_kids y = s.e5_kids y := by
  unfold St.e5_kids
  rw [St.w6_addEv_evs_length, List.range_succ, List.countP_append]
  have h1 : List.countP (fun x => x != y && ((s.addEv v).ev x).cause == some y) [s.evs.length] = 0 := by
    rw [List.countP_eq_zero]
    intro a ha
    simp only [List.mem_singleton] at ha
    subst ha
    simp [St.w6_addEv_ev, hv]
  rw [h1, Nat.add_zero]
  apply List.countP_congr
  intro x hx
  have : x ≠ s.evs.length := by have := List.mem_range.mp hx; omega
  simp [St.w6_addEv_ev, this]

/-- The effects accounting.  `p` is the event whose `_effectDone` decrement is pending; `z` is the event that an `_effectDone`
    iteration has just counted down to 0 and is about to clear, the one tracked event allowed at count 0 (the "zombie" of
    `EffOk.unzombie`). -/
structure EffOk (s : St) (p z : Option Nat) : Prop where
  /-- Timers fire one event object again and again: outside this property -/
  timers : s.timers = []
  /-- links point to older events (or to the event itself: the root of a tracked tree) -/
  causeLe : ∀ x h, (s.ev x).cause = some h → h ≤ x
  /-- a tracked event never sits at count 0 (except `z`, inside the `_effectDone` iteration that has
      just counted it down to 0 and is about to clear it) -/
  pos : ∀ e, (s.ev e).cause ≠ none → 1 ≤ (s.ev e).effects ∨ z = some e
  /-- effects = own pending "done" + linked events still tracked + the pending decrement -/
  count : ∀ e, (s.ev e).cause ≠ none →
    (s.ev e).effects = (if (s.ev e).selfDone then 0 else 1) + (s.e5_kids e : Int) + (if p = some e then 1 else 0)

/-- the accounting outside `_effectDone`: no decrement pending, no tracked event at count 0 -/
abbrev Eff0 (s : St) : Prop := EffOk s none none

/-- the clause `pos` when no event is excused (`z = none`) -/
theorem EffOk.one_le {s : St} {p : Option Nat} (h : EffOk s p none) {e : Nat} (htr : (s.ev e).cause ≠ none) :
    1 ≤ (s.ev e).effects :=
  (h.pos e htr).resolve_right nofun

theorem EffOk.congr {s s' : St} {p z : Option Nat} (h : EffOk s p z) (hev : s'.evs = s.evs)
    (ht : s'.timers = s.timers) : EffOk s' p z := by
  have he : ∀ y, s'.ev y = s.ev y := by intro y; unfold St.ev; rw [hev]
  have hk : ∀ y, s'.e5_kids y = s.e5_kids y := by
    intro y; exact St.e5_kids_congr s s' (by rw [hev]) (fun x => by rw [he]) y
  refine ⟨ht.trans h.timers, ?_, ?_, ?_⟩
  · intro x h'; rw [he]; exact h.causeLe x h'
  · intro e; rw [he]; exact h.pos e
  · intro e; rw [he, hk]; exact h.count e

/-- `f`, an update of an event row, leaves the three fields the accounting reads.  `st_pres` proves it for a record update of
    other fields (the `st_pres_side` rule below).  Not `Op.Keeps` of Pres.lean (an operation keeps a predicate on states). -/
structure Keeps (f : Ev → Ev) : Prop where
  keeps : ∀ x, (f x).cause = x.cause ∧ (f x).effects = x.effects ∧ (f x).selfDone = x.selfDone

theorem _root_.CV.Core.St.e5_ev_modEv_keeps (t : St) (e : Nat) (f : Ev → Ev) (hf : Keeps f) (y : Nat) :
    ((t.modEv e f).ev y).cause = (t.ev y).cause ∧ ((t.modEv e f).ev y).effects = (t.ev y).effects ∧
      ((t.modEv e f).ev y).selfDone = (t.ev y).selfDone :=
  ⟨St.w6_modEv_ev_pres t (·.cause) e f (fun x => (hf.keeps x).1) y,
   St.w6_modEv_ev_pres t (·.effects) e f (fun x => (hf.keeps x).2.1) y,
   St.w6_modEv_ev_pres t (·.selfDone) e f (fun x => (hf.keeps x).2.2) y⟩

namespace EffOk
variable {t : St} {p z : Option Nat}

@[st_pres ↓] theorem modComp (h : EffOk t p z) (c : Nat) (f : Comp → Comp) : EffOk (t.modComp c f) p z := h.congr rfl rfl
@[st_pres ↓] theorem modWait (h : EffOk t p z) (w : Nat) (f : WaitSt → WaitSt) : EffOk (t.modWait w f) p z := h.congr rfl rfl
@[st_pres ↓] theorem setGen (h : EffOk t p z) (g : Nat) (x : GenRec) : EffOk (t.setGen g x) p z := h.congr rfl rfl
@[st_pres ↓] theorem logE (h : EffOk t p z) (x : Entry) : EffOk (t.logE x) p z := h.congr rfl rfl
@[st_pres ↓] theorem addH (h : EffOk t p z) (x : Handler) : EffOk (t.addH x) p z := h.congr rfl rfl
@[st_pres ↓] theorem addGen (h : EffOk t p z) (x : GenRec) : EffOk (t.addGen x) p z := h.congr rfl rfl
@[st_pres ↓] theorem addWait (h : EffOk t p z) (x : WaitSt) : EffOk (t.addWait x) p z := h.congr rfl rfl
@[st_pres ↓] theorem tick1 (h : EffOk t p z) (d : Int) : EffOk (t.tick1 d) p z := h.congr rfl rfl

@[st_pres ↓] theorem modTimer (h : EffOk t p z) (i : Nat) (f : TimerSt → TimerSt) : EffOk (t.modTimer i f) p z :=
  h.congr rfl (by simp [St.modTimer, h.timers])

@[st_pres ↓] theorem modEv (h : EffOk t p z) (e : Nat) (f : Ev → Ev) (hf : Keeps f) : EffOk (t.modEv e f) p z := by
  have he := St.e5_ev_modEv_keeps t e f hf
  have hk : ∀ y, (t.modEv e f).e5_kids y = t.e5_kids y :=
    fun y => St.e5_kids_congr t _ (by simp) (fun x => (he x).1) y
  refine ⟨h.timers, ?_, ?_, ?_⟩
  · intro x h'; rw [(he x).1]; exact h.causeLe x h'
  · intro y; rw [(he y).1, (he y).2.1]; exact h.pos y
  · intro y; rw [(he y).1, (he y).2.1, (he y).2.2, hk]; exact h.count y

theorem addEv (h : EffOk t p z) (v : Ev) (hv : v.cause = none) : EffOk (t.addEv v) p z := by
  refine ⟨h.timers, ?_, ?_, ?_⟩
  · intro x h'; rw [St.w6_addEv_ev]; split
    · rw [hv]; intro hh; cases hh
    · exact h.causeLe x h'
  · intro y; rw [St.w6_addEv_ev]; split
    · intro hh; exact absurd hv hh
    · exact h.pos y
  · intro y; rw [St.e5_kids_addEv t v hv, St.w6_addEv_ev]; split
    · intro hh; exact absurd hv hh
    · exact h.count y

/-- `pred_ite` for `EffOk`, whose state is not its last argument: `st_pres` gets through an `if` by these -/
@[st_pres ↓] theorem ite {c : Prop} [Decidable c] {a b : St} (ha : EffOk a p z) (hb : EffOk b p z) :
    EffOk (if c then a else b) p z := pred_ite (P := fun x => EffOk x p z) ha hb

theorem pending_iff {e : Nat} (hc : (t.ev e).cause = none) : EffOk t (some e) z ↔ EffOk t none z := by
  have hne : ∀ y, (t.ev y).cause ≠ none → ¬ some e = some y := fun y hy a => hy (Option.some.inj a ▸ hc)
  constructor <;>
    exact fun h => ⟨h.timers, h.causeLe, h.pos, fun y hy => by simpa [hne y hy] using h.count y hy⟩

/-- One row of the event table changes: `s'` reads `nw` at `e` and is `t` elsewhere.  The clauses are to be checked again
for that row (`hle`, `hrow`: as many events are linked under `e` as before, since an event does not count under itself)
and for the rows `e` is linked under before and after, whose count of linked events changes by one: `hbal` says that the
pending decrement makes up for it. -/
theorem update {s' : St} {p' z' : Option Nat} (h : EffOk t p z) (htm : s'.timers = t.timers)
    (hlen : s'.evs.length = t.evs.length) {e : Nat} (he : e < t.evs.length) (nw : Ev)
    (hev : ∀ y, s'.ev y = if y = e then nw else t.ev y)
    (hle : ∀ g, nw.cause = some g → g ≤ e)
    (hrow : nw.cause ≠ none → (1 ≤ nw.effects ∨ z' = some e) ∧
      nw.effects = (if nw.selfDone then 0 else 1) + (t.e5_kids e : Int) + (if p' = some e then 1 else 0))
    (hz : ∀ y, y ≠ e → z = some y → z' = some y)
    (hbal : ∀ y, y ≠ e → (t.ev y).cause ≠ none →
      (if p = some y then 1 else 0) + (if (t.ev e).cause = some y then 1 else 0)
        = (if p' = some y then (1 : Int) else 0) + (if nw.cause = some y then 1 else 0)) :
    EffOk s' p' z' := by
  have hoth : ∀ x, x ≠ e → (s'.ev x).cause = (t.ev x).cause := fun x hx => by rw [hev, if_neg hx]
  refine ⟨htm.trans h.timers, fun y g => ?_, fun y => ?_, fun y => ?_⟩ <;> rw [hev] <;> split
  · subst y; exact hle g
  · exact h.causeLe y g
  · subst y; exact fun hc => (hrow hc).1
  · rename_i hy
    exact fun hc => (h.pos y hc).imp_right (hz y hy)
  · subst y
    rw [St.e5_kids_self t s' e hlen hoth]
    exact fun hc => (hrow hc).2
  · rename_i hy
    intro hc
    have h1 := h.count y hc
    have h2 := hbal y hy hc
    have h3 := St.e5_kids_update t s' e hlen hoth he y hy
    rw [hev, if_pos rfl] at h3
    omega

theorem update_modEv {p' z' : Option Nat} (h : EffOk t p z) {e : Nat} (he : e < t.evs.length)
    (f : Ev → Ev) (hle : ∀ g, (f (t.ev e)).cause = some g → g ≤ e)
    (hrow : (f (t.ev e)).cause ≠ none → (1 ≤ (f (t.ev e)).effects ∨ z' = some e) ∧
      (f (t.ev e)).effects = (if (f (t.ev e)).selfDone then 0 else 1) + (t.e5_kids e : Int) + (if p' = some e then 1 else 0))
    (hz : ∀ y, y ≠ e → z = some y → z' = some y)
    (hbal : ∀ y, y ≠ e → (t.ev y).cause ≠ none →
      (if p = some y then 1 else 0) + (if (t.ev e).cause = some y then 1 else 0)
        = (if p' = some y then (1 : Int) else 0) + (if (f (t.ev e)).cause = some y then 1 else 0)) :
    EffOk (t.modEv e f) p' z' :=
  h.update rfl (St.w6_modEv_evs_length ..) he _ (fun y => by
    split
    · subst y; exact St.w6_modEv_ev_lt t e f he
    · exact St.w6_modEv_ev_ne t e f y ‹_›) hle hrow hz hbal

end EffOk

theorem _root_.CV.Core.St.e5_modEv_comm (t : St) {e e' : Nat} (f g : Ev → Ev) (h : e ≠ e') :
    (t.modEv e f).modEv e' g = (t.modEv e' g).modEv e f := by
  unfold St.modEv
  dsimp only
  rw [List.modify_modify_ne _ _ _ h]

/-- The link made by `_fire`, `e.cause := h'; e.effects := 1` and `h'.effects += 1`, for the newest row `e`.  Read in
the other order: the count of `h'` goes up as if a decrement of `h'` were pending, and the new link under `h'` takes the
place of that pending decrement. -/
theorem EffOk.link {t : St} {z : Option Nat} (h : EffOk t none z) (e h' : Nat) (hlast : t.evs.length = e + 1)
    (hc : (t.ev e).cause = none) (htr' : (t.ev h').cause ≠ none) :
    EffOk ((t.modEv e fun x => { x with cause := some h', effects := 1, selfDone := false }).modEv h'
      fun x => { x with effects := x.effects + 1 }) none z := by
  have hlt : h' < t.evs.length := t.e5_lt_of_tracked h' htr'
  have hne : e ≠ h' := fun a => htr' (a ▸ hc)
  have h1 : EffOk (t.modEv h' fun x => { x with effects := x.effects + 1 }) (some h') z := by
    refine h.update_modEv hlt _ (h.causeLe h') (fun hc' => ⟨?_, ?_⟩) (fun _ _ hz => hz) fun y hy _ => ?_
    · exact (h.pos h' hc').imp_left fun h1 => by show 1 ≤ (t.ev h').effects + 1; omega
    · have := h.count h' hc'
      simp only [reduceCtorEq, if_false, if_true] at this ⊢
      omega
    · rw [if_neg (fun a => hy (Option.some.inj a).symm)]; rfl
  rw [St.e5_modEv_comm t _ _ hne]
  have he1 : ∀ y, ((t.modEv h' fun x => { x with effects := x.effects + 1 }).ev y).cause = (t.ev y).cause :=
    St.w6_modEv_ev_pres t (·.cause) h' _ fun _ => rfl
  have hk0 : (t.modEv h' fun x => { x with effects := x.effects + 1 }).e5_kids e = 0 := by
    refine St.e5_kids_eq_zero _ e fun x hx hcx => ?_
    rw [he1] at hcx
    have := h.causeLe x e hcx
    have := t.e5_lt_of_cause x e hcx
    omega
  refine h1.update_modEv (by rw [St.w6_modEv_evs_length]; omega) _ (fun g hg => ?_)
    (fun _ => ⟨.inl (Int.le_refl 1), by rw [hk0]; rfl⟩) (fun _ _ hz => hz) fun y _ _ => ?_
  · cases hg; omega
  · rw [he1, hc]
    exact Int.add_comm ..

theorem EffOk.fireContext {t : St} {z : Option Nat} (h : EffOk t none z) (r e : Nat) (hlast : t.evs.length = e + 1)
    (hc : (t.ev e).cause = none) : EffOk (t.fireContext r e) none z := by
  unfold St.fireContext
  dsimp only
  split
  · split
    · rename_i h' _
      split
      · rename_i htr
        have htr' : (t.ev h').cause ≠ none := by
          intro hn; rw [hn] at htr; simp at htr
        exact h.link e h' hlast hc htr'
      · exact h
    · exact h
  · split
    · split
      · exact h.modEv _ _ ⟨fun x => ⟨rfl, rfl, rfl⟩⟩
      · exact h
    · exact h

theorem EffOk.fireRaw {t : St} {z : Option Nat} (h : EffOk t none z) (self e : Nat) (chans : List Chan) (prio : Int)
    (hlast : t.evs.length = e + 1) (hc : (t.ev e).cause = none) : EffOk (t.fireRaw self e chans prio) none z := by
  unfold St.fireRaw
  dsimp only
  apply EffOk.logE
  apply EffOk.modComp
  have hk : Keeps (fun x : Ev => { x with chans := chans, val := {}, mgr := self }) := ⟨fun x => ⟨rfl, rfl, rfl⟩⟩
  apply EffOk.fireContext (h.modEv e _ hk)
  · simpa using hlast
  · rw [(St.e5_ev_modEv_keeps t e _ hk e).1]; exact hc

@[st_pres ↓] theorem EffOk.fireNew {t : St} {z : Option Nat} (h : EffOk t none z) (self : Nat) (v : Ev) (chans : List Chan) (prio : Int)
    (hv : v.cause = none) : EffOk ((t.addEv v).fireRaw self t.evs.length chans prio) none z := by
  apply EffOk.fireRaw (h.addEv v hv)
  · simp
  · rw [St.w6_addEv_ev]; simp [hv]

@[st_pres ↓] theorem EffOk.fireChild {t : St} {z : Option Nat} (h : EffOk t none z) (self p sfx : Nat) (chans : List Chan) :
    EffOk (t.fireChild self p sfx chans) none z := by
  unfold St.fireChild St.childEv
  exact h.fireNew _ _ _ _ rfl

/-- `Keeps f` for a record update of other fields, possibly under an `if`. -/
macro_rules | `(tactic| st_pres_side) => `(tactic|
  (refine Keeps.mk fun x => ?_) <;> first | exact ⟨rfl, rfl, rfl⟩ | (split <;> exact ⟨rfl, rfl, rfl⟩) | fail)

theorem _root_.CV.Core.St.e5_fireContext_old (t : St) (r e y : Nat) (hy : y ≠ e) :
    ((t.fireContext r e).ev y).cause = (t.ev y).cause ∧
      ((t.fireContext r e).ev y).selfDone = (t.ev y).selfDone := by
  have hk : ∀ {u : St} (i : Nat) (f : Ev → Ev), (∀ x, (f x).cause = x.cause ∧ (f x).selfDone = x.selfDone) →
      (u.ev y).cause = (t.ev y).cause ∧ (u.ev y).selfDone = (t.ev y).selfDone →
      ((u.modEv i f).ev y).cause = (t.ev y).cause ∧ ((u.modEv i f).ev y).selfDone = (t.ev y).selfDone :=
    fun {u} i f hf h => ⟨(St.w6_modEv_ev_pres u (·.cause) i f (fun x => (hf x).1) y).trans h.1,
      (St.w6_modEv_ev_pres u (·.selfDone) i f (fun x => (hf x).2) y).trans h.2⟩
  refine St.fireContext_pres (P := fun u => ((u.ev y).cause = (t.ev y).cause ∧ (u.ev y).selfDone = (t.ev y).selfDone))
    t r e ⟨rfl, rfl⟩ (fun u _ h => ?_) (fun _ _ => hk _ _ fun _ => ⟨rfl, rfl⟩) (fun _ _ => hk _ _ fun _ => ⟨rfl, rfl⟩)
  rw [St.w6_modEv_ev_ne u e _ y hy]; exact h

theorem _root_.CV.Core.St.e5_fireRaw_old (t : St) (self e y : Nat) (chans : List Chan) (prio : Int) (hy : y ≠ e) :
    ((t.fireRaw self e chans prio).ev y).cause = (t.ev y).cause ∧
      ((t.fireRaw self e chans prio).ev y).selfDone = (t.ev y).selfDone := by
  unfold St.fireRaw
  dsimp only
  show ((St.fireContext _ _ e).ev y).cause = _ ∧ ((St.fireContext _ _ e).ev y).selfDone = _
  rw [(St.e5_fireContext_old _ _ e y hy).1, (St.e5_fireContext_old _ _ e y hy).2, St.w6_modEv_ev_ne _ _ _ _ hy]
  exact ⟨rfl, rfl⟩

theorem _root_.CV.Core.St.e5_fireChild_old (t : St) (self p sfx y : Nat) (chans : List Chan) (hy : y < t.evs.length) :
    ((t.fireChild self p sfx chans).ev y).cause = (t.ev y).cause ∧
      ((t.fireChild self p sfx chans).ev y).selfDone = (t.ev y).selfDone := by
  unfold St.fireChild St.childEv
  have hne : y ≠ t.evs.length := by omega
  rw [(St.e5_fireRaw_old _ _ _ y _ _ hne).1, (St.e5_fireRaw_old _ _ _ y _ _ hne).2, St.w6_addEv_ev]
  simp [hne]

/-! `CS q s t`: up to `t` every event of `s`, except `q`, keeps the `cause` it has in `s`.  It serves `step_cause_changes`:
only an event's own dispatch and its own `_effectDone` iteration change its `cause`. -/

structure CS (q : Option Nat) (s t : St) : Prop where
  timers : t.timers = []
  len : s.evs.length ≤ t.evs.length
  cause : ∀ y, y < s.evs.length → some y ≠ q → (t.ev y).cause = (s.ev y).cause

namespace CS
variable {q : Option Nat} {s t : St}

@[st_pres ↓] theorem refl (h : s.timers = []) : CS q s s := ⟨h, Nat.le_refl _, fun _ _ _ => rfl⟩

@[st_pres ↓] theorem modComp (h : CS q s t) (c : Nat) (f : Comp → Comp) : CS q s (t.modComp c f) := ⟨h.timers, h.len, h.cause⟩
@[st_pres ↓] theorem modWait (h : CS q s t) (w : Nat) (f : WaitSt → WaitSt) : CS q s (t.modWait w f) := ⟨h.timers, h.len, h.cause⟩
@[st_pres ↓] theorem setGen (h : CS q s t) (g : Nat) (x : GenRec) : CS q s (t.setGen g x) := ⟨h.timers, h.len, h.cause⟩
@[st_pres ↓] theorem logE (h : CS q s t) (x : Entry) : CS q s (t.logE x) := ⟨h.timers, h.len, h.cause⟩
@[st_pres ↓] theorem addH (h : CS q s t) (x : Handler) : CS q s (t.addH x) := ⟨h.timers, h.len, h.cause⟩
@[st_pres ↓] theorem addGen (h : CS q s t) (x : GenRec) : CS q s (t.addGen x) := ⟨h.timers, h.len, h.cause⟩
@[st_pres ↓] theorem addWait (h : CS q s t) (x : WaitSt) : CS q s (t.addWait x) := ⟨h.timers, h.len, h.cause⟩
@[st_pres ↓] theorem tick1 (h : CS q s t) (d : Int) : CS q s (t.tick1 d) := ⟨h.timers, h.len, h.cause⟩

@[st_pres ↓] theorem modTimer (h : CS q s t) (i : Nat) (f : TimerSt → TimerSt) : CS q s (t.modTimer i f) :=
  ⟨by simp [St.modTimer, h.timers], h.len, h.cause⟩

@[st_pres ↓] theorem modEv (h : CS q s t) (e : Nat) (f : Ev → Ev) (hf : ∀ x, (f x).cause = x.cause) :
    CS q s (t.modEv e f) :=
  ⟨h.timers, by simpa using h.len, fun y hy hq =>
    (St.w6_modEv_ev_pres t (·.cause) e f hf y).trans (h.cause y hy hq)⟩

@[st_pres ↓] theorem modEv_at {e : Nat} (h : CS (some e) s t) (f : Ev → Ev) : CS (some e) s (t.modEv e f) :=
  ⟨h.timers, by simpa using h.len, fun y hy hq => by
    rw [St.w6_modEv_ev_ne _ _ _ _ (fun a => hq (by rw [a]))]; exact h.cause y hy hq⟩

@[st_pres ↓] theorem addEv (h : CS q s t) (v : Ev) : CS q s (t.addEv v) :=
  ⟨h.timers, by have := h.len; simp; omega, fun y hy hq => by
    rw [St.w6_addEv_ev, if_neg (by have := h.len; omega)]; exact h.cause y hy hq⟩

@[st_pres ↓] theorem fireNew (h : CS q s t) (self : Nat) (v : Ev) (chans : List Chan) (prio : Int) :
    CS q s ((t.addEv v).fireRaw self t.evs.length chans prio) := by
  have hle := St.Le.fireRaw (St.Le.refl (t.addEv v)) self t.evs.length chans prio
  refine ⟨?_, ?_, ?_⟩
  · exact hle.timers_nil h.timers
  · have := hle.evs; have := h.len; simp at *; omega
  · intro y hy hq
    have hne : y ≠ t.evs.length := by have := h.len; omega
    rw [(St.e5_fireRaw_old _ _ _ y _ _ hne).1, St.w6_addEv_ev, if_neg hne]
    exact h.cause y hy hq

@[st_pres ↓] theorem fireChild (h : CS q s t) (self p sfx : Nat) (chans : List Chan) :
    CS q s (t.fireChild self p sfx chans) := by
  unfold St.fireChild St.childEv; exact h.fireNew _ _ _ _

end CS

/-! Apart from four updates of an event row (the event's own "done", the restart at a dispatch, the decrement and the
clearing in `_effectDone`) the machine is built from three kinds of step: an update of another table, an update of an event
row that keeps `cause`, `effects` and `selfDone`, and the firing of a new event.  `Quiet s t`: `t` comes from `s` by such
steps (and there are no timers).  The walk through the helpers and the arms of `step` is made once, for `Quiet`; `EffOk`
and `CS` both survive a quiet change of state. -/

/-- C05's `Quiet`.  `CV.Core.Quiet` of InvAnnounce.lean is another relation (C07: no `registered` / `unregistered` is logged);
    InvPending.lean and CV/Props/C07.lean open both namespaces. -/
inductive Quiet (s : St) : St → Prop
  | refl : s.timers = [] → Quiet s s
  | congr {t t' : St} : Quiet s t → t'.evs = t.evs → t'.timers = t.timers → Quiet s t'
  | modEv {t : St} : Quiet s t → ∀ (e : Nat) (f : Ev → Ev), Keeps f → Quiet s (t.modEv e f)
  | fireNew {t : St} : Quiet s t → ∀ (self : Nat) (v : Ev) (chans : List Chan) (prio : Int), v.cause = none →
      Quiet s ((t.addEv v).fireRaw self t.evs.length chans prio)

theorem EffOk.quiet {s t : St} {z : Option Nat} (h : EffOk s none z) (hq : Quiet s t) : EffOk t none z := by
  induction hq with
  | refl => exact h
  | congr _ hev ht ih => exact ih.congr hev ht
  | modEv _ e f hf ih => exact ih.modEv e f hf
  | fireNew _ self v chans prio hv ih => exact ih.fireNew self v chans prio hv

theorem CS.quiet {q : Option Nat} {s t u : St} (h : CS q s t) (hq : Quiet t u) : CS q s u := by
  induction hq with
  | refl => exact h
  | congr _ hev ht ih => exact ⟨ht.trans ih.timers, by rw [hev]; exact ih.len, fun y => by unfold St.ev; rw [hev]; exact ih.cause y⟩
  | modEv _ e f hf ih => exact ih.modEv e f fun x => (hf.keeps x).1
  | fireNew _ self v chans prio _ ih => exact ih.fireNew self v chans prio

namespace Quiet
variable {s t : St}

theorem timers (h : Quiet s t) : t.timers = [] := by
  induction h with
  | refl h => exact h
  | congr _ _ ht ih => exact ht.trans ih
  | modEv _ _ _ _ ih => exact ih
  | fireNew _ self v chans prio _ ih => exact (St.Le.fireRaw (St.Le.refl _) ..).timers_nil ih

attribute [st_pres ↓] refl modEv fireNew

@[st_pres ↓] theorem modComp (h : Quiet s t) (c : Nat) (f : Comp → Comp) : Quiet s (t.modComp c f) := h.congr rfl rfl
@[st_pres ↓] theorem modWait (h : Quiet s t) (w : Nat) (f : WaitSt → WaitSt) : Quiet s (t.modWait w f) := h.congr rfl rfl
@[st_pres ↓] theorem setGen (h : Quiet s t) (g : Nat) (x : GenRec) : Quiet s (t.setGen g x) := h.congr rfl rfl
@[st_pres ↓] theorem logE (h : Quiet s t) (x : Entry) : Quiet s (t.logE x) := h.congr rfl rfl
@[st_pres ↓] theorem addH (h : Quiet s t) (x : Handler) : Quiet s (t.addH x) := h.congr rfl rfl
@[st_pres ↓] theorem addGen (h : Quiet s t) (x : GenRec) : Quiet s (t.addGen x) := h.congr rfl rfl
@[st_pres ↓] theorem addWait (h : Quiet s t) (x : WaitSt) : Quiet s (t.addWait x) := h.congr rfl rfl
@[st_pres ↓] theorem tick1 (h : Quiet s t) (d : Int) : Quiet s (t.tick1 d) := h.congr rfl rfl

@[st_pres ↓] theorem modTimer (h : Quiet s t) (i : Nat) (f : TimerSt → TimerSt) : Quiet s (t.modTimer i f) :=
  h.congr rfl (by simp [St.modTimer, h.timers])

@[st_pres ↓] theorem fireChild (h : Quiet s t) (self p sfx : Nat) (chans : List Chan) :
    Quiet s (t.fireChild self p sfx chans) :=
  h.fireNew _ _ _ _ rfl

@[st_pres ↓] theorem fireTmplEv (h : Quiet s t) (self : Nat) (v : Ev) (target : Option Chan) (prio : Int)
    (hv : v.cause = none) : Quiet s (t.fireTmplEv self v target prio) :=
  h.fireNew _ _ _ _ hv

@[st_pres ↓] theorem addHandler (h : Quiet s t) (x : Nat) : Quiet s (t.addHandler x) :=
  St.addHandler_pres t x h (fun _ h => by st_pres) (fun _ _ h => by st_pres) (fun _ _ h => by st_pres)

@[st_pres ↓] theorem timerTick (h : Quiet s t) (i e : Nat) : Quiet s (t.timerTick i e) :=
  (t.timerTick_nil i e h.timers).symm ▸ h

@[st_pres ↓] theorem removeHandler (h : Quiet s t) (x : Nat) (n : Option Name) :
    Quiet s ((t.removeHandler x n).2) := by
  st_pres_unfold St.removeHandler

@[st_pres ↓] theorem inform (h : Quiet s t) (e : Nat) (force : Bool) :
    Quiet s (t.inform e force) := by
  st_pres_unfold St.inform

@[st_pres ↓] theorem setValue (h : Quiet s t) (e : Nat) (x : VItem) :
    Quiet s (t.setValue e x) := by
  st_pres_unfold St.setValue

@[st_pres ↓] theorem registerTask (h : Quiet s t) (c : Nat) (x : Task) :
    Quiet s (t.registerTask c x) := by
  st_pres_unfold St.registerTask

@[st_pres ↓] theorem unregisterTask (h : Quiet s t) (c : Nat) (x : Task) :
    Quiet s (t.unregisterTask c x) := by
  st_pres_unfold St.unregisterTask

@[st_pres ↓] theorem reduceTimeLeft (h : Quiet s t) (e : Nat) (d : Int) :
    Quiet s (t.reduceTimeLeft e d) := by
  st_pres_unfold St.reduceTimeLeft

@[st_pres ↓] theorem registerPre (h : Quiet s t) (c p : Nat) :
    Quiet s ((t.registerPre c p).2) :=
  St.registerPre_pres h c p (fun _ => by st_pres) (fun _ _ h => by st_pres) (fun _ h => by st_pres)
    (fun _ _ _ _ h => by st_pres)

@[st_pres ↓] theorem registerFin (h : Quiet s t) (c : Nat) :
    Quiet s (t.registerFin c) := by
  st_pres_unfold St.registerFin

@[st_pres ↓] theorem unregister (h : Quiet s t) (c : Nat) :
    Quiet s (t.unregister c) := by
  st_pres_unfold St.unregister

@[st_pres ↓] theorem prepUnregPre (h : Quiet s t) (c : Nat) :
    Quiet s (t.prepUnregPre c) := by
  st_pres_unfold St.prepUnregPre

@[st_pres ↓] theorem prepUnregFin (h : Quiet s t) (c : Nat) :
    Quiet s (t.prepUnregFin c) := by
  st_pres_unfold St.prepUnregFin

@[st_pres ↓] theorem actFire (h : Quiet s t) (self i : Nat) (target : Option Chan) (prio : Int) (cancel : Bool) :
    Quiet s (t.actFire self i target prio cancel) := by
  st_pres_unfold St.actFire

@[st_pres ↓] theorem actStopEv (h : Quiet s t) (ev : Option Nat) :
    Quiet s (t.actStopEv ev) := by
  st_pres_unfold St.actStopEv

@[st_pres ↓] theorem timerReset (h : Quiet s t) (i : Nat) :
    Quiet s (t.timerReset i) := by
  st_pres_unfold St.timerReset

@[st_pres ↓] theorem timerCreate (h : Quiet s t) (i : Nat) :
    Quiet s (t.timerCreate i) := by
  st_pres_unfold St.timerCreate

@[st_pres ↓] theorem startWait (h : Quiet s t) (w : Nat) :
    Quiet s (t.startWait w) :=
  St.startWait_pres t w h (fun _ _ => by st_pres) (fun _ _ _ _ _ h => by st_pres) (fun _ _ _ _ _ h => by st_pres)

@[st_pres ↓] theorem stopBegin (h : Quiet s t) (c : Nat) :
    Quiet s (t.stopBegin c) := by
  st_pres_unfold St.stopBegin

@[st_pres ↓] theorem stopSetCode (h : Quiet s t) (r : Nat) (code : Code) :
    Quiet s (t.stopSetCode r code) := by
  st_pres_unfold St.stopSetCode

@[st_pres ↓] theorem genCall (h : Quiet s t) (owner i : Nat) (target : Option Chan) (timeout : Option Nat) :
    Quiet s (t.genCall owner i target timeout) := by
  st_pres_unfold St.genCall

@[st_pres ↓] theorem genWait (h : Quiet s t) (owner : Nat) (name : Name) (target : Option Chan) (timeout : Option Nat) :
    Quiet s (t.genWait owner name target timeout) := by
  st_pres_unfold St.genWait

@[st_pres ↓] theorem resumeGenPre (h : Quiet s t) (g : Nat) (silent : Bool) :
    Quiet s (t.resumeGenPre g silent) := by
  st_pres_unfold St.resumeGenPre

@[st_pres ↓] theorem stopIteration (h : Quiet s t) (r : Nat) (x : Task) :
    Quiet s ((t.stopIteration r x).2) :=
  St.stopIteration_pres t r x (by st_pres) (fun _ _ h => by st_pres) (fun _ h => by st_pres)

@[st_pres ↓] theorem fireException (h : Quiet s t) (r e : Nat) :
    Quiet s (t.fireException r e) := by
  st_pres_unfold St.fireException

@[st_pres ↓] theorem errorBranch (h : Quiet s t) (r : Nat) (x : Task) (resumed : Bool) :
    Quiet s ((t.errorBranch r x resumed).2) :=
  St.errorBranch_pres t r x resumed (by st_pres) (fun _ h => by st_pres) (fun _ h => by st_pres)
    (fun _ _ h => by st_pres) (fun _ _ h => by st_pres) (fun _ h => by st_pres) (fun _ _ h => by st_pres)

@[st_pres ↓] theorem ownSub (h : Quiet s t) (r : Nat) (x : Task) (w : Nat) :
    Quiet s (t.ownSub r x w) := by
  st_pres_unfold St.ownSub

@[st_pres ↓] theorem setValueOpt (h : Quiet s t) (e : Nat) (v : Option Nat) :
    Quiet s (t.setValueOpt e v) := by
  st_pres_unfold St.setValueOpt

@[st_pres ↓] theorem parentSub (h : Quiet s t) (r : Nat) (x : Task) (p w2 : Nat) (viaThrow : Bool) :
    Quiet s (t.parentSub r x p w2 viaThrow) := by
  st_pres_unfold St.parentSub

@[st_pres ↓] theorem parentPlain (h : Quiet s t) (r : Nat) (x : Task) (p : Nat) (v : Option Nat) (viaThrow : Bool) :
    Quiet s (t.parentPlain r x p v viaThrow) := by
  st_pres_unfold St.parentPlain

@[st_pres ↓] theorem onWaitEvent (h : Quiet s t) (w e : Nat) :
    Quiet s ((t.onWaitEvent w e).2) := by
  st_pres_unfold St.onWaitEvent

@[st_pres ↓] theorem onWaitDone (h : Quiet s t) (w e : Nat) :
    Quiet s ((t.onWaitDone w e).2) :=
  St.onWaitDone_pres t w e h (fun _ _ _ h => by st_pres) (fun _ _ => by st_pres)

@[st_pres ↓] theorem onWaitTick (h : Quiet s t) (w : Nat) :
    Quiet s ((t.onWaitTick w).2) :=
  St.onWaitTick_pres t w h (fun _ _ _ h => by st_pres) (fun _ _ _ => by st_pres) (by st_pres)

@[st_pres ↓] theorem onFallbackGE (h : Quiet s t) (e : Nat) :
    Quiet s ((t.onFallbackGE e).2) := by
  st_pres_unfold St.onFallbackGE

@[st_pres ↓] theorem computeHandlers (h : Quiet s t) (r : Nat) (name : Name) (chans : List Chan) :
    Quiet s ((t.computeHandlers r name chans).2) := by
  st_pres_unfold St.computeHandlers

@[st_pres ↓] theorem cacheRefresh (h : Quiet s t) (r : Nat) :
    Quiet s (t.cacheRefresh r) := by
  st_pres_unfold St.cacheRefresh

@[st_pres ↓] theorem lookupHandlers (h : Quiet s t) (r : Nat) (name : Name) (chans : List Chan) :
    Quiet s ((t.lookupHandlers r name chans).2) := by
  st_pres_unfold St.lookupHandlers

@[st_pres ↓] theorem dispGE (h : Quiet s t) (r e remaining : Nat) (name : Name) :
    Quiet s (t.dispGE r e remaining name) := by
  st_pres_unfold St.dispGE

@[st_pres ↓] theorem handlerRaised (h : Quiet s t) (r e : Nat) :
    Quiet s (t.handlerRaised r e) := by
  st_pres_unfold St.handlerRaised

@[st_pres ↓] theorem applyValue (h : Quiet s t) (r e : Nat) (value : Outcome) :
    Quiet s (t.applyValue r e value) := by
  st_pres_unfold St.applyValue

@[st_pres ↓] theorem geTasksCheck (h : Quiet s t) (r e : Nat) :
    Quiet s (t.geTasksCheck r e) := by
  st_pres_unfold St.geTasksCheck

@[st_pres ↓] theorem flushBegin (h : Quiet s t) (r : Nat) :
    Quiet s (t.flushBegin r) := by
  st_pres_unfold St.flushBegin

@[st_pres ↓] theorem tickGenerate (h : Quiet s t) (c : Nat) :
    Quiet s (t.tickGenerate c) := by
  st_pres_unfold St.tickGenerate

@[st_pres ↓] theorem runBegin (h : Quiet s t) (c : Nat) :
    Quiet s (t.runBegin c) := by
  st_pres_unfold St.runBegin

@[st_pres ↓] theorem runEnd (h : Quiet s t) (c : Nat) :
    Quiet s ((t.runEnd c).2) := by
  st_pres_unfold St.runEnd

@[st_pres ↓] theorem actStep (h : Quiet s t) (ctx : HCtx) (a : Act) : Quiet s (actStep t ctx a).st := by
  cases a <;> (unfold CV.Core.actStep; (try dsimp only); st_pres)

@[st_pres ↓] theorem updateRootAll : ∀ (fuel : Nat) (todo : List Nat) (root : Nat) (t : St),
    Quiet s t → Quiet s (St.updateRootAll fuel todo root t) := fun fuel todo root t =>
  St.updateRootAll_pres root (fun _ _ h => h.modComp _ _) fuel todo t

end Quiet

/-! `EffOk` and `CS` through the helpers by name: instances of `EffOk.quiet` / `CS.quiet` along the walk of `Quiet`. -/

theorem EffOk.addHandler {t : St} (h : Eff0 t) (x : Nat) : Eff0 (t.addHandler x) :=
  h.quiet (.addHandler (.refl h.timers) x)

theorem EffOk.flushBegin {t : St} (h : Eff0 t) (r : Nat) :
    Eff0 (t.flushBegin r) :=
  h.quiet (.flushBegin (.refl h.timers) r)

theorem EffOk.inform {t : St} (h : Eff0 t) (e : Nat) (force : Bool) :
    Eff0 (t.inform e force) :=
  h.quiet (.inform (.refl h.timers) e force)

theorem EffOk.prepUnregPre {t : St} (h : Eff0 t) (c : Nat) :
    Eff0 (t.prepUnregPre c) :=
  h.quiet (.prepUnregPre (.refl h.timers) c)

theorem EffOk.registerPre {t : St} (h : Eff0 t) (c p : Nat) :
    Eff0 ((t.registerPre c p).2) :=
  h.quiet (.registerPre (.refl h.timers) c p)

theorem EffOk.registerTask {t : St} (h : Eff0 t) (c : Nat) (x : Task) :
    Eff0 (t.registerTask c x) :=
  h.quiet (.registerTask (.refl h.timers) c x)

theorem EffOk.removeHandler {t : St} (h : Eff0 t) (x : Nat) (n : Option Name) :
    Eff0 ((t.removeHandler x n).2) :=
  h.quiet (.removeHandler (.refl h.timers) x n)

theorem EffOk.setValue {t : St} (h : Eff0 t) (e : Nat) (x : VItem) :
    Eff0 (t.setValue e x) :=
  h.quiet (.setValue (.refl h.timers) e x)

theorem EffOk.startWait {t : St} (h : Eff0 t) (w : Nat) :
    Eff0 (t.startWait w) :=
  h.quiet (.startWait (.refl h.timers) w)

theorem EffOk.timerTick {t : St} (h : Eff0 t) (i e : Nat) : Eff0 (t.timerTick i e) :=
  h.quiet (.timerTick (.refl h.timers) i e)

theorem EffOk.unregister {t : St} (h : Eff0 t) (c : Nat) :
    Eff0 (t.unregister c) :=
  h.quiet (.unregister (.refl h.timers) c)

theorem EffOk.unregisterTask {t : St} (h : Eff0 t) (c : Nat) (x : Task) :
    Eff0 (t.unregisterTask c x) :=
  h.quiet (.unregisterTask (.refl h.timers) c x)

theorem EffOk.updateRootAll : ∀ (fuel : Nat) (todo : List Nat) (root : Nat) (t : St),
    Eff0 t → Eff0 (St.updateRootAll fuel todo root t) :=
  fun fuel todo root t h => h.quiet (.updateRootAll fuel todo root t (.refl h.timers))

theorem CS.addHandler {q : Option Nat} {s t : St} (h : CS q s t) (x : Nat) : CS q s (t.addHandler x) :=
  h.quiet (.addHandler (.refl h.timers) x)

theorem CS.flushBegin {q : Option Nat} {s t : St} (h : CS q s t) (r : Nat) :
    CS q s (t.flushBegin r) :=
  h.quiet (.flushBegin (.refl h.timers) r)

theorem CS.inform {q : Option Nat} {s t : St} (h : CS q s t) (e : Nat) (force : Bool) :
    CS q s (t.inform e force) :=
  h.quiet (.inform (.refl h.timers) e force)

theorem CS.prepUnregPre {q : Option Nat} {s t : St} (h : CS q s t) (c : Nat) :
    CS q s (t.prepUnregPre c) :=
  h.quiet (.prepUnregPre (.refl h.timers) c)

theorem CS.registerPre {q : Option Nat} {s t : St} (h : CS q s t) (c p : Nat) :
    CS q s ((t.registerPre c p).2) :=
  h.quiet (.registerPre (.refl h.timers) c p)

theorem CS.registerTask {q : Option Nat} {s t : St} (h : CS q s t) (c : Nat) (x : Task) :
    CS q s (t.registerTask c x) :=
  h.quiet (.registerTask (.refl h.timers) c x)

theorem CS.removeHandler {q : Option Nat} {s t : St} (h : CS q s t) (x : Nat) (n : Option Name) :
    CS q s ((t.removeHandler x n).2) :=
  h.quiet (.removeHandler (.refl h.timers) x n)

theorem CS.setValue {q : Option Nat} {s t : St} (h : CS q s t) (e : Nat) (x : VItem) :
    CS q s (t.setValue e x) :=
  h.quiet (.setValue (.refl h.timers) e x)

theorem CS.startWait {q : Option Nat} {s t : St} (h : CS q s t) (w : Nat) :
    CS q s (t.startWait w) :=
  h.quiet (.startWait (.refl h.timers) w)

namespace CS
variable {q : Option Nat} {s t : St}
theorem timerTick (h : CS q s t) (i e : Nat) : CS q s (t.timerTick i e) :=
  h.quiet (.timerTick (.refl h.timers) i e)
end CS

theorem CS.unregister {q : Option Nat} {s t : St} (h : CS q s t) (c : Nat) :
    CS q s (t.unregister c) :=
  h.quiet (.unregister (.refl h.timers) c)

theorem CS.unregisterTask {q : Option Nat} {s t : St} (h : CS q s t) (c : Nat) (x : Task) :
    CS q s (t.unregisterTask c x) :=
  h.quiet (.unregisterTask (.refl h.timers) c x)

theorem CS.updateRootAll {q : Option Nat} {s : St} : ∀ (fuel : Nat) (todo : List Nat) (root : Nat) (t : St),
    CS q s t → CS q s (St.updateRootAll fuel todo root t) :=
  fun fuel todo root t h => h.quiet (.updateRootAll fuel todo root t (.refl h.timers))

theorem EffOk.setSelfDone {t : St} (h : Eff0 t) (e : Nat)
    (hs : (t.ev e).cause ≠ none → (t.ev e).selfDone = false) :
    EffOk (t.modEv e fun x => { x with selfDone := true }) (some e) none := by
  by_cases he : e < t.evs.length
  · refine h.update_modEv he _ (h.causeLe e) (fun hc => ⟨h.pos e hc, ?_⟩) (fun _ _ hz => hz) fun y hy _ => ?_
    · have := h.count e hc
      rw [hs hc] at this
      simp only [Bool.false_eq_true, reduceCtorEq, if_false, if_true] at this ⊢
      omega
    · rw [if_neg (fun a => hy (Option.some.inj a).symm)]; rfl
  · -- an id that is not an event: no row changes
    have hle := Nat.le_of_not_lt he
    exact (EffOk.pending_iff (by rw [St.w6_modEv_ev_ge t e _ e hle, St.w6_ev_ge t e hle]; rfl)).2
      (h.congr (List.modify_eq_self hle) rfl)

theorem _root_.CV.Core.St.e5_dispComplete_eq (t : St) (e : Nat) (ev : Ev) :
    t.dispComplete e ev = if ev.complete then
      t.modEv e fun x => { x with cause := if ev.cause.isNone then some e else x.cause, effects := 1, selfDone := false }
    else t := by
  unfold St.dispComplete
  split
  · split
    · unfold St.modEv; dsimp only; rw [List.modify_modify_eq]; rfl
    · rfl
  · rfl

theorem _root_.CV.Core.St.e5_dispComplete_cause (t : St) (e : Nat) (htr : (t.ev e).cause ≠ none) :
    ((t.dispComplete e (t.ev e)).ev e).cause = (t.ev e).cause := by
  rw [St.e5_dispComplete_eq]
  split
  · rw [St.w6_modEv_ev_lt _ _ _ (t.e5_lt_of_tracked e htr)]
    exact if_neg fun a => htr (Option.isNone_iff_eq_none.mp a)
  · rfl

theorem EffOk.dispComplete {t : St} (h : Eff0 t) (e : Nat)
    (hv : (t.ev e).complete = true → (t.ev e).selfDone = false ∧ ∀ x, x ≠ e → (t.ev x).cause ≠ some e) :
    Eff0 (t.dispComplete e (t.ev e)) := by
  rw [St.e5_dispComplete_eq]
  split
  · rename_i hcpl
    have hlt : e < t.evs.length :=
      Nat.lt_of_not_le fun hx => by rw [St.w6_ev_ge t e hx] at hcpl; cases hcpl
    refine h.update_modEv hlt _ (fun g hg => ?_)
      (fun _ => ⟨.inl (Int.le_refl 1), by rw [St.e5_kids_eq_zero t e (hv hcpl).2]; rfl⟩) (fun _ _ hz => hz)
      fun y hy _ => ?_
    all_goals dsimp only at *
    -- the new link is the old one, or `e` was not linked and is now its own cause
    all_goals cases hc : (t.ev e).cause
    · rw [hc] at hg; cases hg; exact Nat.le_refl _
    · rw [hc] at hg; exact h.causeLe e g (hc.trans hg)
    · simp [Ne.symm hy]
    · rfl
  · exact h

theorem EffOk.decr {t : St} {e : Nat} (h : EffOk t (some e) none) (hc : (t.ev e).cause ≠ none) :
    EffOk (t.modEv e fun x => { x with effects := (t.ev e).effects - 1 }) none (some e) := by
  refine h.update_modEv (t.e5_lt_of_tracked e hc) _ (h.causeLe e) (fun _ => ⟨.inr rfl, ?_⟩) (fun _ _ hz => nomatch hz)
    fun y hy _ => ?_
  · have := h.count e hc
    simp only [if_true, reduceCtorEq, if_false] at this ⊢
    omega
  · rw [if_neg (fun a => hy (Option.some.inj a).symm)]; rfl

theorem EffOk.unzombie {t : St} {e : Nat} (h : EffOk t none (some e))
    (hp : (t.ev e).cause ≠ none → 1 ≤ (t.ev e).effects) : Eff0 t := by
  refine ⟨h.timers, h.causeLe, ?_, h.count⟩
  intro y hy
  rcases h.pos y hy with h1 | h1
  · exact Or.inl h1
  · cases h1; exact Or.inl (hp hy)

theorem EffOk.clear {t : St} {e P : Nat} (h : EffOk t none (some e)) (hc : (t.ev e).cause = some P) :
    EffOk (t.modEv e fun x => { x with cause := none, effects := 0 }) (if P = e then none else some P) none := by
  refine h.update_modEv (t.e5_lt_of_cause e P hc) _ (fun _ hg => nomatch hg) (fun hn => absurd rfl hn)
    (fun y hy hz => absurd (Option.some.inj hz).symm hy) fun y hy _ => ?_
  rw [hc]
  by_cases hP : P = e
  · simp [hP, Ne.symm hy]
  · simp [hP]

theorem EffOk.effectDone1 {t : St} {e : Nat} (h : EffOk t (some e) none) (r : Nat) (a : Bool) :
    EffOk (t.effectDone1 r e a).2 (t.effectDone1 r e a).1 none := by
  unfold St.effectDone1
  extract_lets ev eff s1 s2 s3
  cases hc : ev.cause with
  | none => exact (EffOk.pending_iff hc).1 h
  | some P =>
    have htr : (t.ev e).cause ≠ none := fun hn => by rw [show (t.ev e).cause = some P from hc] at hn; cases hn
    have hlt := t.e5_lt_of_cause e P hc
    have h1 : EffOk s1 none (some e) := h.decr htr
    by_cases hpos : eff > 0
    · dsimp only; rw [if_pos hpos]
      refine h1.unzombie ?_
      intro _
      rw [St.w6_modEv_ev_lt _ _ _ hlt]
      show 1 ≤ (t.ev e).effects - 1
      exact hpos
    · have h2 : EffOk s2 none (some e) := EffOk.ite (h1.fireChild ..) h1
      have hc1 : (s1.ev e).cause = some P := by
        dsimp only [s1]
        exact (St.w6_modEv_ev_pres _ (·.cause) _ _ (by intro _; rfl) _).trans hc
      have hc2 : (s2.ev e).cause = some P :=
        pred_ite (P := fun x : St => (x.ev e).cause = some P)
          (((St.e5_fireChild_old _ _ _ _ e _ (by dsimp only [s1]; simpa using hlt)).1).trans hc1) hc1
      have h3 : EffOk s3 (if P = e then none else some P) none := h2.clear hc2
      dsimp only; rw [if_neg hpos]
      by_cases hPe : P = e
      · rw [if_pos hPe] at h3; rw [if_pos (by simp [hPe])]; exact h3
      · rw [if_neg hPe] at h3; rw [if_neg (by simp [hPe])]; exact h3

theorem EffOk.eventDonePre_lt {t : St} (h : Eff0 t) (r e : Nat) (err : Bool) (hlt : e < t.evs.length)
    (hs : (t.ev e).waiting = 0 → (t.ev e).cause ≠ none → (t.ev e).selfDone = false) :
    EffOk (t.eventDonePre r e err).2 (if (t.eventDonePre r e err).1 then some e else none) none := by
  have key : ∀ (s : St) (b : Bool) (ch : List Chan) (sfx : Nat), e < s.evs.length →
      ((if b = true then s.fireChild r e sfx ch else s).ev e).cause = (s.ev e).cause ∧
      ((if b = true then s.fireChild r e sfx ch else s).ev e).selfDone = (s.ev e).selfDone ∧
      e < (if b = true then s.fireChild r e sfx ch else s).evs.length := by
    intro s b ch sfx hl
    cases b
    · exact ⟨rfl, rfl, hl⟩
    · simp only [if_true]
      refine ⟨(St.e5_fireChild_old s r e sfx e ch hl).1, (St.e5_fireChild_old s r e sfx e ch hl).2, ?_⟩
      have := (St.Le.fireChild (St.Le.refl s) r e sfx ch).evs
      omega
  unfold St.eventDonePre
  extract_lets ev s1 ev1 s2
  by_cases hw : (ev.waiting != 0) = true
  · rw [if_pos hw]; exact h
  · rw [if_neg hw]
    have h1 : Eff0 s1 := by dsimp only [s1]; st_pres
    have h2 : Eff0 s2 := by dsimp only [s2]; st_pres
    obtain ⟨a1, a2, a3⟩ : (s1.ev e).cause = (t.ev e).cause ∧ (s1.ev e).selfDone = (t.ev e).selfDone ∧
        e < s1.evs.length := key t _ _ sfxDone hlt
    obtain ⟨b1, b2, _⟩ : (s2.ev e).cause = (s1.ev e).cause ∧ (s2.ev e).selfDone = (s1.ev e).selfDone ∧
        e < s2.evs.length := key s1 _ _ sfxSuccess a3
    refine h2.setSelfDone e ?_
    rw [b1, b2, a1, a2]
    exact hs (by simpa [ev] using hw)

theorem EffOk.eventDonePre {t : St} (h : Eff0 t) (r e : Nat) (err : Bool)
    (hs : (t.ev e).waiting = 0 → (t.ev e).cause ≠ none → (t.ev e).selfDone = false) :
    EffOk (t.eventDonePre r e err).2 (if (t.eventDonePre r e err).1 then some e else none) none := by
  by_cases hlt : e < t.evs.length
  · exact h.eventDonePre_lt r e err hlt hs
  · -- an id that is not an event: nothing is fired, nothing changes
    have hd : t.ev e = dfltEv := St.w6_ev_ge t e (by omega)
    have hr : t.eventDonePre r e err = (true, t.modEv e fun x => { x with selfDone := true }) := by
      unfold St.eventDonePre
      simp [hd, dfltEv]
    rw [hr]
    exact h.setSelfDone e (fun hc => by rw [hd] at hc; simp [dfltEv] at hc)

theorem _root_.CV.Core.St.e5_dispatchPre_quiet (t : St) (ht : t.timers = []) (r e rem : Nat)
    (h : (t.ev e).cancelled = false) :
    (t.dispatchPre r e rem).1.isNone = false ∧
      Quiet ((t.logE (.disp e)).dispComplete e (t.ev e)) (t.dispatchPre r e rem).2 := by
  have ht' : ((t.logE (.disp e)).dispComplete e ((t.logE (.disp e)).ev e)).timers = [] :=
    (St.Le.dispComplete (St.Le.refl (t.logE (.disp e))) e _).timers_nil ht
  unfold St.dispatchPre
  dsimp only
  rw [if_neg (show ¬ ((t.logE (.disp e)).ev e).cancelled = true from fun a => Bool.false_ne_true (h.symm.trans a))]
  refine ⟨rfl, ?_⟩
  change Quiet ((t.logE (.disp e)).dispComplete e ((t.logE (.disp e)).ev e)) _
  st_pres

theorem EffOk.dispatchPre {t : St} (h : Eff0 t) (r e rem : Nat)
    (hv : ((t.ev e).cancelled = true ∨ (t.ev e).complete = true) →
        (t.ev e).selfDone = false ∧ ∀ x, x ≠ e → (t.ev x).cause ≠ some e) :
    EffOk (t.dispatchPre r e rem).2 (if (t.dispatchPre r e rem).1.isNone then some e else none) none := by
  cases hcan : (t.ev e).cancelled
  · obtain ⟨hsome, hq⟩ := t.e5_dispatchPre_quiet h.timers r e rem hcan
    rw [hsome]
    exact ((h.logE (.disp e)).dispComplete e fun hc => hv (.inr hc)).quiet hq
  · rw [t.dispatchPre_cancelled r e rem hcan]
    exact (h.logE (.disp e)).setSelfDone e fun _ => (hv (.inl hcan)).1

@[st_pres ↓] theorem CS.effectDone1 {s t : St} (r e : Nat) (h : CS (some e) s t) (announce : Bool) :
    CS (some e) s ((t.effectDone1 r e announce).2) :=
  St.effectDone1_pres t r e announce h (fun _ => h.modEv_at _) (fun _ _ h => h.fireChild ..) (fun _ h => h.modEv_at _)

@[st_pres ↓] theorem CS.eventDonePre {q : Option Nat} {s t : St} (h : CS q s t) (r e : Nat) (err : Bool) :
    CS q s ((t.eventDonePre r e err).2) := by
  st_pres_unfold St.eventDonePre

theorem CS.dispComplete {s t : St} (e : Nat) (h : CS (some e) s t) (ev : Ev) :
    CS (some e) s (t.dispComplete e ev) := by
  st_pres_unfold St.dispComplete

@[st_pres ↓] theorem CS.dispatchPre {s t : St} (r e remaining : Nat) (h : CS (some e) s t) :
    CS (some e) s ((t.dispatchPre r e remaining).2) := by
  cases hcan : (t.ev e).cancelled
  · exact ((h.logE (.disp e)).dispComplete e _).quiet (t.e5_dispatchPre_quiet h.timers r e remaining hcan).2
  · rw [t.dispatchPre_cancelled r e remaining hcan]
    exact (h.logE (.disp e)).modEv_at _

def _root_.CV.Core.Frame.e5_isEff : Frame → Bool
  | .effectDone .. => true
  | _ => false

/-- no `.effectDone` frame in `l` -/
def noEff (l : List Frame) : Bool := l.all (fun f => !f.e5_isEff)

/-- the event of an `.effectDone` frame on top of the stack: its decrement has not happened yet -/
def pendOf : List Frame → Option Nat
  | .effectDone _ e _ :: _ => some e
  | _ => none

theorem noEff_append (a b : List Frame) : noEff (a ++ b) = (noEff a && noEff b) := by
  simp [noEff, List.all_append]

theorem noEff_tail (l : List Frame) (h : noEff l = true) : noEff l.tail = true := by
  cases l with
  | nil => rfl
  | cons f k => simp [noEff] at h ⊢; exact h.2

theorem pendOf_noEff (l : List Frame) (h : noEff l = true) : pendOf l = none := by
  cases l with
  | nil => rfl
  | cons f k => cases f <;> first | rfl | (simp [noEff, Frame.e5_isEff] at h)

/-- The configuration invariant: the effects accounting holds, with the decrement of the
    `.effectDone` frame on top (if any) still pending; `.effectDone` frames occur only on top of the
    stack and never while an exception unwinds it (so a pending decrement is never lost). -/
structure CInv (c : Cfg) : Prop where
  tail : noEff c.stack.tail = true
  exn : c.exn ≠ none → noEff c.stack = true
  acc : EffOk c.st (pendOf c.stack) none

/-- the clause `acc` for a stack that is known -/
theorem CInv.acc_at {c : Cfg} (h : CInv c) {k : List Frame} (hs : c.stack = k) : EffOk c.st (pendOf k) none :=
  hs ▸ h.acc

theorem CInv.of_noEff {c : Cfg} (hs : noEff c.stack = true) (h : Eff0 c.st) : CInv c :=
  ⟨noEff_tail _ hs, fun _ => hs, by rw [pendOf_noEff _ hs]; exact h⟩

theorem CInv.gotoEff (c : Cfg) (k : List Frame) (s : St) (r e : Nat) (a : Bool) (hk : noEff k = true) (hx : c.exn = none)
    (h : EffOk s (some e) none) : CInv (c.goto k s [.effectDone r e a]) :=
  ⟨hk, fun hne => absurd hx hne, h⟩

abbrev countOps : List Op := [.effectDone1, .eventDonePre, .dispatchPre]

theorem Quiet.keeps (s : St) (o : Op) (ho : o ∉ countOps) : o.Keeps (Quiet s) := by
  cases o
  case effectDone1 | eventDonePre | dispatchPre => exact absurd (by decide) ho
  all_goals (intro t h; intros; st_pres)

theorem stepFrame_quiet (c : Cfg) (k : List Frame) (f : Frame) (ht : c.st.timers = [])
    (hf : avoids f.ops countOps = true) : Quiet c.st (stepFrame c k f).st :=
  stepFrame_pres_avoiding c k (Quiet.keeps _) f hf (.refl ht)

theorem unwind_quiet (c : Cfg) (k : List Frame) (ex : Exn) (f : Frame) (ht : c.st.timers = []) :
    Quiet c.st (unwind c k ex f).st :=
  unwind_pres_avoiding c k (Quiet.keeps _) ex f rfl (.refl ht)

theorem _root_.CV.Core.Frame.Pushes.e5_noEff {c : Cfg} {f : Frame} {fs : List Frame} (h : f.Pushes c fs)
    (hf : avoids f.ops countOps = true) : noEff fs = true := by
  cases h
  case effectDone | eventDone | dispatcherNone => cases hf
  case actsCall hg | stepGenCall hg => cases hg <;> rfl
  all_goals rfl

theorem stepFrame_noEff (c : Cfg) (k : List Frame) (f : Frame) (hf : avoids f.ops countOps = true)
    (hk : noEff k = true) : noEff (stepFrame c k f).stack = true :=
  stack_all (stepFrame_all c k f fun _ hp => hp.e5_noEff hf) hk

theorem unwind_noEff (c : Cfg) (k : List Frame) (ex : Exn) (f : Frame) (hk : noEff k = true) :
    noEff (unwind c k ex f).stack = true :=
  stack_all (unwind_all c k ex f fun _ => rfl) hk

theorem Cfg.effectDone_cinv (c : Cfg) (k : List Frame) (r e : Nat) (a : Bool)
    (hk : noEff k = true) (hx : c.exn = none) (h0 : EffOk c.st (some e) none) :
    CInv (c.effectDone k r e a) := by
  unfold Cfg.effectDone
  have h1 := h0.effectDone1 r a
  split
  · rename_i P hP
    rw [hP] at h1
    exact CInv.gotoEff c k _ r P true hk hx h1
  · rename_i hP
    rw [hP] at h1
    exact .of_noEff hk h1

theorem Cfg.eventDone_cinv (c : Cfg) (k : List Frame) (r e : Nat) (err : Bool)
    (hk : noEff k = true) (hx : c.exn = none) (h0 : Eff0 c.st)
    (hs : (c.st.ev e).waiting = 0 → (c.st.ev e).cause ≠ none → (c.st.ev e).selfDone = false) :
    CInv (c.eventDone k r e err) := by
  unfold Cfg.eventDone
  have h1 := h0.eventDonePre r e err hs
  split
  · rename_i hb
    rw [hb] at h1
    exact CInv.gotoEff c k _ r e true hk hx h1
  · rename_i hb
    have : (c.st.eventDonePre r e err).1 = false := by simpa using hb
    rw [this] at h1
    exact .of_noEff hk h1

theorem Cfg.dispatcher_cinv (c : Cfg) (k : List Frame) (r e rem : Nat)
    (hk : noEff k = true) (hx : c.exn = none) (h0 : Eff0 c.st)
    (hv : ((c.st.ev e).cancelled = true ∨ (c.st.ev e).complete = true) →
        (c.st.ev e).selfDone = false ∧ ∀ x, x ≠ e → (c.st.ev x).cause ≠ some e) :
    CInv (c.dispatcher k r e rem) := by
  unfold Cfg.dispatcher
  have h1 := h0.dispatchPre r e rem hv
  split
  · rename_i hb
    rw [hb] at h1
    exact CInv.gotoEff c k _ r e false hk hx h1
  · rename_i hs hb
    rw [hb] at h1
    exact .of_noEff (c := c.goto k _ [_]) (by simpa [noEff, Frame.e5_isEff] using hk) h1

theorem Cfg.effectDone_cs (c : Cfg) (k : List Frame) (r e : Nat) (announce : Bool)
    (ht : c.st.timers = []) : CS (some e) c.st (c.effectDone k r e announce).st := by
  rw [Cfg.effectDone_st]; st_pres

theorem Cfg.eventDone_cs (c : Cfg) (k : List Frame) (r e : Nat) (err : Bool)
    (ht : c.st.timers = []) : CS none c.st (c.eventDone k r e err).st := by
  rw [Cfg.eventDone_st]; st_pres

theorem Cfg.dispatcher_cs (c : Cfg) (k : List Frame) (r e remaining : Nat)
    (ht : c.st.timers = []) : CS (some e) c.st (c.dispatcher k r e remaining).st := by
  rw [Cfg.dispatcher_st]; st_pres

/-- What the accounting takes from the rest of the machine (two facts about the run that are not
    consequences of the accounting itself; both are stated with the ghost flag `selfDone`):

    * when `_dispatcher(e)` is entered for a cancelled or `complete`-requesting event, `e` is fresh:
      its own "done" has not happened and nothing is linked under it.  This is "every event object is
      fired, hence dispatched, once" (false for `Timer`, which fires one object again and again);
    * when `_eventDone(e)` is entered and goes through (`waitingHandlers = 0`) for a tracked event,
      `e`'s own "done" has not happened before: `_eventDone` goes through once per event.

    Proving them for every reachable configuration needs the queue invariant (an event id sits in at most
    one queue, once, and has not been dispatched) and the task / wait-state accounting of C06
    (`waitingHandlers` = number of live tasks of the event): they are outside this file. -/
def Guard (c : Cfg) : Prop :=
  c.exn = none →
    match c.stack with
    | .dispatcher _ e _ :: _ =>
      ((c.st.ev e).cancelled = true ∨ (c.st.ev e).complete = true) →
        (c.st.ev e).selfDone = false ∧ ∀ x, x ≠ e → (c.st.ev x).cause ≠ some e
    | .eventDone _ e _ :: _ =>
      (c.st.ev e).waiting = 0 → (c.st.ev e).cause ≠ none → (c.st.ev e).selfDone = false
    | _ => True

theorem step_cinv (c : Cfg) (h : CInv c) (hg : Guard c) : CInv (step c) := by
  cases hs : c.stack with
  | nil => rw [step_nil c hs]; exact h
  | cons f k =>
    have hk : noEff k = true := by have := h.tail; rw [hs] at this; exact this
    have he := h.acc_at hs
    cases hx : c.exn with
    | some ex =>
      rw [step_cons_exn c f k ex hs hx]
      have hall : noEff (f :: k) = true := by
        have := h.exn (by rw [hx]; simp); rwa [hs] at this
      rw [pendOf_noEff _ hall] at he
      exact .of_noEff (unwind_noEff c k ex f hk) (he.quiet (unwind_quiet c k ex f he.timers))
    | none =>
      rw [step_cons c f k hs hx]
      have hg' := hg hx
      rw [hs] at hg'
      cases f
      case effectDone r e a => exact Cfg.effectDone_cinv c k r e a hk hx he
      case eventDone r e err => exact Cfg.eventDone_cinv c k r e err hk hx he hg'
      case dispatcher r e rem => exact Cfg.dispatcher_cinv c k r e rem hk hx he hg'
      -- every other frame: for a constructor other than these three `avoids f.ops countOps = true` holds by `rfl`, and
      -- `pendOf (f :: k)` in `he` reduces to `none`, so `he` is `Eff0 c.st` as it stands
      all_goals exact .of_noEff (stepFrame_noEff c k _ rfl hk) (he.quiet (stepFrame_quiet c k _ he.timers rfl))

/-- `Reach` restricted to runs on which `Guard` holds at every step taken (`ReachG.reach`, `ReachG.of_reach`): what the
    theorems of CV/Props/C05.lean named `_partial` are stated over -/
inductive ReachG (s0 : St) : Cfg → Prop
  | init (d : Nat) (tape : List Entry) (op : ExtOp) : ReachG s0 (startOf (envChange s0 d tape) op)
  | step {c : Cfg} : ReachG s0 c → Guard c → ReachG s0 (CV.Core.step c)
  | next {c : Cfg} (d : Nat) (tape : List Entry) (op : ExtOp) :
      ReachG s0 c → done c = true → ReachG s0 (startOf (envChange c.st d tape) op)

theorem ReachG.reach {s0 : St} {c : Cfg} (h : ReachG s0 c) : Reach s0 c := by
  induction h with
  | init d tape op => exact Reach.init d tape op
  | step _ _ ih => exact Reach.step ih
  | next d tape op _ hd ih => exact Reach.next d tape op ih hd

theorem ReachG.of_reach {s0 : St} (hG : ∀ c, Reach s0 c → Guard c) {c : Cfg} (h : Reach s0 c) :
    ReachG s0 c := by
  induction h with
  | init d tape op => exact ReachG.init d tape op
  | @step c hr ih => exact ReachG.step ih (hG c hr)
  | next d tape op _ hd ih => exact ReachG.next d tape op ih hd

/-- the start of a session, for C05: no timers, no tracked event -/
def InitEff (s : St) : Prop := s.timers = [] ∧ ∀ e, (s.ev e).cause = none

theorem EffOk.of_init (s : St) (h : InitEff s) : Eff0 s := by
  refine ⟨h.1, ?_, ?_, ?_⟩
  · intro x g hc; rw [h.2 x] at hc; cases hc
  · intro e hc; exact absurd (h.2 e) hc
  · intro e hc; exact absurd (h.2 e) hc

theorem CInv.start (s : St) (h : Eff0 s) (d : Nat) (tape : List Entry) (op : ExtOp) :
    CInv (startOf (envChange s d tape) op) := by
  cases op <;> exact ⟨rfl, fun hne => absurd rfl hne, h.congr rfl rfl⟩

theorem CInv.done_eff0 (c : Cfg) (h : CInv c) (hd : done c = true) : Eff0 c.st :=
  h.acc_at ((done_iff c).1 hd)

theorem reachG_cinv {s0 : St} (h0 : InitEff s0) : ∀ c, ReachG s0 c → CInv c := by
  intro c h
  induction h with
  | init d tape op => exact CInv.start s0 (EffOk.of_init s0 h0) d tape op
  | step _ hg ih => exact step_cinv _ ih hg
  | next d tape op _ hd ih => exact CInv.start _ (CInv.done_eff0 _ ih hd) d tape op

/-- at the iteration of `_effectDone` that takes `e` to 0 (and fires `complete` if `e` wants it):
    `e`'s own "done" has happened and nothing is linked under `e` any more -/
theorem CInv.drained {c : Cfg} (h : CInv c) {r e : Nat} {a : Bool} {k : List Frame}
    (hs : c.stack = .effectDone r e a :: k) (htr : (c.st.ev e).cause ≠ none)
    (hz : ¬ ((c.st.ev e).effects - 1 > 0)) :
    (c.st.ev e).selfDone = true ∧ ∀ x, x ≠ e → (c.st.ev x).cause ≠ some e := by
  have he : EffOk c.st (some e) none := h.acc_at hs
  have hc := he.count e htr
  simp only [if_true] at hc
  constructor
  · cases hsd : (c.st.ev e).selfDone with
    | true => rfl
    | false => rw [hsd] at hc; simp at hc; omega
  · apply St.e5_no_kids_of_zero
    cases hsd : (c.st.ev e).selfDone <;> rw [hsd] at hc <;> simp at hc <;> omega

theorem _root_.CV.Core.St.e5_ev_clear (s : St) (e : Nat) (h : e < s.evs.length) :
    ((s.modEv e fun x => { x with cause := none, effects := 0 }).ev e).cause = none ∧
      ((s.modEv e fun x => { x with cause := none, effects := 0 }).ev e).effects = 0 := by
  rw [St.w6_modEv_ev_lt _ _ _ h]; exact ⟨rfl, rfl⟩

theorem _root_.CV.Core.St.e5_effectDone1_zero (t : St) (r e P : Nat) (a : Bool) (hc : (t.ev e).cause = some P)
    (hz : ¬ ((t.ev e).effects - 1 > 0)) :
    t.effectDone1 r e a = (if P = e then none else some P,
      (if ((t.ev e).complete && a) = true
        then (t.modEv e fun x => { x with effects := (t.ev e).effects - 1 }).fireChild r e sfxComplete
          ((t.ev e).completeChans.getD (t.ev e).chans)
        else t.modEv e fun x => { x with effects := (t.ev e).effects - 1 }).modEv e
          fun x => { x with cause := none, effects := 0 }) := by
  unfold St.effectDone1
  dsimp only
  rw [hc]
  dsimp only
  rw [if_neg hz]
  by_cases hP : P = e <;> simp [hP]

theorem _root_.CV.Core.St.e5_effectDone1_cleared (t : St) (r e P : Nat) (a : Bool) (hc : (t.ev e).cause = some P)
    (hz : ¬ ((t.ev e).effects - 1 > 0)) :
    (((t.effectDone1 r e a).2).ev e).cause = none ∧ (((t.effectDone1 r e a).2).ev e).effects = 0 := by
  rw [St.e5_effectDone1_zero t r e P a hc hz]
  refine St.e5_ev_clear _ _ (pred_ite (P := fun u : St => e < u.evs.length) ?_ ?_)
  · exact Nat.lt_of_lt_of_le (t.e5_lt_of_cause e P hc) (St.Le.fireChild (St.Le.modEv (St.Le.refl t) ..) ..).evs
  · rw [St.w6_modEv_evs_length]; exact t.e5_lt_of_cause e P hc

theorem step_effectDone_cleared (c : Cfg) (r e P : Nat) (a : Bool) (k : List Frame)
    (hs : c.stack = .effectDone r e a :: k) (hx : c.exn = none)
    (hc : (c.st.ev e).cause = some P) (hz : ¬ ((c.st.ev e).effects - 1 > 0)) :
    ((step c).st.ev e).cause = none ∧ ((step c).st.ev e).effects = 0 := by
  rw [step_cons c _ k hs hx]
  show ((c.effectDone k r e a).st.ev e).cause = none ∧ ((c.effectDone k r e a).st.ev e).effects = 0
  rw [Cfg.effectDone_st]
  exact St.e5_effectDone1_cleared c.st r e P a hc hz

/-- `Under s x e`: `x` is `e`, or `cause` links lead from `x` to `e` ("`x` is in the closure of `e`") -/
inductive Under (s : St) : Nat → Nat → Prop
  | refl (e : Nat) : Under s e e
  | up {x h e : Nat} : Under s x h → (s.ev h).cause = some e → h ≠ e → Under s x e

/-- Nothing is stuck: under every tracked event there is a tracked event (possibly itself) whose own
    "done" is still to come.  (No pending decrement: the stack has no `.effectDone` on top.) -/
theorem EffOk.exists_undone {s : St} (h : Eff0 s) : ∀ n e, s.evs.length - e ≤ n → (s.ev e).cause ≠ none →
    ∃ x, Under s x e ∧ (s.ev x).cause ≠ none ∧ (s.ev x).selfDone = false := by
  intro n
  induction n with
  | zero =>
    intro e hn htr
    have := s.e5_lt_of_tracked e htr
    omega
  | succ n ih =>
    intro e hn htr
    cases hsd : (s.ev e).selfDone with
    | false => exact ⟨e, Under.refl e, htr, hsd⟩
    | true =>
      have hc := h.count e htr
      rw [hsd] at hc
      simp at hc
      have hp := h.one_le htr
      obtain ⟨x, hxe, hxl, hxc⟩ := s.e5_kids_pos e (by omega)
      have hle := h.causeLe x e hxc
      have hxt : (s.ev x).cause ≠ none := by rw [hxc]; simp
      obtain ⟨y, hy, hyt, hyd⟩ := ih x (by omega) hxt
      exact ⟨y, Under.up hy hxc hxe, hyt, hyd⟩

theorem _root_.CV.Core.St.e5_effectDone1_silent (t : St) (r e P : Nat) (hc : (t.ev e).cause = some P)
    (heff : (t.ev e).effects = 1) :
    t.effectDone1 r e false = (if P = e then none else some P,
      (t.modEv e fun x => { x with effects := 0 }).modEv e fun x => { x with cause := none, effects := 0 }) := by
  rw [St.e5_effectDone1_zero t r e P false hc (by rw [heff]; decide), Bool.and_false, if_neg Bool.false_ne_true, heff]
  rfl

theorem Cfg.dispatcher_cancelled (c : Cfg) (k : List Frame) (r e rem : Nat)
    (hcan : (c.st.ev e).cancelled = true) :
    c.dispatcher k r e rem
      = c.goto k ((c.st.logE (.disp e)).modEv e fun x => { x with selfDone := true }) [.effectDone r e false] := by
  unfold Cfg.dispatcher
  rw [c.st.dispatchPre_cancelled r e rem hcan]

/-- a cancelled event that is linked under `P` is released at its dispatch: no handler runs, no
    `complete` is announced for it, its link is cleared and `P`'s decrement is pending -/
theorem CInv.cancelled_release {c : Cfg} (h : CInv c) (hg : Guard c) {r e rem P : Nat} {k : List Frame}
    (hs : c.stack = .dispatcher r e rem :: k) (hx : c.exn = none)
    (hcan : (c.st.ev e).cancelled = true) (hc : (c.st.ev e).cause = some P) :
    (step c).stack = .effectDone r e false :: k ∧
    ((step (step c)).st.ev e).cause = none ∧
    (step (step c)).st.evs.length = c.st.evs.length ∧
    (step (step c)).stack = (if P = e then k else .effectDone r P true :: k) := by
  have hlt := c.st.e5_lt_of_cause e P hc
  have htr : (c.st.ev e).cause ≠ none := by rw [hc]; simp
  -- the guard: `e` is fresh, hence sits at count 1
  have hgv := hg hx
  rw [hs] at hgv
  obtain ⟨hsd, hk0⟩ := hgv (Or.inl hcan)
  have he : Eff0 c.st := h.acc_at hs
  have hcnt := he.count e htr
  rw [hsd, St.e5_kids_eq_zero _ _ hk0] at hcnt
  simp at hcnt
  -- the first step sets the event's own "done" and hands over to `_effectDone`
  have h1 : step c = c.goto k ((c.st.logE (.disp e)).modEv e fun x => { x with selfDone := true })
      [.effectDone r e false] :=
    (step_cons c _ k hs hx).trans (Cfg.dispatcher_cancelled c k r e rem hcan)
  have h2 : step (step c) = Cfg.effectDone (step c) k r e false :=
    step_cons (step c) (.effectDone r e false) k (by rw [h1]; rfl) (by rw [h1]; exact hx)
  -- the second takes the count from 1 to 0 in silence, clears the link and goes on with the decrement of `P`
  have hsil := St.e5_effectDone1_silent (step c).st r e P
    (by rw [h1]; exact (St.w6_modEv_ev_pres _ (·.cause) _ _ (by intro _; rfl) _).trans hc)
    (by rw [h1]; exact (St.w6_modEv_ev_pres _ (·.effects) _ _ (by intro _; rfl) _).trans hcnt)
  have hst : (step (step c)).st = ((step c).st.modEv e fun x => { x with effects := 0 }).modEv e
      fun x => { x with cause := none, effects := 0 } := by
    rw [h2, Cfg.effectDone_st, hsil]
  refine ⟨by rw [h1]; rfl, ?_, ?_, ?_⟩
  · rw [hst]
    exact (St.e5_ev_clear _ e (by rw [h1]; simpa [St.logE] using hlt)).1
  · rw [hst, h1]
    simp [St.logE]
  · rw [h2]
    unfold Cfg.effectDone
    rw [hsil]
    by_cases hP : P = e <;> simp [hP, h1, Cfg.goto, Cfg.pop]

/-- the event a frame may re-link: its own dispatch, its own `_effectDone` iteration -/
def relinkOf : Frame → Option Nat
  | .dispatcher _ e _ => some e
  | .effectDone _ e _ => some e
  | _ => none

theorem stepFrame_cs (c : Cfg) (k : List Frame) (f : Frame) (ht : c.st.timers = []) :
    CS (relinkOf f) c.st (stepFrame c k f).st := by
  cases f
  case effectDone r e a => exact Cfg.effectDone_cs c k r e a ht
  case eventDone r e err => exact Cfg.eventDone_cs c k r e err ht
  case dispatcher r e rem => exact Cfg.dispatcher_cs c k r e rem ht
  all_goals exact (CS.refl ht).quiet (stepFrame_quiet c k _ ht rfl)

theorem step_cause_changes (c : Cfg) (ht : c.st.timers = []) (y : Nat) (hy : y < c.st.evs.length)
    (hne : ((step c).st.ev y).cause ≠ (c.st.ev y).cause) :
    c.exn = none ∧ ∃ f k, c.stack = f :: k ∧ relinkOf f = some y := by
  cases hs : c.stack with
  | nil => rw [step_nil c hs] at hne; exact absurd rfl hne
  | cons f k =>
    cases hx : c.exn with
    | some ex =>
      rw [step_cons_exn c f k ex hs hx] at hne
      exact absurd (((CS.refl ht).quiet (unwind_quiet c k ex f ht)).cause (q := none) y hy (by simp)) hne
    | none =>
      rw [step_cons c f k hs hx] at hne
      refine ⟨rfl, f, k, rfl, ?_⟩
      apply Classical.byContradiction
      intro hq
      exact hne ((stepFrame_cs c k f ht).cause y hy (fun a => hq a.symm))

theorem _root_.CV.Core.St.e5_dispatchPre_tracked (t : St) (ht : t.timers = []) (r e rem : Nat)
    (htr : (t.ev e).cause ≠ none) :
    (((t.dispatchPre r e rem).2).ev e).cause = (t.ev e).cause := by
  cases hcan : (t.ev e).cancelled
  · -- `dispComplete` keeps the link of a tracked event, the rest keeps every link
    have hq := (t.e5_dispatchPre_quiet ht r e rem hcan).2
    have hle := St.Le.dispComplete (St.Le.refl (t.logE (.disp e))) e (t.ev e)
    rw [((CS.refl (q := none) (hle.timers_nil ht)).quiet hq).cause e
      (Nat.lt_of_lt_of_le (t.e5_lt_of_tracked e htr) hle.evs) (by simp)]
    exact (t.logE (.disp e)).e5_dispComplete_cause e htr
  · rw [t.dispatchPre_cancelled r e rem hcan]
    exact St.w6_modEv_ev_pres _ (·.cause) _ _ (by intro _; rfl) _

theorem _root_.CV.Core.St.e5_effectDone1_keep (t : St) (r e : Nat) (a : Bool)
    (h : (t.ev e).cause = none ∨ (t.ev e).effects - 1 > 0) :
    (((t.effectDone1 r e a).2).ev e).cause = (t.ev e).cause := by
  unfold St.effectDone1
  dsimp only
  split
  · rfl
  · rename_i P hc
    rcases h with h | h
    · rw [h] at hc; cases hc
    · rw [if_pos h]
      exact St.w6_modEv_ev_pres _ (·.cause) _ _ (by intro _; rfl) _

theorem untracked_only_at_zero (c : Cfg) (ht : c.st.timers = []) (y : Nat)
    (htr : (c.st.ev y).cause ≠ none) (hun : ((step c).st.ev y).cause = none) :
    c.exn = none ∧ ∃ r a k, c.stack = .effectDone r y a :: k ∧ ¬ ((c.st.ev y).effects - 1 > 0) := by
  have hy := c.st.e5_lt_of_tracked y htr
  obtain ⟨hx, f, k, hs, hf⟩ := step_cause_changes c ht y hy (by rw [hun]; exact fun a => htr a.symm)
  refine ⟨hx, ?_⟩
  cases f <;> simp [relinkOf] at hf
  case effectDone r e a =>
    subst hf
    refine ⟨r, a, k, hs, ?_⟩
    intro hpos
    rw [step_cons c _ k hs hx] at hun
    have : ((c.effectDone k r e a).st.ev e).cause = none := hun
    rw [Cfg.effectDone_st, St.e5_effectDone1_keep _ _ _ _ (Or.inr hpos)] at this
    exact htr this
  case dispatcher r e rem =>
    subst hf
    exfalso
    rw [step_cons c _ k hs hx] at hun
    have : ((c.dispatcher k r e rem).st.ev e).cause = none := hun
    rw [Cfg.dispatcher_st, St.e5_dispatchPre_tracked c.st ht r e rem htr] at this
    exact htr this

theorem tracked_only_at_dispatch (c : Cfg) (ht : c.st.timers = []) (y : Nat) (hy : y < c.st.evs.length)
    (hun : (c.st.ev y).cause = none) (htr : ((step c).st.ev y).cause ≠ none) :
    c.exn = none ∧ ∃ r rem k, c.stack = .dispatcher r y rem :: k := by
  obtain ⟨hx, f, k, hs, hf⟩ := step_cause_changes c ht y hy (by rw [hun]; exact htr)
  refine ⟨hx, ?_⟩
  cases f <;> simp [relinkOf] at hf
  case dispatcher r e rem => subst hf; exact ⟨r, rem, k, hs⟩
  case effectDone r e a =>
    subst hf
    exfalso
    rw [step_cons c _ k hs hx] at htr
    have : ((c.effectDone k r e a).st.ev e).cause ≠ none := htr
    rw [Cfg.effectDone_st, St.e5_effectDone1_keep _ _ _ _ (Or.inl hun)] at this
    exact this hun

/-! ## the excluded case is real: a run on which `_eventDone(e)` goes through twice -/

def nFoo : Name := ⟨1, []⟩
def nBar : Name := ⟨2, []⟩

/-- One root component that is `running` but not `executing` (a manager driven by hand), with
    handlers for `foo` = [fire `bar`; a generator that yields once; `stop()`] in this priority order and a
    generator handler for `bar`; `foo` asks for `complete`.  The handler cache holds what
    `computeHandlers` would compute (so that the run can be evaluated by the kernel: `mergeSort` is
    defined by well-founded recursion). -/
def s0w : St :=
  { comps := [{ parent := 0, root := 0, running := true,
                htab := [(some nFoo, 0), (some nFoo, 1), (some nFoo, 2), (some nBar, 3)],
                cache := [((nFoo, [.star]), [0, 1, 2]), ((nBar, [.star]), [3]), ((Name.stopped, [.star]), [])] }],
    hs := [{ owner := 0, names := [nFoo], chan := none, prio := 3, kind := .user 0 },
           { owner := 0, names := [nFoo], chan := none, prio := 2, kind := .user 1 },
           { owner := 0, names := [nFoo], chan := none, prio := 1, kind := .user 2 },
           { owner := 0, names := [nBar], chan := none, prio := 0, kind := .user 3 }],
    progs := [[.fire 1 none 0 false], [.yld none], [.stopMgr 0 none],
              [.yld none, .yld none, .yld none, .yld none, .yld none]],
    tmpls := [{ name := nFoo, complete := true }, { name := nBar }] }

/-- `fire(foo())` from outside, run to the end (3 steps) -/
def cw1 : Cfg := runN 3 (startOf (envChange s0w 0 []) (.doAct 0 (.fire 0 none 0 false)))
/-- then `flush()`, `n` steps -/
def cw2 (n : Nat) : Cfg := runN n (startOf (envChange cw1.st 0 []) (.flush 0))

theorem cw2_reach (n : Nat) : Reach s0w (cw2 n) :=
  (Reach.next 0 [] (.flush 0) ((Reach.init 0 [] (.doAct 0 (.fire 0 none 0 false))).runN 3)
    (by decide +kernel)).runN n

/-- the top frame is the `_effectDone` iteration that fires `e_complete` although an event is still
    linked under `e` -/
def earlyComplete (c : Cfg) : Bool :=
  match c.exn, c.stack with
  | none, .effectDone _ e a :: _ =>
    (c.st.ev e).cause.isSome && (c.st.ev e).complete && a && !decide ((c.st.ev e).effects - 1 > 0) &&
      (List.range c.st.evs.length).any (fun x => x != e && (c.st.ev x).cause == some e)
  | _, _ => false

theorem earlyComplete_spec (c : Cfg) (h : earlyComplete c = true) :
    ∃ r e a k x, c.stack = .effectDone r e a :: k ∧ c.exn = none ∧ (c.st.ev e).cause ≠ none ∧
      (c.st.ev e).complete = true ∧ a = true ∧ ¬ ((c.st.ev e).effects - 1 > 0) ∧
      x ≠ e ∧ (c.st.ev x).cause = some e := by
  unfold earlyComplete at h
  split at h
  · rename_i r e a k hx hs
    simp only [Bool.and_eq_true, List.any_eq_true, Bool.not_eq_true', decide_eq_false_iff_not,
      bne_iff_ne, ne_eq, beq_iff_eq] at h
    obtain ⟨⟨⟨⟨h1, h2⟩, h3⟩, h4⟩, x, _, h5, h6⟩ := h
    refine ⟨r, e, a, k, x, hs, hx, ?_, h2, h3, h4, h5, h6⟩
    intro hn; rw [hn] at h1; simp at h1
  · cases h

/-- `_eventDone(e)` is about to go through for the second time -/
def doubleDone (c : Cfg) : Bool :=
  match c.exn, c.stack with
  | none, .eventDone _ e _ :: _ =>
    decide ((c.st.ev e).waiting = 0) && (c.st.ev e).cause.isSome && (c.st.ev e).selfDone
  | _, _ => false

theorem doubleDone_spec (c : Cfg) (h : doubleDone c = true) : ¬ Guard c := by
  unfold doubleDone at h
  split at h
  · rename_i r e a k hx hs
    simp only [Bool.and_eq_true, decide_eq_true_eq] at h
    obtain ⟨⟨h1, h2⟩, h3⟩ := h
    intro hg
    have := hg hx
    rw [hs] at this
    have h4 := this h1 (by intro hn; rw [hn] at h2; simp at h2)
    rw [h4] at h3; cases h3
  · cases h

theorem s0w_init : InitEff s0w := ⟨rfl, fun _ => rfl⟩

theorem cw2_double : doubleDone (cw2 86) = true := by decide +kernel
theorem cw2_early : earlyComplete (cw2 87) = true := by decide +kernel

end CV.Core.C05
