import CV.Proofs.InvValueLoop
import CV.Proofs.InvOrder
import CV.Proofs.CoreMatch
import CV.Proofs.InvCache
import CV.Proofs.InvForest
/-
The handler loop runs through its whole list (`loop_invokes_all`), and calls only handlers of the list
(`loop_calls_only_listed`).

`RunAbove k c c'`: `c'` is reached from `c` by machine steps, and every configuration on the way (both ends included) has
a stack `fs ++ k` with `fs ≠ []` - the run never returns below `k` (the continuation of the `_dispatcher` call whose loop
we look at), neither normally nor by an exception unwinding through it.  No global invariant is needed: both results are
inductions along such a run with the one-step analysis of the loop (`loop_step`, `loop_top_step`,
CV/Proofs/InvValueLoop.lean) and with what an arm may push (`Frame.Pushes`, CV/Proofs/CoreStack.lean).
The last section puts the dispatcher step of C01 (CV/Proofs/InvCache.lean, over C07's forest) in front of the loop: a handler
registered in the tree of the dispatching root is called in every `_dispatcher` call that runs to its end
(`registered_handler_called`), which is what C07 and C09 read off.
-/
namespace CV.Core

def Above (k : List Frame) (c : Cfg) : Prop := ∃ f fs, c.stack = f :: fs ++ k

/-- `c'` is reached from `c` by steps, never leaving the region above `k` -/
inductive RunAbove (k : List Frame) (c : Cfg) : Cfg → Prop
  | refl : Above k c → RunAbove k c c
  | step {b : Cfg} : RunAbove k c b → Above k (CV.Core.step b) → RunAbove k c (CV.Core.step b)

theorem RunAbove.above {k : List Frame} {c c' : Cfg} (h : RunAbove k c c') : Above k c' := by
  cases h with
  | refl h => exact h
  | step _ h => exact h

theorem RunAbove.trans {k : List Frame} {a b c : Cfg} (h1 : RunAbove k a b) (h2 : RunAbove k b c) : RunAbove k a c := by
  induction h2 with
  | refl _ => exact h1
  | step _ ha ih => exact .step ih ha

theorem RunAbove.reach {s0 : St} {k : List Frame} {a b : Cfg} (hr : Reach s0 a) (h : RunAbove k a b) : Reach s0 b := by
  induction h with
  | refl _ => exact hr
  | step _ _ ih => exact .step ih

theorem not_above_self (k : List Frame) (c : Cfg) (h : c.stack = k) : ¬ Above k c := by
  rintro ⟨f, fs, hh⟩
  rw [h] at hh
  have := congrArg List.length hh
  simp at this
  omega

/-- `h` was called at this level -/
def CalledAt (k : List Frame) (r e h : Nat) (c0 c' : Cfg) : Prop :=
  ∃ c1 rest err stale, RunAbove k c0 c1 ∧ RunAbove k c1 c' ∧
    c1.stack = .invoke r h e :: .hAfter r e rest err stale :: k ∧ c1.exn = none

/-- the loop of this level was cut by `event.stop()` -/
def CutAt (k : List Frame) (r e : Nat) (c0 c' : Cfg) : Prop :=
  ∃ c1 rest err v, RunAbove k c0 c1 ∧ RunAbove k (step c1) c' ∧
    c1.stack = .hApply r e rest err v :: k ∧ c1.exn = none ∧
    ((c1.st.applyValue r e v).ev e).stopped = true ∧ (step c1).stack = .dispFin r e err :: k

/-- the run invariant: `h` was called, or the loop was cut, or `h` is still pending in the loop of this level -/
def LoopProg (k : List Frame) (r e h : Nat) (c0 c' : Cfg) : Prop :=
  CalledAt k r e h c0 c' ∨ CutAt k r e c0 c' ∨ ∃ l, InLoop r e k l c' ∧ h ∈ l

theorem CalledAt.step {k : List Frame} {r e h : Nat} {c0 c' : Cfg} (hc : CalledAt k r e h c0 c')
    (ha : Above k (step c')) : CalledAt k r e h c0 (step c') := by
  obtain ⟨c1, rest, err, stale, h1, h2, h3, h4⟩ := hc
  exact ⟨c1, rest, err, stale, h1, .step h2 ha, h3, h4⟩

theorem CutAt.step {k : List Frame} {r e : Nat} {c0 c' : Cfg} (hc : CutAt k r e c0 c')
    (ha : Above k (step c')) : CutAt k r e c0 (step c') := by
  obtain ⟨c1, rest, err, v, h1, h2, h3, h4, h5, h6⟩ := hc
  exact ⟨c1, rest, err, v, h1, .step h2 ha, h3, h4, h5, h6⟩

theorem LoopProg.step {k : List Frame} {r e h : Nat} {c0 c' : Cfg} (hrun : RunAbove k c0 c')
    (hp : LoopProg k r e h c0 c') (ha : Above k (step c')) : LoopProg k r e h c0 (step c') := by
  rcases hp with hp | hp | ⟨l, hin, hl⟩
  · exact .inl (hp.step ha)
  · exact .inr (.inl (hp.step ha))
  · rcases loop_step r e k l c' hin with h1 | ⟨x, _, _, _, err, stale, hs1, hx1⟩ | ⟨err, hs1, hxn, hc⟩ | ⟨_, hs1⟩
    · exact .inr (.inr ⟨l, h1, hl⟩)
    · by_cases heq : x = h
      · subst heq
        exact .inl ⟨CV.Core.step c', _, err, stale, .step hrun ha, .refl ha, hs1, hx1⟩
      · exact .inr (.inr ⟨l.erase x, ⟨[.invoke r x e], _, hs1, rfl, rfl, rfl⟩,
          (List.mem_erase_of_ne (fun hh => heq hh.symm)).mpr hl⟩)
    · rcases hc with rfl | ⟨v, hst, hstop⟩
      · cases hl
      · exact .inr (.inl ⟨c', l, err, v, hrun, .refl ha, hst, hxn, hstop, hs1⟩)
    · exact absurd ha (not_above_self k _ hs1)

theorem LoopProg.run {k : List Frame} {r e h : Nat} {c0 c' : Cfg} (hrun : RunAbove k c0 c')
    (h0 : LoopProg k r e h c0 c0) : LoopProg k r e h c0 c' := by
  induction hrun with
  | refl _ => exact h0
  | step hb ha ih => exact ih.step hb ha

theorem append_one_cancel {α} {fs : List α} {X a : α} {k : List α} (h : fs ++ X :: k = a :: k) : fs = [] ∧ X = a := by
  cases fs with
  | nil => exact ⟨rfl, by injection h⟩
  | cons y ys =>
    have hl := congrArg List.length h
    simp at hl
    omega

/-- **The handler loop runs through its whole list.**  From `.hLoop r e hs err stale :: k` to the
    end `.dispFin r e err' :: k` of the same `_dispatcher` call: every handler of `hs` was called
    at this level, unless the loop was cut by `event.stop()`. -/
theorem loop_invokes_all {k : List Frame} {r e : Nat} {hs : List Nat} {err : Bool} {stale : Outcome}
    {c c' : Cfg} (hst : c.stack = .hLoop r e hs err stale :: k)
    (hrun : RunAbove k c c') {err' : Bool} (hfin : c'.stack = .dispFin r e err' :: k)
    (h : Nat) (hh : h ∈ hs) : CalledAt k r e h c c' ∨ CutAt k r e c c' := by
  have h0 : LoopProg k r e h c c := .inr (.inr ⟨hs, ⟨[], _, hst, rfl, rfl, rfl⟩, hh⟩)
  rcases LoopProg.run hrun h0 with hp | hp | ⟨l, ⟨fs, X, hst', hX⟩, _⟩
  · exact .inl hp
  · exact .inr hp
  · rw [hfin] at hst'
    obtain ⟨_, rfl⟩ := append_one_cancel hst'.symm
    exact hX.elim

theorem handler_of_append {s s' : St} {ext : List Handler} (he : s'.hs = s.hs ++ ext) {h : Nat}
    (hh : h < s.hs.length) : s'.handler h = s.handler h := by
  unfold St.handler
  rw [he, o2_getD_append _ _ hh]

theorem RunAbove.handler_eq {k : List Frame} {a b : Cfg} (hrun : RunAbove k a b) {h : Nat}
    (hh : h < a.st.hs.length) : b.st.handler h = a.st.handler h ∧ h < b.st.hs.length := by
  induction hrun with
  | refl _ => exact ⟨rfl, hh⟩
  | step _ _ ih =>
    obtain ⟨ext, he⟩ := step_hs_append _
    exact ⟨(handler_of_append he ih.2).trans ih.1, Nat.lt_of_lt_of_le ih.2 (step_hs _)⟩

/-- the frames that follow the loop at its level: `.dispFin`, then `_eventDone` / `_effectDone` -/
inductive IsTail : Frame → Prop
  | dispFin (r e : Nat) (err : Bool) : IsTail (.dispFin r e err)
  | eventDone (r e : Nat) (err : Bool) : IsTail (.eventDone r e err)
  | effectDone (r e : Nat) (a : Bool) : IsTail (.effectDone r e a)

theorem tail_step (c : Cfg) (g : Frame) (k : List Frame) (hg : IsTail g) (hst : c.stack = g :: k) :
    (step c).stack = k ∨ ∃ g', IsTail g' ∧ (step c).stack = g' :: k := by
  cases hx : c.exn with
  | some ex =>
    rw [step_cons_exn c _ k ex hst hx]
    cases hg <;> exact .inl rfl
  | none =>
    rw [step_cons c _ k hst hx]
    obtain ⟨fs, hs, hp⟩ := (stepFrame_pushes c k g).stack
    rw [hs]
    cases hg <;> cases hp <;> first | exact .inl rfl | exact .inr ⟨_, by constructor, rfl⟩

/-- what a step puts in place of the top frame never ends in a bare call frame: `.invoke` frames
    are pushed only by the `.hLoop` arm, together with their `.hAfter` frame -/
theorem step_pushes_no_bare_invoke (c : Cfg) (f : Frame) (k : List Frame) (hst : c.stack = f :: k) :
    ∃ fs, (step c).stack = fs ++ k ∧ ∀ r h e, fs.getLast? ≠ some (.invoke r h e) := by
  cases hx : c.exn with
  | some ex =>
    rw [step_cons_exn c f k ex hst hx]
    rcases unwind_stack c k ex f with h | ⟨x, _, h⟩
    · exact ⟨[], h, by simp⟩
    · exact ⟨_, h, by simp⟩
  | none =>
    rw [step_cons c f k hst hx]
    obtain ⟨fs, hs, hp⟩ := (stepFrame_pushes c k f).stack
    refine ⟨fs, hs, ?_⟩
    cases hp <;> simp

theorem getLast?_append_cons {α} (a : List α) (x y : α) (ys : List α) :
    (a ++ (y :: ys)).getLast? = (x :: y :: ys).getLast? := by
  rw [List.getLast?_append, List.getLast?_cons_cons]
  cases h : (y :: ys).getLast? with
  | none => simp at h
  | some v => simp

theorem append_two_cancel {α} {fs : List α} {F a b : α} {k : List α} (h : fs ++ F :: k = a :: b :: k) :
    fs = [a] ∧ F = b := by
  have hl := congrArg List.length h
  cases fs with
  | nil => simp at hl
  | cons x xs =>
    cases xs with
    | nil =>
      have h' : x :: F :: k = a :: b :: k := h
      injection h' with h1 h2
      injection h2 with h3 _
      exact ⟨by rw [h1], h3⟩
    | cons y ys => simp at hl; omega

/-- the second run invariant: the pending list stays inside `hs`, and a call frame directly on the
    loop frame of this level is the call of a member of `hs` -/
def LoopOnly (k : List Frame) (r e : Nat) (hs : List Nat) (c' : Cfg) : Prop :=
  (∃ fs X l, c'.stack = fs ++ X :: k ∧ loopFrame r e l X ∧ (∀ x ∈ l, x ∈ hs) ∧
    ∀ r' h' e', fs.getLast? = some (.invoke r' h' e') → h' ∈ hs) ∨
  (∃ fs g, c'.stack = fs ++ g :: k ∧ IsTail g)

theorem LoopOnly.step {k : List Frame} {r e : Nat} {hs : List Nat} {c' : Cfg}
    (hp : LoopOnly k r e hs c') (ha : Above k (step c')) : LoopOnly k r e hs (step c') := by
  rcases hp with ⟨fs, X, l, hst, hX, hl, hlast⟩ | ⟨fs, g, hst, hg⟩
  · cases fs with
    | cons f fs1 =>
      obtain ⟨fs', hs', hno⟩ := step_pushes_no_bare_invoke c' f (fs1 ++ X :: k) hst
      refine .inl ⟨fs' ++ fs1, X, l, by rw [hs', List.append_assoc], hX, hl, ?_⟩
      intro r' h' e' hh
      cases fs1 with
      | nil => rw [List.append_nil] at hh; exact absurd hh (hno r' h' e')
      | cons y ys =>
        apply hlast r' h' e'
        rw [getLast?_append_cons fs' f y ys] at hh
        exact hh
    | nil =>
      rcases loop_top_step r e k l c' X hst hX with ⟨X', hX', h1 | ⟨code, h1⟩⟩ | ⟨x, hx, _, _, err, stale, hs1, _⟩ |
          ⟨err, hs1, _, _⟩ | ⟨_, hs1⟩
      · exact .inl ⟨[], X', l, h1, hX', hl, by intro _ _ _ hh; simp at hh⟩
      · exact .inl ⟨[.stopMgr r code], X', l, h1, hX', hl, by intro _ _ _ hh; simp at hh⟩
      · refine .inl ⟨[.invoke r x e], _, l.erase x, hs1, ⟨rfl, rfl, rfl⟩, fun y hy => hl y (List.mem_of_mem_erase hy), ?_⟩
        intro r' h' e' hh
        simp at hh
        rw [← hh.2.1]; exact hl x hx
      · exact .inr ⟨[], _, hs1, .dispFin r e err⟩
      · exact absurd ha (not_above_self k _ hs1)
  · cases fs with
    | cons f fs1 =>
      obtain ⟨fs', hs'⟩ := step_keeps_below c' (f :: fs1) (g :: k) hst (by simp)
      exact .inr ⟨fs', g, hs', hg⟩
    | nil =>
      rcases tail_step c' g k hg hst with h | ⟨g', hg', h⟩
      · exact absurd ha (not_above_self k _ h)
      · exact .inr ⟨[], g', h, hg'⟩

theorem LoopOnly.run {k : List Frame} {r e : Nat} {hs : List Nat} {c c1 : Cfg} (hrun : RunAbove k c c1)
    (h0 : LoopOnly k r e hs c) : LoopOnly k r e hs c1 := by
  induction hrun with
  | refl _ => exact h0
  | step _ ha ih => exact ih.step ha

/-- **Only listed handlers are called.**  On a run from `.hLoop r e hs err stale :: k` that stays
    above `k`, a call frame sitting directly on the loop frame of this level is the call of a
    member of `hs`. -/
theorem loop_calls_only_listed {k : List Frame} {r e : Nat} {hs : List Nat} {err : Bool} {stale : Outcome}
    {c c1 : Cfg} (hst : c.stack = .hLoop r e hs err stale :: k) (hrun : RunAbove k c c1)
    {r' h' e' : Nat} {rest : List Nat} {err1 : Bool} {stale1 : Outcome}
    (h1 : c1.stack = .invoke r' h' e' :: .hAfter r e rest err1 stale1 :: k) : h' ∈ hs := by
  have h0 : LoopOnly k r e hs c :=
    .inl ⟨[], _, hs, hst, ⟨rfl, rfl, rfl⟩, fun _ h => h, by intro _ _ _ hh; simp at hh⟩
  rcases LoopOnly.run hrun h0 with ⟨fs, X, l, hs1, _, _, hlast⟩ | ⟨fs, g, hs1, hg⟩
  · rw [h1] at hs1
    obtain ⟨hfs, _⟩ := append_two_cancel hs1.symm
    exact hlast r' h' e' (by rw [hfs]; rfl)
  · rw [h1] at hs1
    obtain ⟨_, hF⟩ := append_two_cancel hs1.symm
    rw [hF] at hg
    cases hg

/-! ## deciding `Above` / `RunAbove` on concrete runs (non-vacuity examples) -/

deriving instance DecidableEq for Outcome, HCtx, Frame

def aboveB (k : List Frame) (c : Cfg) : Bool :=
  decide (k.length < c.stack.length ∧ c.stack.drop (c.stack.length - k.length) = k)

theorem above_of_B {k : List Frame} {c : Cfg} (h : aboveB k c = true) : Above k c := by
  unfold aboveB at h
  obtain ⟨hl, hd⟩ := of_decide_eq_true h
  have hsplit := List.take_append_drop (c.stack.length - k.length) c.stack
  rw [hd] at hsplit
  cases ht : c.stack.take (c.stack.length - k.length) with
  | nil =>
    have := congrArg List.length ht
    rw [List.length_take] at this
    simp at this
    omega
  | cons f fs =>
    rw [ht] at hsplit
    exact ⟨f, fs, hsplit.symm⟩

theorem RunAbove.ofRunN {k : List Frame} (n : Nat) : ∀ {c0 c : Cfg}, RunAbove k c0 c →
    (∀ i, i ≤ n → aboveB k (runN i c) = true) → RunAbove k c0 (runN n c) := by
  induction n with
  | zero => intro c0 c h _; exact h
  | succ n ih =>
    intro c0 c h hall
    rw [runN_succ]
    refine ih (.step h (above_of_B ?_)) fun i hi => ?_
    · have := hall 1 (by omega)
      rwa [runN_succ] at this
    · have := hall (i + 1) (by omega)
      rwa [runN_succ] at this

/-- a handler that occurs in the tables of component `x` only matches only there (decidable
    hypothesis for concrete states) -/
theorem matches_only_at (s : St) (h x : Nat)
    (hx : ∀ d, d < s.comps.length → d ≠ x →
      (∀ p ∈ (s.comps.getD d dfltComp).htab, p.2 ≠ h) ∧ h ∉ (s.comps.getD d dfltComp).globals) :
    ∀ d name ch, matchesAt s d name ch h → d = x := by
  intro d name ch hm
  apply Classical.byContradiction
  intro hne
  by_cases hd : d < s.comps.length
  · obtain ⟨h1, h2⟩ := hx d hd hne
    rcases hm with ⟨hi | hi, _⟩ | hg
    · exact h1 _ hi rfl
    · exact h1 _ hi rfl
    · exact h2 hg
  · have hdf : s.comps.getD d dfltComp = dfltComp := St.w6_comp_ge s d (Nat.le_of_not_lt hd)
    unfold matchesAt installedFor at hm
    rw [hdf] at hm
    simp [dfltComp] at hm

/-! ## the dispatcher step in front of the loop -/

open Live

/-- `dispatcher_step_live` from the hypotheses on the initial state: the forest of C07 gives its tree facts -/
theorem dispatcher_step_fresh {s0 : St} (h0 : InitForest s0) (hH : InitHandlers s0) (hC : InitCache s0)
    (c : Cfg) (hc : Reach s0 c) (r e remaining : Nat) (k : List Frame)
    (hst : c.stack = .dispatcher r e remaining :: k) (hx : c.exn = none)
    (hr : (c.st.comp r).root = r) (hcan : (c.st.ev e).cancelled = false) :
    ∃ hs, (step c).stack = .hLoop r e hs false .none :: k ∧
      nonFallback (step c).st hs = freshHandlers (step c).st r (c.st.ev e).name (c.st.ev e).chans :=
  dispatcher_step_live (K.init s0 hH hC) (fun c hc => (FInv.reach h0 c hc).forest.cacheFacts)
    c hc r e remaining k hst hx hr hcan

/-- **A registered handler is called.**  `_dispatcher(e)` on a root `r`, `e` not cancelled, `h` a declared handler that
    matches `e` at a component of `r`'s tree: if the call runs to its end, `h` was called at its level on the way, its
    record being the one the dispatcher step saw, or `event.stop()` cut the loop. -/
theorem registered_handler_called {s0 : St} (h0 : InitForest s0) (hH : InitHandlers s0) (hC : InitCache s0)
    (c : Cfg) (hc : Reach s0 c) (r e remaining : Nat) (k : List Frame)
    (hst : c.stack = .dispatcher r e remaining :: k) (hx : c.exn = none)
    (hr : (c.st.comp r).root = r) (hcan : (c.st.ev e).cancelled = false)
    (h : Nat) (hlt : h < (step c).st.hs.length)
    (hreg : ∃ ch, ch ∈ (c.st.ev e).chans ∧ ∃ d, ReachIn (step c).st (step c).st.comps.length r d ∧
      matchesAt (step c).st d (c.st.ev e).name ch h)
    (c' : Cfg) (err' : Bool) (hrun : RunAbove k (step c) c') (hfin : c'.stack = .dispFin r e err' :: k) :
    (∃ c1 rest err stale, RunAbove k (step c) c1 ∧ RunAbove k c1 c' ∧
      c1.stack = .invoke r h e :: .hAfter r e rest err stale :: k ∧ c1.exn = none ∧
      c1.st.handler h = (step c).st.handler h) ∨
    CutAt k r e (step c) c' := by
  obtain ⟨hs, h1, h2⟩ := dispatcher_step_fresh h0 hH hC c hc r e remaining k hst hx hr hcan
  have hmem : h ∈ nonFallback (step c).st hs := by
    rw [h2]; exact (mem_freshHandlers _ _ _ _ _).mpr hreg
  rcases loop_invokes_all h1 hrun hfin h (List.mem_filter.mp hmem).1 with
    ⟨c1, rest, err, stale, r1, r2, hs1, hx1⟩ | hcut
  · exact .inl ⟨c1, rest, err, stale, r1, r2, hs1, hx1, (r1.handler_eq hlt).1⟩
  · exact .inr hcut

end CV.Core
