import CV.Proofs.InvOrderBase
import CV.Model.Core.LogSpec
/-
C02, machine level: the handler-order invariant `O2I` of configurations, its transport along state changes
that only extend the handler table and the log (`o2stk_mono`), and the two shapes of arm that preserve it
(`O2I.generic`, `O2I.replaceLoop`); then its preservation by the arms `.dispatcher`, `.hLoop`, `.invoke`, `.hAfter`,
`.hApply`, hence by `step` (`O2I.step`), and over `Reach` from an initial state with `O2Init` (`O2I.reach`).

`O2I c`:
  * `st`     the state invariant `O2S` (priorities ≥ -100, table ids declared, caches descending);
  * `ok`     every loop frame (`.hLoop` / `.hAfter` / `.hApply`) on the stack carries a pending list
             that is descending and declared, its event has a `D` entry in the log; every
             `.invoke` frame calls a declared handler;
  * `dispd`  every `I` entry of the log is preceded by the `D` entry of its event and names a
             declared handler;
  * `once`   as long as every event was dispatched at most once (`O2Once`: the `D` entries of the
             log are pairwise different): the handlers invoked so far for the event of a loop frame
             all have a priority ≥ every pending handler of that frame, loop frames on the stack
             belong to different events, and for every event the invoked handlers are in
             non-increasing priority order.
-/
namespace CV.Core

/-- the events dispatched so far (`D` entries), newest first -/
def o2disps (log : List Entry) : List Nat :=
  log.filterMap fun x => match x with | .disp e => some e | _ => none

def O2Once (log : List Entry) : Prop := (o2disps log).Nodup

theorem o2_mem_disps {log : List Entry} {e : Nat} : e ∈ o2disps log ↔ Entry.disp e ∈ log := by
  unfold o2disps
  rw [List.mem_filterMap]
  constructor
  · rintro ⟨x, hx, h⟩
    cases x <;> simp at h
    subst h; exact hx
  · intro h; exact ⟨_, h, rfl⟩

theorem o2_mem_invoked {log : List Entry} {e h : Nat} : h ∈ invokedFor log e ↔ Entry.inv e h 0 ∈ log := by
  unfold invokedFor
  rw [List.mem_filterMap]
  constructor
  · rintro ⟨x, hx, hh⟩
    cases x with
    | inv e' h' n =>
      cases n with
      | zero =>
        simp only at hh
        split at hh
        · rename_i he
          simp only [beq_iff_eq] at he
          cases hh; subst he; exact hx
        · cases hh
      | succ n => simp at hh
    | _ => simp at hh
  · intro hm; exact ⟨_, hm, by simp⟩

theorem o2_not_quiet_disp {es : List Entry} (hq : ∀ x ∈ es, x.o2quiet = true) (e : Nat) : Entry.disp e ∉ es :=
  fun h => absurd (hq _ h) (by simp [Entry.o2quiet])

theorem o2_not_quiet_inv {es : List Entry} (hq : ∀ x ∈ es, x.o2quiet = true) (e h : Nat) : Entry.inv e h 0 ∉ es :=
  fun hm => absurd (hq _ hm) (by simp [Entry.o2quiet])

theorem o2_invoked_nil_of {es : List Entry} {e : Nat} (h : ∀ x, Entry.inv e x 0 ∉ es) : invokedFor es e = [] := by
  cases hl : invokedFor es e with
  | nil => rfl
  | cons a t =>
    have : a ∈ invokedFor es e := by rw [hl]; exact List.mem_cons_self
    exact absurd (o2_mem_invoked.mp this) (h a)

theorem o2_quiet_disps {es : List Entry} (hq : ∀ x ∈ es, x.o2quiet = true) : o2disps es = [] :=
  List.eq_nil_iff_forall_not_mem.mpr fun e he => o2_not_quiet_disp hq e (o2_mem_disps.mp he)

theorem o2_quiet_invoked {es : List Entry} (hq : ∀ x ∈ es, x.o2quiet = true) (e : Nat) : invokedFor es e = [] :=
  o2_invoked_nil_of (o2_not_quiet_inv hq e)

theorem o2_disps_append (a b : List Entry) : o2disps (a ++ b) = o2disps a ++ o2disps b := by
  unfold o2disps; rw [List.filterMap_append]

theorem o2_invoked_append (a b : List Entry) (e : Nat) : invokedFor (a ++ b) e = invokedFor a e ++ invokedFor b e := by
  unfold invokedFor; rw [List.filterMap_append]

theorem o2_disps_quiet_append {es : List Entry} (hq : ∀ x ∈ es, x.o2quiet = true) (log : List Entry) :
    o2disps (es ++ log) = o2disps log := by
  rw [o2_disps_append, o2_quiet_disps hq, List.nil_append]

theorem o2_invoked_quiet_append {es : List Entry} (hq : ∀ x ∈ es, x.o2quiet = true) (log : List Entry) (e : Nat) :
    invokedFor (es ++ log) e = invokedFor log e := by
  rw [o2_invoked_append, o2_quiet_invoked hq, List.nil_append]

/-- event and pending handler list of a loop frame -/
def Frame.o2loop : Frame → Option (Nat × List Nat)
  | .hLoop _ e l _ _ => some (e, l)
  | .hAfter _ e l _ _ => some (e, l)
  | .hApply _ e l _ _ => some (e, l)
  | _ => none

/-- handler and event of a call frame -/
def Frame.o2call : Frame → Option (Nat × Nat)
  | .invoke _ h e => some (h, e)
  | _ => none

theorem Frame.o2loop_ev {f : Frame} {e : Nat} {l : List Nat} (h : f.o2loop = some (e, l)) : f.o2ev = some e := by
  cases f <;> cases h <;> rfl

theorem Frame.o2call_ev {f : Frame} {h e : Nat} (hc : f.o2call = some (h, e)) : f.o2ev = some e := by
  cases f <;> cases hc <;> rfl

theorem Frame.o2plain_loop {f : Frame} (h : f.o2ev = none) : f.o2loop = none := by
  cases f <;> first | rfl | cases h

theorem Frame.o2plain_call {f : Frame} (h : f.o2ev = none) : f.o2call = none := by
  cases f <;> first | rfl | cases h

theorem o2plain_mem {fs : List Frame} (h : o2plain fs = true) {g : Frame} (hg : g ∈ fs) : g.o2ev = none := by
  unfold o2plain at h
  rw [List.all_eq_true] at h
  have := h g hg
  simpa using this

/-- the state-only part of the frame invariant -/
structure Frame.o2ok (s : St) (f : Frame) : Prop where
  disp : ∀ e, f.o2ev = some e → Entry.disp e ∈ s.log
  desc : ∀ e l, f.o2loop = some (e, l) → DescIn s l
  call : ∀ h e, f.o2call = some (h, e) → h < s.hs.length

theorem Frame.o2ok_plain (s : St) {f : Frame} (h : f.o2ev = none) : f.o2ok s :=
  ⟨fun e he => (by rw [h] at he; cases he), fun e l hl => (by rw [Frame.o2plain_loop h] at hl; cases hl),
   fun x e hc => (by rw [Frame.o2plain_call h] at hc; cases hc)⟩

structure O2Ext (s t : St) : Prop where
  hs : ∃ ext, t.hs = s.hs ++ ext
  log : ∃ es, t.log = es ++ s.log

theorem O2R.ext {s t : St} (h : O2R s t) : O2Ext s t := ⟨h.hs, let ⟨es, e, _⟩ := h.log; ⟨es, e⟩⟩

theorem O2Ext.logE (s : St) (x : Entry) : O2Ext s (s.logE x) := ⟨⟨[], (List.append_nil _).symm⟩, [x], rfl⟩

theorem O2Ext.trans {a b c : St} (h1 : O2Ext a b) (h2 : O2Ext b c) : O2Ext a c := by
  obtain ⟨⟨x1, e1⟩, y1, f1⟩ := h1
  obtain ⟨⟨x2, e2⟩, y2, f2⟩ := h2
  exact ⟨⟨x1 ++ x2, by rw [e2, e1, List.append_assoc]⟩, y2 ++ y1, by rw [f2, f1, List.append_assoc]⟩

theorem O2R.disps {s t : St} (h : O2R s t) : o2disps t.log = o2disps s.log :=
  let ⟨_, he, hq⟩ := h.log
  he ▸ o2_disps_quiet_append hq s.log

theorem O2R.invoked {s t : St} (h : O2R s t) (e : Nat) : invokedFor t.log e = invokedFor s.log e :=
  let ⟨_, he, hq⟩ := h.log
  he ▸ o2_invoked_quiet_append hq s.log e

theorem Frame.o2ok.mono {s t : St} {f : Frame} (h : f.o2ok s) (hx : O2Ext s t) : f.o2ok t := by
  obtain ⟨es, he⟩ := hx.log
  refine ⟨fun e hev => ?_, fun e l hl => (h.desc e l hl).mono hx.hs, fun x e hc => ?_⟩
  · rw [he]; exact List.mem_append_right _ (h.disp e hev)
  · exact Nat.lt_of_lt_of_le (h.call x e hc) (o2_len_mono hx.hs)

/-- the log-related part of the invariant for the frame `f` with the frames `k` below it -/
structure o2frameOk (s : St) (f : Frame) (k : List Frame) : Prop where
  call : ∀ h e, f.o2call = some (h, e) →
    (∀ h' ∈ invokedFor s.log e, s.q2prio h' ≥ s.q2prio h) ∧
    ∃ r' rest err stale k', k = .hAfter r' e rest err stale :: k' ∧ ∀ x ∈ rest, s.q2prio h ≥ s.q2prio x
  loop : ∀ e l, f.o2loop = some (e, l) →
    (∀ h' ∈ invokedFor s.log e, ∀ x ∈ l, s.q2prio h' ≥ s.q2prio x) ∧ ∀ g ∈ k, g.o2ev ≠ some e

def o2stk (s : St) : List Frame → Prop
  | [] => True
  | f :: k => o2frameOk s f k ∧ o2stk s k

theorem o2frameOk_plain (s : St) {f : Frame} (k : List Frame) (h : f.o2ev = none) : o2frameOk s f k :=
  ⟨fun x e hc => (by rw [Frame.o2plain_call h] at hc; cases hc), fun e l hl => (by rw [Frame.o2plain_loop h] at hl; cases hl)⟩

theorem o2stk_plain_append (s : St) : ∀ (fs : List Frame) (k : List Frame), o2plain fs = true → o2stk s k → o2stk s (fs ++ k)
  | [], _, _, h => h
  | f :: fs, k, hp, h => by
    have hf : f.o2ev = none := o2plain_mem hp List.mem_cons_self
    have hp' : o2plain fs = true := by
      unfold o2plain at hp ⊢
      rw [List.all_cons, Bool.and_eq_true] at hp
      exact hp.2
    exact ⟨o2frameOk_plain s _ hf, o2stk_plain_append s fs k hp' h⟩

structure O2I (c : Cfg) : Prop where
  st : O2S c.st
  ok : ∀ f ∈ c.stack, f.o2ok c.st
  dispd : ∀ e h, Entry.inv e h 0 ∈ c.st.log → Entry.disp e ∈ c.st.log ∧ h < c.st.hs.length
  once : O2Once c.st.log → o2stk c.st c.stack ∧
    ∀ e, (invokedFor c.st.log e).Pairwise (fun a b => c.st.q2prio b ≥ c.st.q2prio a)

/-- every handler call in the log belongs to an event dispatched before it and names a handler record that exists
    (field `dispd` of `O2I`, there written out) -/
def O2Dispd (s : St) : Prop := ∀ e h, Entry.inv e h 0 ∈ s.log → Entry.disp e ∈ s.log ∧ h < s.hs.length

theorem O2Dispd.step {s t : St} (hd : O2Dispd s) (hhs : ∃ ext, t.hs = s.hs ++ ext)
    (hD : ∀ e, e ∈ o2disps s.log → e ∈ o2disps t.log)
    (hI : ∀ e h, h ∈ invokedFor t.log e → h ∈ invokedFor s.log e ∨ (e ∈ o2disps t.log ∧ h < t.hs.length)) :
    O2Dispd t := by
  intro e h hm
  rcases hI e h (o2_mem_invoked.mpr hm) with h1 | h1
  · have h2 := hd e h (o2_mem_invoked.mp h1)
    exact ⟨o2_mem_disps.mp (hD e (o2_mem_disps.mpr h2.1)), Nat.lt_of_lt_of_le h2.2 (o2_len_mono hhs)⟩
  · exact ⟨o2_mem_disps.mp h1.1, h1.2⟩

/-- what the transport lemmas need to know about the old state -/
structure O2Know (s : St) (k : List Frame) : Prop where
  ok : ∀ f ∈ k, f.o2ok s
  dispd : O2Dispd s

theorem O2Know.tail {s : St} {f : Frame} {k : List Frame} (h : O2Know s (f :: k)) : O2Know s k :=
  ⟨fun g hg => h.ok g (List.mem_cons_of_mem _ hg), h.dispd⟩

theorem o2_invoked_lt {s : St} (hd : O2Dispd s)
    {e h : Nat} (hm : h ∈ invokedFor s.log e) : h < s.hs.length := (hd e h (o2_mem_invoked.mp hm)).2

theorem o2stk_mono {s t : St} (hx : ∃ ext, t.hs = s.hs ++ ext) : ∀ (k : List Frame), O2Know s k →
    (∀ e, (∃ g ∈ k, g.o2ev = some e) → invokedFor t.log e = invokedFor s.log e) → o2stk s k → o2stk t k
  | [], _, _, _ => trivial
  | f :: k, hk, hinv, ⟨hf, hrest⟩ => by
    refine ⟨⟨?_, ?_⟩, o2stk_mono hx k hk.tail (fun e ⟨g, hg, he⟩ => hinv e ⟨g, List.mem_cons_of_mem _ hg, he⟩) hrest⟩
    · intro x e hc
      obtain ⟨h1, r', rest, err, stale, k', hkk, h2⟩ := hf.call x e hc
      have hxlt : x < s.hs.length := (hk.ok f List.mem_cons_self).call x e hc
      have hie := hinv e ⟨f, List.mem_cons_self, Frame.o2call_ev hc⟩
      refine ⟨?_, r', rest, err, stale, k', hkk, ?_⟩
      · intro h' hh'
        rw [hie] at hh'
        exact o2_ge_mono hx (o2_invoked_lt hk.dispd hh') hxlt (h1 h' hh')
      · intro y hy
        have hd : DescIn s rest := (hk.ok (.hAfter r' e rest err stale) (by rw [hkk]; simp)).desc e rest rfl
        exact o2_ge_mono hx hxlt (hd.2 y hy) (h2 y hy)
    · intro e l hl
      obtain ⟨h1, h2⟩ := hf.loop e l hl
      have hie := hinv e ⟨f, List.mem_cons_self, Frame.o2loop_ev hl⟩
      have hd : DescIn s l := (hk.ok f List.mem_cons_self).desc e l hl
      refine ⟨?_, h2⟩
      intro h' hh' y hy
      rw [hie] at hh'
      exact o2_ge_mono hx (o2_invoked_lt hk.dispd hh') (hd.2 y hy) (h1 h' hh' y hy)

theorem o2_pairwise_mono {s t : St} (hx : ∃ ext, t.hs = s.hs ++ ext)
    (hd : O2Dispd s) (e : Nat)
    (hp : (invokedFor s.log e).Pairwise (fun a b => s.q2prio b ≥ s.q2prio a)) :
    (invokedFor s.log e).Pairwise (fun a b => t.q2prio b ≥ t.q2prio a) :=
  List.Pairwise.imp_of_mem (fun ha hb hab => o2_ge_mono hx (o2_invoked_lt hd hb) (o2_invoked_lt hd ha) hab) hp

theorem o2_dispd_quiet {s t : St} (hr : O2R s t) (hd : O2Dispd s) : O2Dispd t :=
  hd.step hr.hs (fun _ h => hr.disps ▸ h) fun e _ h => .inl (hr.invoked e ▸ h)

/-- A quiet state change with plain frames `fs` pushed on a stack `k'`: what is left to show is the frame invariant for
    `k'` in the new state (the old log for the part that depends on it: `D` and `I` entries are the same). -/
theorem O2I.quiet {c c' : Cfg} {fs k' : List Frame} (hi : O2I c) (hr : O2R c.st c'.st) (hst' : c'.stack = fs ++ k')
    (hpl : o2plain fs = true) (hok : ∀ g ∈ k', g.o2ok c'.st) (hstk : O2Once c.st.log → o2stk c'.st k') : O2I c' := by
  refine ⟨hr.inv hi.st, ?_, o2_dispd_quiet hr hi.dispd, ?_⟩
  · intro g hgm
    rw [hst'] at hgm
    rcases List.mem_append.mp hgm with h1 | h1
    · exact Frame.o2ok_plain _ (o2plain_mem hpl h1)
    · exact hok g h1
  · intro honce
    have honce' : O2Once c.st.log := by
      unfold O2Once at honce ⊢
      rwa [hr.disps] at honce
    refine ⟨hst' ▸ o2stk_plain_append _ fs k' hpl (hstk honce'), fun e => ?_⟩
    rw [hr.invoked]
    exact o2_pairwise_mono hr.hs hi.dispd e ((hi.once honce').2 e)

theorem O2I.below {c : Cfg} {f : Frame} {k : List Frame} {t : St} (hi : O2I c) (hst : c.stack = f :: k) (hr : O2R c.st t) :
    (∀ g ∈ k, g.o2ok t) ∧ (O2Once c.st.log → o2stk t k) := by
  have hkn : O2Know c.st (f :: k) := ⟨fun g hg => hi.ok g (hst ▸ hg), hi.dispd⟩
  refine ⟨fun g hg => (hkn.ok g (List.mem_cons_of_mem _ hg)).mono hr.ext, fun honce => ?_⟩
  have h1 := (hi.once honce).1
  rw [hst] at h1
  exact o2stk_mono hr.hs k hkn.tail (fun e _ => hr.invoked e) h1.2

theorem O2I.generic {c c' : Cfg} {f : Frame} {k : List Frame} (hi : O2I c) (hst : c.stack = f :: k)
    (hg : O2G k c.st c') : O2I c' :=
  let ⟨fs, hfs, hpl⟩ := hg.push
  hi.quiet hg.rel hfs hpl (hi.below hst hg.rel).1 (hi.below hst hg.rel).2

/-- the hypotheses of `O2I.replaceLoop` about the result `c'` of an arm that keeps the handler loop of event `e` going -/
def O2Shape (k : List Frame) (s : St) (e : Nat) (l : List Nat) (c' : Cfg) : Prop :=
  O2R s c'.st ∧ ∃ fs f' l', c'.stack = fs ++ f' :: k ∧ o2plain fs = true ∧ f'.o2loop = some (e, l') ∧
    f'.o2call = none ∧ l'.Sublist l

/-- an arm that replaces the top loop frame by a loop frame of the same event with a sublist of
    the pending handlers (plus plain frames on top) and changes the state quietly -/
theorem O2I.replaceLoop {c c' : Cfg} {f : Frame} {k : List Frame} {e : Nat} {l : List Nat} (hi : O2I c)
    (hst : c.stack = f :: k) (hf : f.o2loop = some (e, l)) (hsh : O2Shape k c.st e l c') : O2I c' := by
  obtain ⟨hr, fs, f', l', hst', hpl, hf', hfc, hsub⟩ := hsh
  have hfok := hi.ok f (hst ▸ List.mem_cons_self)
  obtain ⟨hbok, hbstk⟩ := hi.below hst hr
  refine hi.quiet hr hst' hpl ?_ fun honce => ⟨⟨?_, ?_⟩, hbstk honce⟩
  · intro g hg
    rcases List.mem_cons.mp hg with h2 | h2
    · subst h2
      refine Frame.o2ok.mono ⟨?_, ?_, ?_⟩ hr.ext
      · intro e1 he1; rw [Frame.o2loop_ev hf'] at he1; cases he1; exact hfok.disp e (Frame.o2loop_ev hf)
      · intro e1 l1 hl1; rw [hf'] at hl1; cases hl1; exact DescL.sublist (hfok.desc e l hf) hsub
      · intro x e1 hc; rw [hfc] at hc; cases hc
    · exact hbok g h2
  · intro x e1 hc; rw [hfc] at hc; cases hc
  · intro e1 l1 hl1
    rw [hf'] at hl1; cases hl1
    have h1 := (hi.once honce).1
    rw [hst] at h1
    obtain ⟨h3, h4⟩ := h1.1.loop e l hf
    refine ⟨?_, h4⟩
    intro h' hh' y hy
    rw [hr.invoked] at hh'
    have hyl := hsub.subset hy
    exact o2_ge_mono hr.hs (o2_invoked_lt hi.dispd hh') ((hfok.desc e l hf).2 y hyl) (h3 h' hh' y hyl)

theorem O2S.logE {t : St} (h : O2S t) (x : Entry) : O2S (t.logE x) := h.of_same rfl rfl

theorem O2R.logged {s t : St} {x : Entry} (h : O2R (s.logE x) t) :
    (∃ ext, t.hs = s.hs ++ ext) ∧ (∃ es, t.log = es ++ x :: s.log ∧ ∀ y ∈ es, y.o2quiet = true) ∧ (O2S s → O2S t) :=
  ⟨h.hs, h.log, fun hs => h.inv (hs.logE x)⟩

theorem o2_dispatchPre_rel (s : St) (r e rem : Nat) : O2R (s.logE (.disp e)) (s.dispatchPre r e rem).2 := by
  unfold St.dispatchPre
  dsimp only
  st_pres

theorem o2_dispatchPre_desc {s : St} (h : O2S s) (r e rem : Nat) (l : List Nat)
    (hl : (s.dispatchPre r e rem).1 = some l) : DescIn (s.dispatchPre r e rem).2 l := by
  cases hc : (s.ev e).cancelled
  · obtain ⟨s1, res, hs1, hres, he⟩ := s.dispatchPre_live r e rem hc
    rw [he] at hl ⊢
    cases hl
    have h1 : O2S s1 := by
      have : O2R (s.logE (.disp e)) s1 := by rw [hs1]; st_pres
      exact this.inv (h.logE _)
    have h2 := o2_lookupHandlers_desc h1 r (s.ev e).name (s.ev e).chans
    rw [← hres] at h2
    refine h2.mono (O2R.hs ?_)
    st_pres
  · rw [s.dispatchPre_cancelled r e rem hc] at hl
    cases hl

/-- everything the `.dispatcher` step establishes about the frames below and the log: the log gained the `D` entry of
    `e` and no `I` entry; if `e` was not dispatched before, nothing was invoked for it and no frame belongs to it -/
theorem o2_after_disp {c : Cfg} {k : List Frame} {f : Frame} {e : Nat} {s' : St} (hi : O2I c)
    (hst : c.stack = f :: k) (hr : O2R (c.st.logE (.disp e)) s') :
    O2S s' ∧ (∀ g ∈ k, g.o2ok s') ∧ O2Dispd s' ∧ Entry.disp e ∈ s'.log ∧
    (O2Once s'.log → o2stk s' k ∧ (∀ e1, (invokedFor s'.log e1).Pairwise (fun a b => s'.q2prio b ≥ s'.q2prio a)) ∧
      invokedFor s'.log e = [] ∧ ∀ g ∈ k, g.o2ev ≠ some e) := by
  have hdisps : o2disps s'.log = e :: o2disps c.st.log := hr.disps
  have hinv : ∀ e1, invokedFor s'.log e1 = invokedFor c.st.log e1 := hr.invoked
  have hext : O2Ext c.st s' := (O2Ext.logE _ _).trans hr.ext
  have hkn : O2Know c.st (f :: k) := ⟨fun g hg => hi.ok g (hst ▸ hg), hi.dispd⟩
  refine ⟨hr.inv (hi.st.logE _), fun g hg => (hkn.ok g (List.mem_cons_of_mem _ hg)).mono hext,
    O2Dispd.step hi.dispd hext.hs (fun _ h => hdisps ▸ List.mem_cons_of_mem _ h) (fun e1 _ h => .inl (hinv e1 ▸ h)),
    o2_mem_disps.mp (hdisps ▸ List.mem_cons_self), fun honce => ?_⟩
  unfold O2Once at honce
  rw [hdisps, List.nodup_cons] at honce
  obtain ⟨h1, h2⟩ := hi.once honce.2
  rw [hst] at h1
  have hnot : Entry.disp e ∉ c.st.log := fun hm => honce.1 (o2_mem_disps.mpr hm)
  refine ⟨o2stk_mono hext.hs k hkn.tail (fun e1 _ => hinv e1) h1.2, fun e1 => ?_, ?_, ?_⟩
  · rw [hinv e1]; exact o2_pairwise_mono hext.hs hi.dispd e1 (h2 e1)
  · rw [hinv e]
    exact List.eq_nil_iff_forall_not_mem.mpr fun a ha => hnot (hi.dispd e a (o2_mem_invoked.mp ha)).1
  · exact fun g hg hev => hnot ((hkn.ok g (List.mem_cons_of_mem _ hg)).disp e hev)

theorem O2I.dispatcher {c : Cfg} {k : List Frame} {r e rem : Nat} (hi : O2I c)
    (hst : c.stack = .dispatcher r e rem :: k) : O2I (c.dispatcher k r e rem) := by
  obtain ⟨h1, h2, h3, h4, h5⟩ := o2_after_disp hi hst (o2_dispatchPre_rel c.st r e rem)
  -- one frame `g` takes the place of `_dispatcher`: `_effectDone` for a cancelled event, else the handler loop
  have key : ∀ g : Frame, g.o2ok (c.st.dispatchPre r e rem).2 →
      (O2Once (c.st.dispatchPre r e rem).2.log → o2frameOk (c.st.dispatchPre r e rem).2 g k) →
      O2I (c.goto k (c.st.dispatchPre r e rem).2 [g]) := by
    intro g hok hfr
    refine ⟨h1, fun g' hg' => ?_, h3, fun honce => ⟨⟨hfr honce, (h5 honce).1⟩, (h5 honce).2.1⟩⟩
    rcases List.mem_cons.mp hg' with h6 | h6
    · exact h6 ▸ hok
    · exact h2 g' h6
  unfold Cfg.dispatcher
  split
  · exact key _ (Frame.o2ok_plain _ rfl) fun _ => o2frameOk_plain _ _ rfl
  · rename_i l hl
    refine key _ ⟨fun e1 he1 => (by cases he1; exact h4),
      fun e1 l1 hl1 => (by cases hl1; exact o2_dispatchPre_desc hi.st r e rem l hl), fun x e1 hc => (by cases hc)⟩
      fun honce => ⟨fun x e1 hc => (by cases hc), fun e1 l1 hl1 => ?_⟩
    cases hl1
    refine ⟨fun h' hh' => ?_, (h5 honce).2.2.2⟩
    rw [(h5 honce).2.2.1] at hh'
    cases hh'

theorem O2I.hLoop {c : Cfg} {k : List Frame} {r e : Nat} {l : List Nat} {err : Bool} {stale : Outcome} (hi : O2I c)
    (hst : c.stack = .hLoop r e l err stale :: k) : O2I (c.hLoop k r e l err stale) := by
  cases l with
  | nil => exact hi.generic hst ⟨O2R.refl _, [.dispFin r e err], rfl, rfl⟩
  | cons h0 rest0 =>
    have hfok := hi.ok _ (hst ▸ List.mem_cons_self)
    have hdesc : DescIn c.st (h0 :: rest0) := hfok.desc e _ rfl
    have hch := q2_chooseHandler c.st e h0 rest0
    have hmem := c.st.chooseHandler_mem e h0 rest0
    show O2I (c.goto k (c.st.modEv e fun x => { x with geHandler := some (c.st.chooseHandler e h0 rest0) })
          [.invoke r (c.st.chooseHandler e h0 rest0) e,
           .hAfter r e ((h0 :: rest0).erase (c.st.chooseHandler e h0 rest0)) err stale])
    generalize c.st.chooseHandler e h0 rest0 = h at hch hmem ⊢
    -- `chooseNext` takes a handler `h` of maximal priority in the pending list, so the call frame dominates the list kept
    have hmax := chooseNext_max hdesc.1 hch
    have hsub : ((h0 :: rest0).erase h).Sublist (h0 :: rest0) := List.erase_sublist
    have hr : O2R c.st (c.st.modEv e fun x => { x with geHandler := some h }) := (O2R.refl _).modEv _ _
    obtain ⟨hbok, hbstk⟩ := hi.below hst hr
    refine hi.quiet (fs := []) hr rfl rfl ?_ fun honce => ?_
    · intro g hg
      rcases List.mem_cons.mp hg with h6 | h6
      · subst h6
        exact ⟨fun e1 he1 => (by cases he1; exact hfok.disp e rfl), fun e1 l1 hl1 => (by cases hl1),
          fun x e1 hc => (by cases hc; exact hdesc.2 h hmem)⟩
      · rcases List.mem_cons.mp h6 with h7 | h7
        · subst h7
          exact ⟨fun e1 he1 => (by cases he1; exact hfok.disp e rfl),
            fun e1 l1 hl1 => (by cases hl1; exact DescL.sublist hdesc hsub), fun x e1 hc => (by cases hc)⟩
        · exact hbok g h7
    · have h1 := (hi.once honce).1
      rw [hst] at h1
      obtain ⟨h3, h4⟩ := h1.1.loop e _ rfl
      refine ⟨⟨?_, fun e1 l1 hl1 => (by cases hl1)⟩, ⟨fun x e1 hc => (by cases hc), ?_⟩, hbstk honce⟩
      · intro x e1 hc
        cases hc
        exact ⟨fun h' hh' => h3 h' hh' h hmem, r, _, err, stale, k, rfl, fun y hy => hmax y (hsub.subset hy)⟩
      · intro e1 l1 hl1
        cases hl1
        exact ⟨fun h' hh' y hy => h3 h' hh' y (hsub.subset hy), h4⟩

theorem o2_invoked_cons_inv (e h e1 : Nat) (log : List Entry) :
    invokedFor (Entry.inv e h 0 :: log) e1 = if e = e1 then h :: invokedFor log e1 else invokedFor log e1 := by
  unfold invokedFor
  simp only [List.filterMap_cons]
  by_cases he : e = e1
  · subst he; simp
  · have : (e == e1) = false := by simpa using he
    simp [this, he]

/-- the `.invoke` arm: a framework handler is order-neutral; a user handler logs its `I` entry
    (on a state `s` reached quietly) and is order-neutral afterwards; only plain frames are pushed -/
theorem o2_invoke_cases (c : Cfg) (k : List Frame) (r h e : Nat) :
    (O2R c.st (c.invoke k r h e).st ∨
      ∃ s, O2R c.st s ∧ O2R (s.logE (.inv e h 0)) (c.invoke k r h e).st) ∧
    ∃ fs, (c.invoke k r h e).stack = fs ++ k ∧ o2plain fs = true := by
  refine ⟨?_, stepFrame_all c k (.invoke r h e) fun _ hp => hp.o2plain rfl⟩
  have hs : O2R c.st (c.w6_invokeSt h e) := by unfold Cfg.w6_invokeSt; st_pres
  rw [Cfg.invoke_eq]
  generalize c.w6_invokeSt h e = s at hs ⊢
  split
  · refine .inr ⟨_, hs, ?_⟩
    unfold Cfg.invokeUser
    dsimp only
    st_pres
  all_goals (left; first | exact hs | st_pres)

theorem O2I.invoke {c : Cfg} {k : List Frame} {r h e : Nat} (hi : O2I c)
    (hst : c.stack = .invoke r h e :: k) : O2I (c.invoke k r h e) := by
  obtain ⟨hg | ⟨s, hs, hr⟩, fs, hfs, hpl⟩ := o2_invoke_cases c k r h e
  · exact hi.generic hst ⟨hg, fs, hfs, hpl⟩
  · -- a user handler: quietly to `s`, the `I` entry `(e, h)`, quietly on; the log gains no `D` entry and `h` for `e`
    generalize c.invoke k r h e = c' at hr hfs ⊢
    have hext : O2Ext c.st c'.st := hs.ext.trans ((O2Ext.logE _ _).trans hr.ext)
    have hhs := hext.hs
    have hdisps : o2disps c'.st.log = o2disps c.st.log := hr.disps.trans hs.disps
    have hinv : ∀ e1, invokedFor c'.st.log e1 =
        if e = e1 then h :: invokedFor c.st.log e1 else invokedFor c.st.log e1 := fun e1 => by
      rw [hr.invoked, ← hs.invoked e1]
      exact o2_invoked_cons_inv e h e1 s.log
    have hkn : O2Know c.st (.invoke r h e :: k) := ⟨fun g hg => hi.ok g (hst ▸ hg), hi.dispd⟩
    have hfok := hkn.ok _ List.mem_cons_self
    have hhlt : h < c.st.hs.length := hfok.call h e rfl
    refine ⟨hr.inv ((hs.inv hi.st).logE _), fun g hgm => ?_, O2Dispd.step hi.dispd hhs (fun _ h1 => hdisps ▸ h1) fun e1 x hm => ?_,
      fun honce => ?_⟩
    · rw [hfs] at hgm
      rcases List.mem_append.mp hgm with h1 | h1
      · exact Frame.o2ok_plain _ (o2plain_mem hpl h1)
      · exact (hkn.ok g (List.mem_cons_of_mem _ h1)).mono hext
    · rw [hinv] at hm
      split at hm
      · rename_i he
        rcases List.mem_cons.mp hm with h1 | h1
        · exact .inr ⟨he ▸ hdisps ▸ o2_mem_disps.mpr (hfok.disp e rfl), h1 ▸ Nat.lt_of_lt_of_le hhlt (o2_len_mono hhs)⟩
        · exact .inl h1
      · exact .inl hm
    · have honce' : O2Once c.st.log := by
        unfold O2Once at honce ⊢
        rwa [hdisps] at honce
      obtain ⟨h1, h2⟩ := hi.once honce'
      rw [hst] at h1
      -- below the call stands the loop frame of `e`, whose pending handlers `h` dominates and the earlier calls dominate
      obtain ⟨h3, r', rest, err, stale, k', hk, h4⟩ := h1.1.call h e rfl
      subst hk
      obtain ⟨h5, h6⟩ := h1.2.1.loop e rest rfl
      have hdrest : DescIn c.st rest := (hkn.ok (.hAfter r' e rest err stale) (by simp)).desc e rest rfl
      refine ⟨?_, fun e1 => ?_⟩
      · rw [hfs]
        refine o2stk_plain_append _ fs _ hpl ⟨⟨fun x e1 hc => (by cases hc), fun e1 l1 hl1 => ?_⟩,
          o2stk_mono hhs k' hkn.tail.tail (fun e1 ⟨g, hg, hev⟩ => ?_) h1.2.2⟩
        · cases hl1
          refine ⟨fun h' hh' y hy => ?_, h6⟩
          rw [hinv, if_pos rfl] at hh'
          rcases List.mem_cons.mp hh' with h7 | h7
          · exact h7 ▸ o2_ge_mono hhs hhlt (hdrest.2 y hy) (h4 y hy)
          · exact o2_ge_mono hhs (o2_invoked_lt hi.dispd h7) (hdrest.2 y hy) (h5 h' h7 y hy)
        · rw [hinv, if_neg fun he : e = e1 => h6 g hg (he ▸ hev)]
      · rw [hinv]
        split
        · rename_i he
          subst he
          rw [List.pairwise_cons]
          exact ⟨fun b hb => o2_ge_mono hhs (o2_invoked_lt hi.dispd hb) hhlt (h3 b hb),
            o2_pairwise_mono hhs hi.dispd _ (h2 _)⟩
        · exact o2_pairwise_mono hhs hi.dispd _ (h2 _)

theorem o2_hAfter_shape (c : Cfg) (k : List Frame) (r e : Nat) (l : List Nat) (err : Bool) (stale : Outcome) :
    O2Shape k c.st e l (c.hAfter k r e l err stale) := by
  unfold Cfg.hAfter
  split
  · exact ⟨O2R.refl _, [.stopMgr r none], .hApply r e l err stale, l, rfl, rfl, rfl, rfl, List.Sublist.refl _⟩
  · exact ⟨O2R.refl _, [.stopMgr r _], .hApply r e l err stale, l, rfl, rfl, rfl, rfl, List.Sublist.refl _⟩
  · exact ⟨by simp only [Cfg.goto_st]; st_pres, [], .hApply r e l true .raised, l, rfl, rfl, rfl, rfl, List.Sublist.refl _⟩
  · exact ⟨O2R.refl _, [], .hApply r e l err .none, l, rfl, rfl, rfl, rfl, List.Sublist.refl _⟩
  · exact ⟨O2R.refl _, [], .hApply r e l err (.value _), l, rfl, rfl, rfl, rfl, List.Sublist.refl _⟩
  · exact ⟨O2R.refl _, [], .hApply r e l err (.gen _), l, rfl, rfl, rfl, rfl, List.Sublist.refl _⟩

theorem o2_hApply_shape (c : Cfg) (k : List Frame) (r e : Nat) (l : List Nat) (err : Bool) (value : Outcome) :
    O2G k c.st (c.hApply k r e l err value) ∨ O2Shape k c.st e l (c.hApply k r e l err value) := by
  unfold Cfg.hApply
  dsimp only
  have hr : O2R c.st ((c.st.applyValue r e value).geTasksCheck r e) := by st_pres
  split
  · exact .inl ⟨hr, [.dispFin r e err], rfl, rfl⟩
  · exact .inr ⟨hr, [], .hLoop r e l err value, l, rfl, rfl, rfl, rfl, List.Sublist.refl _⟩

theorem O2I.hAfter {c : Cfg} {k : List Frame} {r e : Nat} {l : List Nat} {err : Bool} {stale : Outcome} (hi : O2I c)
    (hst : c.stack = .hAfter r e l err stale :: k) : O2I (c.hAfter k r e l err stale) :=
  hi.replaceLoop hst rfl (o2_hAfter_shape c k r e l err stale)

theorem O2I.hApply {c : Cfg} {k : List Frame} {r e : Nat} {l : List Nat} {err : Bool} {value : Outcome} (hi : O2I c)
    (hst : c.stack = .hApply r e l err value :: k) : O2I (c.hApply k r e l err value) := by
  rcases o2_hApply_shape c k r e l err value with h | h
  · exact hi.generic hst h
  · exact hi.replaceLoop hst rfl h

theorem O2I.stepFrame {c : Cfg} {f : Frame} {k : List Frame} (hi : O2I c) (hst : c.stack = f :: k) :
    O2I (stepFrame c k f) := by
  cases f
  case dispatcher r e rem => exact hi.dispatcher hst
  case hLoop r e l err stale => exact hi.hLoop hst
  case invoke r h e => exact hi.invoke hst
  case hAfter r e l err stale => exact hi.hAfter hst
  case hApply r e l err v => exact hi.hApply hst
  all_goals exact hi.generic hst (stepFrame_o2 c k _ rfl rfl)

theorem O2I.unwind {c : Cfg} {f : Frame} {k : List Frame} (ex : Exn) (hi : O2I c) (hst : c.stack = f :: k) :
    O2I (unwind c k ex f) :=
  hi.generic hst (unwind_o2 c k ex f)

theorem O2I.step {c : Cfg} (hi : O2I c) : O2I (step c) := by
  cases hst : c.stack with
  | nil => rw [step_nil c hst]; exact hi
  | cons f k =>
    cases hx : c.exn with
    | none => rw [step_cons c f k hst hx]; exact hi.stepFrame hst
    | some ex => rw [step_cons_exn c f k ex hst hx]; exact hi.unwind ex hst

theorem step_hs_append (c : Cfg) : ∃ ext, (step c).st.hs = c.st.hs ++ ext := by
  cases hst : c.stack with
  | nil => rw [step_nil c hst]; exact ⟨[], by simp⟩
  | cons f k =>
    cases hx : c.exn with
    | some ex => rw [step_cons_exn c f k ex hst hx]; exact (unwind_o2r c k ex f).hs
    | none =>
      rw [step_cons c f k hst hx]
      cases f
      case dispatcher r e rem =>
        rw [show (stepFrame c k (.dispatcher r e rem)).st = _ from Cfg.dispatcher_st c k r e rem]
        exact (o2_dispatchPre_rel c.st r e rem).logged.1
      case invoke r h e =>
        rcases (o2_invoke_cases c k r h e).1 with hg | ⟨s, hs, hr⟩
        · exact hg.hs
        · obtain ⟨x1, e1⟩ := hs.hs
          obtain ⟨x2, e2⟩ := hr.logged.1
          exact ⟨x1 ++ x2, by dsimp only [stepFrame]; rw [e2, e1, List.append_assoc]⟩
      all_goals exact (stepFrame_o2r c k _ rfl).hs

structure O2Init (s : St) : Prop where
  st : O2S s
  log : s.log = []

theorem o2_startOf_stack (s : St) (op : ExtOp) : o2plain (startOf s op).stack = true := by
  cases op <;> rfl

theorem O2I.start {s : St} (d : Nat) (tape : List Entry) (op : ExtOp) (hs : O2S s)
    (hd : O2Dispd s)
    (hp : O2Once s.log → ∀ e, (invokedFor s.log e).Pairwise (fun a b => s.q2prio b ≥ s.q2prio a)) :
    O2I (startOf (envChange s d tape) op) := by
  have hpl := o2_startOf_stack (envChange s d tape) op
  have hst := startOf_st (envChange s d tape) op
  generalize startOf (envChange s d tape) op = c at hpl hst
  refine ⟨?_, ?_, ?_, ?_⟩
  · rw [hst]; exact hs.of_same rfl rfl
  · intro g hg; exact Frame.o2ok_plain _ (o2plain_mem hpl hg)
  · rw [hst]; exact hd
  · rw [hst]
    intro honce
    refine ⟨?_, hp honce⟩
    have := o2stk_plain_append (envChange s d tape) c.stack [] hpl trivial
    rwa [List.append_nil] at this

theorem O2I.reach {s0 : St} (h0 : O2Init s0) : ∀ c, Reach s0 c → O2I c := by
  refine Reach.inv O2I ?_ (fun c hi => hi.step) ?_
  · intro d tape op
    refine O2I.start d tape op h0.st ?_ ?_
    · intro e h hm; rw [h0.log] at hm; cases hm
    · intro _ e; rw [h0.log]; exact List.Pairwise.nil
  · intro c d tape op hi hdone
    refine O2I.start d tape op hi.st hi.dispd (fun honce => (hi.once honce).2)

end CV.Core
