import CV.Proofs.InvQueue
import CV.Proofs.CoreStack
/-
C02, machine level: handler ORDER on the small-step machine, the state invariant and the order-neutral arms.

  * `DescIn s l`   the handler list `l` is sorted by descending priority (priority table of `s`)
                   and consists of declared handler records (ids in range);
  * `O2S s`        state invariant: every declared handler has priority ≥ -100 (the priority of the
                   fallback `generate_events` handler `_dispatcher` appends AFTER sorting), every id
                   in a handler table / global list is in range, every cached list is `DescIn`;
  * `O2R s t`      "t is a later state than s, reached by order-neutral code": the handler table
                   was only appended to, the log only got entries that are neither `D` nor the `I`
                   of a handler call, and `O2S` survived.

`O2R` is pushed through all primitives and helpers with the pattern of CV/Proofs/Pres.lean (the lemmas carry
`st_pres`); it survives every operation of the arms but the two that log a `D` / `I` entry (`O2R.keeps`), so every arm but
`.dispatcher` and `.invoke` (`stepFrame_o2r`).  Loop and call frames are pushed only by `_dispatcher` and its handler
loop (`Frame.Pushes.o2ev`, read off `Frame.Pushes`); an arm outside these yields `O2G`: `O2R`, and only plain frames
pushed (`stepFrame_o2`, `unwind_o2`).  `o2_lookupHandlers_desc`: the list `_dispatcher` uses is descending and declared.
The arms `.dispatcher`, `.hLoop`, `.invoke`, `.hAfter`, `.hApply` are treated in CV/Proofs/InvOrder.lean.
-/
namespace CV.Core
open CV.Core.Live

/-- log entries that are neither a `D` entry nor the `I` entry of a handler call -/
def Entry.o2quiet : Entry → Bool
  | .disp _ => false
  | .inv _ _ 0 => false
  | _ => true

def DescL (hs : List Handler) (l : List Nat) : Prop :=
  Desc (fun h => (hs.getD h dfltHandler).prio) l ∧ ∀ h ∈ l, h < hs.length

def DescIn (s : St) (l : List Nat) : Prop := DescL s.hs l

theorem DescIn.desc {s : St} {l : List Nat} (h : DescIn s l) : Desc s.q2prio l := h.1

/-- the state invariant `O2S` on the two tables it reads, so that a write to one of them (`modComp`, `addH`) is
    argued with the other held fixed -/
structure O2C (comp : Nat → Comp) (hs : List Handler) : Prop where
  low : ∀ hd ∈ hs, -100 ≤ hd.prio
  hid : ∀ c k h, (k, h) ∈ (comp c).htab → h < hs.length
  gid : ∀ c h, h ∈ (comp c).globals → h < hs.length
  cache : ∀ c key l, (key, l) ∈ (comp c).cache → DescL hs l

def O2S (s : St) : Prop := O2C s.comp s.hs

structure O2R (s t : St) : Prop where
  hs : ∃ l, t.hs = s.hs ++ l
  log : ∃ es, t.log = es ++ s.log ∧ ∀ x ∈ es, x.o2quiet = true
  inv : O2S s → O2S t

theorem DescL.append {hs : List Handler} {l : List Nat} (h : DescL hs l) (ext : List Handler) :
    DescL (hs ++ ext) l := by
  refine ⟨?_, fun x hx => by rw [List.length_append]; have := h.2 x hx; omega⟩
  refine List.Pairwise.imp_of_mem ?_ h.1
  intro a b ha hb hab
  simp only [o2_getD_append hs ext (h.2 a ha), o2_getD_append hs ext (h.2 b hb)]
  exact hab

theorem DescIn.mono {s t : St} {l : List Nat} (h : DescIn s l) (hr : ∃ ext, t.hs = s.hs ++ ext) : DescIn t l := by
  obtain ⟨ext, he⟩ := hr
  unfold DescIn; rw [he]; exact DescL.append h ext

theorem o2_prio_mono {s t : St} (hr : ∃ ext, t.hs = s.hs ++ ext) {x : Nat} (hx : x < s.hs.length) :
    t.q2prio x = s.q2prio x := by
  obtain ⟨ext, he⟩ := hr
  exact St.q2prio_append_lt he hx

theorem o2_ge_mono {s t : St} (hr : ∃ ext, t.hs = s.hs ++ ext) {a b : Nat} (ha : a < s.hs.length) (hb : b < s.hs.length)
    (h : s.q2prio a ≥ s.q2prio b) : t.q2prio a ≥ t.q2prio b := by
  rw [o2_prio_mono hr ha, o2_prio_mono hr hb]
  exact h

theorem o2_len_mono {s t : St} (hr : ∃ ext, t.hs = s.hs ++ ext) : s.hs.length ≤ t.hs.length := by
  obtain ⟨ext, he⟩ := hr
  rw [he, List.length_append]; omega

theorem DescL.sublist {hs : List Handler} {l l' : List Nat} (h : DescL hs l) (hsub : l'.Sublist l) : DescL hs l' :=
  ⟨List.Pairwise.sublist hsub h.1, fun x hx => h.2 x (hsub.subset hx)⟩

theorem DescL.nil (hs : List Handler) : DescL hs [] := ⟨List.Pairwise.nil, fun _ h => absurd h (by simp)⟩

theorem O2S.of_same {t t' : St} (h : O2S t) (hc : t'.comps = t.comps) (hh : t'.hs = t.hs) : O2S t' := by
  have : t'.comp = t.comp := by funext c; unfold St.comp; rw [hc]
  unfold O2S; rw [this, hh]; exact h

namespace O2R

@[st_pres ↓] theorem refl (s : St) : O2R s s := ⟨⟨[], by simp⟩, ⟨[], rfl, fun _ h => absurd h (by simp)⟩, id⟩

theorem trans {a b c : St} (h1 : O2R a b) (h2 : O2R b c) : O2R a c := by
  obtain ⟨l1, e1⟩ := h1.hs
  obtain ⟨l2, e2⟩ := h2.hs
  obtain ⟨es1, f1, q1⟩ := h1.log
  obtain ⟨es2, f2, q2⟩ := h2.log
  refine ⟨⟨l1 ++ l2, by rw [e2, e1, List.append_assoc]⟩, ⟨es2 ++ es1, by rw [f2, f1, List.append_assoc], ?_⟩,
    fun h => h2.inv (h1.inv h)⟩
  intro x hx
  rcases List.mem_append.mp hx with h | h
  · exact q2 x h
  · exact q1 x h

theorem of_same {t t' : St} (hc : t'.comps = t.comps) (hh : t'.hs = t.hs) (hl : t'.log = t.log) : O2R t t' :=
  ⟨⟨[], by simp [hh]⟩, ⟨[], by simp [hl], fun _ h => absurd h (by simp)⟩, fun h => h.of_same hc hh⟩

variable {s t : St}

@[st_pres ↓] theorem modEv (h : O2R s t) (e : Nat) (f : Ev → Ev) : O2R s (t.modEv e f) := h.trans (of_same rfl rfl rfl)
@[st_pres ↓] theorem modWait (h : O2R s t) (w : Nat) (f : WaitSt → WaitSt) : O2R s (t.modWait w f) := h.trans (of_same rfl rfl rfl)
@[st_pres ↓] theorem modTimer (h : O2R s t) (i : Nat) (f : TimerSt → TimerSt) : O2R s (t.modTimer i f) := h.trans (of_same rfl rfl rfl)
@[st_pres ↓] theorem setGen (h : O2R s t) (g : Nat) (y : GenRec) : O2R s (t.setGen g y) := h.trans (of_same rfl rfl rfl)
@[st_pres ↓] theorem addEv (h : O2R s t) (e : Ev) : O2R s (t.addEv e) := h.trans (of_same rfl rfl rfl)
@[st_pres ↓] theorem addGen (h : O2R s t) (g : GenRec) : O2R s (t.addGen g) := h.trans (of_same rfl rfl rfl)
@[st_pres ↓] theorem addWait (h : O2R s t) (w : WaitSt) : O2R s (t.addWait w) := h.trans (of_same rfl rfl rfl)
@[st_pres ↓] theorem tick1 (h : O2R s t) (d : Int) : O2R s (t.tick1 d) := h.trans (of_same rfl rfl rfl)

@[st_pres ↓] theorem logE (h : O2R s t) (x : Entry) (hq : x.o2quiet = true) : O2R s (t.logE x) := by
  refine h.trans ⟨⟨[], by simp [St.logE]⟩, ⟨[x], rfl, ?_⟩, ?_⟩
  · intro y hy; rw [List.mem_singleton.mp hy]; exact hq
  · intro hs; exact hs

@[st_pres ↓] theorem addH (h : O2R s t) (x : Handler) (hp : -100 ≤ x.prio) : O2R s (t.addH x) := by
  refine h.trans ⟨⟨[x], rfl⟩, ⟨[], rfl, fun _ h => absurd h (by simp)⟩, ?_⟩
  intro hs
  have hlen : t.hs.length ≤ (t.hs ++ [x]).length := by rw [List.length_append]; omega
  refine ⟨?_, ?_, ?_, ?_⟩
  · intro hd hm
    rcases List.mem_append.mp hm with h1 | h1
    · exact hs.low hd h1
    · rw [List.mem_singleton.mp h1]; exact hp
  · intro c k y hy; exact Nat.lt_of_lt_of_le (hs.hid c k y hy) hlen
  · intro c y hy; exact Nat.lt_of_lt_of_le (hs.gid c y hy) hlen
  · intro c key l hl; exact (hs.cache c key l hl).append [x]

end O2R

/-- what a `modComp` may do to the component it touches -/
structure O2Upd (t : St) (y y' : Comp) : Prop where
  htab : ∀ p ∈ y'.htab, p ∈ y.htab ∨ p.2 < t.hs.length
  globals : ∀ g ∈ y'.globals, g ∈ y.globals ∨ g < t.hs.length
  cache : ∀ p ∈ y'.cache, p ∈ y.cache ∨ DescIn t p.2

theorem O2Upd.keep {t : St} {y y' : Comp} (h1 : y'.htab = y.htab) (h2 : y'.globals = y.globals)
    (h3 : y'.cache = y.cache) : O2Upd t y y' :=
  ⟨fun _ hp => .inl (h1 ▸ hp), fun _ hg => .inl (h2 ▸ hg), fun _ hp => .inl (h3 ▸ hp)⟩

theorem O2S.modComp {t : St} (h : O2S t) (c : Nat) (f : Comp → Comp) (hf : O2Upd t (t.comp c) (f (t.comp c))) :
    O2S (t.modComp c f) := by
  have hcomp : ∀ x, (t.modComp c f).comp x = t.comp x ∨ ((t.modComp c f).comp x = f (t.comp c) ∧ x = c) :=
    fun x => (t.w6_modComp_comp_cases c f x).imp_right fun ⟨e, h⟩ => ⟨e ▸ h, e⟩
  have hhs : (t.modComp c f).hs = t.hs := rfl
  unfold O2S
  rw [hhs]
  refine ⟨h.low, ?_, ?_, ?_⟩
  · intro x k y hy
    rcases hcomp x with e | ⟨e, rfl⟩
    · rw [e] at hy; exact h.hid x k y hy
    · rw [e] at hy
      rcases hf.htab _ hy with h1 | h1
      · exact h.hid _ k y h1
      · exact h1
  · intro x y hy
    rcases hcomp x with e | ⟨e, rfl⟩
    · rw [e] at hy; exact h.gid x y hy
    · rw [e] at hy
      rcases hf.globals _ hy with h1 | h1
      · exact h.gid _ y h1
      · exact h1
  · intro x key l hl
    rcases hcomp x with e | ⟨e, rfl⟩
    · rw [e] at hl; exact h.cache x key l hl
    · rw [e] at hl
      rcases hf.cache _ hl with h1 | h1
      · exact h.cache _ key l h1
      · exact h1

theorem O2R.modComp {s t : St} (h : O2R s t) (c : Nat) (f : Comp → Comp)
    (hf : O2S t → O2Upd t (t.comp c) (f (t.comp c))) : O2R s (t.modComp c f) :=
  h.trans ⟨⟨[], by simp [St.modComp]⟩, ⟨[], rfl, fun _ h => absurd h (by simp)⟩, fun hs => hs.modComp c f (hf hs)⟩

@[st_pres ↓] theorem O2R.modComp_keep {s t : St} (h : O2R s t) (c : Nat) (f : Comp → Comp)
    (hf : ∀ y : Comp, (f y).htab = y.htab ∧ (f y).globals = y.globals ∧ (f y).cache = y.cache) :
    O2R s (t.modComp c f) :=
  h.modComp c f fun _ => O2Upd.keep (hf _).1 (hf _).2.1 (hf _).2.2

theorem o2_low_zero : (-100 : Int) ≤ 0 := by decide
theorem o2_low_self : (-100 : Int) ≤ -100 := by decide

/-- the side condition of `O2R.addH`: the new record has priority `0` or `-100` -/
macro_rules | `(tactic| st_pres_side) => `(tactic| first | exact o2_low_zero | exact o2_low_self | fail)

/-- `addHandler` of a declared record: the tables of the owner gain the declared id `y`, the flag is none of `O2S`'s business -/
theorem O2R.addHandler {s t : St} (h : O2R s t) (y : Nat) (hy : y < t.hs.length) : O2R s (t.addHandler y) := by
  refine (St.addHandler_phases (P := fun a => O2R s a ∧ a.hs.length = t.hs.length) (Q := fun a => O2R s a) t y ⟨h, rfl⟩
    (fun a ha => ⟨?_, ha.2⟩) (fun a k ha => ⟨?_, ha.2⟩) fun a ha => ha.1.modComp_keep _ _ fun _ => ⟨rfl, rfl, rfl⟩)
  · exact ha.1.modComp _ _ fun _ => ⟨fun _ hp => .inl hp,
      fun g hg => ((mem_addUniq _ _ _).1 hg).imp_right fun (e : g = y) => e ▸ ha.2 ▸ hy, fun _ hp => .inl hp⟩
  · exact ha.1.modComp _ _ fun _ => ⟨fun p hp => ((mem_addUniq _ _ _).1 hp).imp_right fun (e : p = (k, y)) => e ▸ ha.2 ▸ hy,
      fun _ hg => .inl hg, fun _ hp => .inl hp⟩

theorem o2_rmKeys_sub (h : Nat) : ∀ (ks : List HKey) (htab : List (HKey × Nat)) (x : HKey × Nat),
    x ∈ (rmKeys h htab ks).2 → x ∈ htab := fun ks htab _ hx => (rmKeys_sublist h ks htab).subset hx

@[st_pres ↓] theorem O2R.removeHandler {s t : St} (h : O2R s t) (y : Nat) (n : Option Name) :
    O2R s ((t.removeHandler y n).2) := by
  unfold St.removeHandler
  dsimp only
  refine O2R.modComp_keep ?_ _ _ (fun _ => ⟨rfl, rfl, rfl⟩)
  refine O2R.modComp ?_ _ _ (fun _ => ⟨fun p hp => .inl ((rmKeys_sublist _ _ _).subset hp), fun p hp => .inl hp, fun p hp => .inl hp⟩)
  split
  · exact O2R.modComp h _ _ (fun _ => ⟨fun p hp => .inl hp, fun g hg => .inl (List.mem_of_mem_erase hg), fun p hp => .inl hp⟩)
  · exact h

@[st_pres ↓] theorem O2R.cacheRefresh {s t : St} (h : O2R s t) (r : Nat) : O2R s (t.cacheRefresh r) := by
  unfold St.cacheRefresh
  split
  · exact O2R.modComp h _ _ (fun _ => ⟨fun p hp => .inl hp, fun p hp => .inl hp, fun p hp => absurd hp (by simp)⟩)
  · exact h

@[st_pres ↓] theorem O2R.fireContext {s t : St} (h : O2R s t) (r e : Nat) :
    O2R s (t.fireContext r e) :=
  St.fireContext_pres t r e h (fun _ _ h => by st_pres) (fun _ _ h => by st_pres) (fun _ _ h => by st_pres)

@[st_pres ↓] theorem O2R.fireRaw {s t : St} (h : O2R s t) (self e : Nat) (chans : List Chan) (prio : Int) :
    O2R s (t.fireRaw self e chans prio) := by
  st_pres_unfold St.fireRaw

@[st_pres ↓] theorem O2R.childEv {s t : St} (h : O2R s t) (p sfx : Nat) :
    O2R s (t.childEv p sfx) := by
  st_pres_unfold St.childEv

@[st_pres ↓] theorem O2R.fireChild {s t : St} (h : O2R s t) (self p sfx : Nat) (chans : List Chan) :
    O2R s (t.fireChild self p sfx chans) := by
  st_pres_unfold St.fireChild

@[st_pres ↓] theorem O2R.inform {s t : St} (h : O2R s t) (e : Nat) (force : Bool) :
    O2R s (t.inform e force) := by
  st_pres_unfold St.inform

@[st_pres ↓] theorem O2R.setValue {s t : St} (h : O2R s t) (e : Nat) (x : VItem) :
    O2R s (t.setValue e x) := by
  st_pres_unfold St.setValue

@[st_pres ↓] theorem O2R.fireTmplEv {s t : St} (h : O2R s t) (self : Nat) (ev : Ev) (target : Option Chan) (prio : Int) :
    O2R s (t.fireTmplEv self ev target prio) := by
  st_pres_unfold St.fireTmplEv

@[st_pres ↓] theorem O2R.effectDone1 {s t : St} (h : O2R s t) (r e : Nat) (announce : Bool) :
    O2R s ((t.effectDone1 r e announce).2) :=
  St.effectDone1_pres t r e announce h (fun _ => h.modEv _ _) (fun _ _ h => h.fireChild _ _ _ _) (fun _ h => h.modEv _ _)

@[st_pres ↓] theorem O2R.eventDonePre {s t : St} (h : O2R s t) (r e : Nat) (err : Bool) :
    O2R s ((t.eventDonePre r e err).2) := by
  st_pres_unfold St.eventDonePre

@[st_pres ↓] theorem O2R.registerTask {s t : St} (h : O2R s t) (c : Nat) (x : Task) :
    O2R s (t.registerTask c x) := by
  st_pres_unfold St.registerTask

@[st_pres ↓] theorem O2R.unregisterTask {s t : St} (h : O2R s t) (c : Nat) (x : Task) :
    O2R s (t.unregisterTask c x) := by
  st_pres_unfold St.unregisterTask

@[st_pres ↓] theorem O2R.reduceTimeLeft {s t : St} (h : O2R s t) (e : Nat) (d : Int) :
    O2R s (t.reduceTimeLeft e d) := by
  st_pres_unfold St.reduceTimeLeft

@[st_pres ↓] theorem O2R.registerPre {s t : St} (h : O2R s t) (c p : Nat) :
    O2R s ((t.registerPre c p).2) :=
  St.registerPre_pres h c p (fun _ => by st_pres) (fun _ _ h => by st_pres) (fun _ h => by st_pres)
    (fun _ _ _ _ h => by st_pres)

@[st_pres ↓] theorem O2R.registerFin {s t : St} (h : O2R s t) (c : Nat) :
    O2R s (t.registerFin c) := by
  st_pres_unfold St.registerFin

@[st_pres ↓] theorem O2R.unregister {s t : St} (h : O2R s t) (c : Nat) :
    O2R s (t.unregister c) := by
  st_pres_unfold St.unregister

@[st_pres ↓] theorem O2R.prepUnregPre {s t : St} (h : O2R s t) (c : Nat) :
    O2R s (t.prepUnregPre c) := by
  st_pres_unfold St.prepUnregPre

@[st_pres ↓] theorem O2R.prepUnregFin {s t : St} (h : O2R s t) (c : Nat) :
    O2R s (t.prepUnregFin c) := by
  st_pres_unfold St.prepUnregFin

@[st_pres ↓] theorem O2R.actFire {s t : St} (h : O2R s t) (self i : Nat) (target : Option Chan) (prio : Int) (cancel : Bool) :
    O2R s (t.actFire self i target prio cancel) := by
  st_pres_unfold St.actFire

@[st_pres ↓] theorem O2R.actStopEv {s t : St} (h : O2R s t) (ev : Option Nat) :
    O2R s (t.actStopEv ev) := by
  st_pres_unfold St.actStopEv

@[st_pres ↓] theorem O2R.timerReset {s t : St} (h : O2R s t) (i : Nat) :
    O2R s (t.timerReset i) := by
  st_pres_unfold St.timerReset

@[st_pres ↓] theorem O2R.timerCreate {s t : St} (h : O2R s t) (i : Nat) :
    O2R s (t.timerCreate i) := by
  st_pres_unfold St.timerCreate

@[st_pres ↓] theorem O2R.timerTick {s t : St} (h : O2R s t) (i e : Nat) :
    O2R s (t.timerTick i e) :=
  St.timerTick_pres t i e h (fun _ _ h => h.reduceTimeLeft _ _) (fun _ => (h.addEv _).modTimer _ _)
    (fun _ _ _ _ h => h.fireRaw _ _ _ _) (fun _ _ h => h.modTimer _ _) (fun _ _ h => h.unregister _)

@[st_pres ↓] theorem O2R.startWait {s t : St} (h : O2R s t) (w : Nat) : O2R s (t.startWait w) :=
  St.startWait_pres t w h (fun _ _ => by st_pres)
    (fun _ _ _ _ _ h => (h.addH _ o2_low_zero).addHandler _ (by rw [St.w6_addH_hs_length]; exact Nat.lt_succ_self _))
    (fun _ _ _ _ _ h => by st_pres)

@[st_pres ↓] theorem O2R.stopBegin {s t : St} (h : O2R s t) (c : Nat) :
    O2R s (t.stopBegin c) := by
  st_pres_unfold St.stopBegin

@[st_pres ↓] theorem O2R.stopSetCode {s t : St} (h : O2R s t) (r : Nat) (code : Code) :
    O2R s (t.stopSetCode r code) := by
  st_pres_unfold St.stopSetCode

@[st_pres ↓] theorem O2R.genCall {s t : St} (h : O2R s t) (owner i : Nat) (target : Option Chan) (timeout : Option Nat) :
    O2R s (t.genCall owner i target timeout) := by
  st_pres_unfold St.genCall

@[st_pres ↓] theorem O2R.genWait {s t : St} (h : O2R s t) (owner : Nat) (name : Name) (target : Option Chan) (timeout : Option Nat) :
    O2R s (t.genWait owner name target timeout) := by
  st_pres_unfold St.genWait

@[st_pres ↓] theorem O2R.resumeGenPre {s t : St} (h : O2R s t) (g : Nat) (silent : Bool) :
    O2R s (t.resumeGenPre g silent) := by
  st_pres_unfold St.resumeGenPre

@[st_pres ↓] theorem O2R.stopIteration {s t : St} (h : O2R s t) (r : Nat) (x : Task) :
    O2R s ((t.stopIteration r x).2) :=
  St.stopIteration_pres t r x ((h.modEv _ _).unregisterTask _ _) (fun _ _ h => h.registerTask _ _) (fun _ h => h.inform _ _)

@[st_pres ↓] theorem O2R.fireException {s t : St} (h : O2R s t) (r e : Nat) :
    O2R s (t.fireException r e) := by
  st_pres_unfold St.fireException

@[st_pres ↓] theorem O2R.errorBranch {s t : St} (h : O2R s t) (r : Nat) (x : Task) (resumed : Bool) :
    O2R s ((t.errorBranch r x resumed).2) :=
  St.errorBranch_pres t r x resumed (h.unregisterTask _ _) (fun _ h => h.modEv _ _) (fun _ h => h.modEv _ _)
    (fun _ _ h => h.inform _ _) (fun _ _ h => h.fireChild _ _ _ _) (fun _ h => h.fireException _ _) (fun _ _ h => h.modEv _ _)

@[st_pres ↓] theorem O2R.ownSub {s t : St} (h : O2R s t) (r : Nat) (x : Task) (w : Nat) :
    O2R s (t.ownSub r x w) := by
  st_pres_unfold St.ownSub

@[st_pres ↓] theorem O2R.setValueOpt {s t : St} (h : O2R s t) (e : Nat) (v : Option Nat) :
    O2R s (t.setValueOpt e v) := by
  st_pres_unfold St.setValueOpt

@[st_pres ↓] theorem O2R.parentSub {s t : St} (h : O2R s t) (r : Nat) (x : Task) (p w2 : Nat) (viaThrow : Bool) :
    O2R s (t.parentSub r x p w2 viaThrow) := by
  st_pres_unfold St.parentSub

@[st_pres ↓] theorem O2R.parentPlain {s t : St} (h : O2R s t) (r : Nat) (x : Task) (p : Nat) (v : Option Nat) (viaThrow : Bool) :
    O2R s (t.parentPlain r x p v viaThrow) := by
  st_pres_unfold St.parentPlain

@[st_pres ↓] theorem O2R.onWaitEvent {s t : St} (h : O2R s t) (w e : Nat) :
    O2R s ((t.onWaitEvent w e).2) := by
  st_pres_unfold St.onWaitEvent

@[st_pres ↓] theorem O2R.onWaitDone {s t : St} (h : O2R s t) (w e : Nat) :
    O2R s ((t.onWaitDone w e).2) :=
  St.onWaitDone_pres t w e h (fun _ _ _ h => h.removeHandler _ _) (fun _ _ => (h.modWait _ _).registerTask _ _)

@[st_pres ↓] theorem O2R.onWaitTick {s t : St} (h : O2R s t) (w : Nat) :
    O2R s ((t.onWaitTick w).2) :=
  St.onWaitTick_pres t w h (fun _ _ _ h => h.removeHandler _ _) (fun _ _ _ => ((h.modWait _ _).addGen _).registerTask _ _)
    (h.modWait _ _)

@[st_pres ↓] theorem O2R.onFallbackGE {s t : St} (h : O2R s t) (e : Nat) :
    O2R s ((t.onFallbackGE e).2) := by
  st_pres_unfold St.onFallbackGE

@[st_pres ↓] theorem O2R.dispComplete {s t : St} (h : O2R s t) (e : Nat) (ev : Ev) :
    O2R s (t.dispComplete e ev) := by
  st_pres_unfold St.dispComplete

@[st_pres ↓] theorem O2R.dispGE {s t : St} (h : O2R s t) (r e remaining : Nat) (name : Name) :
    O2R s (t.dispGE r e remaining name) := by
  st_pres_unfold St.dispGE

@[st_pres ↓] theorem O2R.handlerRaised {s t : St} (h : O2R s t) (r e : Nat) :
    O2R s (t.handlerRaised r e) := by
  st_pres_unfold St.handlerRaised

@[st_pres ↓] theorem O2R.applyValue {s t : St} (h : O2R s t) (r e : Nat) (value : Outcome) :
    O2R s (t.applyValue r e value) := by
  st_pres_unfold St.applyValue

@[st_pres ↓] theorem O2R.geTasksCheck {s t : St} (h : O2R s t) (r e : Nat) :
    O2R s (t.geTasksCheck r e) := by
  st_pres_unfold St.geTasksCheck

@[st_pres ↓] theorem O2R.flushBegin {s t : St} (h : O2R s t) (r : Nat) :
    O2R s (t.flushBegin r) := by
  st_pres_unfold St.flushBegin

@[st_pres ↓] theorem O2R.tickGenerate {s t : St} (h : O2R s t) (c : Nat) :
    O2R s (t.tickGenerate c) := by
  st_pres_unfold St.tickGenerate

@[st_pres ↓] theorem O2R.runBegin {s t : St} (h : O2R s t) (c : Nat) :
    O2R s (t.runBegin c) := by
  st_pres_unfold St.runBegin

@[st_pres ↓] theorem O2R.runEnd {s t : St} (h : O2R s t) (c : Nat) :
    O2R s ((t.runEnd c).2) := by
  st_pres_unfold St.runEnd

theorem o2_sorted_lt {t : St} (h : O2S t) (r : Nat) (name : Name) (chans : List Chan) :
    ∀ x ∈ t.q2sorted r name chans, x < t.hs.length :=
  fun _ hx => fresh_of_tables t h.hid h.gid (St.q2sorted_fresh .. ▸ hx)

theorem o2_prio_low {t : St} (h : O2S t) {x : Nat} (hx : x < t.hs.length) : t.q2prio x ≥ -100 := by
  unfold St.q2prio
  rw [List.getD_eq_getElem?_getD, List.getElem?_eq_getElem hx]
  exact h.low _ (List.getElem_mem hx)

theorem o2_computeHandlers_desc {t : St} (h : O2S t) (r : Nat) (name : Name) (chans : List Chan) :
    DescIn (t.computeHandlers r name chans).2 (t.computeHandlers r name chans).1 := by
  have hin := o2_sorted_lt h r name chans
  refine ⟨q2_computeHandlers_desc t r name chans hin (fun _ x hx => o2_prio_low h (hin x hx)), ?_⟩
  rcases q2_computeHandlers t r name chans with ⟨h1, h2, _, _⟩ | ⟨h1, hd, h2, _⟩
  · rw [h1, h2]; exact hin
  · rw [h1, h2]
    intro x hx
    rw [List.length_append]
    rcases List.mem_append.mp hx with h3 | h3
    · have := hin x h3; omega
    · rw [List.mem_singleton.mp h3]; simp

theorem o2_computeHandlers_self (t : St) (r : Nat) (name : Name) (chans : List Chan) :
    O2R t (t.computeHandlers r name chans).2 := by
  -- up to the fallback record the helpers do it; storing the list in the cache keeps `O2S` because the list is `DescIn`
  have hfb : O2R t (t.fbRes r name chans).2 := by
    unfold St.fbRes
    st_pres
  refine ⟨hfb.hs, hfb.log, fun hs => ?_⟩
  have hd := o2_computeHandlers_desc hs r name chans
  rw [St.computeHandlers_eq] at hd ⊢
  refine (hfb.inv hs).modComp _ _ ⟨fun p hp => .inl hp, fun p hp => .inl hp, ?_⟩
  intro p hp
  rcases List.mem_cons.mp hp with h1 | h1
  · right; rw [h1]; exact hd
  · exact .inl h1

@[st_pres ↓] theorem O2R.computeHandlers {s t : St} (h : O2R s t) (r : Nat) (name : Name) (chans : List Chan) :
    O2R s (t.computeHandlers r name chans).2 := h.trans (o2_computeHandlers_self t r name chans)

@[st_pres ↓] theorem O2R.lookupHandlers {s t : St} (h : O2R s t) (r : Nat) (name : Name) (chans : List Chan) :
    O2R s ((t.lookupHandlers r name chans).2) := by
  st_pres_unfold St.lookupHandlers

theorem o2_lookupHandlers_desc {t : St} (h : O2S t) (r : Nat) (name : Name) (chans : List Chan) :
    DescIn (t.lookupHandlers r name chans).2 (t.lookupHandlers r name chans).1 := by
  rcases t.lookupHandlers_cases r name chans with ⟨l, hm, he⟩ | he <;> rw [he]
  · exact h.cache r _ l hm
  · exact o2_computeHandlers_desc h r name chans

@[st_pres ↓] theorem O2R.actStep {s t : St} (h : O2R s t) (ctx : HCtx) (a : Act) : O2R s (actStep t ctx a).st := by
  cases a
  case addH x =>
    unfold CV.Core.actStep; dsimp only
    split
    · rename_i hc
      exact O2R.addHandler h x (St.plain_lt (plain_of_code0 t x hc))
    · exact h
  all_goals (unfold CV.Core.actStep; (try dsimp only); st_pres)

@[st_pres ↓] theorem O2R.updateRootAll (s : St) : ∀ (fuel : Nat) (todo : List Nat) (root : Nat) (t : St),
    O2R s t → O2R s (St.updateRootAll fuel todo root t) :=
  fun fuel todo root t h => St.updateRootAll_pres root (fun _ _ h => by st_pres) fuel todo t h

/-- the operations that log a `D` entry or the `I` entry of a handler call: those of the arms `.dispatcher`, `.invoke` -/
def O2R.bad : List Op := [.logInv, .dispatchPre]

theorem O2R.keeps (s : St) (o : Op) (ho : o ∉ O2R.bad) : o.Keeps (O2R s) := by
  cases o
  case logInv | dispatchPre => exact absurd (by decide) ho
  all_goals (intro t h; intros; st_pres)

theorem stepFrame_o2r (c : Cfg) (k : List Frame) (f : Frame) (hf : avoids f.ops O2R.bad = true) :
    O2R c.st (stepFrame c k f).st :=
  stepFrame_pres_avoiding c k (O2R.keeps _) f hf (O2R.refl _)

theorem unwind_o2r (c : Cfg) (k : List Frame) (ex : Exn) (f : Frame) : O2R c.st (unwind c k ex f).st :=
  unwind_pres_avoiding c k (O2R.keeps _) ex f rfl (O2R.refl _)

/- Five classifiers of frames in the C02 files.  `Frame.o2special`: arms that push loop or call frames (handler order).
   `Frame.o2loopArm`: arms that push `.dispatcher` / `.dispatchLoop` frames (pass order); `Frame.o2isDisp`: being one of
   these two frames; `Frame.o2isDispatcher`: being `.dispatcher` alone, the frame that may only be on top.
   `Frame.q2dispatching` (InvQueue.lean): frames under which an event is taken from a queue or handed to a handler, for
   `q2_no_reentrant`. -/

/-- the event whose handler loop or handler call the frame belongs to -/
def Frame.o2ev : Frame → Option Nat
  | .hLoop _ e _ _ _ => some e
  | .hAfter _ e _ _ _ => some e
  | .hApply _ e _ _ _ => some e
  | .invoke _ _ e => some e
  | _ => none

/-- the same, with the `.dispatcher` frame of the event counted in -/
def Frame.o2dev : Frame → Option Nat
  | .dispatcher _ e _ => some e
  | f => f.o2ev

/-- `_dispatcher` and the three frames of its handler loop: the arms that push loop or call frames -/
def Frame.o2special : Frame → Bool
  | .dispatcher .. | .hLoop .. | .hAfter .. | .hApply .. => true
  | _ => false

/-- A loop or call frame of an event `e` is pushed only by `_dispatcher(e)` and by the loop frames of `e` itself.  (Each
constructor of `Frame.Pushes` writes its frames out: a pushed frame is plain, or it carries the event of the arm's own
frame; both by `rfl`.) -/
theorem Frame.Pushes.o2ev {c : Cfg} {f : Frame} {fs : List Frame} (h : f.Pushes c fs) :
    ∀ g ∈ fs, g.o2ev = none ∨ (f.o2special = true ∧ g.o2ev = f.o2dev) := by
  cases h
  case actsCall hc | stepGenCall hc =>
    cases hc <;> exact List.forall_mem_cons.2 ⟨.inl rfl, List.forall_mem_cons.2 ⟨.inl rfl, List.forall_mem_nil _⟩⟩
  all_goals repeat' first
    | exact List.forall_mem_nil _ | exact .inl rfl | exact .inr ⟨rfl, rfl⟩ | refine List.forall_mem_cons.2 ⟨?_, ?_⟩

def o2plain (fs : List Frame) : Bool := fs.all (fun g => g.o2ev.isNone)

theorem Frame.Pushes.o2plain {c : Cfg} {f : Frame} {fs : List Frame} (h : f.Pushes c fs) (hf : f.o2special = false) :
    o2plain fs = true :=
  List.all_eq_true.2 fun g hg => by
    rcases h.o2ev g hg with he | ⟨hs, _⟩
    · rw [he]; rfl
    · rw [hf] at hs; cases hs

structure O2G (k : List Frame) (s : St) (c' : Cfg) : Prop where
  rel : O2R s c'.st
  push : ∃ fs, c'.stack = fs ++ k ∧ o2plain fs = true

/-- every arm but those of `_dispatcher`, its handler loop and the handler call -/
theorem stepFrame_o2 (c : Cfg) (k : List Frame) (f : Frame) (hs : f.o2special = false)
    (hf : avoids f.ops O2R.bad = true) : O2G k c.st (stepFrame c k f) :=
  ⟨stepFrame_o2r c k f hf, stepFrame_all c k f fun _ hp => hp.o2plain hs⟩

theorem unwind_o2 (c : Cfg) (k : List Frame) (ex : Exn) (f : Frame) : O2G k c.st (unwind c k ex f) :=
  ⟨unwind_o2r c k ex f, unwind_all c k ex f fun _ => rfl⟩

end CV.Core
