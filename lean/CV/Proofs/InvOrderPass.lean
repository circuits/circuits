import CV.Proofs.InvQueue
import CV.Proofs.CoreStack
/-
C02, machine level: the PASS ORDER on the machine's own log: `passOrderOk` holds of it (`o2_passOrderOk`).

`passOrderOk` (CV/Model/Core/LogSpec.lean) replays the log with one abstract queue: `F` entries
append to `pending`, a `B` entry starts a pass (snapshot sorted by priority, then fire order), every
`D` entry must be the head of what is left of the pass.  The relation `O2PR` (queue of the root and replay state move
together) is defined in CV/Proofs/InvQueueBase.lean and walked through the helpers there, together with `QRel`; first come
the lemmas `O2PR.<helper>`, which state that walk helper by helper, and the pass-neutral arms: `O2PR` survives every arm but `.flush`,
`.dispatchLoop`, `.dispatcher`, `.register`, `.invoke`, `.updateRoot` (`stepFrame_o2pr`).  Only the first two push
`_dispatcher` / loop frames (`Frame.Pushes.o2nodisp`); the other arms yield `O2PG` (`stepFrame_o2p`).

Then the six arms, for the invariant `O2PI c` of guarded runs (`ReachSR`: every step is taken from a configuration that has
the single root 0 and does not drain a non-empty deque):
  * every queue satisfies the layer invariant `QInv`;
  * the replay state of the log (`o2pass`) corresponds to the queue of component 0
    (`O2Corr`): it is `ok`, `pending` is the deque, `count` the counter, and `expected` is the heap
    in `(prio, seq)` order - preceded by the event just popped while its `_dispatcher` frame is
    still on top of the stack; the replay follows the layer operations one by one (`O2Corr.fires`,
    `.begin`, `.pop`, `.disp`), the arms only say which operation they perform;
  * `_dispatcher` frames occur only on top of the stack, with no exception pending; dispatch loops
    run on component 0.
-/
namespace CV.Core

/- The helper lemmas of `O2PR` by name: corollaries of the joint walk `QFR` of CV/Proofs/InvQueueBase.lean (the arms go
   through `QFR.keeps`, not through these). -/

theorem O2PR.addHandler {s t : St} (h : O2PR s t) (y : Nat) : O2PR s (t.addHandler y) :=
  h.trans (QFR.addHandler (.refl t) y).2

theorem O2PR.fireRaw {s t : St} (h : O2PR s t) (self e : Nat) (chans : List Chan) (prio : Int) :
    O2PR s (t.fireRaw self e chans prio) :=
  h.trans (QFR.fireRaw (.refl t) self e chans prio).2

theorem O2PR.inform {s t : St} (h : O2PR s t) (e : Nat) (force : Bool) :
    O2PR s (t.inform e force) :=
  h.trans (QFR.inform (.refl t) e force).2

theorem O2PR.prepUnregPre {s t : St} (h : O2PR s t) (c : Nat) :
    O2PR s (t.prepUnregPre c) :=
  h.trans (QFR.prepUnregPre (.refl t) c).2

theorem O2PR.registerTask {s t : St} (h : O2PR s t) (c : Nat) (x : Task) :
    O2PR s (t.registerTask c x) :=
  h.trans (QFR.registerTask (.refl t) c x).2

theorem O2PR.removeHandler {s t : St} (h : O2PR s t) (y : Nat) (n : Option Name) :
    O2PR s ((t.removeHandler y n).2) :=
  h.trans (QFR.removeHandler (.refl t) y n).2

theorem O2PR.setValue {s t : St} (h : O2PR s t) (e : Nat) (x : VItem) :
    O2PR s (t.setValue e x) :=
  h.trans (QFR.setValue (.refl t) e x).2

theorem O2PR.startWait {s t : St} (h : O2PR s t) (w : Nat) :
    O2PR s (t.startWait w) :=
  h.trans (QFR.startWait (.refl t) w).2

theorem O2PR.timerTick {s t : St} (h : O2PR s t) (i e : Nat) :
    O2PR s (t.timerTick i e) :=
  h.trans (QFR.timerTick (.refl t) i e).2

theorem O2PR.unregister {s t : St} (h : O2PR s t) (c : Nat) :
    O2PR s (t.unregister c) :=
  h.trans (QFR.unregister (.refl t) c).2

theorem O2PR.unregisterTask {s t : St} (h : O2PR s t) (c : Nat) (x : Task) :
    O2PR s (t.unregisterTask c x) :=
  h.trans (QFR.unregisterTask (.refl t) c x).2

theorem stepFrame_o2pr (c : Cfg) (k : List Frame) (f : Frame) (hf : avoids f.ops O2PR.bad = true) :
    O2PR c.st (stepFrame c k f).st :=
  (stepFrame_pres_avoiding c k (QFR.keeps _) f hf (QFR.refl _)).2

theorem unwind_o2pr (c : Cfg) (k : List Frame) (ex : Exn) (f : Frame) : O2PR c.st (unwind c k ex f).st :=
  (unwind_pres_avoiding c k (QFR.keeps _) ex f rfl (QFR.refl _)).2

/-- a `.dispatcher` or `.dispatchLoop` frame: what only the arms `Frame.o2loopArm` push -/
def Frame.o2isDisp : Frame → Bool
  | .dispatcher .. => true
  | .dispatchLoop _ => true
  | _ => false

def o2nodisp (fs : List Frame) : Bool := fs.all (fun g => !g.o2isDisp)

/-- `_flush` and the loop of `dispatchEvents`: the arms that push `_dispatcher` / loop frames -/
def Frame.o2loopArm : Frame → Bool
  | .flush _ | .dispatchLoop _ => true
  | _ => false

theorem Frame.Pushes.o2nodisp {c : Cfg} {f : Frame} {fs : List Frame} (h : f.Pushes c fs) (hf : f.o2loopArm = false) :
    o2nodisp fs = true := by
  cases h
  case actsCall hc | stepGenCall hc => cases hc <;> rfl
  case dispatchLoop | flush => cases hf
  all_goals rfl

structure O2PG (k : List Frame) (s : St) (c' : Cfg) : Prop where
  rel : O2SR s → ∃ fires, O2PFires s c'.st fires
  push : ∃ fs, c'.stack = fs ++ k ∧ o2nodisp fs = true

theorem stepFrame_o2p_push (c : Cfg) (k : List Frame) (f : Frame) (hd : f.o2loopArm = false) :
    ∃ fs, (stepFrame c k f).stack = fs ++ k ∧ o2nodisp fs = true :=
  stepFrame_all c k f fun _ hp => hp.o2nodisp hd

theorem stepFrame_o2p (c : Cfg) (k : List Frame) (f : Frame) (hd : f.o2loopArm = false)
    (hf : avoids f.ops O2PR.bad = true) : O2PG k c.st (stepFrame c k f) :=
  ⟨fun hs => (stepFrame_o2pr c k f hf hs).2, stepFrame_o2p_push c k f hd⟩

theorem unwind_o2p (c : Cfg) (k : List Frame) (ex : Exn) (f : Frame) : O2PG k c.st (unwind c k ex f) :=
  ⟨fun hs => (unwind_o2pr c k ex f hs).2, unwind_all c k ex f fun _ => rfl⟩

def QItem.toP (x : QItem) : PItem := ⟨x.prio, x.seq, x.ev⟩

/-- the events of a heap in the order `heappop` returns them -/
def o2order (heap : List QItem) : List Nat := (heap.mergeSort (fun a b => a.le b)).map (·.ev)

theorem o2order_nil : o2order [] = [] := by simp [o2order]

/-- the snapshot `passStep` sorts is the deque the machine moves into the heap -/
theorem o2order_begin (queue : List QItem) :
    ((queue.map QItem.toP).mergeSort (fun a b => a.le b)).map (·.ev) = o2order queue := by
  unfold o2order
  rw [← List.map_mergeSort (r := fun a b => QItem.le a b) (f := QItem.toP) (fun a _ b _ => rfl), List.map_map]
  rfl

theorem o2order_pop {heap : List QItem} {it : QItem} (hne : heap.Pairwise (fun a b => a.seq ≠ b.seq))
    (hit : it ∈ minCands heap) : o2order heap = it.ev :: o2order (heap.erase it) := by
  have hmem := (mem_minCands hit).1
  have hle := minCands_le hit
  have hsorted : (heap.erase it).mergeSort (fun a b => a.le b) |>.Pairwise (fun a b => a.le b = true) := by
    have := List.pairwise_mergeSort (le := fun a b : QItem => a.le b)
      (fun a b c h1 h2 => QItem.le_trans h1 h2) (fun a b => by simpa using QItem.le_total a b) (heap.erase it)
    exact this.imp (fun h => by simpa using h)
  have hperm : (it :: (heap.erase it).mergeSort (fun a b => a.le b)).Perm heap :=
    ((List.mergeSort_perm _ _).cons it).trans (List.perm_cons_erase hmem).symm
  have hs : (it :: (heap.erase it).mergeSort (fun a b => a.le b)).Pairwise (fun a b => a.le b = true) := by
    rw [List.pairwise_cons]
    refine ⟨?_, hsorted⟩
    intro x hx
    exact hle x (List.mem_of_mem_erase ((List.mergeSort_perm _ _).subset hx))
  have := sorted_eq_mergeSort hperm hne hs
  unfold o2order
  rw [← this]
  rfl

structure O2Corr (P : PassSt) (q : EQ) (exp : List Nat) : Prop where
  ok : P.ok = true
  pending : P.pending = q.queue.map QItem.toP
  count : P.count = q.counter
  expected : P.expected = exp

theorem O2Corr.fires {exp : List Nat} : ∀ (fires : List (Nat × Int)) (P : PassSt) (q : EQ), O2Corr P q exp →
    O2Corr (fires.foldl pfire P) (runOps q (fires.map fun f => QOp.app f.1 f.2)).1 exp ∧
    (runOps q (fires.map fun f => QOp.app f.1 f.2)).1.heap = q.heap
  | [], _, _, h => ⟨h, rfl⟩
  | f :: fires, P, q, h => by
    have h1 : O2Corr (pfire P f) (q.append f.1 f.2) exp := by
      refine ⟨h.ok, ?_, ?_, h.expected⟩
      · simp only [pfire, EQ.append, List.map_append, List.map_cons, List.map_nil, h.pending, h.count]
        rfl
      · simp only [pfire, EQ.append, h.count]
    have h2 := O2Corr.fires fires (pfire P f) (q.append f.1 f.2) h1
    simp only [List.map_cons, List.foldl_cons, runOps, QOp.apply]
    exact ⟨h2.1, h2.2.trans rfl⟩

theorem O2Corr.disp {P : PassSt} {q : EQ} {e : Nat} {exp : List Nat} (h : O2Corr P q (e :: exp)) :
    O2Corr (passStep P (.disp e)) q exp := by
  have : passStep P (.disp e) = { P with expected := exp } := by
    unfold passStep
    rw [h.expected]
    simp
  rw [this]
  exact ⟨h.ok, h.pending, h.count, rfl⟩

theorem O2Corr.begin {P : PassSt} {q : EQ} (hq : QInv q) (hb : q.batch = 0) (h : O2Corr P q (o2order q.heap)) :
    O2Corr (passStep P (.batch q.queue.length)) q.begin (o2order q.begin.heap) := by
  have hexp0 : P.expected = [] := by rw [h.expected, hq.heap_nil_of_batch hb, o2order_nil]
  have hlen : P.pending.length = q.queue.length := by rw [h.pending, List.length_map]
  have hstep : passStep P (.batch q.queue.length) =
      { P with expected := (P.pending.mergeSort (fun a b => a.le b)).map (·.ev), pending := [] } := by
    unfold passStep
    simp [hexp0, hlen]
  rw [hstep, begin_of_batch_zero hq.batch_eq hb]
  refine ⟨h.ok, rfl, h.count, ?_⟩
  show (P.pending.mergeSort (fun a b => a.le b)).map (·.ev) = _
  rw [h.pending, o2order_begin]

theorem O2Corr.pop {P : PassSt} {q q' : EQ} {it : QItem} {pick : List QItem → Option QItem} (hq : QInv q)
    (h : O2Corr P q (o2order q.heap)) (hp : q.pop pick = some (it, q')) : O2Corr P q' (it.ev :: o2order q'.heap) := by
  obtain ⟨_, hit, rfl⟩ := pop_spec hp
  exact ⟨h.ok, h.pending, h.count, by rw [h.expected]; exact o2order_pop hq.heap_seq_ne hit⟩

theorem o2pass_of_log {s t : St} (h : t.log = s.log) : o2pass t = o2pass s := by
  unfold o2pass; rw [h]

/-- a `.dispatcher` frame (without `.dispatchLoop`, unlike `Frame.o2isDisp`): it occurs only on top of the stack -/
def Frame.o2isDispatcher : Frame → Bool
  | .dispatcher .. => true
  | _ => false

/-- what `expected` must be: the heap order, preceded by the popped event while its
    `_dispatcher` frame is on top -/
def o2exp (c : Cfg) : List Nat :=
  match c.stack with
  | .dispatcher _ e _ :: _ => e :: o2order (c.st.comp 0).eq.heap
  | _ => o2order (c.st.comp 0).eq.heap

theorem o2exp_of_top {c : Cfg} {f : Frame} {k : List Frame} (hst : c.stack = f :: k) (hf : f.o2isDispatcher = false) :
    o2exp c = o2order (c.st.comp 0).eq.heap := by
  unfold o2exp; rw [hst]
  cases f <;> first | rfl | (simp [Frame.o2isDispatcher] at hf)

theorem o2exp_of_nil {c : Cfg} (hst : c.stack = []) : o2exp c = o2order (c.st.comp 0).eq.heap := by
  unfold o2exp; rw [hst]

structure O2PI (c : Cfg) : Prop where
  qinv : Q2InvAll c.st
  corr : O2Corr (o2pass c.st) (c.st.comp 0).eq (o2exp c)
  tail : (c.stack.tail.all fun g => !g.o2isDispatcher) = true
  top : ∀ r e rem k, c.stack = .dispatcher r e rem :: k → c.exn = none ∧ r = 0
  loops : ∀ r, Frame.dispatchLoop r ∈ c.stack → r = 0

theorem o2nodisp_mem {fs : List Frame} (h : o2nodisp fs = true) {g : Frame} (hg : g ∈ fs) : g.o2isDisp = false := by
  unfold o2nodisp at h
  rw [List.all_eq_true] at h
  simpa using h g hg

theorem Frame.o2isDispatcher_of {g : Frame} (h : g.o2isDisp = false) : g.o2isDispatcher = false := by
  cases g <;> first | rfl | (simp [Frame.o2isDisp] at h)

theorem Frame.o2notLoop_of {g : Frame} (h : g.o2isDisp = false) (r : Nat) : g ≠ .dispatchLoop r := by
  intro he; rw [he] at h; simp [Frame.o2isDisp] at h

theorem O2PI.stack_generic {c c' : Cfg} {f : Frame} {k fs : List Frame} (hi : O2PI c) (hst : c.stack = f :: k)
    (hst' : c'.stack = fs ++ k) (hfs : o2nodisp fs = true) :
    (c'.stack.all fun g => !g.o2isDispatcher) = true ∧ (∀ r, Frame.dispatchLoop r ∈ c'.stack → r = 0) := by
  have htail := hi.tail
  rw [hst, List.tail_cons, List.all_eq_true] at htail
  refine ⟨?_, ?_⟩
  · rw [hst', List.all_eq_true]
    intro g hg
    rcases List.mem_append.mp hg with h | h
    · simp [Frame.o2isDispatcher_of (o2nodisp_mem hfs h)]
    · exact htail g h
  · intro r hr
    rw [hst'] at hr
    rcases List.mem_append.mp hr with h | h
    · exact absurd rfl (Frame.o2notLoop_of (o2nodisp_mem hfs h) r)
    · exact hi.loops r (by rw [hst]; exact List.mem_cons_of_mem _ h)

theorem o2_nodispatcher_tail {st : List Frame} (h : (st.all fun g => !g.o2isDispatcher) = true) :
    (st.tail.all fun g => !g.o2isDispatcher) = true := by
  cases st with
  | nil => rfl
  | cons f k => rw [List.all_cons, Bool.and_eq_true] at h; exact h.2

/-- with no `.dispatcher` frame on the stack `o2exp` is the order of the heap, and `tail`, `top` hold outright -/
theorem O2PI.of_nodispatcher {c : Cfg} (h : (c.stack.all fun g => !g.o2isDispatcher) = true) (hq : Q2InvAll c.st)
    (hc : O2Corr (o2pass c.st) (c.st.comp 0).eq (o2order (c.st.comp 0).eq.heap))
    (hl : ∀ r, Frame.dispatchLoop r ∈ c.stack → r = 0) : O2PI c := by
  refine ⟨hq, ?_, o2_nodispatcher_tail h, fun r e rem k he => ?_, hl⟩
  · cases hst : c.stack with
    | nil => rw [o2exp_of_nil hst]; exact hc
    | cons f k =>
      rw [hst, List.all_cons, Bool.and_eq_true] at h
      rw [o2exp_of_top hst (by simpa using h.1)]; exact hc
  · rw [he, List.all_cons] at h
    simp [Frame.o2isDispatcher] at h

theorem O2PI.stack_push {c c' : Cfg} {f : Frame} {k fs : List Frame} (hi : O2PI c) (hst : c.stack = f :: k)
    (hst' : c'.stack = fs ++ k) (hfs : (fs.tail.all fun g => !g.o2isDispatcher) = true)
    (hl : ∀ r, Frame.dispatchLoop r ∈ fs → r = 0) :
    (c'.stack.tail.all fun g => !g.o2isDispatcher) = true ∧ (∀ r, Frame.dispatchLoop r ∈ c'.stack → r = 0) := by
  have htail := hi.tail
  rw [hst, List.tail_cons] at htail
  refine ⟨?_, fun r hr => ?_⟩
  · rw [hst']
    cases fs with
    | nil => exact o2_nodispatcher_tail htail
    | cons g fs' => rw [List.cons_append, List.tail_cons, List.all_append, htail, show (fs'.all _) = true from hfs]; rfl
  · rw [hst'] at hr
    rcases List.mem_append.mp hr with h | h
    · exact hl r h
    · exact hi.loops r (by rw [hst]; exact List.mem_cons_of_mem _ h)

theorem O2PI.generic {c c' : Cfg} {f : Frame} {k : List Frame} (hi : O2PI c) (hst : c.stack = f :: k)
    (hf : f.o2isDispatcher = false) (hsr : O2SR c.st) (hq : Q2InvAll c'.st) (hg : O2PG k c.st c') : O2PI c' := by
  obtain ⟨fs, hst', hfs⟩ := hg.push
  obtain ⟨fires, heq, hpass⟩ := hg.rel hsr
  obtain ⟨h1, h2⟩ := hi.stack_generic hst hst' hfs
  have hc := hi.corr
  rw [o2exp_of_top hst hf] at hc
  obtain ⟨h6, h7⟩ := O2Corr.fires fires _ _ hc
  refine .of_nodispatcher h1 hq ?_ h2
  rw [hpass, heq, h7]
  exact h6

theorem O2PFires.updateRootAll {s t : St} {fires : List (Nat × Int)} (h : O2PFires s t fires)
    (fuel : Nat) (todo : List Nat) (root : Nat) : O2PFires s (St.updateRootAll fuel todo root t) fires :=
  ⟨by rw [St.updateRootAll_queue]; exact h.eq, by rw [o2pass_of_log (St.updateRootAll_log fuel todo root t)]; exact h.pass⟩

theorem Cfg.updateRoot_o2p (c : Cfg) (k : List Frame) (todo : List Nat) (root : Nat) :
    O2PG k c.st (c.updateRoot k todo root) := by
  unfold Cfg.updateRoot
  exact ⟨fun _ => ⟨[], O2PFires.updateRootAll ⟨rfl, rfl⟩ _ _ _⟩, [], rfl, rfl⟩

theorem Cfg.invoke_o2p (c : Cfg) (k : List Frame) (r h e : Nat) : O2PG k c.st (c.invoke k r h e) := by
  refine ⟨fun hsr => ?_, stepFrame_o2p_push c k (.invoke r h e) rfl⟩
  have hs : QFR c.st (c.w6_invokeSt h e) := by unfold Cfg.w6_invokeSt; st_pres
  rw [Cfg.invoke_eq]
  generalize c.w6_invokeSt h e = s at hs ⊢
  split
  case h_2 =>
    -- detach: fires happen in `prepUnregPre`, `_updateRoot` touches neither queue nor log
    have h1 : QFR c.st (s.prepUnregPre (c.st.handler h).owner) := by st_pres
    obtain ⟨_, fires, hf⟩ := h1.2 hsr
    exact ⟨fires, hf.updateRootAll _ _ _⟩
  all_goals
    refine ((?_ : QFR c.st _).2 hsr).2
    first | exact hs | (unfold Cfg.invokeUser; dsimp only; split <;> st_pres) | st_pres

theorem o2p_dispatchPre_rel (s : St) (r e rem : Nat) : O2PR (s.logE (.disp e)) (s.dispatchPre r e rem).2 :=
  (QFR.dispatchPre_rel s r e rem).2

theorem O2PI.dispatcher {c : Cfg} {k : List Frame} {r e rem : Nat} (hi : O2PI c)
    (hst : c.stack = .dispatcher r e rem :: k) (hsr : O2SR c.st) (hq : Q2InvAll (c.dispatcher k r e rem).st) :
    O2PI (c.dispatcher k r e rem) := by
  have hc := hi.corr
  have hexp : o2exp c = e :: o2order (c.st.comp 0).eq.heap := by unfold o2exp; rw [hst]
  rw [hexp] at hc
  -- the `D` entry consumes the head of `expected`
  have hc1 : O2Corr (o2pass (c.st.logE (.disp e))) ((c.st.logE (.disp e)).comp 0).eq (o2order (c.st.comp 0).eq.heap) := by
    rw [o2pass_logE]
    exact hc.disp
  obtain ⟨_, fires, heq, hpass⟩ := o2p_dispatchPre_rel c.st r e rem ⟨hsr.pos, hsr.root⟩
  obtain ⟨h6, h7⟩ := O2Corr.fires fires _ _ hc1
  have hst' := Cfg.dispatcher_st c k r e rem
  obtain ⟨fs, hg1, hg2⟩ : ∃ fs, (c.dispatcher k r e rem).stack = fs ++ k ∧ o2nodisp fs = true :=
    stepFrame_o2p_push c k (.dispatcher r e rem) rfl
  obtain ⟨h1, h2⟩ := hi.stack_generic hst hg1 hg2
  refine .of_nodispatcher h1 hq ?_ h2
  rw [hst', hpass, heq]
  have h8 : ((c.st.logE (.disp e)).comp 0).eq = (c.st.comp 0).eq := rfl
  rw [h8] at h7 h6 ⊢
  rw [h7]
  exact h6

theorem o2pass_flushBegin (s : St) (r : Nat) :
    o2pass (s.flushBegin r) =
      if (s.comp r).eq.batch = 0 then passStep (o2pass s) (.batch (s.comp r).eq.queue.length) else o2pass s := by
  unfold St.flushBegin
  dsimp only
  by_cases hb : (s.comp r).eq.batch = 0
  · rw [if_pos hb, if_pos (by simpa using hb)]
    exact o2pass_logE s _
  · rw [if_neg hb, if_neg (by simpa using hb)]
    rfl

theorem O2PI.flush {c : Cfg} {k : List Frame} {x : Nat} (hi : O2PI c)
    (hst : c.stack = .flush x :: k) (hsr : O2SR c.st) (hq : Q2InvAll (c.flush k x).st) : O2PI (c.flush k x) := by
  -- the root is component 0: `EQ.begin` on its queue, the loop frame for it on top
  have hr : c.st.rootOf x = 0 := hsr.root x
  obtain ⟨heq, hstack⟩ := Cfg.q2_flush c k x 0
  rw [hr] at hstack
  rw [hr, if_pos rfl] at heq
  have hc := hi.corr
  rw [o2exp_of_top hst rfl] at hc
  obtain ⟨htl, hlp⟩ := hi.stack_push (fs := [.dispatchLoop 0, .flushFin 0 _]) hst hstack rfl fun r h => by simpa using h
  refine ⟨hq, ?_, htl, fun r e rem k' he => (by rw [hstack] at he; cases he), hlp⟩
  have hexp : o2exp (c.flush k x) = o2order ((c.flush k x).st.comp 0).eq.heap := by
    unfold o2exp; rw [hstack]
  rw [hexp, heq, show (c.flush k x).st = c.st.flushBegin 0 from hr ▸ rfl, o2pass_flushBegin]
  split
  · exact hc.begin (hi.qinv 0) ‹_›
  · rw [begin_of_batch_ne ‹_›]; exact hc

theorem O2PI.dispatchLoop {c : Cfg} {k : List Frame} {r : Nat} (hi : O2PI c)
    (hst : c.stack = .dispatchLoop r :: k) (hx : c.exn = none) (hq : Q2InvAll (c.dispatchLoop k r).st) :
    O2PI (c.dispatchLoop k r) := by
  have hr : r = 0 := hi.loops r (by rw [hst]; exact List.mem_cons_self)
  subst hr
  have hc := hi.corr
  rw [o2exp_of_top hst rfl] at hc
  have htail := hi.tail
  rw [hst, List.tail_cons] at htail
  rcases Cfg.q2_dispatchLoop c k 0 with ⟨_, h2⟩ | ⟨it, q', h1, h2, h3, _, h5, h6⟩
  · rw [h2]
    exact .of_nodispatcher (c := c.pop k c.st) htail hi.qinv hc
      fun r hr => hi.loops r (by rw [hst]; exact List.mem_cons_of_mem _ hr)
  · have hcomp : ((c.dispatchLoop k 0).st.comp 0).eq = q' := by rw [h6, if_pos rfl]
    have hlog : (c.dispatchLoop k 0).st.log = c.st.log := by rw [h5]; rfl
    -- the popped event goes to `_dispatcher`, which is put on top with no exception pending
    obtain ⟨htl, hlp⟩ := hi.stack_push (fs := [.dispatcher 0 it.ev q'.batch, .dispatchLoop 0]) hst h2 rfl
      fun r h => by simpa using h
    refine ⟨hq, ?_, htl, fun r e rem k' he => (by rw [h2] at he; cases he; exact ⟨h3 ▸ hx, rfl⟩), hlp⟩
    have hexp : o2exp (c.dispatchLoop k 0) = it.ev :: o2order ((c.dispatchLoop k 0).st.comp 0).eq.heap := by
      unfold o2exp; rw [h2]
    rw [hexp, hcomp, o2pass_of_log hlog]
    exact hc.pop (hi.qinv 0) h1

theorem Cfg.register_o2p (c : Cfg) (k : List Frame) (x p : Nat) (hnd : (c.st.comp x).eq.queue = []) :
    O2PG k c.st (c.register k x p) := by
  refine ⟨fun _ => ⟨[], ?_, o2pass_of_log (Cfg.register_log c k x p)⟩, stepFrame_o2p_push c k (.register x p) rfl⟩
  show ((c.register k x p).st.comp 0).eq = (c.st.comp 0).eq
  rcases Cfg.q2_register c k x p with h | ⟨_, _, h⟩
  · exact h 0
  · rw [h]
    split
    · rename_i h0; subst h0; exact drainFrom_nil_right _ _ hnd
    · split
      · rename_i h1; rw [← h1.1]; exact drainFrom_nil_left _ _ hnd
      · rfl

theorem O2PI.stepFrame {c : Cfg} {f : Frame} {k : List Frame} (hi : O2PI c) (hst : c.stack = f :: k)
    (hx : c.exn = none) (hsr : O2SR c.st) (hnd : Q2NoDrain c) (hq : Q2InvAll (CV.Core.stepFrame c k f).st) :
    O2PI (CV.Core.stepFrame c k f) := by
  cases f
  case dispatcher r e rem => exact hi.dispatcher hst hsr hq
  case flush x => exact hi.flush hst hsr hq
  case dispatchLoop r => exact hi.dispatchLoop hst hx hq
  case register x p => exact hi.generic hst rfl hsr hq (Cfg.register_o2p c k x p (hnd x p k hst hx))
  case invoke r h e => exact hi.generic hst rfl hsr hq (Cfg.invoke_o2p c k r h e)
  case updateRoot todo root => exact hi.generic hst rfl hsr hq (Cfg.updateRoot_o2p c k todo root)
  all_goals exact hi.generic hst rfl hsr hq (stepFrame_o2p c k _ rfl rfl)

theorem O2PI.unwind {c : Cfg} {f : Frame} {k : List Frame} (ex : Exn) (hi : O2PI c) (hst : c.stack = f :: k)
    (hx : c.exn = some ex) (hsr : O2SR c.st) (hq : Q2InvAll (CV.Core.unwind c k ex f).st) :
    O2PI (CV.Core.unwind c k ex f) := by
  have hf : f.o2isDispatcher = false := by
    cases f <;> first | rfl | skip
    case dispatcher r e rem =>
      have := (hi.top r e rem k hst).1
      rw [hx] at this; cases this
  exact hi.generic hst hf hsr hq (unwind_o2p c k ex f)

theorem O2PI.step {c : Cfg} (hi : O2PI c) (hnd : Q2NoDrain c) (hsr : O2SR c.st) : O2PI (step c) := by
  have hq := q2_qinv_step c hnd hi.qinv
  cases hst : c.stack with
  | nil => rw [step_nil c hst]; exact hi
  | cons f k =>
    cases hx : c.exn with
    | none => rw [step_cons c f k hst hx] at hq ⊢; exact hi.stepFrame hst hx hsr hnd hq
    | some ex => rw [step_cons_exn c f k ex hst hx] at hq ⊢; exact hi.unwind ex hst hx hsr hq

inductive ReachSR (s0 : St) : Cfg → Prop
  | init (d : Nat) (tape : List Entry) (op : ExtOp) : ReachSR s0 (startOf (envChange s0 d tape) op)
  | step {c : Cfg} : ReachSR s0 c → Q2NoDrain c → O2SR c.st → ReachSR s0 (CV.Core.step c)
  | next {c : Cfg} (d : Nat) (tape : List Entry) (op : ExtOp) :
      ReachSR s0 c → done c = true → ReachSR s0 (startOf (envChange c.st d tape) op)

theorem ReachSR.reachND {s0 : St} {c : Cfg} (h : ReachSR s0 c) : ReachND s0 c := by
  induction h with
  | init d tape op => exact .init d tape op
  | step _ hg _ ih => exact .step ih hg
  | next d tape op _ hd ih => exact .next d tape op ih hd

structure O2PInit (s : St) : Prop where
  eq : ∀ x, (s.comp x).eq = {}
  log : s.log = []

theorem o2p_startOf_stack (s : St) (op : ExtOp) : ((startOf s op).stack.all fun g => !g.o2isDispatcher) = true ∧
    ∀ r, Frame.dispatchLoop r ∉ (startOf s op).stack := by
  cases op <;> exact ⟨rfl, fun r h => by simp [startOf, startDo, startTick, startFlush, startRun, Cfg.start] at h⟩

theorem O2PI.start {s : St} (d : Nat) (tape : List Entry) (op : ExtOp) (hq : Q2InvAll s)
    (hc : O2Corr (o2pass s) (s.comp 0).eq (o2order (s.comp 0).eq.heap)) :
    O2PI (startOf (envChange s d tape) op) := by
  obtain ⟨h1, h2⟩ := o2p_startOf_stack (envChange s d tape) op
  have hst := startOf_st (envChange s d tape) op
  refine .of_nodispatcher h1 ?_ ?_ fun r hr => absurd hr (h2 r)
  · rw [hst]; exact hq
  · rw [hst]; exact hc

theorem O2PI.reach {s0 : St} (h0 : O2PInit s0) : ∀ c, ReachSR s0 c → O2PI c := by
  intro c hr
  induction hr with
  | init d tape op =>
    refine O2PI.start d tape op (fun x => by rw [h0.eq x]; exact qinv_empty) ?_
    rw [h0.eq 0]
    have : o2pass s0 = {} := by unfold o2pass; rw [h0.log]; rfl
    rw [this]
    exact ⟨rfl, rfl, rfl, by rw [o2order_nil]⟩
  | step _ hg hs ih => exact ih.step hg hs
  | @next c1 d tape op _ hd ih =>
    refine O2PI.start d tape op ih.qinv ?_
    have hnil : c1.stack = [] := (done_iff c1).1 hd
    have := ih.corr
    rwa [o2exp_of_nil hnil] at this

theorem o2_passOrderOk {s0 : St} (h0 : O2PInit s0) (c : Cfg) (hr : ReachSR s0 c) :
    passOrderOk c.st.log.reverse = true :=
  (O2PI.reach h0 c hr).corr.ok

end CV.Core
