import CV.Proofs.InvForest
import CV.Proofs.InvEffects
/-
Where C07 meets C05's accounting (`pending_resolves_partial`, `complete_dispatch_detaches` of CV/Props/C07.lean): the flag
`_unregister_pending` through the detaching step, the log entry of the `_effectDone` iteration that reaches 0, and a Bool
version of C05's `Guard` for runs evaluated by the kernel.
-/
namespace CV.Core
open CV.Core.C05

theorem fireRaw_pending (s : St) (self e : Nat) (chans : List Chan) (prio : Int) (d : Nat) :
    ((s.fireRaw self e chans prio).comp d).pending = (s.comp d).pending := by
  rw [St.fireRaw_comp]
  exact St.w6_modComp_comp_pres s (·.pending) _ _ (by exact fun _ => rfl) d

theorem fireTmplEv_pending (s : St) (self : Nat) (ev : Ev) (target : Option Chan) (prio : Int) (d : Nat) :
    ((s.fireTmplEv self ev target prio).comp d).pending = (s.comp d).pending := by
  unfold St.fireTmplEv
  dsimp only
  rw [fireRaw_pending]
  rfl

theorem updateRootAll_pending (fuel : Nat) (todo : List Nat) (root : Nat) (s : St) (d : Nat) :
    ((St.updateRootAll fuel todo root s).comp d).pending = (s.comp d).pending :=
  St.updateRootAll_comp_pres (·.pending) (fun _ _ => rfl) fuel todo root s d

theorem puA_pending (s : St) (o : Nat) (ho : o < s.comps.length) : ((puA s o).comp o).pending = false := by
  unfold puA
  rw [fireTmplEv_pending, St.w6_modComp_comp_lt _ _ _ ho]

theorem prepUnregPre_pending (s : St) (o : Nat) (ho : o < s.comps.length) :
    ((s.prepUnregPre o).comp o).pending = false := by
  rw [St.prepUnregPre_eq]
  split
  · exact (puB_comp_pres (·.pending) (fun _ _ => rfl) (fun _ _ => rfl) (fun _ _ => rfl) ..).trans (puA_pending s o ho)
  · exact puA_pending s o ho

theorem effectDone1_complete_log (s : St) (r e P : Nat) (hc : (s.ev e).cause = some P)
    (hz : ¬ ((s.ev e).effects - 1 > 0)) (hcomp : (s.ev e).complete = true) :
    (s.effectDone1 r e true).2.log =
      Entry.fire s.evs.length ((s.ev e).name.child sfxComplete)
        ((s.ev e).completeChans.getD (s.ev e).chans) 0 :: s.log := by
  rw [St.e5_effectDone1_zero s r e P true hc hz, hcomp, Bool.and_self, if_pos rfl]
  show ((s.modEv e _).fireChild r e sfxComplete _).log = _
  unfold St.fireChild St.childEv
  rw [St.fireRaw_log, St.w6_addEv_ev, if_pos rfl, St.w6_modEv_ev_pres s (·.name) e _ (by intro _; rfl) e,
    St.w6_modEv_evs_length]
  rfl

/-- Bool version of `Guard`: "nothing is linked under `e`" is `e5_kids e = 0` -/
def guardB (c : Cfg) : Bool :=
  match c.exn, c.stack with
  | none, .dispatcher _ e _ :: _ =>
    !((c.st.ev e).cancelled || (c.st.ev e).complete) || (!(c.st.ev e).selfDone && c.st.e5_kids e == 0)
  | none, .eventDone _ e _ :: _ =>
    !(decide ((c.st.ev e).waiting = 0) && (c.st.ev e).cause.isSome) || !(c.st.ev e).selfDone
  | _, _ => true

theorem guard_of_B (c : Cfg) (h : guardB c = true) : Guard c := by
  intro hx
  unfold guardB at h
  cases hst : c.stack with
  | nil => trivial
  | cons f k =>
    rw [hx, hst] at h
    cases f
    case dispatcher r e rem =>
      intro hcc
      simp only [Bool.or_eq_true, Bool.not_eq_true', Bool.or_eq_false_iff, Bool.and_eq_true, beq_iff_eq] at h
      rcases h with ⟨h1, h2⟩ | ⟨h1, h2⟩
      · rcases hcc with hcc | hcc
        · rw [hcc] at h1; cases h1
        · rw [hcc] at h2; cases h2
      · exact ⟨h1, c.st.e5_no_kids_of_zero e h2⟩
    case eventDone r e err =>
      intro hw hc
      simp only [Bool.or_eq_true, Bool.not_eq_true', Bool.and_eq_false_iff, decide_eq_false_iff_not] at h
      rcases h with (h1 | h1) | h1
      · exact absurd hw h1
      · exact absurd (Option.isSome_iff_ne_none.mpr hc) (by rw [h1]; exact Bool.false_ne_true)
      · exact h1
    all_goals trivial

theorem ReachG.runN {s0 : St} (n : Nat) : ∀ {c : Cfg}, ReachG s0 c →
    (∀ i, i < n → guardB (CV.Core.runN i c) = true) → ReachG s0 (CV.Core.runN n c) := by
  induction n with
  | zero => intro c h _; exact h
  | succ n ih =>
    intro c h hall
    rw [runN_succ]
    refine ih (.step h (guard_of_B c (hall 0 (Nat.succ_pos _)))) fun i hi => ?_
    have := hall (i + 1) (by omega)
    rwa [runN_succ] at this

end CV.Core
