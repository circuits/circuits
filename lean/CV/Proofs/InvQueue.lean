import CV.Proofs.InvQueueBase
import CV.Proofs.ForestDefs
import CV.Proofs.CoreFire
/-
C02, machine level: the machine runs the `_EventQueue` layer (on top of the relation `QRel` of
CV/Proofs/InvQueueBase.lean).

Three arms of `step` are not append-only: `.flush` (`EQ.begin` on the root), `.dispatchLoop` (`EQ.pop`), `.register`
(`EQ.drainFrom`).  `q2_step_class` classifies what one step does to the queue of one component and what it pops from it; the
statements about one step or one run (`q2_step_trace`, `q2_run_trace`, `q2_popped_dispatched`) and the invariants (`Q2Batch`,
batch = heap size, over `Reach`; `QInv` of every queue over the guarded runs `ReachND`, in which no register step drains a
non-empty deque) are read off it.  Besides: a `fire` act is inert (`q2_acts_fire`, `q2_stepGen_fire`, `q2_no_reentrant`), the
handler loop chooses with `chooseNext` (`q2_chooseHandler`), `computeHandlers` sorts (`q2_computeHandlers`).
-/
namespace CV.Core

theorem q2_begin_empty : ({} : EQ).begin = {} := by
  simp [EQ.begin]

theorem q2_dflt_eq : dfltComp.eq = {} := rfl

theorem St.comp_mem_or_dflt (s : St) (x : Nat) : s.comp x ∈ s.comps ∨ s.comp x = dfltComp := by
  unfold St.comp
  rw [List.getD_eq_getElem?_getD]
  cases hx : s.comps[x]? with
  | none => exact .inr rfl
  | some y => exact .inl (List.mem_of_getElem? hx)

theorem St.q2_flushBegin_queue (s : St) (r y : Nat) :
    ((s.flushBegin r).comp y).eq = if r = y then (s.comp y).eq.begin else (s.comp y).eq := by
  unfold St.flushBegin
  dsimp only
  rw [St.comp_modComp]
  have hc : ∀ z, (if ((s.comp r).eq.batch == 0) = true then s.logE (.batch (s.comp r).eq.queue.length) else s).comp z
      = s.comp z := by
    intro z; split <;> rfl
  have hl : (if ((s.comp r).eq.batch == 0) = true then s.logE (.batch (s.comp r).eq.queue.length) else s).comps.length
      = s.comps.length := by
    split <;> rfl
  rw [hc, hl]
  by_cases h1 : r = y
  · by_cases h2 : y < s.comps.length
    · rw [if_pos ⟨h1, h2⟩, if_pos h1]
    · rw [if_neg (fun h => h2 h.2), if_pos h1, St.w6_comp_ge s y (Nat.le_of_not_lt h2), q2_dflt_eq, q2_begin_empty]
  · rw [if_neg (fun h => h1 h.1), if_neg h1]

theorem Cfg.q2_flush (c : Cfg) (k : List Frame) (x y : Nat) :
    ((c.flush k x).st.comp y).eq = (if c.st.rootOf x = y then (c.st.comp y).eq.begin else (c.st.comp y).eq) ∧
    (c.flush k x).stack = .dispatchLoop (c.st.rootOf x) :: .flushFin (c.st.rootOf x) (c.st.comp (c.st.rootOf x)).flushing :: k := by
  unfold Cfg.flush
  dsimp only
  simp only [Cfg.goto_st, Cfg.goto_stack]
  exact ⟨St.q2_flushBegin_queue _ _ _, rfl⟩

/-- the choice function the machine hands to `EQ.pop`: follow the tape -/
def St.q2pick (s : St) : List QItem → Option QItem := fun cands =>
  match s.tape.head? with
  | some (.disp e) => cands.find? (fun c => c.ev == e)
  | _ => none

theorem St.q2_popEvent (s : St) (r : Nat) : s.popEvent r = (s.comp r).eq.pop s.q2pick := rfl

theorem St.q2_pop_in_range (s : St) (r : Nat) {pick : List QItem → Option QItem} {it : QItem} {q' : EQ}
    (h : (s.comp r).eq.pop pick = some (it, q')) : r < s.comps.length := by
  apply Classical.byContradiction
  intro hn
  rw [St.w6_comp_ge s r (Nat.le_of_not_lt hn)] at h
  have := (pop_spec h).1
  exact this rfl

theorem Cfg.q2_dispatchLoop (c : Cfg) (k : List Frame) (r : Nat) :
    ((c.st.comp r).eq.pop c.st.q2pick = none ∧ c.dispatchLoop k r = c.pop k c.st) ∨
    (∃ it q', (c.st.comp r).eq.pop c.st.q2pick = some (it, q') ∧
      (c.dispatchLoop k r).stack = .dispatcher r it.ev q'.batch :: .dispatchLoop r :: k ∧
      (c.dispatchLoop k r).exn = c.exn ∧ (c.dispatchLoop k r).ret = c.ret ∧
      (c.dispatchLoop k r).st = c.st.modComp r (fun x => { x with eq := q' }) ∧
      ∀ y, ((c.dispatchLoop k r).st.comp y).eq = if y = r then q' else (c.st.comp y).eq) := by
  unfold Cfg.dispatchLoop
  rw [St.q2_popEvent]
  cases hp : (c.st.comp r).eq.pop c.st.q2pick with
  | none => exact .inl ⟨rfl, rfl⟩
  | some pr =>
    obtain ⟨it, q'⟩ := pr
    refine .inr ⟨it, q', rfl, rfl, rfl, rfl, rfl, ?_⟩
    intro y
    have hr := St.q2_pop_in_range c.st r hp
    simp only [Cfg.goto_st]
    rw [St.w6_modComp_comp_eq]
    by_cases h : y = r
    · subst h; rw [if_pos ⟨rfl, hr⟩, if_pos rfl]
    · rw [if_neg (fun hh => h hh.1), if_neg h]

structure Q2Same (s t : St) : Prop where
  len : t.comps.length = s.comps.length
  eq : ∀ y, (t.comp y).eq = (s.comp y).eq

theorem Q2Same.refl (s : St) : Q2Same s s := ⟨rfl, fun _ => rfl⟩

theorem Q2Same.modComp {s t : St} (h : Q2Same s t) (c : Nat) (f : Comp → Comp) (hf : ∀ y : Comp, (f y).eq = y.eq) :
    Q2Same s (t.modComp c f) :=
  ⟨(St.w6_modComp_comps_length t c f).trans h.len, fun y => (St.w6_modComp_comp_pres t (·.eq) c f hf y).trans (h.eq y)⟩

/-- the `drainFrom` at the end of `registerPre`, on a state `s3` with the queues of `s` -/
theorem St.q2_drain_queue (s s3 : St) (h : Q2Same s s3) (r ch : Nat) (hr : r ≠ ch) (y : Nat) :
    (((s3.modComp r fun x => { x with eq := ((s3.comp r).eq.drainFrom (s3.comp ch).eq).1, dirty := true }).modComp ch
        fun x => { x with eq := ((s3.comp r).eq.drainFrom (s3.comp ch).eq).2 }).comp y).eq =
      if y = ch then ((s.comp r).eq.drainFrom (s.comp ch).eq).2
      else if y = r ∧ y < s.comps.length then ((s.comp r).eq.drainFrom (s.comp ch).eq).1
      else (s.comp y).eq := by
  rw [St.w6_modComp_comp_eq, St.w6_modComp_comps_length, St.w6_modComp_comp_eq, h.len, h.eq r, h.eq ch]
  by_cases hy : y = ch
  · subst hy
    rw [if_pos rfl]
    by_cases hl : y < s.comps.length
    · rw [if_pos ⟨rfl, hl⟩]
    · rw [if_neg (fun hh => hl hh.2), if_neg (fun hh => hl hh.2)]
      rw [St.w6_comp_ge s3 y (by rw [h.len]; exact Nat.le_of_not_lt hl), St.w6_comp_ge s y (Nat.le_of_not_lt hl)]
      simp [EQ.drainFrom, dfltComp]
  · rw [if_neg (fun hh => hy hh.1), if_neg hy]
    by_cases hyr : y = r
    · subst hyr
      by_cases hl : y < s.comps.length
      · rw [if_pos ⟨rfl, hl⟩, if_pos ⟨rfl, hl⟩]
      · rw [if_neg (fun hh => hl hh.2), if_neg (fun hh => hl hh.2)]; exact h.eq y
    · rw [if_neg (fun hh => hyr hh.1), if_neg (fun hh => hyr hh.1)]; exact h.eq y

theorem St.q2_registerPre_queue (s : St) (ch p : Nat) :
    (∀ y, (((s.registerPre ch p).2).comp y).eq = (s.comp y).eq) ∨
    (p ≠ ch ∧ (s.comp p).root ≠ ch ∧ ∀ y, (((s.registerPre ch p).2).comp y).eq =
        if y = ch then ((s.comp (s.comp p).root).eq.drainFrom (s.comp ch).eq).2
        else if y = (s.comp p).root ∧ y < s.comps.length then
          ((s.comp (s.comp p).root).eq.drainFrom (s.comp ch).eq).1
        else (s.comp y).eq) := by
  unfold St.registerPre
  dsimp only
  -- the intermediate states get names before any case split: the drain at the end mentions them several times
  have h1 : Q2Same s (s.modComp ch fun x => { x with parent := p, root := (s.comp p).root }) :=
    (Q2Same.refl s).modComp _ _ fun _ => rfl
  generalize St.modComp s ch _ = s1 at h1 ⊢
  have h3 : Q2Same s ((if (s1.comp ch).executing then
      (s1.modComp (s.comp p).root fun x => { x with executing := true }).modComp ch fun x => { x with executing := false }
    else s1).modComp p fun x => { x with children := addUniq x.children ch }) := by
    refine Q2Same.modComp ?_ _ _ fun _ => rfl
    split
    · exact (h1.modComp _ _ (by exact fun _ => rfl)).modComp _ _ (by exact fun _ => rfl)
    · exact h1
  generalize St.modComp _ p _ = s3 at h3 ⊢
  by_cases hp : p = ch
  · rw [if_neg (by simp [hp])]; exact .inl h1.eq
  · rw [if_pos (by simpa using hp)]
    split
    · exact .inl h1.eq
    · by_cases hr : (s.comp p).root = ch
      · rw [if_neg (by simp [hr])]; exact .inl h3.eq
      · rw [if_pos (by simpa using hr)]; exact .inr ⟨hp, hr, St.q2_drain_queue s s3 h3 _ _ hr⟩

/-- the `.register` arm: as `registerPre` (the `updateRoot` recursion and the `inadmissible` /
    `unregistrable` exits do not touch any queue) -/
theorem Cfg.q2_register (c : Cfg) (k : List Frame) (ch p : Nat) :
    (∀ y, ((c.register k ch p).st.comp y).eq = (c.st.comp y).eq) ∨
    (p ≠ ch ∧ (c.st.comp p).root ≠ ch ∧ ∀ y, ((c.register k ch p).st.comp y).eq =
        if y = ch then ((c.st.comp (c.st.comp p).root).eq.drainFrom (c.st.comp ch).eq).2
        else if y = (c.st.comp p).root ∧ y < c.st.comps.length then
          ((c.st.comp (c.st.comp p).root).eq.drainFrom (c.st.comp ch).eq).1
        else (c.st.comp y).eq) := by
  by_cases hadm : c.st.admissible ch p = true
  · have key' : ∀ y, ((c.register k ch p).st.comp y).eq = (((c.st.registerPre ch p).2).comp y).eq := by
      intro y
      rw [Cfg.register_adm c k ch p hadm]
      exact St.updateRootAll_queue ..
    rcases St.q2_registerPre_queue c.st ch p with h | ⟨h1, h2, h3⟩
    · left; intro y; rw [key' y]; exact h y
    · right; refine ⟨h1, h2, ?_⟩; intro y; rw [key' y]; exact h3 y
  · left; intro y
    unfold Cfg.register
    dsimp only
    rw [if_pos (by simp [hadm])]
    rfl

/-- the item the step of `c` pops from `x`'s heap (and hands to `_dispatcher`), if any -/
def q2popped (c : Cfg) (x : Nat) : Option QItem :=
  match c.exn, c.stack with
  | none, .dispatchLoop r :: _ => if r = x then (c.st.popEvent r).map Prod.fst else none
  | _, _ => none

theorem q2popped_of_exn {c : Cfg} {ex : Exn} (x : Nat) (h : c.exn = some ex) : q2popped c x = none := by
  unfold q2popped; rw [h]

theorem q2popped_of_stack {c : Cfg} {f : Frame} {k : List Frame} (x : Nat) (h : c.stack = f :: k)
    (hf : ∀ r, f ≠ .dispatchLoop r) : q2popped c x = none := by
  unfold q2popped; rw [h]
  cases c.exn <;> cases f <;> first | rfl | exact absurd rfl (hf _)

theorem q2popped_dispatchLoop {c : Cfg} {r : Nat} {k : List Frame} (x : Nat) (h : c.stack = .dispatchLoop r :: k)
    (hx : c.exn = none) : q2popped c x = if r = x then (c.st.popEvent r).map Prod.fst else none := by
  unfold q2popped; rw [h, hx]

theorem q2_step_class (c : Cfg) (x : Nat) :
    (QRel x c.st (step c).st ∧ q2popped c x = none)
    ∨ (∃ y k, c.stack = .flush y :: k ∧ c.exn = none ∧ c.st.rootOf y = x ∧
        ((step c).st.comp x).eq = (c.st.comp x).eq.begin)
    ∨ (∃ k it q', c.stack = .dispatchLoop x :: k ∧ c.exn = none ∧
        (c.st.comp x).eq.pop c.st.q2pick = some (it, q') ∧ ((step c).st.comp x).eq = q' ∧
        (step c).stack = .dispatcher x it.ev q'.batch :: .dispatchLoop x :: k)
    ∨ (∃ ch p k, c.stack = .register ch p :: k ∧ c.exn = none ∧ p ≠ ch ∧ x = (c.st.comp p).root ∧ x ≠ ch ∧
        ((step c).st.comp x).eq = ((c.st.comp x).eq.drainFrom (c.st.comp ch).eq).1)
    ∨ (∃ p k, c.stack = .register x p :: k ∧ c.exn = none ∧ p ≠ x ∧ (c.st.comp p).root ≠ x ∧
        ((step c).st.comp x).eq = ((c.st.comp (c.st.comp p).root).eq.drainFrom (c.st.comp x).eq).2) := by
  cases hst : c.stack with
  | nil =>
    rw [step_nil c hst]
    exact .inl ⟨QRel.refl _, by unfold q2popped; rw [hst]; cases c.exn <;> rfl⟩
  | cons f k =>
    cases hx : c.exn with
    | some ex => rw [step_cons_exn c f k ex hst hx]; exact .inl ⟨unwind_q2 .., q2popped_of_exn x hx⟩
    | none =>
      rw [step_cons c f k hst hx]
      -- an arm that avoids `QRel.bad` only appends; each of the other three acts on the queue it names (`.register`: on two)
      by_cases hf : avoids f.ops QRel.bad = true
      · refine .inl ⟨stepFrame_q2 c k f hf, q2popped_of_stack x hst ?_⟩
        rintro r rfl; cases hf
      · cases f
        case flush y =>
          have hp := q2popped_of_stack x hst (fun _ h => by cases h)
          dsimp only [stepFrame]
          have h := (Cfg.q2_flush c k y x).1
          by_cases hr : c.st.rootOf y = x
          · exact .inr (.inl ⟨y, k, rfl, rfl, hr, by rw [h, if_pos hr]⟩)
          · exact .inl ⟨QRel.of_eq (by rw [h, if_neg hr]), hp⟩
        case dispatchLoop r =>
          have hp := q2popped_dispatchLoop x hst hx
          dsimp only [stepFrame]
          rcases Cfg.q2_dispatchLoop c k r with ⟨h1, h2⟩ | ⟨it, q', h1, h2, _, _, _, h3⟩
          · rw [h2]
            exact .inl ⟨QRel.refl _, by rw [hp, St.q2_popEvent, h1]; split <;> rfl⟩
          · by_cases hr : r = x
            · subst hr
              exact .inr (.inr (.inl ⟨k, it, q', rfl, rfl, h1, by rw [h3, if_pos rfl], h2⟩))
            · exact .inl ⟨QRel.of_eq (by rw [h3, if_neg (Ne.symm hr)]), by rw [hp, if_neg hr]⟩
        case register ch p =>
          have hp := q2popped_of_stack x hst (fun _ h => by cases h)
          dsimp only [stepFrame]
          rcases Cfg.q2_register c k ch p with h | ⟨h1, h2, h3⟩
          · exact .inl ⟨QRel.of_eq (h x), hp⟩
          · by_cases hxc : x = ch
            · subst hxc
              exact .inr (.inr (.inr (.inr ⟨p, k, rfl, rfl, h1, h2, by rw [h3, if_pos rfl]⟩)))
            · by_cases hxr : x = (c.st.comp p).root ∧ x < c.st.comps.length
              · refine .inr (.inr (.inr (.inl ⟨ch, p, k, rfl, rfl, h1, hxr.1, hxc, ?_⟩)))
                rw [h3, if_neg hxc, if_pos hxr, ← hxr.1]
              · exact .inl ⟨QRel.of_eq (by rw [h3, if_neg hxc, if_neg hxr]), hp⟩
        all_goals exact absurd rfl hf

theorem q2_envChange_comp (s : St) (d : Nat) (tape : List Entry) (x : Nat) : (envChange s d tape).comp x = s.comp x := rfl

/-- `QInv.batch_eq` for every component: `_flush_batch` equals the heap size -/
def Q2Batch (s : St) : Prop := ∀ x, (s.comp x).eq.batch = (s.comp x).eq.heap.length

theorem q2_batch_step (c : Cfg) (h : Q2Batch c.st) : Q2Batch (step c).st := by
  intro x
  rcases q2_step_class c x with ⟨⟨ops, ha, he⟩, _⟩ | ⟨_, _, _, _, _, he⟩ | ⟨_, it, q', _, _, hp, he, _⟩ |
      ⟨_, _, _, _, _, _, _, _, he⟩ | ⟨_, _, _, _, _, _, he⟩
  · have := q2_runOps_apps (c.st.comp x).eq ops ha
    rw [he, this.2.1, this.2.2.1]; exact h x
  · rw [he]; exact begin_batch_eq (h x)
  · rw [he]; exact pop_batch_eq (h x) hp
  · rw [he]; exact h x
  · rw [he]; exact h x

theorem q2_batch_reach (s0 : St) (h0 : Q2Batch s0) (c : Cfg) (hr : Reach s0 c) : Q2Batch c.st :=
  Reach.inv_st Q2Batch h0 (fun _ _ _ h => h) q2_batch_step c hr

def Q2InvAll (s : St) : Prop := ∀ x, QInv (s.comp x).eq

def Q2NoDrain (c : Cfg) : Prop :=
  ∀ ch p k, c.stack = .register ch p :: k → c.exn = none → (c.st.comp ch).eq.queue = []

theorem q2_qinv_step (c : Cfg) (hg : Q2NoDrain c) (h : Q2InvAll c.st) : Q2InvAll (step c).st := by
  intro x
  rcases q2_step_class c x with ⟨⟨ops, _, he⟩, _⟩ | ⟨_, _, _, _, _, he⟩ | ⟨_, it, q', _, _, hp, he, _⟩ |
      ⟨ch, p, k, hs, hx, _, _, _, he⟩ | ⟨p, k, hs, hx, _, _, he⟩
  · rw [he]; exact qinv_run ops (h x)
  · rw [he]; exact qinv_begin (h x)
  · rw [he]; exact qinv_pop (h x) hp
  · rw [he, drainFrom_nil_left _ _ (hg ch p k hs hx)]; exact h x
  · rw [he, drainFrom_nil_right _ _ (hg x p k hs hx)]; exact h x

inductive ReachND (s0 : St) : Cfg → Prop
  | init (d : Nat) (tape : List Entry) (op : ExtOp) : ReachND s0 (startOf (envChange s0 d tape) op)
  | step {c : Cfg} : ReachND s0 c → Q2NoDrain c → ReachND s0 (CV.Core.step c)
  | next {c : Cfg} (d : Nat) (tape : List Entry) (op : ExtOp) :
      ReachND s0 c → done c = true → ReachND s0 (startOf (envChange c.st d tape) op)

theorem ReachND.reach {s0 : St} {c : Cfg} (h : ReachND s0 c) : Reach s0 c := by
  induction h with
  | init d tape op => exact .init d tape op
  | step _ _ ih => exact .step ih
  | next d tape op _ hd ih => exact .next d tape op ih hd

theorem q2_qinv_reachND (s0 : St) (h0 : Q2InvAll s0) (c : Cfg) (hr : ReachND s0 c) : Q2InvAll c.st := by
  induction hr with
  | init d tape op => rw [startOf_st]; exact h0
  | step _ hg ih => exact q2_qinv_step _ hg ih
  | next d tape op _ _ ih => rw [startOf_st]; exact ih

theorem q2_dispatch_pops_min (c : Cfg) (r : Nat) (k : List Frame)
    (hs : c.stack = .dispatchLoop r :: k) (hx : c.exn = none) :
    ((c.st.comp r).eq.pop c.st.q2pick = none ∧ step c = { c with stack := k }) ∨
    (∃ it q', (c.st.comp r).eq.pop c.st.q2pick = some (it, q') ∧
      (∀ y ∈ (c.st.comp r).eq.heap, it.le y = true) ∧ it ∈ (c.st.comp r).eq.heap ∧
      q'.heap = (c.st.comp r).eq.heap.erase it ∧ q'.batch + 1 = (c.st.comp r).eq.batch ∧
      q'.queue = (c.st.comp r).eq.queue ∧ q'.counter = (c.st.comp r).eq.counter ∧
      (step c).stack = .dispatcher r it.ev q'.batch :: .dispatchLoop r :: k ∧ (step c).exn = none ∧
      (step c).st = c.st.modComp r (fun x => { x with eq := q' }) ∧
      ∀ y, ((step c).st.comp y).eq = if y = r then q' else (c.st.comp y).eq) := by
  rw [step_cons c _ k hs hx]
  dsimp only [stepFrame]
  rcases Cfg.q2_dispatchLoop c k r with ⟨h1, h2⟩ | ⟨it, q', h1, h2, h3, _, h5, h6⟩
  · left; exact ⟨h1, by rw [h2]; rfl⟩
  · right
    obtain ⟨hb, hit, hq⟩ := pop_spec h1
    refine ⟨it, q', h1, minCands_le hit, (mem_minCands hit).1, by rw [hq], ?_, by rw [hq], by rw [hq], h2,
      by rw [h3]; exact hx, h5, h6⟩
    rw [hq]; simp only; omega

theorem q2_dispatch_progress (c : Cfg) (r : Nat) (hb : Q2Batch c.st) :
    ((c.st.comp r).eq.pop c.st.q2pick = none ↔ (c.st.comp r).eq.batch = 0) ∧
    ∀ it q', (c.st.comp r).eq.pop c.st.q2pick = some (it, q') → q'.batch = q'.heap.length := by
  refine ⟨⟨?_, fun h => pop_none_of_batch_zero _ h⟩, ?_⟩
  · intro hn
    apply Classical.byContradiction
    intro hne
    have hh : (c.st.comp r).eq.heap ≠ [] := by
      intro e
      have := hb r
      rw [e] at this
      exact hne this
    obtain ⟨it, q', hp⟩ := pop_isSome c.st.q2pick hne hh
    rw [hn] at hp; cases hp
  · exact fun it q' hp => pop_batch_eq (hb r) hp

structure Q2EvOnly (s t : St) : Prop where
  comps : t.comps = s.comps
  hs : t.hs = s.hs
  gens : t.gens = s.gens
  waits : t.waits = s.waits
  timers : t.timers = s.timers
  clock : t.clock = s.clock
  progs : t.progs = s.progs
  tmpls : t.tmpls = s.tmpls
  log : t.log = s.log
  tape : t.tape = s.tape

theorem Q2EvOnly.refl (s : St) : Q2EvOnly s s := ⟨rfl, rfl, rfl, rfl, rfl, rfl, rfl, rfl, rfl, rfl⟩

theorem Q2EvOnly.trans {a b c : St} (h1 : Q2EvOnly a b) (h2 : Q2EvOnly b c) : Q2EvOnly a c :=
  ⟨h2.comps.trans h1.comps, h2.hs.trans h1.hs, h2.gens.trans h1.gens, h2.waits.trans h1.waits,
    h2.timers.trans h1.timers, h2.clock.trans h1.clock, h2.progs.trans h1.progs, h2.tmpls.trans h1.tmpls,
    h2.log.trans h1.log, h2.tape.trans h1.tape⟩

theorem Q2EvOnly.modEv {s t : St} (h : Q2EvOnly s t) (e : Nat) (f : Ev → Ev) : Q2EvOnly s (t.modEv e f) :=
  h.trans ⟨rfl, rfl, rfl, rfl, rfl, rfl, rfl, rfl, rfl, rfl⟩

theorem Q2EvOnly.addEv {s t : St} (h : Q2EvOnly s t) (e : Ev) : Q2EvOnly s (t.addEv e) :=
  h.trans ⟨rfl, rfl, rfl, rfl, rfl, rfl, rfl, rfl, rfl, rfl⟩

/-- what `fire` does to a state: one new log entry `F`, one append to the root's queue; otherwise
    only the event table is written (no handler, generator, wait, timer table changes; the clock
    stands still) -/
structure Q2Fire (s s' : St) (r e : Nat) (prio : Int) : Prop where
  comp : ∀ y, s'.comp y = if y = r ∧ y < s.comps.length then { s.comp y with eq := (s.comp y).eq.append e prio }
            else s.comp y
  clen : s'.comps.length = s.comps.length
  hs : s'.hs = s.hs
  gens : s'.gens = s.gens
  waits : s'.waits = s.waits
  timers : s'.timers = s.timers
  clock : s'.clock = s.clock
  progs : s'.progs = s.progs
  tmpls : s'.tmpls = s.tmpls
  log : ∃ nm chans, s'.log = .fire e nm chans prio :: s.log
  tape : s'.tape = s.tape.drop 1

theorem Q2Fire.then {s t t' : St} {r e : Nat} {prio : Int} (h : Q2Fire s t r e prio) (h2 : Q2EvOnly t t') :
    Q2Fire s t' r e prio := by
  obtain ⟨nm, ch, hl⟩ := h.log
  refine ⟨?_, by rw [h2.comps]; exact h.clen, h2.hs.trans h.hs, h2.gens.trans h.gens, h2.waits.trans h.waits,
    h2.timers.trans h.timers, h2.clock.trans h.clock, h2.progs.trans h.progs, h2.tmpls.trans h.tmpls,
    ⟨nm, ch, h2.log.trans hl⟩, h2.tape.trans h.tape⟩
  intro y
  have : t'.comp y = t.comp y := by unfold St.comp; rw [h2.comps]
  rw [this]; exact h.comp y

/-- `St.fireRaw_eq` (CoreFire.lean) in the terms of `Q2Fire`, after a prefix that wrote only the event table -/
theorem St.q2_fireRaw {s t : St} (h : Q2EvOnly s t) (self e : Nat) (chans : List Chan) (prio : Int) :
    Q2Fire s (t.fireRaw self e chans prio) (s.rootOf self) e prio ∧
    (t.fireRaw self e chans prio).evs.length = t.evs.length := by
  obtain ⟨evs, hl, he⟩ := t.fireRaw_eq self e chans prio
  have hc : t.comp = s.comp := by funext z; unfold St.comp; rw [h.comps]
  have hr : t.rootOf self = s.rootOf self := by unfold St.rootOf; rw [hc]
  rw [he]
  refine ⟨⟨fun y => ?_, (List.length_modify ..).trans (congrArg _ h.comps), h.hs, h.gens, h.waits, h.timers, h.clock,
    h.progs, h.tmpls, ⟨_, _, congrArg _ h.log⟩, congrArg _ h.tape⟩, hl⟩
  rw [← hr, ← hc, ← h.comps]
  exact St.w6_modComp_comp_eq t _ _ y

theorem St.q2_actFire (s : St) (self i : Nat) (target : Option Chan) (prio : Int) (cancel : Bool) :
    Q2Fire s (s.actFire self i target prio cancel) (s.rootOf self) s.evs.length prio ∧
    (s.actFire self i target prio cancel).evs.length = s.evs.length + 1 := by
  have h1 := St.q2_fireRaw ((Q2EvOnly.refl s).addEv (mkEvOfTmpl s i)) self s.evs.length
    (match target with | some t => [t] | none => [((s.addEv (mkEvOfTmpl s i)).comp self).chan]) prio
  unfold St.actFire St.fireTmplEv
  dsimp only
  split
  · exact ⟨h1.1.then ((Q2EvOnly.refl _).modEv _ _), (St.w6_modEv_evs_length ..).trans (h1.2.trans (s.w6_addEv_evs_length _))⟩
  · exact ⟨h1.1, h1.2.trans (s.w6_addEv_evs_length _)⟩

theorem q2_acts_fire (c : Cfg) (ctx : HCtx) (i : Nat) (target : Option Chan) (prio : Int) (cancel : Bool)
    (rest : Prog) (k : List Frame)
    (hs : c.stack = .acts ctx (.fire i target prio cancel :: rest) :: k) (hx : c.exn = none) :
    (step c).stack = .acts ctx rest :: k ∧ (step c).exn = none ∧ (step c).ret = c.ret ∧
    Q2Fire c.st (step c).st (c.st.rootOf ctx.self) c.st.evs.length prio ∧
    (step c).st.evs.length = c.st.evs.length + 1 := by
  rw [step_cons c _ k hs hx]
  have h := St.q2_actFire c.st ctx.self i target prio cancel
  exact ⟨rfl, hx, rfl, h.1, h.2⟩

theorem q2_stepGen_fire (c : Cfg) (g e h owner : Nat) (i : Nat) (target : Option Chan) (prio : Int) (cancel : Bool)
    (rest : Prog) (step' : Nat) (pc : Option Bool) (sd : Bool) (k : List Frame)
    (hs : c.stack = .stepGen g :: k) (hx : c.exn = none)
    (hg : c.st.gen g = .user e h owner (.fire i target prio cancel :: rest) step' pc sd) :
    (step c).stack = .stepGen g :: k ∧ (step c).exn = none ∧ (step c).ret = c.ret ∧
    Q2Fire (c.st.setGen g (.user e h owner rest step' none sd)) (step c).st (c.st.rootOf owner) c.st.evs.length prio ∧
    (step c).st.evs.length = c.st.evs.length + 1 := by
  rw [step_cons c _ k hs hx]
  have h := St.q2_actFire (c.st.setGen g (.user e h owner rest step' none sd)) owner i target prio cancel
  dsimp only [stepFrame]
  unfold Cfg.stepGen
  simp only [hg]
  exact ⟨rfl, hx, rfl, h.1, h.2⟩

/-- the priority `_dispatcher` sorts by -/
def St.q2prio (s : St) (h : Nat) : Int := (s.hs.getD h dfltHandler).prio

/-- the hint the machine reads off the tape for the next handler of event `e`: the handler named
    by a pending `I` entry, or the first handler of the head's tie group that matches a pending
    `H` entry -/
def St.q2hint (s : St) (e h0 : Nat) (rest0 : List Nat) : Option Nat :=
  match s.tape.head? with
  | some (.inv e' h' 0) => if e' == e then some h' else none
  | some (.hinv e' k o) =>
    if e' == e then
      ((h0 :: rest0).takeWhile (fun h => s.q2prio h == s.q2prio h0)).find?
        (fun h => (s.hs.getD h dfltHandler).kind.code == k && hkey s (s.hs.getD h dfltHandler) == o)
    else none
  | _ => none

theorem q2_chooseHandler (s : St) (e h0 : Nat) (rest0 : List Nat) :
    chooseNext s.q2prio (s.q2hint e h0 rest0) (h0 :: rest0) =
      some (s.chooseHandler e h0 rest0, (h0 :: rest0).erase (s.chooseHandler e h0 rest0)) := by
  unfold chooseNext
  dsimp only
  -- the handler chosen is the same; tape entry by tape entry: `I` names it, `H` finds it in the tie group, else the head
  refine congrArg (fun a => some (a, (h0 :: rest0).erase a)) ?_
  unfold St.q2hint St.chooseHandler St.q2prio
  dsimp only
  generalize s.tape.head? = th
  cases th with
  | none => rfl
  | some x =>
    cases x with
    | inv e' h' n =>
      cases n with
      | zero =>
        by_cases he : (e' == e) = true
        · simp only [he, if_true, Bool.true_and]
        · simp only [he, Bool.false_and]; rfl
      | succ n => rfl
    | hinv e' k o =>
      dsimp only
      by_cases he : (e' == e) = true
      · simp only [he, if_true]
        cases hf : List.find? (fun h => (s.hs.getD h dfltHandler).kind.code == k && hkey s (s.hs.getD h dfltHandler) == o)
            (List.takeWhile (fun h => (s.hs.getD h dfltHandler).prio == (s.hs.getD h0 dfltHandler).prio) (h0 :: rest0)) with
        | none => rfl
        | some a =>
          -- what `find?` returns is in the tie group, so the hint is honoured
          simp only [Option.getD_some]
          rw [if_pos (by simpa using List.mem_of_find?_eq_some hf)]
      · simp only [he]; rfl
    | _ => rfl

theorem q2_desc_of_mergeSort (prioOf : Nat → Int) (l : List Nat) :
    Desc prioOf (l.mergeSort (fun a b => decide (prioOf a ≥ prioOf b))) := desc_of_mergeSort prioOf l

/-- `sorted(chain(getHandlers(event, ch) for ch in channels), key=priority, reverse=True)`:
    verbatim the first two `let`s of `St.computeHandlers` -/
def St.q2sorted (s : St) (r : Nat) (name : Name) (chans : List Chan) : List Nat :=
  (chans.flatMap (fun ch => collect s (s.comps.length + 1) r name ch)).mergeSort
    (fun a b => (s.hs.getD a dfltHandler).prio ≥ (s.hs.getD b dfltHandler).prio)

/-- `St.q2sorted` and `Live.freshHandlers` (CoreFacts.lean) are one term under two names: C02's statements say the first,
    the general facts about what `computeHandlers` collects (`fresh_of_tables`, `St.fbRes`) the second -/
theorem St.q2sorted_fresh (s : St) (r : Nat) (name : Name) (chans : List Chan) :
    s.q2sorted r name chans = Live.freshHandlers s r name chans := rfl

theorem q2_sorted_desc (s : St) (r : Nat) (name : Name) (chans : List Chan) :
    Desc s.q2prio (s.q2sorted r name chans) := desc_of_mergeSort s.q2prio _

/-- `St.computeHandlers_eq`, read case by case off `St.fbRes` -/
theorem q2_computeHandlers (s : St) (r : Nat) (name : Name) (chans : List Chan) :
    ((s.computeHandlers r name chans).1 = s.q2sorted r name chans ∧ (s.computeHandlers r name chans).2.hs = s.hs ∧
        name ≠ Name.generateEvents ∧ ¬ (name = Name.exception ∧ s.q2sorted r name chans = []))
    ∨ ((s.computeHandlers r name chans).1 = s.q2sorted r name chans ++ [s.hs.length] ∧
        ∃ hd, (s.computeHandlers r name chans).2.hs = s.hs ++ [hd] ∧
          ((name = Name.generateEvents ∧ hd.prio = -100 ∧ hd.kind = .fallbackGE) ∨
           (name = Name.exception ∧ s.q2sorted r name chans = [] ∧ hd.prio = 0 ∧ hd.kind = .fallbackExc))) := by
  rw [St.computeHandlers_eq, St.q2sorted_fresh]
  unfold St.fbRes
  split
  · rename_i h1
    exact .inr ⟨rfl, _, rfl, .inl ⟨by simpa using h1, rfl, rfl⟩⟩
  · rename_i h1
    split
    · rename_i h2
      simp only [Bool.and_eq_true, beq_iff_eq, List.isEmpty_iff] at h2
      exact .inr ⟨rfl, _, rfl, .inr ⟨h2.1, h2.2, rfl, rfl⟩⟩
    · rename_i h2
      simp only [Bool.and_eq_true, beq_iff_eq, List.isEmpty_iff] at h2
      exact .inl ⟨rfl, rfl, by simpa using h1, h2⟩

theorem St.q2prio_of_hs {s s' : St} (h : s'.hs = s.hs) : s'.q2prio = s.q2prio := by
  funext x; unfold St.q2prio; rw [h]

theorem St.q2prio_append_lt {s s' : St} {l : List Handler} (h : s'.hs = s.hs ++ l) {x : Nat} (hx : x < s.hs.length) :
    s'.q2prio x = s.q2prio x := by
  unfold St.q2prio
  rw [h, o2_getD_append _ _ hx]

theorem St.q2prio_append_new {s s' : St} {hd : Handler} (h : s'.hs = s.hs ++ [hd]) :
    s'.q2prio s.hs.length = hd.prio := by
  unfold St.q2prio
  rw [h, w6_getD_append_single, if_pos rfl]

theorem q2_computeHandlers_desc (s : St) (r : Nat) (name : Name) (chans : List Chan)
    (hin : ∀ h ∈ s.q2sorted r name chans, h < s.hs.length)
    (hlow : name = Name.generateEvents → ∀ h ∈ s.q2sorted r name chans, s.q2prio h ≥ -100) :
    Desc (s.computeHandlers r name chans).2.q2prio (s.computeHandlers r name chans).1 := by
  have hd0 := q2_sorted_desc s r name chans
  rcases q2_computeHandlers s r name chans with ⟨h1, h2, _, _⟩ | ⟨h1, hd, h2, h3⟩
  · rw [h1, St.q2prio_of_hs h2]; exact hd0
  · rw [h1]
    unfold Desc
    rw [List.pairwise_append]
    refine ⟨?_, by simp, ?_⟩
    · refine List.Pairwise.imp_of_mem ?_ hd0
      intro a b ha hb hab
      rw [St.q2prio_append_lt h2 (hin a ha), St.q2prio_append_lt h2 (hin b hb)]
      exact hab
    · intro a ha b hb
      rw [List.mem_singleton.mp hb, St.q2prio_append_new h2, St.q2prio_append_lt h2 (hin a ha)]
      rcases h3 with ⟨hn, hp, _⟩ | ⟨_, he, _, _⟩
      · rw [hp]; exact hlow hn a ha
      · rw [he] at ha; exact absurd ha (by simp)

theorem q2_hLoop_step (c : Cfg) (r e h0 : Nat) (rest0 : List Nat) (err : Bool) (stale : Outcome) (k : List Frame)
    (hs : c.stack = .hLoop r e (h0 :: rest0) err stale :: k) (hx : c.exn = none) :
    ∃ h rest, chooseNext c.st.q2prio (c.st.q2hint e h0 rest0) (h0 :: rest0) = some (h, rest) ∧
      (step c).stack = .invoke r h e :: .hAfter r e rest err stale :: k ∧ (step c).exn = none ∧
      (step c).st.hs = c.st.hs := by
  rw [step_cons c _ k hs hx]
  exact ⟨_, _, q2_chooseHandler c.st e h0 rest0, rfl, hx, rfl⟩

theorem q2_hLoop_nil (c : Cfg) (r e : Nat) (err : Bool) (stale : Outcome) (k : List Frame)
    (hs : c.stack = .hLoop r e [] err stale :: k) (hx : c.exn = none) :
    (step c).stack = .dispFin r e err :: k := by
  rw [step_cons c _ k hs hx]; rfl

theorem q2_hApply_step (c : Cfg) (r e : Nat) (rest : List Nat) (err : Bool) (v : Outcome) (k : List Frame)
    (hs : c.stack = .hApply r e rest err v :: k) (hx : c.exn = none) :
    (step c).stack = (if ((c.st.applyValue r e v).ev e).stopped = true then Frame.dispFin r e err
                      else Frame.hLoop r e rest err v) :: k := by
  rw [step_cons c _ k hs hx]
  dsimp only [stepFrame]
  unfold Cfg.hApply
  dsimp only
  split <;> rfl

/-- the frames in which events leave a queue or reach a handler (`tick`, `flush`, the dispatch loop, `_dispatcher`, the
    handler loop and call): `q2_no_reentrant` says a `fire` does not put one on top -/
def Frame.q2dispatching : Frame → Bool
  | .dispatcher .. => true
  | .hLoop .. => true
  | .invoke .. => true
  | .dispatchLoop _ => true
  | .flush _ => true
  | .tick _ => true
  | _ => false

def Q2FiresNext (c : Cfg) : Prop :=
  c.exn = none ∧
  ((∃ ctx i tg p cn rest k, c.stack = .acts ctx (.fire i tg p cn :: rest) :: k) ∨
   (∃ g e h owner i tg p cn rest st pc sd k, c.stack = .stepGen g :: k ∧
      c.st.gen g = .user e h owner (.fire i tg p cn :: rest) st pc sd))

theorem q2_no_reentrant (c : Cfg) (h : Q2FiresNext c) :
    ∃ f f' k, c.stack = f :: k ∧ (step c).stack = f' :: k ∧ f'.q2dispatching = false ∧
      (step c).exn = none ∧ (step c).ret = c.ret ∧
      (∃ e nm ch p, (step c).st.log = .fire e nm ch p :: c.st.log) ∧ (step c).st.hs = c.st.hs := by
  obtain ⟨hx, h | h⟩ := h
  · obtain ⟨ctx, i, tg, p, cn, rest, k, hs⟩ := h
    obtain ⟨h1, h2, h3, h4, _⟩ := q2_acts_fire c ctx i tg p cn rest k hs hx
    obtain ⟨nm, ch, hl⟩ := h4.log
    exact ⟨_, _, k, hs, h1, rfl, h2, h3, ⟨_, nm, ch, p, hl⟩, h4.hs⟩
  · obtain ⟨g, e, hh, owner, i, tg, p, cn, rest, st, pc, sd, k, hs, hg⟩ := h
    obtain ⟨h1, h2, h3, h4, _⟩ := q2_stepGen_fire c g e hh owner i tg p cn rest st pc sd k hs hx hg
    obtain ⟨nm, ch, hl⟩ := h4.log
    exact ⟨_, _, k, hs, h1, rfl, h2, h3, ⟨_, nm, ch, p, hl⟩, h4.hs⟩

def q2poppedRun (x : Nat) : Nat → Cfg → List QItem
  | 0, _ => []
  | n + 1, c => (q2popped c x).toList ++ q2poppedRun x n (step c)

theorem q2_step_trace (c : Cfg) (x : Nat) (hg : Q2NoDrain c) :
    ∃ ops : List QOp, ((step c).st.comp x).eq = (runOps (c.st.comp x).eq ops).1 ∧
      (runOps (c.st.comp x).eq ops).2 = (q2popped c x).toList := by
  rcases q2_step_class c x with ⟨⟨ops, ha, he⟩, hp⟩ | ⟨y, k, hs, _, _, he⟩ | ⟨k, it, q', hs, hx, h1, he, _⟩ |
      ⟨ch, p, k, hs, hx, _, _, _, he⟩ | ⟨p, k, hs, hx, _, _, he⟩
  · exact ⟨ops, he, by rw [hp, (q2_runOps_apps _ ops ha).1]; rfl⟩
  · exact ⟨[.flushBegin], he, by rw [q2popped_of_stack x hs (fun _ h => by cases h)]; rfl⟩
  · refine ⟨[.pop c.st.q2pick], ?_, ?_⟩
    · rw [he]; simp only [runOps, QOp.apply, h1]
    · rw [q2popped_dispatchLoop x hs hx, if_pos rfl, St.q2_popEvent, h1]; simp only [runOps, QOp.apply, h1]; rfl
  · exact ⟨[], by rw [he, drainFrom_nil_left _ _ (hg ch p k hs hx)]; rfl,
      by rw [q2popped_of_stack x hs (fun _ h => by cases h)]; rfl⟩
  · exact ⟨[], by rw [he, drainFrom_nil_right _ _ (hg x p k hs hx)]; rfl,
      by rw [q2popped_of_stack x hs (fun _ h => by cases h)]; rfl⟩

theorem q2_run_trace (x : Nat) : ∀ (n : Nat) (c : Cfg), (∀ i, i < n → Q2NoDrain (runN i c)) →
    ∃ ops : List QOp, ((runN n c).st.comp x).eq = (runOps (c.st.comp x).eq ops).1 ∧
      (runOps (c.st.comp x).eq ops).2 = q2poppedRun x n c := by
  intro n
  induction n with
  | zero => intro c _; exact ⟨[], rfl, rfl⟩
  | succ n ih =>
    intro c hg
    obtain ⟨o1, e1, p1⟩ := q2_step_trace c x (hg 0 (Nat.succ_pos _))
    obtain ⟨o2, e2, p2⟩ := ih (step c) (fun i hi => by rw [← runN_succ]; exact hg (i + 1) (Nat.succ_lt_succ hi))
    refine ⟨o1 ++ o2, ?_, ?_⟩
    · rw [runN_succ, q2_runOps_append, ← e1]; exact e2
    · rw [q2_runOps_append2, p1, ← e1, p2]; rfl

theorem q2_popped_dispatched (c : Cfg) (x : Nat) (it : QItem) (h : q2popped c x = some it) :
    ∃ k, c.stack = .dispatchLoop x :: k ∧ c.exn = none ∧
      (step c).stack = .dispatcher x it.ev ((step c).st.comp x).eq.batch :: .dispatchLoop x :: k := by
  rcases q2_step_class c x with ⟨_, hp⟩ | ⟨y, k, hs, _⟩ | ⟨k, it', q', hs, hx, h1, he, h2⟩ | ⟨ch, p, k, hs, _⟩ | ⟨p, k, hs, _⟩
  · rw [hp] at h; cases h
  · rw [q2popped_of_stack x hs (fun _ h => by cases h)] at h; cases h
  · rw [q2popped_dispatchLoop x hs hx, if_pos rfl, St.q2_popEvent, h1] at h
    cases h
    exact ⟨k, hs, hx, by rw [he]; exact h2⟩
  · rw [q2popped_of_stack x hs (fun _ h => by cases h)] at h; cases h
  · rw [q2popped_of_stack x hs (fun _ h => by cases h)] at h; cases h

theorem q2_two_fresh_init :
    Q2InvAll { comps := [{ parent := 0, root := 0 }, { parent := 1, root := 1 }] } := by
  intro x
  have h : ((({ comps := [{ parent := 0, root := 0 }, { parent := 1, root := 1 }] } : St).comp x).eq) = {} := by
    unfold St.comp
    match x with
    | 0 => rfl
    | 1 => rfl
    | n + 2 => rfl
  rw [h]; exact qinv_empty

end CV.Core
