import CV.Proofs.CoreStep
import CV.Proofs.CoreReach
import CV.Proofs.CoreQueue
import CV.Model.Core.LogSpec
/-
C02, machine level: the two relations that say what firing does to the queues, and their walk through the helpers.

The layer theorems of CV/Props/C02.lean talk about `EQ` under the op language `QOp`
(`app` = `EQ.append`, `flushBegin` = `EQ.begin`, `pop` = `EQ.pop`); the machine touches a component's queue only
through these operations (plus `EQ.drainFrom` in the `register` step).  Here:

  `QRel x s t`  ("quiet for the queue of x"): `(t.comp x).eq` is obtained from `(s.comp x).eq`
                by a finite sequence of `QOp.app` ops;
  `O2PR s t`    under the single-root hypothesis `O2SR` (every component's root is component 0): between `s` and `t`
                the queue of component 0 received exactly the appends `(e, prio)` of a list `fires`, and the replay
                state `o2pass` of the log (`passStep` of CV/Model/Core/LogSpec.lean folded over it) received exactly
                the corresponding `F` entries (no `B`, no `D`).

Both hold of code that touches queues only by firing, and `_fire` is the one place where either has something to show
(`QRel.modCompAppend`, `O2PR.fire`).  So the helpers are walked once, for the pair `QFR` (pattern of
CV/Proofs/Pres.lean; the lemmas carry `st_pres`), which survives every operation of the arms but the five of `O2PR.bad`
(`QFR.keeps`).  `QRel.<helper>` and `O2PR.<helper>` (the latter in CV/Proofs/InvOrderPass.lean) state its halves by name;
`QRel` alone also survives new roots and the `D` entry (`QRel.keeps`, three operations excepted), hence every arm of
`step` except `.flush`, `.dispatchLoop`, `.register` (`stepFrame_q2`, `unwind_q2`).

The three special arms, the classification of one step and the invariants over runs are in CV/Proofs/InvQueue.lean.

Names used throughout the C02 files.  The log letters are constructors of `Entry`: `F` = `.fire e name chans prio`,
`B` = `.batch n`, `D` = `.disp e`, `I` = `.inv e h step` (`step = 0`: the call itself, later steps are resumptions),
`H` = `.hinv e kind owner`.  `q2_` / `Q2` marks the queue half of C02 (what steps do to an `EQ`: this file and InvQueue.lean),
`o2_` / `O2` the order half (InvOrderBase.lean, InvOrder.lean, InvOrderLog.lean: handler order; InvOrderPass.lean, prefix
`O2P` / `o2p`: pass order).  The letter after `O2` / `O2P` says what kind of statement it is: `C` / `S` a state invariant (of
tables / of a `St`), `R` a relation between an earlier and a later state, `G` what a generic arm yields (`R` from the state
before, and only harmless frames pushed), `I` the invariant of configurations, `SR` the single-root hypothesis.  `QFR` is
`QRel` of every component together with `O2PR`, the pair that is walked.
-/
namespace CV.Core

def q2AllApp (ops : List QOp) : Prop := ∀ o ∈ ops, ∃ e p, o = QOp.app e p

theorem q2AllApp_nil : q2AllApp [] := fun _ h => absurd h (by simp)

theorem q2AllApp_append {a b : List QOp} (ha : q2AllApp a) (hb : q2AllApp b) : q2AllApp (a ++ b) := by
  intro o ho
  rcases List.mem_append.mp ho with h | h
  · exact ha o h
  · exact hb o h

theorem q2AllApp_single (e : Nat) (p : Int) : q2AllApp [QOp.app e p] := by
  intro o ho
  exact ⟨e, p, List.mem_singleton.mp ho⟩

theorem q2_runOps_append_pair (q : EQ) (a b : List QOp) :
    runOps q (a ++ b) = ((runOps (runOps q a).1 b).1, (runOps q a).2 ++ (runOps (runOps q a).1 b).2) := by
  induction a generalizing q with
  | nil => rfl
  | cons o a ih => simp only [List.cons_append, runOps, ih, List.append_assoc]

theorem q2_runOps_append (q : EQ) (a b : List QOp) :
    (runOps q (a ++ b)).1 = (runOps (runOps q a).1 b).1 := by rw [q2_runOps_append_pair]

theorem q2_runOps_append2 (q : EQ) (a b : List QOp) :
    (runOps q (a ++ b)).2 = (runOps q a).2 ++ (runOps (runOps q a).1 b).2 := by rw [q2_runOps_append_pair]

theorem q2_runOps_apps (q : EQ) (ops : List QOp) (h : q2AllApp ops) :
    (runOps q ops).2 = [] ∧ (runOps q ops).1.heap = q.heap ∧ (runOps q ops).1.batch = q.batch ∧
    (runOps q ops).1.queue = q.queue ++ appItems q.counter ops ∧
    (runOps q ops).1.counter = q.counter + ops.length := by
  induction ops generalizing q with
  | nil => simp [runOps, appItems]
  | cons o ops ih =>
    obtain ⟨e, p, rfl⟩ := h _ List.mem_cons_self
    have ih' := ih (q.append e p) (fun o ho => h o (List.mem_cons_of_mem _ ho))
    simp only [runOps, QOp.apply, List.nil_append, appItems]
    refine ⟨ih'.1, ih'.2.1, ih'.2.2.1, ?_, ?_⟩
    · rw [ih'.2.2.2.1]; simp [EQ.append]
    · rw [ih'.2.2.2.2]; simp [EQ.append]; omega

def QRel (x : Nat) (s t : St) : Prop :=
  ∃ ops : List QOp, q2AllApp ops ∧ (t.comp x).eq = (runOps (s.comp x).eq ops).1

namespace QRel
variable {qx : Nat}

theorem of_eq {s t : St} (h : (t.comp qx).eq = (s.comp qx).eq) : QRel qx s t := ⟨[], q2AllApp_nil, h⟩

theorem refl (s : St) : QRel qx s s := of_eq rfl

theorem trans {a b c : St} (h1 : QRel qx a b) (h2 : QRel qx b c) : QRel qx a c := by
  obtain ⟨o1, a1, e1⟩ := h1
  obtain ⟨o2, a2, e2⟩ := h2
  exact ⟨o1 ++ o2, q2AllApp_append a1 a2, by rw [q2_runOps_append, e2, e1]⟩

theorem of_comps {s t t' : St} (h : QRel qx s t) (hc : t'.comps = t.comps) : QRel qx s t' := by
  obtain ⟨o, a, e⟩ := h
  exact ⟨o, a, by rw [← e]; unfold St.comp; rw [hc]⟩

variable {s t : St}

theorem modEv (h : QRel qx s t) (e : Nat) (f : Ev → Ev) : QRel qx s (t.modEv e f) := h.of_comps rfl
theorem modWait (h : QRel qx s t) (w : Nat) (f : WaitSt → WaitSt) : QRel qx s (t.modWait w f) := h.of_comps rfl
theorem modTimer (h : QRel qx s t) (i : Nat) (f : TimerSt → TimerSt) : QRel qx s (t.modTimer i f) := h.of_comps rfl
theorem setGen (h : QRel qx s t) (g : Nat) (y : GenRec) : QRel qx s (t.setGen g y) := h.of_comps rfl
theorem logE (h : QRel qx s t) (y : Entry) : QRel qx s (t.logE y) := h.of_comps rfl
theorem addEv (h : QRel qx s t) (e : Ev) : QRel qx s (t.addEv e) := h.of_comps rfl
theorem addH (h : QRel qx s t) (y : Handler) : QRel qx s (t.addH y) := h.of_comps rfl
theorem addGen (h : QRel qx s t) (g : GenRec) : QRel qx s (t.addGen g) := h.of_comps rfl
theorem addWait (h : QRel qx s t) (w : WaitSt) : QRel qx s (t.addWait w) := h.of_comps rfl
theorem tick1 (h : QRel qx s t) (d : Int) : QRel qx s (t.tick1 d) := h.of_comps rfl

theorem modComp (h : QRel qx s t) (c : Nat) (f : Comp → Comp) (hf : ∀ y : Comp, (f y).eq = y.eq) :
    QRel qx s (t.modComp c f) :=
  h.trans (of_eq (St.w6_modComp_comp_pres t (·.eq) c f hf qx))

theorem modCompAppend (h : QRel qx s t) (r e : Nat) (prio : Int) :
    QRel qx s (t.modComp r fun y => { y with eq := y.eq.append e prio }) := by
  refine h.trans ?_
  by_cases hc : qx = r ∧ qx < t.comps.length
  · refine ⟨[.app e prio], q2AllApp_single e prio, ?_⟩
    rw [St.w6_modComp_comp_eq, if_pos hc]
    rfl
  · refine of_eq ?_
    rw [St.w6_modComp_comp_eq, if_neg hc]

end QRel

/-- `passStep` folded over the log in chronological order -/
def o2pass (s : St) : PassSt := s.log.reverse.foldl passStep {}

theorem o2pass_logE (s : St) (x : Entry) : o2pass (s.logE x) = passStep (o2pass s) x := by
  unfold o2pass St.logE
  simp [List.foldl_append]

def Entry.o2pneutral : Entry → Bool
  | .fire .. => false
  | .batch _ => false
  | .disp _ => false
  | _ => true

theorem o2_passStep_neutral (P : PassSt) (x : Entry) (h : x.o2pneutral = true) : passStep P x = P := by
  cases x <;> first | rfl | (simp [Entry.o2pneutral] at h)

def pfire (P : PassSt) (f : Nat × Int) : PassSt :=
  { P with pending := P.pending ++ [⟨f.2, P.count, f.1⟩], count := P.count + 1 }

theorem o2_passStep_fire (P : PassSt) (e : Nat) (n : Name) (ch : List Chan) (p : Int) :
    passStep P (.fire e n ch p) = pfire P (e, p) := rfl

structure O2SR (s : St) : Prop where
  pos : 0 < s.comps.length
  root : ∀ x, (s.comp x).root = 0

structure O2PFires (s t : St) (fires : List (Nat × Int)) : Prop where
  eq : (t.comp 0).eq = (runOps (s.comp 0).eq (fires.map fun f => QOp.app f.1 f.2)).1
  pass : o2pass t = fires.foldl pfire (o2pass s)

/-- an implication, not a preorder on all states: nothing is claimed unless `s` has the single root; `refl` and `trans`
    hold because `O2SR` is part of the conclusion -/
def O2PR (s t : St) : Prop := O2SR s → O2SR t ∧ ∃ fires, O2PFires s t fires

namespace O2PR

theorem refl (s : St) : O2PR s s := fun h => ⟨h, [], rfl, rfl⟩

theorem trans {a b c : St} (h1 : O2PR a b) (h2 : O2PR b c) : O2PR a c := by
  intro ha
  obtain ⟨hb, f1, e1, p1⟩ := h1 ha
  obtain ⟨hc, f2, e2, p2⟩ := h2 hb
  refine ⟨hc, f1 ++ f2, ?_, ?_⟩
  · rw [List.map_append, q2_runOps_append, ← e1]; exact e2
  · rw [List.foldl_append, ← p1]; exact p2

theorem of_same {t t' : St} (hc : t'.comps = t.comps) (hl : t'.log = t.log) : O2PR t t' := by
  have hcomp : t'.comp = t.comp := by funext c; unfold St.comp; rw [hc]
  intro ht
  refine ⟨⟨by rw [hc]; exact ht.pos, fun x => by rw [hcomp]; exact ht.root x⟩, [], ?_, ?_⟩
  · rw [hcomp]; rfl
  · unfold o2pass; rw [hl]; rfl

variable {s t : St}

theorem modEv (h : O2PR s t) (e : Nat) (f : Ev → Ev) : O2PR s (t.modEv e f) := h.trans (of_same rfl rfl)
theorem modWait (h : O2PR s t) (w : Nat) (f : WaitSt → WaitSt) : O2PR s (t.modWait w f) := h.trans (of_same rfl rfl)
theorem modTimer (h : O2PR s t) (i : Nat) (f : TimerSt → TimerSt) : O2PR s (t.modTimer i f) := h.trans (of_same rfl rfl)
theorem setGen (h : O2PR s t) (g : Nat) (y : GenRec) : O2PR s (t.setGen g y) := h.trans (of_same rfl rfl)
theorem addEv (h : O2PR s t) (e : Ev) : O2PR s (t.addEv e) := h.trans (of_same rfl rfl)
theorem addH (h : O2PR s t) (y : Handler) : O2PR s (t.addH y) := h.trans (of_same rfl rfl)
theorem addGen (h : O2PR s t) (g : GenRec) : O2PR s (t.addGen g) := h.trans (of_same rfl rfl)
theorem addWait (h : O2PR s t) (w : WaitSt) : O2PR s (t.addWait w) := h.trans (of_same rfl rfl)
theorem tick1 (h : O2PR s t) (d : Int) : O2PR s (t.tick1 d) := h.trans (of_same rfl rfl)

theorem logE (h : O2PR s t) (x : Entry) (hq : x.o2pneutral = true) : O2PR s (t.logE x) := by
  refine h.trans ?_
  intro ht
  refine ⟨⟨ht.pos, ht.root⟩, [], rfl, ?_⟩
  rw [o2pass_logE, o2_passStep_neutral _ _ hq]; rfl

theorem modComp (h : O2PR s t) (c : Nat) (f : Comp → Comp) (hf : ∀ y : Comp, (f y).eq = y.eq ∧ (f y).root = y.root) :
    O2PR s (t.modComp c f) := by
  refine h.trans ?_
  intro ht
  refine ⟨⟨by rw [St.w6_modComp_comps_length]; exact ht.pos, fun x => ?_⟩, [], ?_, rfl⟩
  · rw [St.w6_modComp_comp_eq]
    split
    · rw [(hf _).2]; exact ht.root x
    · exact ht.root x
  · rw [St.w6_modComp_comp_eq]
    split
    · exact (hf _).1
    · rfl

end O2PR

def QFR (s t : St) : Prop := (∀ x, QRel x s t) ∧ O2PR s t

namespace QFR

@[st_pres ↓] theorem refl (s : St) : QFR s s := ⟨fun _ => .refl s, .refl s⟩

theorem trans {a b c : St} (h1 : QFR a b) (h2 : QFR b c) : QFR a c :=
  ⟨fun x => (h1.1 x).trans (h2.1 x), h1.2.trans h2.2⟩

variable {s t : St}

@[st_pres ↓] theorem modEv (h : QFR s t) (e : Nat) (f : Ev → Ev) : QFR s (t.modEv e f) := ⟨fun x => (h.1 x).modEv e f, h.2.modEv e f⟩
@[st_pres ↓] theorem modWait (h : QFR s t) (w : Nat) (f : WaitSt → WaitSt) : QFR s (t.modWait w f) := ⟨fun x => (h.1 x).modWait w f, h.2.modWait w f⟩
@[st_pres ↓] theorem modTimer (h : QFR s t) (i : Nat) (f : TimerSt → TimerSt) : QFR s (t.modTimer i f) := ⟨fun x => (h.1 x).modTimer i f, h.2.modTimer i f⟩
@[st_pres ↓] theorem setGen (h : QFR s t) (g : Nat) (y : GenRec) : QFR s (t.setGen g y) := ⟨fun x => (h.1 x).setGen g y, h.2.setGen g y⟩
@[st_pres ↓] theorem addEv (h : QFR s t) (e : Ev) : QFR s (t.addEv e) := ⟨fun x => (h.1 x).addEv e, h.2.addEv e⟩
@[st_pres ↓] theorem addH (h : QFR s t) (y : Handler) : QFR s (t.addH y) := ⟨fun x => (h.1 x).addH y, h.2.addH y⟩
@[st_pres ↓] theorem addGen (h : QFR s t) (g : GenRec) : QFR s (t.addGen g) := ⟨fun x => (h.1 x).addGen g, h.2.addGen g⟩
@[st_pres ↓] theorem addWait (h : QFR s t) (w : WaitSt) : QFR s (t.addWait w) := ⟨fun x => (h.1 x).addWait w, h.2.addWait w⟩
@[st_pres ↓] theorem tick1 (h : QFR s t) (d : Int) : QFR s (t.tick1 d) := ⟨fun x => (h.1 x).tick1 d, h.2.tick1 d⟩

@[st_pres ↓] theorem logE (h : QFR s t) (x : Entry) (hq : x.o2pneutral = true) : QFR s (t.logE x) :=
  ⟨fun y => (h.1 y).logE x, h.2.logE x hq⟩

@[st_pres ↓] theorem modComp (h : QFR s t) (c : Nat) (f : Comp → Comp) (hf : ∀ y : Comp, (f y).eq = y.eq ∧ (f y).root = y.root) :
    QFR s (t.modComp c f) :=
  ⟨fun x => (h.1 x).modComp c f fun y => (hf y).1, h.2.modComp c f hf⟩

end QFR

@[st_pres ↓] theorem QFR.addHandler {s t : St} (h : QFR s t) (y : Nat) : QFR s (t.addHandler y) :=
  St.addHandler_pres t y h (fun _ h => by st_pres) (fun _ _ h => by st_pres) (fun _ _ h => by st_pres)

@[st_pres ↓] theorem QFR.removeHandler {s t : St} (h : QFR s t) (y : Nat) (n : Option Name) :
    QFR s ((t.removeHandler y n).2) := by
  st_pres_unfold St.removeHandler

@[st_pres ↓] theorem QFR.fireContext {s t : St} (h : QFR s t) (r e : Nat) :
    QFR s (t.fireContext r e) :=
  St.fireContext_pres t r e h (fun _ _ h => by st_pres) (fun _ _ h => by st_pres) (fun _ _ h => by st_pres)

theorem O2PR.fire {s t : St} (h : O2PR s t) (r e : Nat) (nm : Name) (chans : List Chan) (prio : Int)
    (hr : O2SR s → r = 0) :
    O2PR s ((t.modComp r fun x => { x with eq := x.eq.append e prio }).logE (.fire e nm chans prio)) := by
  intro hs
  obtain ⟨hs2, f2, e2, p2⟩ := h hs
  have hr0 := hr hs
  subst hr0
  have hc0 : (t.modComp 0 fun x => { x with eq := x.eq.append e prio }).comp 0 = { t.comp 0 with eq := (t.comp 0).eq.append e prio } := by
    rw [St.w6_modComp_comp_eq, if_pos ⟨rfl, hs2.pos⟩]
  refine ⟨⟨?_, ?_⟩, f2 ++ [(e, prio)], ?_, ?_⟩
  · show 0 < (t.modComp 0 _).comps.length
    rw [St.w6_modComp_comps_length]; exact hs2.pos
  · intro x
    show ((t.modComp 0 _).comp x).root = 0
    rw [St.w6_modComp_comp_eq]
    split
    · exact hs2.root x
    · exact hs2.root x
  · show ((t.modComp 0 _).comp 0).eq = _
    rw [hc0, List.map_append, q2_runOps_append, ← e2]
    rfl
  · rw [o2pass_logE, o2_passStep_fire, List.foldl_append, ← p2]
    rfl

@[st_pres ↓] theorem QFR.fireRaw {s t : St} (h : QFR s t) (self e : Nat) (chans : List Chan) (prio : Int) :
    QFR s (t.fireRaw self e chans prio) := by
  have h1 : QFR s ((t.modEv e fun x => { x with chans := chans, val := {}, mgr := self }).fireContext
      ((t.modEv e fun x => { x with chans := chans, val := {}, mgr := self }).rootOf self) e) := by st_pres
  exact ⟨fun x => ((h1.1 x).modCompAppend _ _ _).logE _, h1.2.fire _ _ _ _ _ fun hs => (h.2 hs).1.root self⟩

@[st_pres ↓] theorem QFR.childEv {s t : St} (h : QFR s t) (p sfx : Nat) :
    QFR s (t.childEv p sfx) := by
  st_pres_unfold St.childEv

@[st_pres ↓] theorem QFR.fireChild {s t : St} (h : QFR s t) (self p sfx : Nat) (chans : List Chan) :
    QFR s (t.fireChild self p sfx chans) := by
  st_pres_unfold St.fireChild

@[st_pres ↓] theorem QFR.inform {s t : St} (h : QFR s t) (e : Nat) (force : Bool) :
    QFR s (t.inform e force) := by
  st_pres_unfold St.inform

@[st_pres ↓] theorem QFR.setValue {s t : St} (h : QFR s t) (e : Nat) (x : VItem) :
    QFR s (t.setValue e x) := by
  st_pres_unfold St.setValue

@[st_pres ↓] theorem QFR.fireTmplEv {s t : St} (h : QFR s t) (self : Nat) (ev : Ev) (target : Option Chan) (prio : Int) :
    QFR s (t.fireTmplEv self ev target prio) := by
  st_pres_unfold St.fireTmplEv

@[st_pres ↓] theorem QFR.effectDone1 {s t : St} (h : QFR s t) (r e : Nat) (announce : Bool) :
    QFR s ((t.effectDone1 r e announce).2) :=
  St.effectDone1_pres t r e announce h (fun _ => h.modEv _ _) (fun _ _ h => h.fireChild _ _ _ _) (fun _ h => h.modEv _ _)

@[st_pres ↓] theorem QFR.eventDonePre {s t : St} (h : QFR s t) (r e : Nat) (err : Bool) :
    QFR s ((t.eventDonePre r e err).2) := by
  st_pres_unfold St.eventDonePre

@[st_pres ↓] theorem QFR.registerTask {s t : St} (h : QFR s t) (c : Nat) (x : Task) :
    QFR s (t.registerTask c x) := by
  st_pres_unfold St.registerTask

@[st_pres ↓] theorem QFR.unregisterTask {s t : St} (h : QFR s t) (c : Nat) (x : Task) :
    QFR s (t.unregisterTask c x) := by
  st_pres_unfold St.unregisterTask

@[st_pres ↓] theorem QFR.reduceTimeLeft {s t : St} (h : QFR s t) (e : Nat) (d : Int) :
    QFR s (t.reduceTimeLeft e d) := by
  st_pres_unfold St.reduceTimeLeft

@[st_pres ↓] theorem QFR.registerFin {s t : St} (h : QFR s t) (c : Nat) :
    QFR s (t.registerFin c) := by
  st_pres_unfold St.registerFin

@[st_pres ↓] theorem QFR.unregister {s t : St} (h : QFR s t) (c : Nat) :
    QFR s (t.unregister c) := by
  st_pres_unfold St.unregister

@[st_pres ↓] theorem QFR.prepUnregPre {s t : St} (h : QFR s t) (c : Nat) :
    QFR s (t.prepUnregPre c) := by
  st_pres_unfold St.prepUnregPre

@[st_pres ↓] theorem QFR.prepUnregFin {s t : St} (h : QFR s t) (c : Nat) :
    QFR s (t.prepUnregFin c) := by
  st_pres_unfold St.prepUnregFin

@[st_pres ↓] theorem QFR.actFire {s t : St} (h : QFR s t) (self i : Nat) (target : Option Chan) (prio : Int) (cancel : Bool) :
    QFR s (t.actFire self i target prio cancel) := by
  st_pres_unfold St.actFire

@[st_pres ↓] theorem QFR.actStopEv {s t : St} (h : QFR s t) (ev : Option Nat) :
    QFR s (t.actStopEv ev) := by
  st_pres_unfold St.actStopEv

@[st_pres ↓] theorem QFR.timerReset {s t : St} (h : QFR s t) (i : Nat) :
    QFR s (t.timerReset i) := by
  st_pres_unfold St.timerReset

@[st_pres ↓] theorem QFR.timerCreate {s t : St} (h : QFR s t) (i : Nat) :
    QFR s (t.timerCreate i) := by
  st_pres_unfold St.timerCreate

@[st_pres ↓] theorem QFR.timerTick {s t : St} (h : QFR s t) (i e : Nat) :
    QFR s (t.timerTick i e) :=
  St.timerTick_pres t i e h (fun _ _ h => h.reduceTimeLeft _ _) (fun _ => (h.addEv _).modTimer _ _)
    (fun _ _ _ _ h => h.fireRaw _ _ _ _) (fun _ _ h => h.modTimer _ _) (fun _ _ h => h.unregister _)

@[st_pres ↓] theorem QFR.startWait {s t : St} (h : QFR s t) (w : Nat) :
    QFR s (t.startWait w) :=
  St.startWait_pres t w h (fun _ _ => by st_pres) (fun _ _ _ _ _ h => by st_pres) (fun _ _ _ _ _ h => by st_pres)

@[st_pres ↓] theorem QFR.stopBegin {s t : St} (h : QFR s t) (c : Nat) :
    QFR s (t.stopBegin c) := by
  st_pres_unfold St.stopBegin

@[st_pres ↓] theorem QFR.stopSetCode {s t : St} (h : QFR s t) (r : Nat) (code : Code) :
    QFR s (t.stopSetCode r code) := by
  st_pres_unfold St.stopSetCode

@[st_pres ↓] theorem QFR.genCall {s t : St} (h : QFR s t) (owner i : Nat) (target : Option Chan) (timeout : Option Nat) :
    QFR s (t.genCall owner i target timeout) := by
  st_pres_unfold St.genCall

@[st_pres ↓] theorem QFR.genWait {s t : St} (h : QFR s t) (owner : Nat) (name : Name) (target : Option Chan) (timeout : Option Nat) :
    QFR s (t.genWait owner name target timeout) := by
  st_pres_unfold St.genWait

@[st_pres ↓] theorem QFR.resumeGenPre {s t : St} (h : QFR s t) (g : Nat) (silent : Bool) :
    QFR s (t.resumeGenPre g silent) := by
  st_pres_unfold St.resumeGenPre

@[st_pres ↓] theorem QFR.stopIteration {s t : St} (h : QFR s t) (r : Nat) (x : Task) :
    QFR s ((t.stopIteration r x).2) :=
  St.stopIteration_pres t r x ((h.modEv _ _).unregisterTask _ _) (fun _ _ h => h.registerTask _ _) (fun _ h => h.inform _ _)

@[st_pres ↓] theorem QFR.fireException {s t : St} (h : QFR s t) (r e : Nat) :
    QFR s (t.fireException r e) := by
  st_pres_unfold St.fireException

@[st_pres ↓] theorem QFR.errorBranch {s t : St} (h : QFR s t) (r : Nat) (x : Task) (resumed : Bool) :
    QFR s ((t.errorBranch r x resumed).2) :=
  St.errorBranch_pres t r x resumed (h.unregisterTask _ _) (fun _ h => h.modEv _ _) (fun _ h => h.modEv _ _)
    (fun _ _ h => h.inform _ _) (fun _ _ h => h.fireChild _ _ _ _) (fun _ h => h.fireException _ _) (fun _ _ h => h.modEv _ _)

@[st_pres ↓] theorem QFR.ownSub {s t : St} (h : QFR s t) (r : Nat) (x : Task) (w : Nat) :
    QFR s (t.ownSub r x w) := by
  st_pres_unfold St.ownSub

@[st_pres ↓] theorem QFR.setValueOpt {s t : St} (h : QFR s t) (e : Nat) (v : Option Nat) :
    QFR s (t.setValueOpt e v) := by
  st_pres_unfold St.setValueOpt

@[st_pres ↓] theorem QFR.parentSub {s t : St} (h : QFR s t) (r : Nat) (x : Task) (p w2 : Nat) (viaThrow : Bool) :
    QFR s (t.parentSub r x p w2 viaThrow) := by
  st_pres_unfold St.parentSub

@[st_pres ↓] theorem QFR.parentPlain {s t : St} (h : QFR s t) (r : Nat) (x : Task) (p : Nat) (v : Option Nat) (viaThrow : Bool) :
    QFR s (t.parentPlain r x p v viaThrow) := by
  st_pres_unfold St.parentPlain

@[st_pres ↓] theorem QFR.onWaitEvent {s t : St} (h : QFR s t) (w e : Nat) :
    QFR s ((t.onWaitEvent w e).2) := by
  st_pres_unfold St.onWaitEvent

@[st_pres ↓] theorem QFR.onWaitDone {s t : St} (h : QFR s t) (w e : Nat) :
    QFR s ((t.onWaitDone w e).2) :=
  St.onWaitDone_pres t w e h (fun _ _ _ h => h.removeHandler _ _) (fun _ _ => (h.modWait _ _).registerTask _ _)

@[st_pres ↓] theorem QFR.onWaitTick {s t : St} (h : QFR s t) (w : Nat) :
    QFR s ((t.onWaitTick w).2) :=
  St.onWaitTick_pres t w h (fun _ _ _ h => h.removeHandler _ _) (fun _ _ _ => ((h.modWait _ _).addGen _).registerTask _ _)
    (h.modWait _ _)

@[st_pres ↓] theorem QFR.onFallbackGE {s t : St} (h : QFR s t) (e : Nat) :
    QFR s ((t.onFallbackGE e).2) := by
  st_pres_unfold St.onFallbackGE

@[st_pres ↓] theorem QFR.computeHandlers {s t : St} (h : QFR s t) (r : Nat) (name : Name) (chans : List Chan) :
    QFR s ((t.computeHandlers r name chans).2) := by
  st_pres_unfold St.computeHandlers

@[st_pres ↓] theorem QFR.dispComplete {s t : St} (h : QFR s t) (e : Nat) (ev : Ev) :
    QFR s (t.dispComplete e ev) := by
  st_pres_unfold St.dispComplete

@[st_pres ↓] theorem QFR.cacheRefresh {s t : St} (h : QFR s t) (r : Nat) :
    QFR s (t.cacheRefresh r) := by
  st_pres_unfold St.cacheRefresh

@[st_pres ↓] theorem QFR.lookupHandlers {s t : St} (h : QFR s t) (r : Nat) (name : Name) (chans : List Chan) :
    QFR s ((t.lookupHandlers r name chans).2) := by
  st_pres_unfold St.lookupHandlers

@[st_pres ↓] theorem QFR.dispGE {s t : St} (h : QFR s t) (r e remaining : Nat) (name : Name) :
    QFR s (t.dispGE r e remaining name) := by
  st_pres_unfold St.dispGE

@[st_pres ↓] theorem QFR.handlerRaised {s t : St} (h : QFR s t) (r e : Nat) :
    QFR s (t.handlerRaised r e) := by
  st_pres_unfold St.handlerRaised

@[st_pres ↓] theorem QFR.applyValue {s t : St} (h : QFR s t) (r e : Nat) (value : Outcome) :
    QFR s (t.applyValue r e value) := by
  st_pres_unfold St.applyValue

@[st_pres ↓] theorem QFR.geTasksCheck {s t : St} (h : QFR s t) (r e : Nat) :
    QFR s (t.geTasksCheck r e) := by
  st_pres_unfold St.geTasksCheck

@[st_pres ↓] theorem QFR.tickGenerate {s t : St} (h : QFR s t) (c : Nat) :
    QFR s (t.tickGenerate c) := by
  st_pres_unfold St.tickGenerate

@[st_pres ↓] theorem QFR.runBegin {s t : St} (h : QFR s t) (c : Nat) :
    QFR s (t.runBegin c) := by
  st_pres_unfold St.runBegin

@[st_pres ↓] theorem QFR.runEnd {s t : St} (h : QFR s t) (c : Nat) :
    QFR s ((t.runEnd c).2) := by
  st_pres_unfold St.runEnd

@[st_pres ↓] theorem QFR.actStep {s t : St} (h : QFR s t) (ctx : HCtx) (a : Act) : QFR s (actStep t ctx a).st := by
  cases a <;> (unfold CV.Core.actStep; (try dsimp only); st_pres)

/-- stated from the `D` entry on: `O2PR` does not survive that entry -/
theorem QFR.dispatchPre_rel (s : St) (r e rem : Nat) : QFR (s.logE (.disp e)) (s.dispatchPre r e rem).2 := by
  unfold St.dispatchPre
  dsimp only
  st_pres

/-- what changes queue or replay state otherwise than by a fire: `EQ.pop`, `EQ.begin` with its `B` entry, `EQ.drainFrom`,
new roots, the `D` entry -/
def O2PR.bad : List Op := [.modCompEq, .flushBegin, .registerPre, .updateRootAll, .dispatchPre]

theorem QFR.keeps (s : St) (o : Op) (ho : o ∉ O2PR.bad) : o.Keeps (QFR s) := by
  cases o
  case modCompEq | flushBegin | registerPre | updateRootAll | dispatchPre => exact absurd (by decide) ho
  all_goals (intro t h; intros; st_pres)

variable {qx : Nat}

/- The helper lemmas of `QRel` by name: corollaries of the joint walk `QFR`.  The arms go through `QRel.keeps`, which needs of
   these only the two for what `O2PR` does not survive (`QRel.dispatchPre`, `QRel.updateRootAll`). -/

theorem QRel.addHandler {s t : St} (h : QRel qx s t) (y : Nat) : QRel qx s (t.addHandler y) :=
  h.trans ((QFR.addHandler (.refl t) y).1 qx)

theorem QRel.dispatchPre {s t : St} (h : QRel qx s t) (r e remaining : Nat) :
    QRel qx s ((t.dispatchPre r e remaining).2) :=
  (h.logE _).trans ((QFR.dispatchPre_rel t r e remaining).1 qx)

theorem QRel.fireRaw {s t : St} (h : QRel qx s t) (self e : Nat) (chans : List Chan) (prio : Int) :
    QRel qx s (t.fireRaw self e chans prio) :=
  h.trans ((QFR.fireRaw (.refl t) self e chans prio).1 qx)

theorem QRel.inform {s t : St} (h : QRel qx s t) (e : Nat) (force : Bool) :
    QRel qx s (t.inform e force) :=
  h.trans ((QFR.inform (.refl t) e force).1 qx)

theorem QRel.prepUnregPre {s t : St} (h : QRel qx s t) (c : Nat) :
    QRel qx s (t.prepUnregPre c) :=
  h.trans ((QFR.prepUnregPre (.refl t) c).1 qx)

theorem QRel.registerTask {s t : St} (h : QRel qx s t) (c : Nat) (x : Task) :
    QRel qx s (t.registerTask c x) :=
  h.trans ((QFR.registerTask (.refl t) c x).1 qx)

theorem QRel.removeHandler {s t : St} (h : QRel qx s t) (y : Nat) (n : Option Name) :
    QRel qx s ((t.removeHandler y n).2) :=
  h.trans ((QFR.removeHandler (.refl t) y n).1 qx)

theorem QRel.setValue {s t : St} (h : QRel qx s t) (e : Nat) (x : VItem) :
    QRel qx s (t.setValue e x) :=
  h.trans ((QFR.setValue (.refl t) e x).1 qx)

theorem QRel.startWait {s t : St} (h : QRel qx s t) (w : Nat) :
    QRel qx s (t.startWait w) :=
  h.trans ((QFR.startWait (.refl t) w).1 qx)

theorem QRel.timerTick {s t : St} (h : QRel qx s t) (i e : Nat) :
    QRel qx s (t.timerTick i e) :=
  h.trans ((QFR.timerTick (.refl t) i e).1 qx)

theorem QRel.unregister {s t : St} (h : QRel qx s t) (c : Nat) :
    QRel qx s (t.unregister c) :=
  h.trans ((QFR.unregister (.refl t) c).1 qx)

theorem QRel.unregisterTask {s t : St} (h : QRel qx s t) (c : Nat) (x : Task) :
    QRel qx s (t.unregisterTask c x) :=
  h.trans ((QFR.unregisterTask (.refl t) c x).1 qx)

theorem QRel.updateRootAll (s : St) : ∀ (fuel : Nat) (todo : List Nat) (root : Nat) (t : St),
    QRel qx s t → QRel qx s (St.updateRootAll fuel todo root t) :=
  fun fuel todo root t h => St.updateRootAll_pres root (fun _ _ h => h.modComp _ _ fun _ => rfl) fuel todo t h

/-- the operations that do more to a queue than append: `EQ.pop`, `EQ.begin`, `EQ.drainFrom` -/
def QRel.bad : List Op := [.modCompEq, .flushBegin, .registerPre]

/-- from the pair; the two operations that only `O2PR` does not survive (new roots, the `D` entry) from `QRel`'s own lemmas -/
theorem QRel.keeps (s : St) (o : Op) (ho : o ∉ QRel.bad) : o.Keeps (QRel qx s) := by
  by_cases h2 : o ∈ O2PR.bad
  · cases o
    case modCompEq | flushBegin | registerPre => exact absurd (by decide) ho
    case updateRootAll => exact fun h fuel todo root => QRel.updateRootAll _ fuel todo root _ h
    case dispatchPre => exact fun h r e rem => h.dispatchPre r e rem
    all_goals exact absurd h2 (by decide)
  · exact .of_trans QFR.refl (fun h => h.1 qx) QRel.trans (fun t => QFR.keeps t o h2) s

theorem unwind_q2 (c : Cfg) (k : List Frame) (ex : Exn) (f : Frame) : QRel qx c.st (unwind c k ex f).st :=
  unwind_pres_avoiding c k (QRel.keeps _) ex f rfl (QRel.refl _)

/-- every arm but `.flush`, `.dispatchLoop`, `.register` -/
theorem stepFrame_q2 (c : Cfg) (k : List Frame) (f : Frame) (hf : avoids f.ops QRel.bad = true) :
    QRel qx c.st (stepFrame c k f).st :=
  stepFrame_pres_avoiding c k (QRel.keeps _) f hf (QRel.refl _)

end CV.Core
