import CV.Proofs.InvRunSil
import CV.Proofs.CoreStack
/-
Run/stop invariants of the small-step core machine (property C08).  A step is a silent extension (`St.Sil`,
CV/Proofs/InvRunSil.lean) or the execution of one of the loud arms `.run`, `.stopMgr`, `.runFin`, so the `running` flags
and the numbers of fires of `started(x)` / `stopped(x)` in the log (`firesOf`) change only there: `step_flags`,
`Cfg.run_spec`.  During `run()` the stack is frames of inner calls on top of a tail that tells where `run()` is
(`Phase`, `Shape`, `shape_step`).  `RunRel` is what holds along `runN n c0` from the start `c0` of a run.
-/
namespace CV.Core

/-- the entry is a fire of an event named `nm` whose argument is the component `x` -/
def isFireOf (evs : List Ev) (nm : Name) (x : Nat) : Entry → Bool
  | .fire e n _ _ => n == nm && (evs.getD e dfltEv).arg == x
  | _ => false

/-- how many times `nm(x, …)` (e.g. `started(x)`) was fired so far -/
def firesOf (nm : Name) (x : Nat) (s : St) : Nat := (s.log.filter (isFireOf s.evs nm x)).length

theorem firesOf_congr {s t : St} (h1 : t.log = s.log) (h2 : t.evs = s.evs) (nm : Name) (x : Nat) :
    firesOf nm x t = firesOf nm x s := by
  unfold firesOf; rw [h1, h2]

theorem firesOf_logE (u : St) (en : Entry) (nm : Name) (x : Nat) :
    firesOf nm x (u.logE en) = firesOf nm x u + (if isFireOf u.evs nm x en = true then 1 else 0) := by
  unfold firesOf St.logE
  simp only [List.filter_cons]
  split <;> simp

theorem St.Sil.firesOf {s t : St} (hws : WF s) (h : St.Sil s t) (nm : Name) (hnm : nm.quiet = false)
    (x : Nat) : firesOf nm x t = firesOf nm x s := by
  obtain ⟨es, h1, h2⟩ := h.log
  unfold CV.Core.firesOf
  rw [h1, List.filter_append]
  have he : es.filter (isFireOf t.evs nm x) = [] := by
    rw [List.filter_eq_nil_iff]
    intro en hen
    have hq := h2 en hen
    cases en with
    | fire e n ch p =>
      simp only [isFireOf, Entry.quiet] at hq ⊢
      intro hc
      simp only [Bool.and_eq_true, beq_iff_eq] at hc
      rw [hc.1, hnm] at hq
      cases hq
    | _ => simp [isFireOf]
  have hs : s.log.filter (isFireOf t.evs nm x) = s.log.filter (isFireOf s.evs nm x) := by
    apply List.filter_congr
    intro en hen
    cases en with
    | fire e n ch p =>
      have hlt := (hws.log e n ch p hen).1
      have := (h.evk e hlt).2
      unfold St.ev at this
      simp only [isFireOf, this]
    | _ => rfl
  rw [he, hs]; rfl

theorem fireNew_loud {s : St} (hwf : WF s) (self : Nat) (ev : Ev) (chans : List Chan) (prio : Int) :
    WF ((s.addEv ev).fireRaw self s.evs.length chans prio) ∧
    (∀ x, (((s.addEv ev).fireRaw self s.evs.length chans prio).comp x).running = (s.comp x).running ∧
          (((s.addEv ev).fireRaw self s.evs.length chans prio).comp x).exitCode = (s.comp x).exitCode) ∧
    (∀ nm x, nm.quiet = false →
      firesOf nm x ((s.addEv ev).fireRaw self s.evs.length chans prio) =
        firesOf nm x s + (if ev.name = nm ∧ ev.arg = x then 1 else 0)) := by
  rw [St.fireRaw_eq_logE]
  have h1 : St.Sil s (s.addEv ev) := (St.Sil.refl hwf).addEv ev
  have hu : St.Sil s ((s.addEv ev).fireRawPre self s.evs.length chans prio) := h1.fireRawPre ..
  have hu1 : St.Sil (s.addEv ev) ((s.addEv ev).fireRawPre self s.evs.length chans prio) :=
    (St.Sil.refl h1.wf).fireRawPre ..
  have hlt : s.evs.length < (s.addEv ev).evs.length := by simp [St.addEv]
  have hnew := hu1.evk s.evs.length hlt
  rw [St.w6_addEv_ev, if_pos rfl] at hnew
  generalize (s.addEv ev).fireRawPre self s.evs.length chans prio = u at *
  refine ⟨?_, ?_, ?_⟩
  · apply hu.wf.logE
    intro e n ch p heq
    cases heq
    exact ⟨Nat.lt_of_lt_of_le hlt hu1.evs, rfl⟩
  · intro x
    exact ⟨hu.run x, hu.code x⟩
  · intro nm x hnm
    rw [firesOf_logE, hu.firesOf hwf nm hnm x]
    congr 1
    have h2 : (u.evs.getD s.evs.length dfltEv) = u.ev s.evs.length := rfl
    simp only [isFireOf, h2, hnew.1, hnew.2, Bool.and_eq_true, beq_iff_eq]

theorem fireTmplEv_loud {s : St} (hwf : WF s) (self : Nat) (ev : Ev) (target : Option Chan) (prio : Int) :
    WF (s.fireTmplEv self ev target prio) ∧
    (∀ x, ((s.fireTmplEv self ev target prio).comp x).running = (s.comp x).running ∧
          ((s.fireTmplEv self ev target prio).comp x).exitCode = (s.comp x).exitCode) ∧
    (∀ nm x, nm.quiet = false →
      firesOf nm x (s.fireTmplEv self ev target prio) =
        firesOf nm x s + (if ev.name = nm ∧ ev.arg = x then 1 else 0)) := by
  unfold St.fireTmplEv
  exact fireNew_loud hwf ..

theorem WF.modComp {s : St} (h : WF s) (c : Nat) (f : Comp → Comp) : WF (s.modComp c f) :=
  h.of_eq rfl rfl rfl rfl

theorem fireSelf_spec {s u : St} (hu : WF u) (hlog : u.log = s.log) (hevs : u.evs = s.evs) (c : Nat) (nm : Name) :
    WF (u.fireTmplEv c { name := nm, arg := c } none 0) ∧
    (∀ x, ((u.fireTmplEv c { name := nm, arg := c } none 0).comp x).running = (u.comp x).running ∧
          ((u.fireTmplEv c { name := nm, arg := c } none 0).comp x).exitCode = (u.comp x).exitCode) ∧
    (∀ nm' x, nm'.quiet = false → firesOf nm' x (u.fireTmplEv c { name := nm, arg := c } none 0) =
        firesOf nm' x s + (if nm = nm' ∧ c = x then 1 else 0)) := by
  obtain ⟨w, rc, fo⟩ := fireTmplEv_loud hu c { name := nm, arg := c } none 0
  exact ⟨w, rc, fun nm' x h => by rw [fo nm' x h, firesOf_congr hlog hevs]⟩

theorem runBegin_spec {s : St} (hwf : WF s) (c : Nat) :
    WF (s.runBegin c) ∧
    (∀ x, ((s.runBegin c).comp x).running =
        if c = x ∧ x < s.comps.length then true else (s.comp x).running) ∧
    (∀ x, ((s.runBegin c).comp x).exitCode = (s.comp x).exitCode) ∧
    (∀ nm x, nm.quiet = false →
      firesOf nm x (s.runBegin c) = firesOf nm x s + (if Name.started = nm ∧ c = x then 1 else 0)) := by
  unfold St.runBegin
  dsimp only
  generalize (s.modComp c fun x => { x with running := true }).rootOf c = r
  obtain ⟨w, rc, fo⟩ := fireSelf_spec (s := s) ((hwf.modComp c _).modComp r fun x => { x with executing := true })
    rfl rfl c Name.started
  refine ⟨w, fun x => ?_, fun x => ?_, fo⟩
  · rw [(rc x).1, St.w6_modComp_comp_eq, St.comp_modComp]
    split <;> split <;> rfl
  · rw [(rc x).2, St.w6_modComp_comp_eq, St.w6_modComp_comp_eq]
    split <;> split <;> rfl

theorem stopBegin_spec {s : St} (hwf : WF s) (c : Nat) :
    WF (s.stopBegin c) ∧
    (∀ x, ((s.stopBegin c).comp x).running =
        if c = x ∧ x < s.comps.length then false else (s.comp x).running) ∧
    (∀ x, ((s.stopBegin c).comp x).exitCode = (s.comp x).exitCode) ∧
    (∀ nm x, nm.quiet = false →
      firesOf nm x (s.stopBegin c) = firesOf nm x s + (if Name.stopped = nm ∧ c = x then 1 else 0)) := by
  unfold St.stopBegin
  obtain ⟨w, rc, fo⟩ := fireSelf_spec (s := s) (hwf.modComp c fun x => { x with running := false }) rfl rfl c
    Name.stopped
  refine ⟨w, fun x => ?_, fun x => ?_, fo⟩
  · rw [(rc x).1, St.comp_modComp]
    split <;> rfl
  · rw [(rc x).2, St.w6_modComp_comp_eq]
    split <;> rfl

theorem stopSetCode_spec {s : St} (hwf : WF s) (r : Nat) (code : Code) :
    WF (s.stopSetCode r code) ∧
    (∀ x, ((s.stopSetCode r code).comp x).running = (s.comp x).running) ∧
    (∀ nm x, firesOf nm x (s.stopSetCode r code) = firesOf nm x s) ∧
    (∀ x, ((s.stopSetCode r code).comp x).exitCode =
        if code.isSome ∧ r = x ∧ x < s.comps.length then code else (s.comp x).exitCode) := by
  unfold St.stopSetCode
  split
  · rename_i hc
    refine ⟨hwf.modComp _ _, ?_, fun _ _ => rfl, ?_⟩
    · intro x; rw [St.w6_modComp_comp_eq]; split <;> rfl
    · intro x; rw [St.comp_modComp]; simp only [hc, true_and]; split <;> rfl
  · rename_i hc
    exact ⟨hwf, fun _ => rfl, fun _ _ => rfl, fun x => by simp [hc]⟩

theorem St.runEnd_fst (s : St) (c : Nat) : (s.runEnd c).1 = (s.comp (s.rootOf c)).exitCode := by
  unfold St.runEnd
  dsimp only
  rw [St.w6_modComp_comp_eq]; split <;> rfl

/-- the state after `runEnd c` (what `run()` does after its `try`): `executing` and `_exit_code` of the root of `c` are
cleared; flags, fire counts, queues and the other exit codes are as before -/
structure St.RunEnd (s : St) (c : Nat) : Prop where
  wf : WF (s.runEnd c).2
  running : ∀ x, ((s.runEnd c).2.comp x).running = (s.comp x).running
  fires : ∀ nm x, firesOf nm x (s.runEnd c).2 = firesOf nm x s
  executing : ((s.runEnd c).2.comp (s.rootOf c)).executing = false
  codeRoot : ((s.runEnd c).2.comp (s.rootOf c)).exitCode = none
  eq : ∀ x, ((s.runEnd c).2.comp x).eq = (s.comp x).eq
  codeOther : ∀ x, x ≠ s.rootOf c → ((s.runEnd c).2.comp x).exitCode = (s.comp x).exitCode

theorem runEnd_spec {s : St} (hwf : WF s) (c : Nat) : s.RunEnd c := by
  constructor <;> unfold St.runEnd <;> dsimp only <;> generalize s.rootOf c = r
  case wf => exact (hwf.modComp _ _).modComp _ _
  case fires => exact fun _ _ => rfl
  case running | eq => intro x; rw [St.w6_modComp_comp_eq, St.w6_modComp_comp_eq]; split <;> split <;> rfl
  case executing | codeRoot =>
    -- the root may be out of range: then `comp r` is the default component
    by_cases h : r < s.comps.length
    · simp only [St.w6_modComp_comp_eq, St.w6_modComp_comps_length, h, and_self, if_true]
    · simp only [St.w6_modComp_comp_eq, St.w6_modComp_comps_length, h, and_false, if_false]
      rw [St.w6_comp_ge _ _ (Nat.le_of_not_lt h)]; rfl
  case codeOther => intro x hx; rw [St.w6_modComp_comp_eq, St.w6_modComp_comp_eq]; simp [hx]

/-- the effect on `x` of any step but the `.run` arm: none, or that of a `stop()` of the running `x` -/
structure Flags (x : Nat) (s t : St) : Prop where
  wf : WF t
  started : firesOf Name.started x t = firesOf Name.started x s
  stop : ((t.comp x).running = (s.comp x).running ∧ firesOf Name.stopped x t = firesOf Name.stopped x s) ∨
         ((s.comp x).running = true ∧ (t.comp x).running = false ∧
          firesOf Name.stopped x t = firesOf Name.stopped x s + 1)

theorem Flags.of_sil {x : Nat} {s t : St} (hwf : WF s) (h : St.Sil s t) : Flags x s t :=
  ⟨h.wf, h.firesOf hwf _ rfl x, Or.inl ⟨h.run x, h.firesOf hwf _ rfl x⟩⟩

theorem running_lt {s : St} {x : Nat} (h : (s.comp x).running = true) : x < s.comps.length :=
  St.comp_lt_of_ne fun hd => by rw [hd] at h; cases h

theorem executing_lt {s : St} {x : Nat} (h : (s.comp x).executing = true) : x < s.comps.length :=
  St.comp_lt_of_ne fun hd => by rw [hd] at h; cases h

theorem Cfg.stopMgr_st (c : Cfg) (k : List Frame) (y : Nat) (code : Code) :
    (c.stopMgr k y code).st =
      if (c.st.comp y).running = true then
        if ((c.st.stopBegin y).comp ((c.st.stopBegin y).rootOf y)).executing = true
        then (c.st.stopBegin y).stopSetCode ((c.st.stopBegin y).rootOf y) code else c.st.stopBegin y
      else c.st := by
  unfold Cfg.stopMgr
  dsimp only
  cases (c.st.comp y).running
  · rfl
  · cases ((c.st.stopBegin y).comp ((c.st.stopBegin y).rootOf y)).executing <;> rfl

theorem Cfg.runFin_st (c : Cfg) (k : List Frame) (y : Nat) : (c.runFin k y).st = (c.st.runEnd y).2 := by
  unfold Cfg.runFin; split <;> rfl

theorem Cfg.runFin_stack (c : Cfg) (k : List Frame) (y : Nat) : (c.runFin k y).stack = k := by
  unfold Cfg.runFin; split <;> rfl

theorem Cfg.runFin_exn {c : Cfg} (k : List Frame) (y : Nat) (hx : c.exn = none) :
    (c.runFin k y).exn = (c.st.runEnd y).1.map fun v => .sysExit (some v) := by
  unfold Cfg.runFin
  split <;> rename_i h <;> rw [h]
  · rfl
  · exact hx

theorem Cfg.stopMgr_spec {c : Cfg} (hwf : WF c.st) (k : List Frame) (y : Nat) (code : Code) :
    WF (c.stopMgr k y code).st ∧
    (∀ x, ((c.stopMgr k y code).st.comp x).running = if y = x then false else (c.st.comp x).running) ∧
    (∀ x, ((c.stopMgr k y code).st.comp x).exitCode =
      if (c.st.comp y).running = true ∧
         ((c.st.stopBegin y).comp ((c.st.stopBegin y).rootOf y)).executing = true ∧
         code.isSome = true ∧ (c.st.stopBegin y).rootOf y = x then code else (c.st.comp x).exitCode) ∧
    (∀ nm x, nm.quiet = false → firesOf nm x (c.stopMgr k y code).st =
      firesOf nm x c.st + (if (c.st.comp y).running = true ∧ Name.stopped = nm ∧ y = x then 1 else 0)) := by
  rw [Cfg.stopMgr_st]
  obtain ⟨w, hr, hc, hf⟩ := stopBegin_spec hwf y
  by_cases hrun : (c.st.comp y).running = true
  · have hr' : ∀ x, ((c.st.stopBegin y).comp x).running = if y = x then false else (c.st.comp x).running :=
      fun x => by rw [hr]; by_cases hyx : y = x <;> simp [hyx]; subst hyx; exact fun h => absurd (running_lt hrun) (Nat.not_lt.2 h)
    rw [if_pos hrun]
    by_cases hex : ((c.st.stopBegin y).comp ((c.st.stopBegin y).rootOf y)).executing = true
    · obtain ⟨w2, hr2, hf2, hc2⟩ := stopSetCode_spec w ((c.st.stopBegin y).rootOf y) code
      rw [if_pos hex]
      refine ⟨w2, fun x => by rw [hr2, hr'], fun x => ?_, fun nm x hnm => by rw [hf2, hf nm x hnm]; simp [hrun]⟩
      rw [hc2, hc]
      by_cases hrx : (c.st.stopBegin y).rootOf y = x
      · subst hrx; simp [hrun, hex, executing_lt hex]
      · simp [hrx]
    · rw [if_neg hex]
      exact ⟨w, hr', fun x => by rw [hc]; simp [hex], fun nm x hnm => by rw [hf nm x hnm]; simp [hrun]⟩
  · rw [if_neg hrun]
    refine ⟨hwf, fun x => ?_, fun x => by simp [hrun], fun nm x _ => by simp [hrun]⟩
    split
    · rename_i hyx; subst hyx; simpa using hrun
    · rfl

theorem Cfg.stopMgr_flags {c : Cfg} (hwf : WF c.st) (k : List Frame) (y : Nat) (code : Code) (x : Nat) :
    Flags x c.st (c.stopMgr k y code).st := by
  obtain ⟨w, hr, _, hf⟩ := Cfg.stopMgr_spec hwf k y code
  refine ⟨w, by rw [hf _ x rfl, if_neg fun h => nomatch h.2.1]; rfl, ?_⟩
  rw [hr x, hf _ x rfl]
  by_cases h : (c.st.comp y).running = true ∧ y = x
  · obtain ⟨h1, rfl⟩ := h
    exact .inr ⟨h1, by simp, by simp [h1]⟩
  · refine .inl ⟨?_, by simp; exact fun h1 h2 => absurd ⟨h1, h2⟩ h⟩
    split
    · rename_i hyx; subst hyx; simpa using h
    · rfl

theorem Cfg.runFin_flags {c : Cfg} (hwf : WF c.st) (k : List Frame) (y : Nat) (x : Nat) :
    Flags x c.st (c.runFin k y).st := by
  have h := runEnd_spec hwf y
  rw [Cfg.runFin_st]
  exact ⟨h.wf, h.fires _ _, Or.inl ⟨h.running x, h.fires _ _⟩⟩

theorem step_flags {c : Cfg} (hwf : WF c.st) (hnr : ∀ y k, c.stack = .run y :: k → c.exn ≠ none) (x : Nat) :
    Flags x c.st (step c).st := by
  rcases step_sil_or hwf with h | ⟨f, k, hs, hx, hl, he⟩
  · exact Flags.of_sil hwf h
  · rw [he]
    cases f <;> first | cases hl | skip
    · exact Cfg.stopMgr_flags hwf ..
    · exact absurd hx (hnr _ _ hs)
    · exact Cfg.runFin_flags hwf ..

theorem Cfg.run_spec {c : Cfg} (hwf : WF c.st) (k : List Frame) (y : Nat) :
    WF (c.run k y).st ∧
    (∀ x, ((c.run k y).st.comp x).running = if y = x ∧ x < c.st.comps.length then true else (c.st.comp x).running) ∧
    (∀ x, ((c.run k y).st.comp x).exitCode = (c.st.comp x).exitCode) ∧
    (∀ nm x, nm.quiet = false →
      firesOf nm x (c.run k y).st = firesOf nm x c.st + (if Name.started = nm ∧ y = x then 1 else 0)) :=
  runBegin_spec hwf y

theorem step_wf {c : Cfg} (hwf : WF c.st) : WF (step c).st := by
  by_cases h : ∃ y k, c.stack = .run y :: k ∧ c.exn = none
  · obtain ⟨y, k, hs, hx⟩ := h
    rw [step_cons c _ k hs hx]
    exact (Cfg.run_spec hwf k y).1
  · apply (step_flags hwf ?_ 0).wf
    intro y k hs hx
    exact h ⟨y, k, hs, hx⟩

theorem step_exitCode {c : Cfg} (hwf : WF c.st) (r : Nat)
    (hne : ((step c).st.comp r).exitCode ≠ (c.st.comp r).exitCode) :
    c.exn = none ∧
    ((∃ y code k, c.stack = .stopMgr y code :: k ∧ (c.st.comp y).running = true ∧ code.isSome = true ∧
        r = (c.st.stopBegin y).rootOf y ∧ ((c.st.stopBegin y).comp r).executing = true ∧
        ((step c).st.comp r).exitCode = code) ∨
     (∃ y k, c.stack = .runFin y :: k ∧ r = c.st.rootOf y ∧ ((step c).st.comp r).exitCode = none)) := by
  rcases step_sil_or hwf with h | ⟨f, k, hs, hx, hl, he⟩
  · exact absurd (h.code r) hne
  · refine ⟨hx, ?_⟩
    rw [he] at hne ⊢
    cases f <;> first | cases hl | skip
    · -- `stop(code)`: the code of `r` changes only under the four conditions of `Cfg.stopMgr_spec`
      rename_i y code
      obtain ⟨_, _, hc, _⟩ := Cfg.stopMgr_spec hwf k y code
      have hc := hc r
      by_cases h : (c.st.comp y).running = true ∧
          ((c.st.stopBegin y).comp ((c.st.stopBegin y).rootOf y)).executing = true ∧
          code.isSome = true ∧ (c.st.stopBegin y).rootOf y = r
      · rw [if_pos h] at hc
        obtain ⟨h1, h2, h3, rfl⟩ := h
        exact .inl ⟨y, code, k, hs, h1, h3, rfl, h2, hc⟩
      · rw [if_neg h] at hc
        exact absurd hc hne
    · rename_i y
      obtain ⟨_, _, hc, _⟩ := Cfg.run_spec hwf k y
      exact absurd (hc r) hne
    · -- the end of `run()` clears the code of the root and leaves the others
      rename_i y
      have he := runEnd_spec hwf y
      have hst : (stepFrame c k (.runFin y)).st = (c.st.runEnd y).2 := Cfg.runFin_st c k y
      rw [hst] at hne ⊢
      by_cases hr : r = c.st.rootOf y
      · subst hr; exact .inr ⟨y, k, hs, rfl, he.codeRoot⟩
      · exact absurd (he.codeOther r hr) hne

/-- where `run()` is: the frames of `run()` itself that are still on the stack -/
inductive Phase
  | start                  -- `.run x` not yet executed
  | loop                   -- `while self.running or len(self._queue)`
  | fade (n : Nat)         -- the `n` remaining fade-out ticks (3 + the `finally` tick)
  | drain                  -- `while len(self._queue): self.tick()` in the `finally`
  | catch_                 -- end of the `try`
  | fin                    -- the code after the `try`
  | drainE (ex : Exn)      -- `finally` after a `SystemExit`: tick + drain loop
  | rethrow (ex : Exn)     -- … then re-raise
  | over                   -- `run()` is not on the stack

def tailOf (x : Nat) : Phase → List Frame
  | .start => [.run x]
  | .loop => [.runLoop x, .ticks x 4, .drainQ x, .runCatch x, .runFin x]
  | .fade n => [.ticks x n, .drainQ x, .runCatch x, .runFin x]
  | .drain => [.drainQ x, .runCatch x, .runFin x]
  | .catch_ => [.runCatch x, .runFin x]
  | .fin => [.runFin x]
  | .drainE ex => [.drainQ x, .runRethrow ex, .runFin x]
  | .rethrow ex => [.runRethrow ex, .runFin x]
  | .over => []

/-- frames that do not belong to the body of `run()` itself -/
def Frame.inner : Frame → Bool
  | .run _ => false
  | .runLoop _ => false
  | .drainQ _ => false
  | .runCatch _ => false
  | .runRethrow _ => false
  | .runFin _ => false
  | _ => true

theorem Frame.Pushes.inner {c : Cfg} {f : Frame} {fs : List Frame} (h : f.Pushes c fs) (hf : f.inner = true) :
    fs.all Frame.inner = true := by
  cases h
  case actsCall hg | stepGenCall hg => cases hg <;> rfl
  case drainQ | run | runLoop => cases hf
  all_goals rfl

theorem unwind_inner (c : Cfg) (k : List Frame) (ex : Exn) (f : Frame) (hf : f.inner = true)
    (hx : c.exn = some ex) : (unwind c k ex f).stack = k ∧ (unwind c k ex f).exn = some ex := by
  cases f <;> first
    | (cases hf; done)
    | exact ⟨rfl, hx⟩

/-- what is known in each phase (`P` = the frames above `run()`'s own) -/
def Good (x : Nat) (c : Cfg) (P : List Frame) : Phase → Prop
  | .start => P = [] ∧ c.exn = none
  | .loop => True
  | .fade _ => c.exn = none → (c.st.comp x).running = false
  | .drain => c.exn = none → (c.st.comp x).running = false
  | .catch_ => P = [] ∧ (c.exn = none → (c.st.comp x).running = false ∧ (c.st.comp x).eq.len = 0)
  | .fin => P = [] ∧ (c.exn = none → (c.st.comp x).running = false ∧ (c.st.comp x).eq.len = 0)
  | .drainE _ => True
  | .rethrow _ => P = [] ∧ (c.exn = none → (c.st.comp x).eq.len = 0)
  | .over => True

structure Shape (x : Nat) (c : Cfg) (ph : Phase) (P : List Frame) : Prop where
  stack : c.stack = P ++ tailOf x ph
  inner : ∀ f ∈ P, f.inner = true
  good : Good x c P ph

theorem Flags.running_false {x : Nat} {s t : St} (h : Flags x s t) (hr : (s.comp x).running = false) :
    (t.comp x).running = false := by
  rcases h.stop with ⟨h1, _⟩ | ⟨_, h1, _⟩
  · rw [h1, hr]
  · exact h1

theorem Good.step_inner {x : Nat} {c c' : Cfg} {f : Frame} {P' P'' : List Frame} {ph : Phase} (hg : Good x c (f :: P') ph)
    (hrun : c'.exn = none → c.exn = none ∧ ((c.st.comp x).running = false → (c'.st.comp x).running = false)) :
    Good x c' P'' ph := by
  cases ph with
  | start => exact absurd hg.1 (by simp)
  | catch_ => exact absurd hg.1 (by simp)
  | fin => exact absurd hg.1 (by simp)
  | rethrow ex => exact absurd hg.1 (by simp)
  | loop => trivial
  | drainE ex => trivial
  | over => trivial
  | fade n => exact fun h1 => (hrun h1).2 (hg (hrun h1).1)
  | drain => exact fun h1 => (hrun h1).2 (hg (hrun h1).1)

theorem shape_step_inner {x : Nat} {c : Cfg} {ph : Phase} {f : Frame} {P' : List Frame}
    (hwf : WF c.st) (h : Shape x c ph (f :: P')) : ∃ P'', Shape x (step c) ph P'' := by
  have hs : c.stack = f :: (P' ++ tailOf x ph) := h.stack
  have hf : f.inner = true := h.inner f (by simp)
  have hP' : ∀ g ∈ P', g.inner = true := fun g hg => h.inner g (by simp [hg])
  have hnr : ∀ y k, c.stack = .run y :: k → c.exn ≠ none := by
    intro y k hy
    rw [hs] at hy
    injection hy with h1 _
    subst h1
    cases hf
  have hfl := step_flags hwf hnr x
  cases hx : c.exn with
  | none =>
    have hstep := step_cons c f _ hs hx
    obtain ⟨fs, hst, hin⟩ := stepFrame_all c (P' ++ tailOf x ph) f fun _ hp => hp.inner hf
    refine ⟨fs ++ P', ⟨by rw [hstep, hst, List.append_assoc], ?_, h.good.step_inner fun _ => ⟨hx, hfl.running_false⟩⟩⟩
    intro g hg
    rcases List.mem_append.1 hg with h1 | h1
    · exact List.all_eq_true.1 hin g h1
    · exact hP' g h1
  | some ex =>
    have hstep := step_cons_exn c f _ ex hs hx
    obtain ⟨hst, hex⟩ := unwind_inner c (P' ++ tailOf x ph) ex f hf hx
    refine ⟨P', ⟨by rw [hstep, hst], hP', h.good.step_inner fun h1 => ?_⟩⟩
    rw [hstep, hex] at h1
    cases h1

theorem Good.of_exn {x : Nat} {c : Cfg} {ph : Phase} (hx : c.exn ≠ none) (hne : ph ≠ .start) : Good x c [] ph := by
  cases ph <;> first | exact absurd rfl hne | trivial | exact fun h => absurd h hx | exact ⟨rfl, fun h => absurd h hx⟩

/-- a frame of `run()` itself on top, an exception pending: the frame is popped and the exception stays, except that the
    end of the `try` parks a `SystemExit` for the `finally`, and that the re-raise replaces the pending exception -/
theorem shape_unwind_tail {x : Nat} {c : Cfg} {ph : Phase} {ex : Exn} (h : Shape x c ph []) (hx : c.exn = some ex) :
    ∃ ph' P', Shape x (step c) ph' P' ∧ ph' ≠ .start := by
  have hs : c.stack = tailOf x ph := by simpa using h.stack
  have pop : ∀ {F : Frame} {k : List Frame} {ph' : Phase}, tailOf x ph = F :: k → k = tailOf x ph' → ph' ≠ .start →
      unwind c k ex F = c.pop k c.st → ∃ ph' P', Shape x (step c) ph' P' ∧ ph' ≠ .start := by
    intro F k ph' h1 h2 hne hu
    have hstep := step_cons_exn c F k ex (hs.trans h1) hx
    rw [hstep, hu]
    exact ⟨ph', [], ⟨h2, by simp, Good.of_exn (by rw [Cfg.pop_exn, hx]; simp) hne⟩, hne⟩
  cases ph with
  | start => exact absurd h.good.2 (by rw [hx]; simp)
  | loop => exact pop (ph' := .fade 4) rfl rfl (by simp) rfl
  | fade n => exact pop (ph' := .drain) rfl rfl (by simp) rfl
  | drain => exact pop (ph' := .catch_) rfl rfl (by simp) rfl
  | fin => exact pop (ph' := .over) rfl rfl (by simp) rfl
  | drainE ex0 => exact pop (ph' := .rethrow ex0) rfl rfl (by simp) rfl
  | catch_ =>
    rw [step_cons_exn c _ _ ex hs hx]
    dsimp only [unwind]
    unfold Cfg.runCatchExn
    split
    · exact ⟨.drainE _, [.tick x], ⟨rfl, by simp [Frame.inner], trivial⟩, by simp⟩
    · exact ⟨.fin, [], ⟨rfl, by simp, Good.of_exn (by rw [Cfg.pop_exn, hx]; simp) (by simp)⟩, by simp⟩
  | rethrow ex0 =>
    rw [step_cons_exn c _ _ ex hs hx]
    exact ⟨.fin, [], ⟨rfl, by simp, Good.of_exn (by simp [unwind, Cfg.runRethrow, Cfg.raise]) (by simp)⟩, by simp⟩
  | over =>
    rw [step_nil c hs]
    exact ⟨.over, [], h, by simp⟩

theorem shape_step_tail {x : Nat} {c : Cfg} {ph : Phase} (h : Shape x c ph []) :
    ∃ ph' P', Shape x (step c) ph' P' ∧ ph' ≠ .start := by
  cases hx : c.exn with
  | some ex => exact shape_unwind_tail h hx
  | none =>
    have hs : c.stack = tailOf x ph := by simpa using h.stack
    have hg := h.good
    cases ph with
    | start =>
      have hstep := step_cons c (.run x) [] hs hx
      refine ⟨.loop, [], ⟨by rw [hstep]; rfl, by simp, trivial⟩, by simp⟩
    | loop =>
      rw [step_cons c _ _ hs hx]
      dsimp only [stepFrame]
      unfold Cfg.runLoop
      dsimp only
      split
      · exact ⟨.loop, [.tick x], ⟨rfl, by simp [Frame.inner], trivial⟩, by simp⟩
      · rename_i hc
        refine ⟨.fade 4, [], ⟨rfl, by simp, ?_⟩, by simp⟩
        intro _
        simp only [Cfg.pop_st]
        simp only [Bool.or_eq_true, not_or, Bool.not_eq_true] at hc
        exact hc.1
    | fade n =>
      rw [step_cons c _ _ hs hx]
      dsimp only [stepFrame]
      unfold Cfg.ticks
      cases n with
      | zero => exact ⟨.drain, [], ⟨rfl, by simp, fun _ => hg hx⟩, by simp⟩
      | succ n => exact ⟨.fade n, [.tick x], ⟨rfl, by simp [Frame.inner], fun _ => hg hx⟩, by simp⟩
    | drain =>
      rw [step_cons c _ _ hs hx]
      dsimp only [stepFrame]
      unfold Cfg.drainQ
      split
      · exact ⟨.drain, [.tick x], ⟨rfl, by simp [Frame.inner], fun _ => hg hx⟩, by simp⟩
      · rename_i hc
        refine ⟨.catch_, [], ⟨rfl, by simp, rfl, ?_⟩, by simp⟩
        intro _
        simp only [Cfg.pop_st]
        exact ⟨hg hx, by omega⟩
    | catch_ =>
      rw [step_cons c _ _ hs hx]
      exact ⟨.fin, [], ⟨rfl, by simp, rfl, fun _ => hg.2 hx⟩, by simp⟩
    | fin =>
      rw [step_cons c _ _ hs hx]
      dsimp only [stepFrame]
      unfold Cfg.runFin
      split <;> exact ⟨.over, [], ⟨rfl, by simp, trivial⟩, by simp⟩
    | drainE ex0 =>
      rw [step_cons c _ _ hs hx]
      dsimp only [stepFrame]
      unfold Cfg.drainQ
      split
      · exact ⟨.drainE ex0, [.tick x], ⟨rfl, by simp [Frame.inner], trivial⟩, by simp⟩
      · rename_i hc
        refine ⟨.rethrow ex0, [], ⟨rfl, by simp, rfl, ?_⟩, by simp⟩
        intro _
        simp only [Cfg.pop_st]
        omega
    | rethrow ex0 =>
      rw [step_cons c _ _ hs hx]
      exact ⟨.fin, [], ⟨rfl, by simp, rfl, fun h1 => by cases h1⟩, by simp⟩
    | over =>
      rw [step_nil c hs]
      exact ⟨.over, [], h, by simp⟩

theorem shape_step {x : Nat} {c : Cfg} {ph : Phase} {P : List Frame} (hwf : WF c.st) (h : Shape x c ph P) :
    ∃ ph' P', Shape x (step c) ph' P' ∧ ph' ≠ .start := by
  cases P with
  | nil => exact shape_step_tail h
  | cons f P' =>
    obtain ⟨P'', h2⟩ := shape_step_inner hwf h
    refine ⟨ph, P'', h2, ?_⟩
    intro he
    subst he
    exact absurd h.good.1 (by simp)

theorem WF.envChange {s : St} (h : WF s) (d : Nat) (tape : List Entry) : WF (envChange s d tape) :=
  h.of_eq rfl rfl rfl rfl

theorem startOf_shape (s : St) (op : ExtOp) : ∃ x ph P, Shape x (startOf s op) ph P := by
  cases op with
  | doAct c a => exact ⟨0, .over, [.acts ⟨c, none⟩ [a], .doFin c], ⟨rfl, by simp [Frame.inner], trivial⟩⟩
  | tick c => exact ⟨0, .over, [.tick c], ⟨rfl, by simp [Frame.inner], trivial⟩⟩
  | flush c => exact ⟨0, .over, [.flush c], ⟨rfl, by simp [Frame.inner], trivial⟩⟩
  | run c => exact ⟨c, .start, [], ⟨rfl, by simp, rfl, rfl⟩⟩

theorem reach_wf_shape {s0 : St} (h0 : WF s0) : ∀ c, Reach s0 c → WF c.st ∧ ∃ x ph P, Shape x c ph P := by
  apply Reach.inv
  · intro d tape op
    rw [startOf_st]
    exact ⟨h0.envChange d tape, startOf_shape ..⟩
  · intro c ⟨hwf, x, ph, P, hsh⟩
    obtain ⟨ph', P', h2, _⟩ := shape_step hwf hsh
    exact ⟨step_wf hwf, x, ph', P', h2⟩
  · intro c d tape op ⟨hwf, _⟩ _
    rw [startOf_st]
    exact ⟨hwf.envChange d tape, startOf_shape ..⟩

theorem Shape.top {x : Nat} {c : Cfg} {ph : Phase} {P k : List Frame} {F : Frame} (h : Shape x c ph P)
    (hs : c.stack = F :: k) (hF : F.inner = false) : P = [] ∧ tailOf x ph = F :: k := by
  have h1 := h.stack
  rw [hs] at h1
  cases P with
  | cons f P' =>
    injection h1 with h2 _
    have := h.inner f (by simp)
    rw [← h2, hF] at this
    cases this
  | nil => exact ⟨rfl, h1.symm⟩

theorem Shape.at_runFin {x x' : Nat} {c : Cfg} {ph : Phase} {P k : List Frame} (h : Shape x c ph P)
    (hs : c.stack = .runFin x' :: k) : x' = x ∧ k = [] ∧ ph = .fin ∧ P = [] := by
  obtain ⟨hP, h1⟩ := h.top hs rfl
  cases ph <;> simp [tailOf] at h1
  exact ⟨h1.1.symm, h1.2, rfl, hP⟩

theorem Shape.at_runRethrow {x : Nat} {c : Cfg} {ph : Phase} {P k : List Frame} {ex : Exn} (h : Shape x c ph P)
    (hs : c.stack = .runRethrow ex :: k) : k = [.runFin x] ∧ ph = .rethrow ex ∧ P = [] := by
  obtain ⟨hP, h1⟩ := h.top hs rfl
  cases ph <;> simp [tailOf] at h1
  obtain ⟨h2, h3⟩ := h1
  subst h2
  exact ⟨h3.symm, rfl, hP⟩

theorem Shape.not_run {x : Nat} {c : Cfg} {ph : Phase} {P : List Frame} (h : Shape x c ph P)
    (hne : ph ≠ .start) (y : Nat) (k : List Frame) : c.stack ≠ .run y :: k := by
  intro hs
  obtain ⟨_, h1⟩ := h.top hs rfl
  cases ph <;> simp [tailOf] at h1
  exact hne rfl

/-- what holds at every point of `x.run()` after its first step, relative to its start `c0` -/
structure RunRel (x : Nat) (c0 c : Cfg) : Prop where
  wf : WF c.st
  shape : ∃ ph P, Shape x c ph P ∧ ph ≠ .start
  started : ∀ y, firesOf Name.started y c.st = firesOf Name.started y c0.st + (if x = y then 1 else 0)
  stopped : firesOf Name.stopped x c.st + (if (c.st.comp x).running = true then 1 else 0) =
      firesOf Name.stopped x c0.st + 1

theorem RunRel.step {x : Nat} {c0 c : Cfg} (h : RunRel x c0 c) : RunRel x c0 (step c) := by
  obtain ⟨ph, P, hsh, hne⟩ := h.shape
  have hnr : ∀ y k, c.stack = .run y :: k → c.exn ≠ none := fun y k hs => absurd hs (hsh.not_run hne y k)
  refine ⟨step_wf h.wf, ?_, ?_, ?_⟩
  · obtain ⟨ph', P', h2, hne'⟩ := shape_step h.wf hsh
    exact ⟨ph', P', h2, hne'⟩
  · intro y
    rw [(step_flags h.wf hnr y).started]
    exact h.started y
  · have := h.stopped
    rcases (step_flags h.wf hnr x).stop with ⟨h1, h2⟩ | ⟨h1, h2, h3⟩
    · rw [h1, h2]; exact this
    · rw [h2, h3]
      rw [h1] at this
      simp at this ⊢
      omega

theorem run_rel {x : Nat} {c0 : Cfg} (hwf : WF c0.st) (hs : c0.stack = [.run x]) (hx : c0.exn = none)
    (hlt : x < c0.st.comps.length) : ∀ n, RunRel x c0 (runN (n + 1) c0) := by
  intro n
  induction n with
  | zero =>
    rw [runN_succ']
    show RunRel x c0 (CV.Core.step c0)
    have hsh : Shape x c0 .start [] := ⟨hs, by simp, rfl, hx⟩
    obtain ⟨ph', P', h2, hne'⟩ := shape_step hwf hsh
    have hstep := step_cons c0 (.run x) [] hs hx
    obtain ⟨w, hr, _, hf⟩ := Cfg.run_spec hwf [] x
    refine ⟨step_wf hwf, ⟨ph', P', h2, hne'⟩, ?_, ?_⟩
    · intro y; rw [hstep]; exact (hf _ y rfl).trans (by simp)
    · rw [hstep]
      have h3 : ((stepFrame c0 [] (.run x)).st.comp x).running = true := by
        show ((c0.run [] x).st.comp x).running = true
        rw [hr x]; simp [hlt]
      have h4 : firesOf Name.stopped x (stepFrame c0 [] (.run x)).st = firesOf Name.stopped x c0.st :=
        (hf _ x rfl).trans (by rw [if_neg fun h => nomatch h.1]; rfl)
      simp only [h3, h4, if_true]
  | succ n ih =>
    rw [runN_succ']
    exact ih.step

end CV.Core
