import CV.Proofs.InvRun
/-
Exit-code propagation through one `run()` (property C08, section 5 of CV/Props/C08.lean, end to end):
the code with which `run()` leaves is the code of the one effective `x.stop(code)` of the run.
Hypotheses (see `CodeInv`, `code_inv`): `x` is the only running component during the run, its
`_exit_code` is clear at the start, and `x` stays its own root.
-/
namespace CV.Core

/-- the step about to be executed is an effective `x.stop(v)` with a code: `x` is running and its
    root is executing `run()` (so the code is remembered for `run()` instead of raised) -/
def EffStop (x : Nat) (c : Cfg) (v : Nat) : Prop :=
  c.exn = none ∧ (∃ k, c.stack = .stopMgr x (some v) :: k) ∧ (c.st.comp x).running = true ∧
  ((c.st.stopBegin x).comp ((c.st.stopBegin x).rootOf x)).executing = true

theorem rootOf_stopSetCode (s : St) (r : Nat) (code : Code) (x : Nat) :
    (s.stopSetCode r code).rootOf x = s.rootOf x := by
  unfold St.stopSetCode St.rootOf
  split
  · rw [St.w6_modComp_comp_eq]; split <;> rfl
  · rfl

theorem EffStop.effect {x : Nat} {c : Cfg} {v : Nat} (hwf : WF c.st) (h : EffStop x c v) :
    ((step c).st.comp x).running = false ∧
    ((step c).st.comp ((step c).st.rootOf x)).exitCode = some v := by
  obtain ⟨hx, ⟨k, hs⟩, hrun, hex⟩ := h
  obtain ⟨_, hr, hc, _⟩ := Cfg.stopMgr_spec hwf k x (some v)
  have hroot : (c.stopMgr k x (some v)).st.rootOf x = (c.st.stopBegin x).rootOf x := by
    rw [Cfg.stopMgr_st, if_pos hrun, if_pos hex, rootOf_stopSetCode]
  rw [step_cons c _ k hs hx]
  show ((c.stopMgr k x (some v)).st.comp x).running = false ∧
    ((c.stopMgr k x (some v)).st.comp ((c.stopMgr k x (some v)).st.rootOf x)).exitCode = some v
  rw [hroot, hr, hc, if_pos rfl, if_pos ⟨hrun, hex, rfl, rfl⟩]
  exact ⟨rfl, rfl⟩

theorem run_code_step {x : Nat} {c : Cfg} {ph : Phase} {P : List Frame} (hwf : WF c.st) (hsh : Shape x c ph P)
    (hclean : ∀ y, y ≠ x → (c.st.comp y).running = false) (hno : ∀ v, ¬ EffStop x c v) :
    done (step c) = true ∨ ((step c).st.comp x).exitCode = (c.st.comp x).exitCode := by
  refine Classical.or_iff_not_imp_right.2 fun hch => ?_
  obtain ⟨hxn, ⟨y, code, k, hst, hry, hsome, hrx, hexe, _⟩ | ⟨y, k, hst, _, _⟩⟩ := step_exitCode hwf x hch
  · -- a `stop(code)` of a running component: it is `x`, the code is given, the root executes: an effective stop
    obtain rfl : y = x := Classical.byContradiction fun hyx => by rw [hclean y hyx] at hry; cases hry
    obtain ⟨v, rfl⟩ := Option.isSome_iff_exists.1 hsome
    exact absurd ⟨hxn, ⟨k, hst⟩, hry, by rw [← hrx]; exact hexe⟩ (hno v)
  · -- the end of `run()`: its frame is the last one
    obtain ⟨rfl, rfl, _, _⟩ := hsh.at_runFin hst
    have : (step c).stack = [] := by rw [step_cons _ _ _ hst hxn]; exact Cfg.runFin_stack c [] y
    exact (done_iff _).2 this

theorem not_effStop_of_run {x y : Nat} {c : Cfg} {v : Nat} (hs : c.stack = [.run y]) : ¬ EffStop x c v := by
  rintro ⟨_, ⟨k, hk⟩, _⟩
  rw [hs] at hk; cases hk

/-- what holds `n` steps into `x.run()`: no other component runs; and unless the run is over, `_exit_code` of `x` is
    the code of an effective stop so far, of which there is none while `x` is running -/
structure CodeInv (x : Nat) (c0 : Cfg) (n : Nat) : Prop where
  clean : ∀ y, y ≠ x → ((runN n c0).st.comp y).running = false
  body : done (runN n c0) = true ∨
    ((((runN n c0).st.comp x).running = true → ∀ m, m < n → ∀ v, ¬ EffStop x (runN m c0) v) ∧
     (∀ v, ((runN n c0).st.comp x).exitCode = some v ↔ ∃ m, m < n ∧ EffStop x (runN m c0) v))

theorem code_inv {x : Nat} {c0 : Cfg} (hwf : WF c0.st) (hs : c0.stack = [.run x]) (hx : c0.exn = none)
    (hlt : x < c0.st.comps.length)
    (hclean : ∀ y, y ≠ x → (c0.st.comp y).running = false)
    (hcode : (c0.st.comp x).exitCode = none)
    (hroot : ∀ m, (runN m c0).st.rootOf x = x) : ∀ n, CodeInv x c0 (n + 1) := by
  intro n
  induction n with
  | zero =>
    -- the first step is `run()`'s own: `x` starts running, `_exit_code` is still clear
    have h1 : runN (0 + 1) c0 = c0.run [] x := by
      rw [runN_succ']
      exact step_cons c0 (.run x) [] hs hx
    obtain ⟨_, hr, hc, _⟩ := Cfg.run_spec hwf [] x
    have h0 : ∀ m, m < 0 + 1 → ∀ v, ¬ EffStop x (runN m c0) v := fun m hm v => by
      obtain rfl : m = 0 := by omega
      exact not_effStop_of_run hs
    refine ⟨?_, Or.inr ⟨fun _ => h0, fun v => ⟨fun h2 => ?_, fun ⟨m, hm, he⟩ => absurd he (h0 m hm v)⟩⟩⟩
    · intro y hy
      rw [h1]
      show ((c0.run [] x).st.comp y).running = false
      rw [hr y]; simp [Ne.symm hy, hclean y hy]
    · rw [h1] at h2
      have : ((c0.run [] x).st.comp x).exitCode = some v := h2
      rw [hc x, hcode] at this; cases this
  | succ n ih =>
    have hrel := run_rel hwf hs hx hlt n
    obtain ⟨ph, P, hsh, hne⟩ := hrel.shape
    have hfl := fun y => step_flags hrel.wf (fun y k hs => absurd hs (hsh.not_run hne y k)) y
    refine ⟨?_, ?_⟩ <;> rw [runN_succ' (n + 1)]
    · exact fun y hy => (hfl y).running_false (ih.clean y hy)
    · rcases ih.body with hd | ⟨hb1, hb2⟩
      · left; rw [step_done _ hd]; exact hd
      · have hrunmono : ((step (runN (n + 1) c0)).st.comp x).running = true →
            ((runN (n + 1) c0).st.comp x).running = true := fun h1 => by
          rcases (hfl x).stop with ⟨h2, _⟩ | ⟨h2, _, _⟩
          · rw [← h2]; exact h1
          · exact h2
        by_cases hE : ∃ v, EffStop x (runN (n + 1) c0) v
        · -- the effective stop: `x` was running, so it is the first; now `x` is stopped and holds its code
          obtain ⟨v, he⟩ := hE
          have hF : ∀ w, EffStop x (runN (n + 1) c0) w → ((step (runN (n + 1) c0)).st.comp x).running = false ∧
              ((step (runN (n + 1) c0)).st.comp x).exitCode = some w := fun w hw => by
            have := hw.effect hrel.wf
            rwa [show (step (runN (n + 1) c0)).st.rootOf x = x by
              rw [← runN_succ' (n + 1)]; exact hroot (n + 2)] at this
          refine .inr ⟨fun h1 => (by rw [(hF v he).1] at h1; cases h1), fun w => ?_⟩
          rw [(hF v he).2, Nat.exists_lt_succ_right]
          constructor
          · rintro ⟨⟩; exact .inr he
          · rintro (⟨m, hm, hew⟩ | hew)
            · exact absurd hew (hb1 he.2.2.1 m hm w)
            · exact ((hF v he).2.symm.trans (hF w hew).2)
        · -- any other step keeps `_exit_code` of `x`, unless it ends the run
          have hno : ∀ v, ¬ EffStop x (runN (n + 1) c0) v := fun v he => hE ⟨v, he⟩
          rcases run_code_step hrel.wf hsh ih.clean hno with hd | hch
          · exact .inl hd
          · refine .inr ⟨fun h1 m hm v => ?_, fun w => ?_⟩
            · rcases Nat.lt_succ_iff_lt_or_eq.1 hm with hm | rfl
              · exact hb1 (hrunmono h1) m hm v
              · exact hno v
            · rw [hch, hb2 w, Nat.exists_lt_succ_right (n := n + 1)]
              exact ⟨.inl, fun h => h.resolve_right (hno w)⟩

theorem run_exit_code {x : Nat} {c0 : Cfg} (hwf : WF c0.st) (hs : c0.stack = [.run x]) (hx : c0.exn = none)
    (hlt : x < c0.st.comps.length)
    (hclean : ∀ y, y ≠ x → (c0.st.comp y).running = false)
    (hcode : (c0.st.comp x).exitCode = none)
    (hroot : ∀ m, (runN m c0).st.rootOf x = x)
    (n : Nat) (hfin : (runN n c0).stack = [.runFin x]) (hxn : (runN n c0).exn = none) :
    done (runN (n + 1) c0) = true ∧
    (∀ v, (runN (n + 1) c0).exn = some (.sysExit (some v)) ↔ ∃ m, m < n ∧ EffStop x (runN m c0) v) ∧
    ((runN (n + 1) c0).exn = none ↔ ∀ m, m < n → ∀ v, ¬ EffStop x (runN m c0) v) := by
  cases n with
  | zero => rw [show (runN 0 c0).stack = [.run x] from hs] at hfin; cases hfin
  | succ n =>
    -- the run is not over: `_exit_code` of `x` is the code of the effective stop, if there was one
    obtain ⟨_, hb2⟩ := (code_inv hwf hs hx hlt hclean hcode hroot n).body.resolve_left
      (by simp [done, hfin])
    -- and the last step raises `SystemExit(_exit_code)` if there is one
    have hend : ((runN (n + 1) c0).st.runEnd x).1 = ((runN (n + 1) c0).st.comp x).exitCode := by
      rw [St.runEnd_fst, hroot (n + 1)]
    have hstep : runN (n + 1 + 1) c0 = (runN (n + 1) c0).runFin [] x := by
      rw [runN_succ' (n + 1)]
      exact step_cons _ _ _ hfin hxn
    rw [hstep, Cfg.runFin_exn [] x hxn, hend]
    refine ⟨(done_iff _).2 (Cfg.runFin_stack ..), fun v => ?_, ?_⟩
    · rw [← hb2 v]
      cases ((runN (n + 1) c0).st.comp x).exitCode <;> simp
    · rw [Option.map_eq_none_iff, Option.eq_none_iff_forall_ne_some]
      simp only [ne_eq, hb2]
      exact ⟨fun h m hm v he => h v ⟨m, hm, he⟩, fun h v ⟨m, hm, he⟩ => h m hm v he⟩

end CV.Core
