import CV.Proofs.CoreReach
import CV.Proofs.CoreStep
/-
Property C08: the steps that neither start nor stop a manager.  `St.Sil s t` ("silent extension") says that `t` is a later
state than `s` reached without starting or stopping one: no `running` flag and no `_exit_code` has changed, and the log
grew by no fire of `started` / `stopped`.  Every primitive and helper except the four pure functions `runBegin`,
`stopBegin`, `stopSetCode`, `runEnd` is silent (`St.Sil.keeps`, by the pattern of CV/Proofs/Pres.lean), hence every arm
of `step` except `.run`, `.stopMgr`, `.runFin`: `step_sil_or`.
-/
namespace CV.Core

/-- not one of the two reserved names (C08's sense of quiet: the log entry starts or stops no manager) -/
def Name.quiet (n : Name) : Bool := n != Name.started && n != Name.stopped

def Entry.quiet : Entry → Bool
  | .fire _ n _ _ => n.quiet
  | _ => true

def Entry.isFire : Entry → Bool
  | .fire .. => true
  | _ => false

/-- the hypothesis of C08 on a state (`C08.Init`): no template and no timer's event object is named `started` / `stopped`,
    and the `fire` entries of the log refer to existing events under their names -/
structure WF (s : St) : Prop where
  tmpls : ∀ tm ∈ s.tmpls, tm.name.quiet = true
  timers : ∀ tm ∈ s.timers, ∀ e, tm.ev = some e → e < s.evs.length ∧ (s.ev e).name.quiet = true
  log : ∀ e n ch p, Entry.fire e n ch p ∈ s.log → e < s.evs.length ∧ (s.ev e).name = n

structure St.Sil (s t : St) : Prop where
  wf : WF t
  evs : s.evs.length ≤ t.evs.length
  evk : ∀ e, e < s.evs.length → (t.ev e).name = (s.ev e).name ∧ (t.ev e).arg = (s.ev e).arg
  run : ∀ x, (t.comp x).running = (s.comp x).running
  code : ∀ x, (t.comp x).exitCode = (s.comp x).exitCode
  log : ∃ es, t.log = es ++ s.log ∧ ∀ en ∈ es, en.quiet = true

theorem St.comp_modComp_run (t : St) (c : Nat) (f : Comp → Comp)
    (hf : ∀ x, (f x).running = x.running ∧ (f x).exitCode = x.exitCode) (x : Nat) :
    ((t.modComp c f).comp x).running = (t.comp x).running ∧
    ((t.modComp c f).comp x).exitCode = (t.comp x).exitCode :=
  ⟨St.w6_modComp_comp_pres t (·.running) c f (fun y => (hf y).1) x,
   St.w6_modComp_comp_pres t (·.exitCode) c f (fun y => (hf y).2) x⟩

theorem St.ev_modEv_keep (t : St) (e : Nat) (f : Ev → Ev)
    (hf : ∀ x, (f x).name = x.name ∧ (f x).arg = x.arg) (e' : Nat) :
    ((t.modEv e f).ev e').name = (t.ev e').name ∧ ((t.modEv e f).ev e').arg = (t.ev e').arg :=
  ⟨St.w6_modEv_ev_pres t (·.name) e f (fun y => (hf y).1) e', St.w6_modEv_ev_pres t (·.arg) e f (fun y => (hf y).2) e'⟩

theorem WF.of_eq {s t : St} (h : WF s) (h1 : t.tmpls = s.tmpls) (h2 : t.timers = s.timers)
    (h3 : t.evs = s.evs) (h4 : t.log = s.log) : WF t := by
  refine ⟨?_, ?_, ?_⟩
  · rw [h1]; exact h.tmpls
  · rw [h2]; unfold St.ev; rw [h3]; exact h.timers
  · rw [h4]; unfold St.ev; rw [h3]; exact h.log

theorem WF.modEv {t : St} (h : WF t) (e : Nat) (f : Ev → Ev)
    (hf : ∀ x, (f x).name = x.name ∧ (f x).arg = x.arg) : WF (t.modEv e f) := by
  have hl : (t.modEv e f).evs.length = t.evs.length := by simp [St.modEv]
  refine ⟨h.tmpls, ?_, ?_⟩
  · intro tm htm e' he'
    rw [hl, (St.ev_modEv_keep t e f hf e').1]
    exact h.timers tm htm e' he'
  · intro e' n ch p hm
    rw [hl, (St.ev_modEv_keep t e f hf e').1]
    exact h.log e' n ch p hm

theorem WF.addEv {t : St} (h : WF t) (ev : Ev) : WF (t.addEv ev) := by
  have hl : (t.addEv ev).evs.length = t.evs.length + 1 := by simp [St.addEv]
  refine ⟨h.tmpls, ?_, ?_⟩
  · intro tm htm e' he'
    have := h.timers tm htm e' he'
    rw [hl, St.w6_addEv_ev, if_neg (Nat.ne_of_lt this.1)]
    exact ⟨by omega, this.2⟩
  · intro e' n ch p hm
    have := h.log e' n ch p hm
    rw [hl, St.w6_addEv_ev, if_neg (Nat.ne_of_lt this.1)]
    exact ⟨by omega, this.2⟩

theorem WF.modTimer {t : St} (h : WF t) (i : Nat) (f : TimerSt → TimerSt)
    (hf : ∀ x e, (f x).ev = some e → x.ev = some e ∨ (e < t.evs.length ∧ (t.ev e).name.quiet = true)) :
    WF (t.modTimer i f) := by
  refine ⟨h.tmpls, ?_, h.log⟩
  intro tm htm e he
  show e < t.evs.length ∧ (t.ev e).name.quiet = true
  rcases mem_modify htm with hm | ⟨b, hb, rfl⟩
  · exact h.timers tm hm e he
  · rcases hf b e he with h1 | h1
    · exact h.timers b hb e h1
    · exact h1

theorem WF.logE {t : St} (h : WF t) (x : Entry)
    (hx : ∀ e n ch p, x = .fire e n ch p → e < t.evs.length ∧ (t.ev e).name = n) : WF (t.logE x) := by
  refine ⟨h.tmpls, h.timers, ?_⟩
  intro e n ch p hm
  show e < t.evs.length ∧ (t.ev e).name = n
  have hm' : Entry.fire e n ch p ∈ x :: t.log := hm
  rcases List.mem_cons.1 hm' with h1 | h1
  · exact hx e n ch p h1.symm
  · exact h.log e n ch p h1

namespace St.Sil

@[st_pres ↓] theorem refl {s : St} (h : WF s) : St.Sil s s :=
  ⟨h, Nat.le_refl _, fun _ _ => ⟨rfl, rfl⟩, fun _ => rfl, fun _ => rfl, ⟨[], rfl, by simp⟩⟩

variable {s t : St}

theorem of_same (h : St.Sil s t) {t' : St} (h1 : t'.tmpls = t.tmpls) (h2 : t'.timers = t.timers)
    (h3 : t'.evs = t.evs) (h4 : t'.log = t.log) (h5 : t'.comps = t.comps) : St.Sil s t' := by
  refine ⟨h.wf.of_eq h1 h2 h3 h4, ?_, ?_, ?_, ?_, ?_⟩
  · rw [h3]; exact h.evs
  · unfold St.ev; rw [h3]; exact h.evk
  · unfold St.comp; rw [h5]; exact h.run
  · unfold St.comp; rw [h5]; exact h.code
  · rw [h4]; exact h.log

@[st_pres ↓] theorem modComp (h : St.Sil s t) (c : Nat) (f : Comp → Comp)
    (hf : ∀ x, (f x).running = x.running ∧ (f x).exitCode = x.exitCode) : St.Sil s (t.modComp c f) := by
  refine ⟨h.wf.of_eq rfl rfl rfl rfl, h.evs, h.evk, ?_, ?_, h.log⟩
  · intro x; rw [(St.comp_modComp_run t c f hf x).1]; exact h.run x
  · intro x; rw [(St.comp_modComp_run t c f hf x).2]; exact h.code x

@[st_pres ↓] theorem modEv (h : St.Sil s t) (e : Nat) (f : Ev → Ev)
    (hf : ∀ x, (f x).name = x.name ∧ (f x).arg = x.arg) : St.Sil s (t.modEv e f) := by
  refine ⟨h.wf.modEv e f hf, ?_, ?_, h.run, h.code, h.log⟩
  · simpa [St.modEv] using h.evs
  · intro e' he'
    rw [(St.ev_modEv_keep t e f hf e').1, (St.ev_modEv_keep t e f hf e').2]
    exact h.evk e' he'

@[st_pres ↓] theorem modWait (h : St.Sil s t) (w : Nat) (f : WaitSt → WaitSt) : St.Sil s (t.modWait w f) :=
  h.of_same rfl rfl rfl rfl rfl

@[st_pres ↓] theorem setGen (h : St.Sil s t) (g : Nat) (x : GenRec) : St.Sil s (t.setGen g x) :=
  h.of_same rfl rfl rfl rfl rfl

@[st_pres ↓] theorem addH (h : St.Sil s t) (x : Handler) : St.Sil s (t.addH x) := h.of_same rfl rfl rfl rfl rfl
@[st_pres ↓] theorem addGen (h : St.Sil s t) (g : GenRec) : St.Sil s (t.addGen g) := h.of_same rfl rfl rfl rfl rfl
@[st_pres ↓] theorem addWait (h : St.Sil s t) (w : WaitSt) : St.Sil s (t.addWait w) := h.of_same rfl rfl rfl rfl rfl
@[st_pres ↓] theorem tick1 (h : St.Sil s t) (d : Int) : St.Sil s (t.tick1 d) := h.of_same rfl rfl rfl rfl rfl

@[st_pres ↓] theorem modTimer (h : St.Sil s t) (i : Nat) (f : TimerSt → TimerSt)
    (hf : ∀ x e, (f x).ev = some e → x.ev = some e ∨ (e < t.evs.length ∧ (t.ev e).name.quiet = true)) :
    St.Sil s (t.modTimer i f) :=
  ⟨h.wf.modTimer i f hf, h.evs, h.evk, h.run, h.code, h.log⟩

@[st_pres ↓] theorem addEv (h : St.Sil s t) (ev : Ev) : St.Sil s (t.addEv ev) := by
  refine ⟨h.wf.addEv ev, ?_, ?_, h.run, h.code, h.log⟩
  · have := h.evs; simp [St.addEv]; omega
  · intro e he
    rw [St.w6_addEv_ev, if_neg (Nat.ne_of_lt (Nat.lt_of_lt_of_le he h.evs))]
    exact h.evk e he

@[st_pres ↓] theorem logE (h : St.Sil s t) (x : Entry) (hx : x.isFire = false) : St.Sil s (t.logE x) := by
  refine ⟨h.wf.logE x ?_, h.evs, h.evk, h.run, h.code, ?_⟩
  · intro e n ch p he; subst he; cases hx
  · obtain ⟨es, h1, h2⟩ := h.log
    refine ⟨x :: es, by simp [St.logE, h1], ?_⟩
    intro en hen
    rcases List.mem_cons.1 hen with h3 | h3
    · subst h3; cases en <;> first | rfl | cases hx
    · exact h2 en h3

theorem logFire (h : St.Sil s t) (e : Nat) (ch : List Chan) (p : Int) (he : e < t.evs.length)
    (hq : (t.ev e).name.quiet = true) : St.Sil s (t.logE (.fire e (t.ev e).name ch p)) := by
  refine ⟨h.wf.logE _ ?_, h.evs, h.evk, h.run, h.code, ?_⟩
  · intro e' n ch' p' heq
    cases heq
    exact ⟨he, rfl⟩
  · obtain ⟨es, h1, h2⟩ := h.log
    refine ⟨.fire e (t.ev e).name ch p :: es, by simp [St.logE, h1], ?_⟩
    intro en hen
    rcases List.mem_cons.1 hen with h3 | h3
    · subst h3; exact hq
    · exact h2 en h3

theorem logFire' {t u : St} (h : St.Sil s u) (h' : St.Sil t u) (e : Nat) (ch : List Chan) (p : Int)
    (he : e < t.evs.length) (hq : (t.ev e).name.quiet = true) :
    St.Sil s (u.logE (.fire e (u.ev e).name ch p)) := by
  apply h.logFire e ch p (Nat.lt_of_lt_of_le he h'.evs)
  rw [(h'.evk e he).1]; exact hq

end St.Sil

theorem Name.child_quiet (n : Name) (k : Nat) : (n.child k).quiet = true := by
  have h1 : n.child k ≠ Name.started := by
    intro h; have := congrArg Name.sfx h; simp [Name.child, Name.started] at this
  have h2 : n.child k ≠ Name.stopped := by
    intro h; have := congrArg Name.sfx h; simp [Name.child, Name.stopped] at this
  simp [Name.quiet, h1, h2]

theorem WF.tmplQuiet {t : St} (h : WF t) (i : Nat) : (mkEvOfTmpl t i).name.quiet = true := by
  unfold mkEvOfTmpl
  dsimp only
  rw [List.getD_eq_getElem?_getD]
  cases hi : t.tmpls[i]? with
  | none => rfl
  | some tm => exact h.tmpls tm (List.mem_iff_getElem?.2 ⟨i, hi⟩)

theorem St.Sil.tmplQuiet {s t : St} (h : St.Sil s t) (i : Nat) : (mkEvOfTmpl t i).name.quiet = true :=
  h.wf.tmplQuiet i

/-- side conditions of `St.Sil.modComp` / `modEv` (an `if` in the update function), `St.Sil.modTimer`
(the update keeps `ev`) and `St.Sil.fireTmplEv` (an instance of a template) -/
macro_rules | `(tactic| st_pres_side) => `(tactic| first
  | with_unfolding_all (intro x; split <;> exact ⟨id rfl, id rfl⟩)
  | with_unfolding_all (intro x e he; exact id (Or.inl he))
  | with_unfolding_all (intro x e he; split at he <;> exact id (Or.inl he))
  | with_reducible exact St.Sil.tmplQuiet (by assumption) _
  | fail)

@[st_pres ↓] theorem St.Sil.addHandler {s t : St} (h : St.Sil s t) (x : Nat) : St.Sil s (t.addHandler x) :=
  St.addHandler_pres t x h (fun _ h => by st_pres) (fun _ _ h => by st_pres) (fun _ _ h => by st_pres)

@[st_pres ↓] theorem St.Sil.removeHandler {s t : St} (h : St.Sil s t) (x : Nat) (n : Option Name) :
    St.Sil s ((t.removeHandler x n).2) := by
  st_pres_unfold St.removeHandler

@[st_pres ↓] theorem St.Sil.fireContext {s t : St} (h : St.Sil s t) (r e : Nat) :
    St.Sil s (t.fireContext r e) :=
  St.fireContext_pres t r e h (fun _ _ h => by st_pres) (fun _ _ h => by st_pres) (fun _ _ h => by st_pres)

/-- `fireRaw` without its log entry: the part of it that is walked like any other helper -/
def St.fireRawPre (s : St) (self e : Nat) (chans : List Chan) (prio : Int) : St :=
  let s1 := s.modEv e fun x => { x with chans := chans, val := {}, mgr := self }
  let r := s1.rootOf self
  let s2 := s1.fireContext r e
  s2.modComp r fun x => { x with eq := x.eq.append e prio }

theorem St.fireRaw_eq_logE (s : St) (self e : Nat) (chans : List Chan) (prio : Int) :
    s.fireRaw self e chans prio =
      (s.fireRawPre self e chans prio).logE (.fire e ((s.fireRawPre self e chans prio).ev e).name chans prio) := rfl

theorem St.Sil.fireRawPre {s t : St} (h : St.Sil s t) (self e : Nat) (chans : List Chan) (prio : Int) :
    St.Sil s (t.fireRawPre self e chans prio) := by
  st_pres_unfold St.fireRawPre

/-- the entry logged is the fire of an event of `t` with a quiet name: `fireRawPre` keeps names (`St.Sil t _`) -/
theorem St.Sil.fireRaw {s t : St} (h : St.Sil s t) (self e : Nat) (chans : List Chan) (prio : Int)
    (he : e < t.evs.length) (hq : (t.ev e).name.quiet = true) :
    St.Sil s (t.fireRaw self e chans prio) := by
  rw [St.fireRaw_eq_logE]
  exact (h.fireRawPre ..).logFire' ((St.Sil.refl h.wf).fireRawPre ..) e chans prio he hq

theorem St.Sil.fireFresh {s t : St} (h : St.Sil s t) (ev : Ev) (self : Nat) (chans : List Chan) (prio : Int)
    (hq : ev.name.quiet = true) : St.Sil s ((t.addEv ev).fireRaw self t.evs.length chans prio) := by
  apply St.Sil.fireRaw (h.addEv _)
  · simp [St.addEv]
  · rw [St.w6_addEv_ev, if_pos rfl]; exact hq

@[st_pres ↓] theorem St.Sil.childEv {s t : St} (h : St.Sil s t) (p sfx : Nat) :
    St.Sil s (t.childEv p sfx) := by
  st_pres_unfold St.childEv

@[st_pres ↓] theorem St.Sil.fireChild {s t : St} (h : St.Sil s t) (self p sfx : Nat) (chans : List Chan) :
    St.Sil s (t.fireChild self p sfx chans) := by
  unfold St.fireChild St.childEv
  exact h.fireFresh _ _ _ _ (Name.child_quiet _ _)

@[st_pres ↓] theorem St.Sil.inform {s t : St} (h : St.Sil s t) (e : Nat) (force : Bool) :
    St.Sil s (t.inform e force) := by
  st_pres_unfold St.inform

@[st_pres ↓] theorem St.Sil.setValue {s t : St} (h : St.Sil s t) (e : Nat) (x : VItem) :
    St.Sil s (t.setValue e x) := by
  st_pres_unfold St.setValue

@[st_pres ↓] theorem St.Sil.fireTmplEv {s t : St} (h : St.Sil s t) (self : Nat) (ev : Ev) (target : Option Chan) (prio : Int)
    (hq : ev.name.quiet = true) :
    St.Sil s (t.fireTmplEv self ev target prio) :=
  h.fireFresh ev _ _ _ hq

@[st_pres ↓] theorem St.Sil.effectDone1 {s t : St} (h : St.Sil s t) (r e : Nat) (announce : Bool) :
    St.Sil s ((t.effectDone1 r e announce).2) :=
  St.effectDone1_pres t r e announce h (fun _ => by st_pres) (fun _ _ h => by st_pres) (fun _ h => by st_pres)

@[st_pres ↓] theorem St.Sil.eventDonePre {s t : St} (h : St.Sil s t) (r e : Nat) (err : Bool) :
    St.Sil s ((t.eventDonePre r e err).2) := by
  st_pres_unfold St.eventDonePre

@[st_pres ↓] theorem St.Sil.registerTask {s t : St} (h : St.Sil s t) (c : Nat) (x : Task) :
    St.Sil s (t.registerTask c x) := by
  st_pres_unfold St.registerTask

@[st_pres ↓] theorem St.Sil.unregisterTask {s t : St} (h : St.Sil s t) (c : Nat) (x : Task) :
    St.Sil s (t.unregisterTask c x) := by
  st_pres_unfold St.unregisterTask

@[st_pres ↓] theorem St.Sil.reduceTimeLeft {s t : St} (h : St.Sil s t) (e : Nat) (d : Int) :
    St.Sil s (t.reduceTimeLeft e d) := by
  st_pres_unfold St.reduceTimeLeft

@[st_pres ↓] theorem St.Sil.registerPre {s t : St} (h : St.Sil s t) (c p : Nat) :
    St.Sil s ((t.registerPre c p).2) :=
  St.registerPre_pres h c p (fun _ => by st_pres) (fun _ _ h => by st_pres) (fun _ h => by st_pres)
    (fun _ _ _ _ h => by st_pres)

@[st_pres ↓] theorem St.Sil.registerFin {s t : St} (h : St.Sil s t) (c : Nat) :
    St.Sil s (t.registerFin c) := by
  st_pres_unfold St.registerFin

@[st_pres ↓] theorem St.Sil.unregister {s t : St} (h : St.Sil s t) (c : Nat) :
    St.Sil s (t.unregister c) := by
  st_pres_unfold St.unregister

@[st_pres ↓] theorem St.Sil.prepUnregPre {s t : St} (h : St.Sil s t) (c : Nat) :
    St.Sil s (t.prepUnregPre c) := by
  st_pres_unfold St.prepUnregPre

@[st_pres ↓] theorem St.Sil.prepUnregFin {s t : St} (h : St.Sil s t) (c : Nat) :
    St.Sil s (t.prepUnregFin c) := by
  st_pres_unfold St.prepUnregFin

@[st_pres ↓] theorem St.Sil.actFire {s t : St} (h : St.Sil s t) (self i : Nat) (target : Option Chan) (prio : Int) (cancel : Bool) :
    St.Sil s (t.actFire self i target prio cancel) := by
  st_pres_unfold St.actFire

@[st_pres ↓] theorem St.Sil.actStopEv {s t : St} (h : St.Sil s t) (ev : Option Nat) :
    St.Sil s (t.actStopEv ev) := by
  st_pres_unfold St.actStopEv

@[st_pres ↓] theorem St.Sil.timerReset {s t : St} (h : St.Sil s t) (i : Nat) :
    St.Sil s (t.timerReset i) := by
  st_pres_unfold St.timerReset

@[st_pres ↓] theorem St.Sil.timerCreate {s t : St} (h : St.Sil s t) (i : Nat) :
    St.Sil s (t.timerCreate i) := by
  st_pres_unfold St.timerCreate

/-- the event a timer fires is the one it holds, quiet by `WF.timers`, or the instance of a template it has just created -/
@[st_pres ↓] theorem St.Sil.timerTick {s t : St} (h : St.Sil s t) (i e : Nat) :
    St.Sil s (t.timerTick i e) := by
  refine St.timerTick_pres_ev (P := St.Sil s) t i e h (fun _ _ h => h.reduceTimeLeft _ _) (fun tm c ch htm => ?_)
    (fun _ _ h => h.modTimer _ _ fun _ _ he => Or.inl he) (fun _ _ h => h.unregister _)
  split
  · rename_i te hev
    have hw := h.wf.timers tm (List.mem_iff_getElem?.2 ⟨i, htm⟩) te hev
    exact h.fireRaw _ _ _ _ hw.1 hw.2
  · have hq : ((t.addEv (mkEvOfTmpl t tm.tmpl)).ev t.evs.length).name.quiet = true := by
      rw [St.w6_addEv_ev, if_pos rfl]; exact h.tmplQuiet _
    refine St.Sil.fireRaw ((h.addEv _).modTimer _ _ fun x e' he' => Or.inr ?_) _ _ _ _ ?_ hq
    · cases he'
      exact ⟨by simp [St.addEv], hq⟩
    · simp [St.addEv, St.modTimer]

@[st_pres ↓] theorem St.Sil.startWait {s t : St} (h : St.Sil s t) (w : Nat) :
    St.Sil s (t.startWait w) :=
  St.startWait_pres t w h (fun _ _ => by st_pres) (fun _ _ _ _ _ h => by st_pres) (fun _ _ _ _ _ h => by st_pres)

@[st_pres ↓] theorem St.Sil.genCall {s t : St} (h : St.Sil s t) (owner i : Nat) (target : Option Chan) (timeout : Option Nat) :
    St.Sil s (t.genCall owner i target timeout) := by
  st_pres_unfold St.genCall

@[st_pres ↓] theorem St.Sil.genWait {s t : St} (h : St.Sil s t) (owner : Nat) (name : Name) (target : Option Chan) (timeout : Option Nat) :
    St.Sil s (t.genWait owner name target timeout) := by
  st_pres_unfold St.genWait

@[st_pres ↓] theorem St.Sil.resumeGenPre {s t : St} (h : St.Sil s t) (g : Nat) (silent : Bool) :
    St.Sil s (t.resumeGenPre g silent) := by
  st_pres_unfold St.resumeGenPre

@[st_pres ↓] theorem St.Sil.stopIteration {s t : St} (h : St.Sil s t) (r : Nat) (x : Task) :
    St.Sil s ((t.stopIteration r x).2) :=
  St.stopIteration_pres t r x (by st_pres) (fun _ _ h => by st_pres) (fun _ h => by st_pres)

@[st_pres ↓] theorem St.Sil.fireException {s t : St} (h : St.Sil s t) (r e : Nat) :
    St.Sil s (t.fireException r e) := by
  st_pres_unfold St.fireException

@[st_pres ↓] theorem St.Sil.errorBranch {s t : St} (h : St.Sil s t) (r : Nat) (x : Task) (resumed : Bool) :
    St.Sil s ((t.errorBranch r x resumed).2) :=
  St.errorBranch_pres t r x resumed (by st_pres) (fun _ h => by st_pres) (fun _ h => by st_pres)
    (fun _ _ h => by st_pres) (fun _ _ h => by st_pres) (fun _ h => by st_pres) (fun _ _ h => by st_pres)

@[st_pres ↓] theorem St.Sil.ownSub {s t : St} (h : St.Sil s t) (r : Nat) (x : Task) (w : Nat) :
    St.Sil s (t.ownSub r x w) := by
  st_pres_unfold St.ownSub

@[st_pres ↓] theorem St.Sil.setValueOpt {s t : St} (h : St.Sil s t) (e : Nat) (v : Option Nat) :
    St.Sil s (t.setValueOpt e v) := by
  st_pres_unfold St.setValueOpt

@[st_pres ↓] theorem St.Sil.parentSub {s t : St} (h : St.Sil s t) (r : Nat) (x : Task) (p w2 : Nat) (viaThrow : Bool) :
    St.Sil s (t.parentSub r x p w2 viaThrow) := by
  st_pres_unfold St.parentSub

@[st_pres ↓] theorem St.Sil.parentPlain {s t : St} (h : St.Sil s t) (r : Nat) (x : Task) (p : Nat) (v : Option Nat) (viaThrow : Bool) :
    St.Sil s (t.parentPlain r x p v viaThrow) := by
  st_pres_unfold St.parentPlain

@[st_pres ↓] theorem St.Sil.onWaitEvent {s t : St} (h : St.Sil s t) (w e : Nat) :
    St.Sil s ((t.onWaitEvent w e).2) := by
  st_pres_unfold St.onWaitEvent

@[st_pres ↓] theorem St.Sil.onWaitDone {s t : St} (h : St.Sil s t) (w e : Nat) :
    St.Sil s ((t.onWaitDone w e).2) :=
  St.onWaitDone_pres t w e h (fun _ _ _ h => by st_pres) (fun _ _ => by st_pres)

@[st_pres ↓] theorem St.Sil.onWaitTick {s t : St} (h : St.Sil s t) (w : Nat) :
    St.Sil s ((t.onWaitTick w).2) :=
  St.onWaitTick_pres t w h (fun _ _ _ h => by st_pres) (fun _ _ _ => by st_pres) (by st_pres)

@[st_pres ↓] theorem St.Sil.onFallbackGE {s t : St} (h : St.Sil s t) (e : Nat) :
    St.Sil s ((t.onFallbackGE e).2) := by
  st_pres_unfold St.onFallbackGE

@[st_pres ↓] theorem St.Sil.computeHandlers {s t : St} (h : St.Sil s t) (r : Nat) (name : Name) (chans : List Chan) :
    St.Sil s ((t.computeHandlers r name chans).2) := by
  st_pres_unfold St.computeHandlers

@[st_pres ↓] theorem St.Sil.dispComplete {s t : St} (h : St.Sil s t) (e : Nat) (ev : Ev) :
    St.Sil s (t.dispComplete e ev) := by
  st_pres_unfold St.dispComplete

@[st_pres ↓] theorem St.Sil.cacheRefresh {s t : St} (h : St.Sil s t) (r : Nat) :
    St.Sil s (t.cacheRefresh r) := by
  st_pres_unfold St.cacheRefresh

@[st_pres ↓] theorem St.Sil.lookupHandlers {s t : St} (h : St.Sil s t) (r : Nat) (name : Name) (chans : List Chan) :
    St.Sil s ((t.lookupHandlers r name chans).2) := by
  st_pres_unfold St.lookupHandlers

@[st_pres ↓] theorem St.Sil.dispGE {s t : St} (h : St.Sil s t) (r e remaining : Nat) (name : Name) :
    St.Sil s (t.dispGE r e remaining name) := by
  st_pres_unfold St.dispGE

@[st_pres ↓] theorem St.Sil.dispatchPre {s t : St} (h : St.Sil s t) (r e remaining : Nat) :
    St.Sil s ((t.dispatchPre r e remaining).2) := by
  st_pres_unfold St.dispatchPre

@[st_pres ↓] theorem St.Sil.handlerRaised {s t : St} (h : St.Sil s t) (r e : Nat) :
    St.Sil s (t.handlerRaised r e) := by
  st_pres_unfold St.handlerRaised

@[st_pres ↓] theorem St.Sil.applyValue {s t : St} (h : St.Sil s t) (r e : Nat) (value : Outcome) :
    St.Sil s (t.applyValue r e value) := by
  st_pres_unfold St.applyValue

@[st_pres ↓] theorem St.Sil.geTasksCheck {s t : St} (h : St.Sil s t) (r e : Nat) :
    St.Sil s (t.geTasksCheck r e) := by
  st_pres_unfold St.geTasksCheck

@[st_pres ↓] theorem St.Sil.flushBegin {s t : St} (h : St.Sil s t) (r : Nat) :
    St.Sil s (t.flushBegin r) := by
  st_pres_unfold St.flushBegin

@[st_pres ↓] theorem St.Sil.tickGenerate {s t : St} (h : St.Sil s t) (c : Nat) :
    St.Sil s (t.tickGenerate c) := by
  unfold St.tickGenerate
  exact pred_ite ((h.tick1 1).fireFresh _ _ _ _ rfl) h

@[st_pres ↓] theorem St.Sil.actStep {s t : St} (h : St.Sil s t) (ctx : HCtx) (a : Act) : St.Sil s (actStep t ctx a).st := by
  cases a <;> (unfold CV.Core.actStep; (try dsimp only); st_pres)

@[st_pres ↓] theorem St.Sil.updateRootAll (s : St) : ∀ (fuel : Nat) (todo : List Nat) (root : Nat) (t : St),
    St.Sil s t → St.Sil s (St.updateRootAll fuel todo root t) :=
  fun fuel todo root t h => St.updateRootAll_pres root (fun _ _ h => by st_pres) fuel todo t h

/-- the four functions that start or stop a manager, set or clear the exit code -/
def loudOps : List Op := [.runBegin, .stopBegin, .stopSetCode, .runEnd]

theorem St.Sil.keeps (s : St) (o : Op) (ho : o ∉ loudOps) : o.Keeps (St.Sil s) := by
  cases o
  case runBegin | stopBegin | stopSetCode | runEnd => exact absurd (by decide) ho
  all_goals (intro t h; intros; st_pres)

/-- the frames whose arm calls one of `loudOps` -/
def Frame.loud : Frame → Bool
  | .run _ => true
  | .stopMgr _ _ => true
  | .runFin _ => true
  | _ => false

theorem stepFrame_sil {c : Cfg} (hwf : WF c.st) (k : List Frame) (f : Frame) (hf : f.loud = false) :
    St.Sil c.st (stepFrame c k f).st := by
  refine stepFrame_pres_avoiding c k (St.Sil.keeps _) f ?_ (St.Sil.refl hwf)
  cases f <;> first | rfl | cases hf

theorem unwind_sil {c : Cfg} (hwf : WF c.st) (k : List Frame) (ex : Exn) (f : Frame) :
    St.Sil c.st (unwind c k ex f).st :=
  unwind_pres_avoiding c k (St.Sil.keeps _) ex f rfl (St.Sil.refl hwf)

theorem step_sil_or {c : Cfg} (hwf : WF c.st) :
    St.Sil c.st (step c).st ∨
    ∃ f k, c.stack = f :: k ∧ c.exn = none ∧ f.loud = true ∧ step c = stepFrame c k f := by
  cases hs : c.stack with
  | nil => rw [step_nil c hs]; exact .inl (St.Sil.refl hwf)
  | cons f k =>
    cases hx : c.exn with
    | some ex => rw [step_cons_exn c f k ex hs hx]; exact .inl (unwind_sil hwf ..)
    | none =>
      cases hl : f.loud with
      | false => rw [step_cons c f k hs hx]; exact .inl (stepFrame_sil hwf k f hl)
      | true => exact .inr ⟨f, k, rfl, rfl, hl, step_cons c f k hs hx⟩

end CV.Core
