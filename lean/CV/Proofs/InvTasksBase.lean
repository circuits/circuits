import CV.Proofs.CoreFacts
import CV.Proofs.Pres
/-
The accounting of `event.waitingHandlers`: the counter never runs short of what it has to pay for.  It serves C04
(`eventDone_once_partial`, `success_after_last_step_partial` in CV/Props/C04.lean) and the statements of C06 about
tasks; the identifiers of the family carry the prefix `t46_` / `T46` for these two properties.  A suffix says of an arm or
an exit of `step` which relation of the family its state change respects - `_t46m`, `_t46g`, `_t46v`, `_t46k`, `_t46e` for
`St.T46M`, `St.T46G`, `St.T46V`, `St.T46K`, `St.T46E` - or what it pushes on the stack: `_t46s` only plain frames
(`T46StackOk`, InvTasksInv; not the relation `St.T46S`), `_t46c` at most so many dispatch contexts (`T46CtxOk`,
InvTasksOnce), `_t46d` no foreign event id (`T46DevOk`, InvTasksGuard).  This file has the weights, the slack, and the
relations `St.T46M`, `St.T46G`, `St.T46V`, `St.T46K` with their lemmas for the primitives of `Pure.lean`.

OBLIGATIONS of an event `e` (what `event.waitingHandlers` has to pay for):
  * every task-set entry `(e, g, parent)` of any component weighs `1`, plus `1` when it has a parent
    (`Task.t46_wt`): an ordinary generator task `(e, g, None)` stands for the generator handler `g`; a
    task with a parent - the resumption task of a `waitEvent` generator, the `TimeoutError` carrier, the
    one-shot value generator after a caught time-out - stands for itself AND for the suspended caller;
  * every wait state that is started and has neither seen `_on_done` (`flag`) nor timed out weighs `2`
    on its `task_event` (`WaitSt.t46_wt`): the `call`/`wait` and the suspended caller;
  * a `.ptParent r t p v` frame weighs `2` on `t.e` (`Frame.t46_wt`): the resumption task has been
    unregistered and the caller `p` is running / has just returned its next yield.
`St.t46_D s e = waiting e - (task weights) - (wait weights)` is the SLACK of `e`; the invariant is
`frame weights ≤ slack` (`T46Inv`, InvTasksInv.lean).  Equality does not hold in the model nor in the
code: `waitingHandlers` leaks upwards (EQUALITY IS FALSE in CV/Props/C04.lean).

The files of the family (`InvTasks*.lean`).  Five relations between an earlier and a later state, each a preorder with
`st_pres` lemmas for the primitives (the pattern of CV/Proofs/Pres.lean):
  * `St.T46M s s'`     the slack of no event decreases (this file);
  * `St.T46G ex s s'`  task sets only grow, except that the task `ex` may disappear, and stay duplicate-free (this file);
  * `St.T46V xt s s'`  `waitingHandlers` of no event changes, except possibly that of the event `xt` (this file;
                       InvTasksOnce uses it to see which event's counter a step can touch);
  * `St.T46K s s'`     kinds of tasks: the event and generator tables grew, carrier generators (waitEvent / TimeoutError /
                       one-shot value generators) stayed carriers, every task that is new in a task set is `T46TaskOk` (its
                       event exists; if it has a parent its generator is a carrier and the parent is none), every wait state
                       that is newly started is `T46WaitOk` (its `task_event` exists, its caller is no carrier) (this file);
  * `St.T46Q s s'`     event ids in queues and timers stay in range (InvTasksQ: the relation, all helpers and arms).
Most helpers and arms of `step` change nothing that the first four read: that is `St.T46E` (InvTasksE), the one relation
that is walked over the helpers and - through `Op.Keeps` - over the arms; InvTasksSpecial (its first part), InvTasksG,
InvTasksV and InvTasksK read the four relations off it and add, for `St.T46G` and `St.T46V`, the helpers and arms that move
obligations (for `St.T46M` these are in InvTasksSpecial and InvTasksStep, for `St.T46K` in InvTasksK).
The invariant: InvTasksSpecial says how much slack the helpers that move obligations may spend (`St.T46S`); InvTasksInv has
`T46Inv`, the run hypothesis `T46Guard`, the stack shapes and the forms in which a step keeps the invariant (`T46Inv.go`;
`goPlain` for the arms that push only plain frames); InvTasksStep treats the task loop and the task frames, then `step`, the
guarded sessions `T46Reach` and `t46_reach_inv`, the corollaries that CV/Props/C04.lean uses and the run on which the guard
fails.
Run level and the guard: InvTasksOnce (dispatch contexts on the stack; `t46_trace_once`: every end-of-event step is paid for
by a dispatch) with `St.T46V`; in InvTasksGuard the clauses of `T46Guard` are discharged one after the other, by the wait
protocol of C06, by the range invariant `T46RQ` and by the kind invariant `T46TP`, which leaves the two clauses of
`T46GuardMin2`.
-/
namespace CV.Core

/-! ## sums `(l.map g).sum` of integer weights over a table `l`; nothing here is about tasks -/

theorem t46_sum_modify {α} (g : α → Int) (f : α → α) (d : α) : ∀ (l : List α) (i : Nat),
    ((l.modify i f).map g).sum =
      (l.map g).sum + (if i < l.length then g (f (l.getD i d)) - g (l.getD i d) else 0) := by
  intro l
  induction l with
  | nil => intro i; simp
  | cons a l ih =>
    intro i
    cases i with
    | zero => simp [List.modify_zero_cons]; omega
    | succ n =>
      rw [List.modify_succ_cons, List.map_cons, List.sum_cons, ih n, List.map_cons, List.sum_cons]
      simp only [List.length_cons, Nat.add_lt_add_iff_right, List.getD_cons_succ]
      omega

theorem t46_sum_congr {α} (g : α → Int) (d : α) (hd : g d = 0) : ∀ (l l' : List α),
    (∀ i, g (l'.getD i d) = g (l.getD i d)) → (l'.map g).sum = (l.map g).sum
  | [], [], _ => rfl
  | [], a :: l', h => by
    rw [List.map_cons, List.sum_cons, t46_sum_congr g d hd [] l' fun i => h (i + 1), show g a = g d from h 0, hd]
    rfl
  | a :: l, [], h => by
    rw [List.map_cons, List.sum_cons, ← t46_sum_congr g d hd l [] fun i => h (i + 1), ← show g d = g a from h 0, hd]
    rfl
  | a :: l, a' :: l', h => by
    rw [List.map_cons, List.sum_cons, List.map_cons, List.sum_cons, t46_sum_congr g d hd l l' fun i => h (i + 1),
      show g a' = g a from h 0]

theorem t46_sum_zero {α} (g : α → Int) : ∀ (l : List α), (∀ a ∈ l, g a = 0) → (l.map g).sum = 0
  | [], _ => rfl
  | a :: l, h => by
    rw [List.map_cons, List.sum_cons, h a (by simp), t46_sum_zero g l (fun b hb => h b (by simp [hb]))]; rfl

theorem t46_sum_nonneg {α} (g : α → Int) (hg : ∀ a, 0 ≤ g a) : ∀ (l : List α), 0 ≤ (l.map g).sum
  | [] => Int.le_refl 0
  | a :: l => by
    rw [List.map_cons, List.sum_cons]
    have := hg a; have := t46_sum_nonneg g hg l; omega

theorem t46_sum_ge_mem {α} (g : α → Int) (hg : ∀ a, 0 ≤ g a) : ∀ (l : List α) (a : α), a ∈ l → g a ≤ (l.map g).sum
  | [], _, h => by cases h
  | b :: l, a, h => by
    rw [List.map_cons, List.sum_cons]
    rcases List.mem_cons.1 h with h1 | h1
    · subst h1; have := t46_sum_nonneg g hg l; omega
    · have := t46_sum_ge_mem g hg l a h1; have := hg b; omega

/-! ## the weights and the slack -/

def Task.t46_wt (e : Nat) (t : Task) : Int := if t.e = e then (if t.parent.isSome then 2 else 1) else 0

def t46_sumTasks (e : Nat) (l : List Task) : Int := (l.map (Task.t46_wt e)).sum

/-- the caller is suspended in this `call`/`wait` and no resumption task or `TimeoutError` task exists yet -/
def WaitSt.t46_pending (w : WaitSt) : Bool := w.started && !w.flag && !w.timedOut

def WaitSt.t46_wt (e : Nat) (w : WaitSt) : Int := if w.t46_pending = true ∧ w.taskEvent = e then 2 else 0

def Frame.t46_wt (e : Nat) : Frame → Int
  | .ptParent _ t _ _ => if t.e = e then 2 else 0
  | _ => 0

def t46_WF (e : Nat) (k : List Frame) : Int := (k.map (Frame.t46_wt e)).sum

def St.t46_WT (s : St) (e : Nat) : Int := (s.comps.map fun c => t46_sumTasks e c.tasks).sum
def St.t46_WW (s : St) (e : Nat) : Int := (s.waits.map (WaitSt.t46_wt e)).sum

/-- the slack of `e` -/
def St.t46_D (s : St) (e : Nat) : Int := (s.ev e).waiting - s.t46_WT e - s.t46_WW e

theorem Task.t46_wt_nonneg (e : Nat) (t : Task) : 0 ≤ t.t46_wt e := by
  unfold Task.t46_wt; repeat' split
  all_goals omega

theorem Task.t46_wt_le (e : Nat) (t : Task) : t.t46_wt e ≤ 2 := by
  unfold Task.t46_wt; repeat' split
  all_goals omega

theorem Frame.t46_wt_nonneg (e : Nat) (f : Frame) : 0 ≤ f.t46_wt e := by
  cases f <;> simp only [Frame.t46_wt] <;> first | omega | (split <;> omega)

theorem WaitSt.t46_wt_nonneg (e : Nat) (w : WaitSt) : 0 ≤ w.t46_wt e := by
  unfold WaitSt.t46_wt; split <;> omega

theorem t46_sumTasks_nonneg (e : Nat) (l : List Task) : 0 ≤ t46_sumTasks e l :=
  t46_sum_nonneg _ (Task.t46_wt_nonneg e) l

theorem t46_WF_nonneg (e : Nat) (k : List Frame) : 0 ≤ t46_WF e k :=
  t46_sum_nonneg _ (Frame.t46_wt_nonneg e) k

@[simp] theorem t46_WF_nil (e : Nat) : t46_WF e [] = 0 := rfl

@[simp] theorem t46_WF_cons (e : Nat) (f : Frame) (k : List Frame) : t46_WF e (f :: k) = f.t46_wt e + t46_WF e k := by
  simp [t46_WF]

theorem t46_WF_append (e : Nat) (a b : List Frame) : t46_WF e (a ++ b) = t46_WF e a + t46_WF e b := by
  simp [t46_WF]

theorem t46_sumTasks_append1 (e : Nat) (l : List Task) (t : Task) :
    t46_sumTasks e (l ++ [t]) = t46_sumTasks e l + t.t46_wt e := by
  simp [t46_sumTasks]

theorem t46_sumTasks_addUniq_le (e : Nat) (l : List Task) (t : Task) :
    t46_sumTasks e (addUniq l t) ≤ t46_sumTasks e l + t.t46_wt e := by
  unfold addUniq
  split
  · have := Task.t46_wt_nonneg e t; omega
  · rw [t46_sumTasks_append1]; omega

theorem t46_sumTasks_addUniq_ge (e : Nat) (l : List Task) (t : Task) :
    t46_sumTasks e l ≤ t46_sumTasks e (addUniq l t) := by
  unfold addUniq
  split
  · omega
  · rw [t46_sumTasks_append1]; have := Task.t46_wt_nonneg e t; omega

theorem t46_sumTasks_erase_mem (e : Nat) (t : Task) : ∀ (l : List Task), t ∈ l →
    t46_sumTasks e (l.erase t) = t46_sumTasks e l - t.t46_wt e := by
  intro l
  induction l with
  | nil => intro h; cases h
  | cons a l ih =>
    intro h
    rw [List.erase_cons]
    by_cases hab : a = t
    · subst hab; simp [t46_sumTasks]; omega
    · have hne : (a == t) = false := by simpa using hab
      rw [hne]
      have hm : t ∈ l := by
        rcases List.mem_cons.1 h with h1 | h1
        · exact absurd h1.symm hab
        · exact h1
      have := ih hm
      simp only [t46_sumTasks, List.map_cons, List.sum_cons, Bool.false_eq_true, if_false] at this ⊢
      omega

theorem t46_sumTasks_erase_le (e : Nat) (t : Task) (l : List Task) :
    t46_sumTasks e (l.erase t) ≤ t46_sumTasks e l := by
  by_cases h : t ∈ l
  · rw [t46_sumTasks_erase_mem e t l h]; have := Task.t46_wt_nonneg e t; omega
  · rw [List.erase_of_not_mem h]; omega

/-! ## facts of Tables.lean and CoreFacts.lean under the names of this family

Corollaries, with the condition of a row lemma spelt `c = x ∧ x < length`; the proofs below use the lemmas of Tables.lean
themselves. -/

theorem t46_mem_addUniq (l : List Task) (t x : Task) : x ∈ addUniq l t ↔ x ∈ l ∨ x = t :=
  mem_addUniq l t x

theorem St.t46_comp_modComp (s : St) (c : Nat) (f : Comp → Comp) (x : Nat) :
    (s.modComp c f).comp x = if c = x ∧ x < s.comps.length then f (s.comp x) else s.comp x :=
  St.comp_modComp s c f x

theorem St.t46_ev_modEv (s : St) (e : Nat) (f : Ev → Ev) (x : Nat) :
    (s.modEv e f).ev x = if e = x ∧ x < s.evs.length then f (s.ev x) else s.ev x :=
  (St.w6_modEv_ev_eq s e f x).trans (ite_congr (propext ⟨fun h => ⟨h.1.symm, h.2⟩, fun h => ⟨h.1.symm, h.2⟩⟩) (fun _ => rfl) (fun _ => rfl))

theorem St.t46_wait_modWait (s : St) (w : Nat) (f : WaitSt → WaitSt) (x : Nat) :
    (s.modWait w f).wait x = if w = x ∧ x < s.waits.length then f (s.wait x) else s.wait x :=
  (St.w6_modWait_wait_eq s w f x).trans (ite_congr (propext ⟨fun h => ⟨h.1.symm, h.2⟩, fun h => ⟨h.1.symm, h.2⟩⟩) (fun _ => rfl) (fun _ => rfl))

theorem St.t46_comp_oor (s : St) (x : Nat) (h : ¬ x < s.comps.length) : s.comp x = dfltComp :=
  St.w6_comp_ge _ _ (Nat.le_of_not_lt h)

theorem St.t46_gen_setGen (s : St) (g : Nat) (x : GenRec) (g' : Nat) :
    (s.setGen g x).gen g' = if g = g' ∧ g' < s.gens.length then x else s.gen g' := by
  by_cases hc : g = g' ∧ g' < s.gens.length
  · rw [if_pos hc, ← hc.1, St.w6_setGen_gen_lt s g x (hc.1 ▸ hc.2)]
  · rw [if_neg hc]
    by_cases h1 : g' = g
    · exact St.w6_setGen_gen_ge s g x g' (Nat.le_of_not_lt fun h => hc ⟨h1.symm, h1 ▸ h⟩)
    · exact St.w6_setGen_gen_ne s g x g' h1

theorem St.t46_gen_addGen_lt (s : St) (x : GenRec) (g : Nat) (h : g < s.gens.length) : (s.addGen x).gen g = s.gen g := by
  rw [St.w6_addGen_gen, if_neg (Nat.ne_of_lt h)]

/-! ## what the primitives do to the sums of weights -/

theorem St.t46_WT_modComp (s : St) (c : Nat) (f : Comp → Comp) (e : Nat) :
    (s.modComp c f).t46_WT e = s.t46_WT e +
      (if c < s.comps.length then t46_sumTasks e (f (s.comp c)).tasks - t46_sumTasks e (s.comp c).tasks else 0) := by
  unfold St.t46_WT St.modComp St.comp
  exact t46_sum_modify (fun c => t46_sumTasks e c.tasks) f dfltComp s.comps c

theorem St.t46_WW_modWait (s : St) (w : Nat) (f : WaitSt → WaitSt) (e : Nat) :
    (s.modWait w f).t46_WW e = s.t46_WW e +
      (if w < s.waits.length then (f (s.wait w)).t46_wt e - (s.wait w).t46_wt e else 0) := by
  unfold St.t46_WW St.modWait St.wait
  exact t46_sum_modify (WaitSt.t46_wt e) f dfltWait s.waits w

theorem St.t46_ev_addEv_waiting (s : St) (ev : Ev) (x : Nat) (h : ev.waiting = 0) :
    ((s.addEv ev).ev x).waiting = (s.ev x).waiting := by
  rw [St.w6_addEv_ev]
  split
  · rename_i hx
    rw [h, St.w6_ev_ge s x (Nat.le_of_eq hx.symm)]; rfl
  · rfl

theorem St.t46_tasks_registerTask (s : St) (c : Nat) (t : Task) (x : Nat) :
    ((s.registerTask c t).comp x).tasks =
      if s.rootOf c = x ∧ x < s.comps.length then addUniq (s.comp x).tasks t else (s.comp x).tasks := by
  simp only [St.registerTask_tasks, eq_comm (a := x)]

theorem St.t46_tasks_unregisterTask (s : St) (c : Nat) (t : Task) (x : Nat) :
    ((s.unregisterTask c t).comp x).tasks =
      if s.rootOf c = x ∧ x < s.comps.length then (s.comp x).tasks.erase t else (s.comp x).tasks := by
  simp only [St.unregisterTask_tasks, eq_comm (a := x)]

theorem St.t46_WT_registerTask_le (s : St) (c : Nat) (t : Task) (e : Nat) :
    (s.registerTask c t).t46_WT e ≤ s.t46_WT e + t.t46_wt e := by
  unfold St.registerTask
  rw [St.t46_WT_modComp]
  split
  · have := t46_sumTasks_addUniq_le e (s.comp (s.rootOf c)).tasks t
    dsimp only; omega
  · have := Task.t46_wt_nonneg e t; omega

theorem St.t46_WT_unregisterTask_le (s : St) (c : Nat) (t : Task) (e : Nat) :
    (s.unregisterTask c t).t46_WT e ≤ s.t46_WT e := by
  unfold St.unregisterTask
  rw [St.t46_WT_modComp]
  split
  · have := t46_sumTasks_erase_le e t (s.comp (s.rootOf c)).tasks
    dsimp only; omega
  · omega

theorem St.t46_WT_unregisterTask_mem (s : St) (c : Nat) (t : Task) (e : Nat)
    (h : t ∈ (s.comp (s.rootOf c)).tasks) :
    (s.unregisterTask c t).t46_WT e = s.t46_WT e - t.t46_wt e := by
  unfold St.unregisterTask
  rw [St.t46_WT_modComp]
  have hr : s.rootOf c < s.comps.length := St.comp_lt_of_ne fun hd => by rw [hd] at h; cases h
  rw [if_pos hr]
  have := t46_sumTasks_erase_mem e t _ h
  dsimp only; omega

def St.T46M (s s' : St) : Prop := ∀ e, s.t46_D e ≤ s'.t46_D e

namespace St.T46M
variable {s t : St}

@[st_pres ↓] theorem refl (s : St) : St.T46M s s := fun _ => Int.le_refl _
theorem trans {a b c : St} (h1 : St.T46M a b) (h2 : St.T46M b c) : St.T46M a c := fun e => Int.le_trans (h1 e) (h2 e)

theorem of_eq {t' : St} (h : St.T46M s t) (he : ∀ e, t'.t46_D e = t.t46_D e) : St.T46M s t' := fun e => by
  rw [he]; exact h e

@[st_pres ↓] theorem modWait (h : St.T46M s t) (w : Nat) (f : WaitSt → WaitSt)
    (hf : ∀ y : WaitSt, (f y).t46_pending = y.t46_pending ∧ (f y).taskEvent = y.taskEvent) :
    St.T46M s (t.modWait w f) := by
  refine h.of_eq fun x => ?_
  unfold St.t46_D
  have h1 : (t.modWait w f).t46_WT x = t.t46_WT x := rfl
  have h2 : ∀ y, (t.modWait w f).ev y = t.ev y := fun _ => rfl
  rw [h1, h2, St.t46_WW_modWait]
  have : (f (t.wait w)).t46_wt x = (t.wait w).t46_wt x := by
    unfold WaitSt.t46_wt; rw [(hf _).1, (hf _).2]
  rw [this]; split <;> omega

@[st_pres ↓] theorem modTimer (h : St.T46M s t) (i : Nat) (f : TimerSt → TimerSt) : St.T46M s (t.modTimer i f) :=
  h.of_eq fun _ => rfl

@[st_pres ↓] theorem setGen (h : St.T46M s t) (g : Nat) (x : GenRec) : St.T46M s (t.setGen g x) := h.of_eq fun _ => rfl
@[st_pres ↓] theorem logE (h : St.T46M s t) (x : Entry) : St.T46M s (t.logE x) := h.of_eq fun _ => rfl
@[st_pres ↓] theorem addH (h : St.T46M s t) (x : Handler) : St.T46M s (t.addH x) := h.of_eq fun _ => rfl
@[st_pres ↓] theorem addGen (h : St.T46M s t) (g : GenRec) : St.T46M s (t.addGen g) := h.of_eq fun _ => rfl
@[st_pres ↓] theorem tick1 (h : St.T46M s t) (d : Int) : St.T46M s (t.tick1 d) := h.of_eq fun _ => rfl

@[st_pres ↓] theorem unregisterTask (h : St.T46M s t) (c : Nat) (x : Task) : St.T46M s (t.unregisterTask c x) := by
  refine h.trans fun e => ?_
  unfold St.t46_D
  have h1 : (t.unregisterTask c x).t46_WW e = t.t46_WW e := rfl
  have h2 : ∀ y, (t.unregisterTask c x).ev y = t.ev y := fun _ => rfl
  rw [h1, h2]
  have := St.t46_WT_unregisterTask_le t c x e
  omega

end St.T46M

/-- From `s` to `s'` no task has left a task set, except possibly `ex` (the task of the task frame whose arm is running), and
no task set has got a duplicate. -/
structure St.T46G (ex : Option Task) (s s' : St) : Prop where
  grow : ∀ x t, some t ≠ ex → t ∈ (s.comp x).tasks → t ∈ (s'.comp x).tasks
  nd : (∀ x, (s.comp x).tasks.Nodup) → ∀ x, (s'.comp x).tasks.Nodup

namespace St.T46G
variable {ex : Option Task} {s t : St}

@[st_pres ↓] theorem refl (s : St) : St.T46G ex s s := ⟨fun _ _ _ h => h, fun h => h⟩

theorem trans {a b c : St} (h1 : St.T46G ex a b) (h2 : St.T46G ex b c) : St.T46G ex a c :=
  ⟨fun x t hne h => h2.grow x t hne (h1.grow x t hne h), fun h => h2.nd (h1.nd h)⟩

theorem of_tasks {t' : St} (h : St.T46G ex s t) (he : ∀ x, (t'.comp x).tasks = (t.comp x).tasks) : St.T46G ex s t' :=
  ⟨fun x y hne hy => by rw [he]; exact h.grow x y hne hy, fun hn x => by rw [he]; exact h.nd hn x⟩

@[st_pres ↓] theorem modComp (h : St.T46G ex s t) (c : Nat) (f : Comp → Comp) (hf : ∀ y : Comp, (f y).tasks = y.tasks) :
    St.T46G ex s (t.modComp c f) := by
  exact h.of_tasks (St.w6_modComp_comp_tasks t c f hf)

@[st_pres ↓] theorem modEv (h : St.T46G ex s t) (e : Nat) (f : Ev → Ev) : St.T46G ex s (t.modEv e f) := h.of_tasks fun _ => rfl
@[st_pres ↓] theorem modWait (h : St.T46G ex s t) (w : Nat) (f : WaitSt → WaitSt) : St.T46G ex s (t.modWait w f) := h.of_tasks fun _ => rfl
@[st_pres ↓] theorem modTimer (h : St.T46G ex s t) (i : Nat) (f : TimerSt → TimerSt) : St.T46G ex s (t.modTimer i f) := h.of_tasks fun _ => rfl
@[st_pres ↓] theorem setGen (h : St.T46G ex s t) (g : Nat) (x : GenRec) : St.T46G ex s (t.setGen g x) := h.of_tasks fun _ => rfl
@[st_pres ↓] theorem logE (h : St.T46G ex s t) (x : Entry) : St.T46G ex s (t.logE x) := h.of_tasks fun _ => rfl
@[st_pres ↓] theorem addEv (h : St.T46G ex s t) (e : Ev) : St.T46G ex s (t.addEv e) := h.of_tasks fun _ => rfl
@[st_pres ↓] theorem addH (h : St.T46G ex s t) (x : Handler) : St.T46G ex s (t.addH x) := h.of_tasks fun _ => rfl
@[st_pres ↓] theorem addGen (h : St.T46G ex s t) (g : GenRec) : St.T46G ex s (t.addGen g) := h.of_tasks fun _ => rfl
@[st_pres ↓] theorem addWait (h : St.T46G ex s t) (w : WaitSt) : St.T46G ex s (t.addWait w) := h.of_tasks fun _ => rfl
@[st_pres ↓] theorem tick1 (h : St.T46G ex s t) (d : Int) : St.T46G ex s (t.tick1 d) := h.of_tasks fun _ => rfl

@[st_pres ↓] theorem registerTask (h : St.T46G ex s t) (c : Nat) (x : Task) : St.T46G ex s (t.registerTask c x) := by
  refine h.trans ⟨fun y z _ hz => ?_, fun hn y => ?_⟩
  · rw [St.t46_tasks_registerTask]; split
    · exact (mem_addUniq _ _ _).2 (Or.inl hz)
    · exact hz
  · rw [St.t46_tasks_registerTask]; split
    · exact addUniq_nodup _ _ (hn y)
    · exact hn y

@[st_pres ↓] theorem unregisterTask (h : St.T46G ex s t) (c : Nat) (x : Task) (hx : ex = some x) :
    St.T46G ex s (t.unregisterTask c x) := by
  refine h.trans ⟨fun y z hne hz => ?_, fun hn y => ?_⟩
  · rw [St.t46_tasks_unregisterTask]; split
    · have : z ≠ x := fun e => hne (by rw [hx, e])
      exact (List.mem_erase_of_ne this).2 hz
    · exact hz
  · rw [St.t46_tasks_unregisterTask]; split
    · exact (hn y).erase _
    · exact hn y

end St.T46G

/-- From `s` to `s'` `waitingHandlers` of no event has changed, except possibly that of `xt` (the event of the frame whose arm
is running). -/
structure St.T46V (xt : Option Nat) (s s' : St) : Prop where
  w : ∀ e, some e ≠ xt → (s'.ev e).waiting = (s.ev e).waiting

namespace St.T46V
variable {xt : Option Nat} {s t : St}

@[st_pres ↓] theorem refl (s : St) : St.T46V xt s s := ⟨fun _ _ => rfl⟩

theorem trans {a b c : St} (h1 : St.T46V xt a b) (h2 : St.T46V xt b c) : St.T46V xt a c :=
  ⟨fun e he => (h2.w e he).trans (h1.w e he)⟩

theorem of_ev {t' : St} (h : St.T46V xt s t) (he : ∀ e, t'.ev e = t.ev e) : St.T46V xt s t' :=
  ⟨fun e hne => by rw [he]; exact h.w e hne⟩

@[st_pres ↓] theorem modComp (h : St.T46V xt s t) (c : Nat) (f : Comp → Comp) : St.T46V xt s (t.modComp c f) := h.of_ev fun _ => rfl
@[st_pres ↓] theorem modWait (h : St.T46V xt s t) (w : Nat) (f : WaitSt → WaitSt) : St.T46V xt s (t.modWait w f) := h.of_ev fun _ => rfl
@[st_pres ↓] theorem modTimer (h : St.T46V xt s t) (i : Nat) (f : TimerSt → TimerSt) : St.T46V xt s (t.modTimer i f) := h.of_ev fun _ => rfl
@[st_pres ↓] theorem setGen (h : St.T46V xt s t) (g : Nat) (x : GenRec) : St.T46V xt s (t.setGen g x) := h.of_ev fun _ => rfl
@[st_pres ↓] theorem logE (h : St.T46V xt s t) (x : Entry) : St.T46V xt s (t.logE x) := h.of_ev fun _ => rfl
@[st_pres ↓] theorem addH (h : St.T46V xt s t) (x : Handler) : St.T46V xt s (t.addH x) := h.of_ev fun _ => rfl
@[st_pres ↓] theorem addGen (h : St.T46V xt s t) (g : GenRec) : St.T46V xt s (t.addGen g) := h.of_ev fun _ => rfl
@[st_pres ↓] theorem addWait (h : St.T46V xt s t) (w : WaitSt) : St.T46V xt s (t.addWait w) := h.of_ev fun _ => rfl
@[st_pres ↓] theorem tick1 (h : St.T46V xt s t) (d : Int) : St.T46V xt s (t.tick1 d) := h.of_ev fun _ => rfl
@[st_pres ↓] theorem registerTask (h : St.T46V xt s t) (c : Nat) (x : Task) : St.T46V xt s (t.registerTask c x) := h.of_ev fun _ => rfl
@[st_pres ↓] theorem unregisterTask (h : St.T46V xt s t) (c : Nat) (x : Task) : St.T46V xt s (t.unregisterTask c x) := h.of_ev fun _ => rfl

@[st_pres ↓] theorem modEv (h : St.T46V xt s t) (e : Nat) (f : Ev → Ev)
    (hf : (∀ y : Ev, (f y).waiting = y.waiting) ∨ xt = some e) : St.T46V xt s (t.modEv e f) := by
  refine h.trans ⟨fun x hx => ?_⟩
  rw [St.w6_modEv_ev_eq]
  split
  · rename_i hc
    rcases hf with hf | hf
    · exact hf _
    · exact absurd (by rw [hf, hc.1]) hx
  · rfl

@[st_pres ↓] theorem addEv (h : St.T46V xt s t) (ev : Ev) (hv : ev.waiting = 0) : St.T46V xt s (t.addEv ev) :=
  h.trans ⟨fun x _ => St.t46_ev_addEv_waiting t ev x hv⟩

end St.T46V

-- What this adds to `st_pres_side`: the side condition `hf` of `St.T46V.modEv`.  An update of the event table is allowed if
-- it keeps `waiting` (`Or.inl`: the update is a record update of other fields, possibly under an `if`), or if the event it
-- updates is the excepted one (`Or.inr`: `xt = some e` is the hypothesis `hex` of the lemma being proved, or holds by `rfl`).
macro_rules | `(tactic| st_pres_side) => `(tactic| with_unfolding_all first
  | exact Or.inl (fun _ => rfl)
  | (refine Or.inl ?_; intro y; split <;> rfl)
  | exact Or.inr (by assumption)
  | exact Or.inr rfl
  | fail)

/-- The generators the machine makes itself to carry a resumption: the `waitEvent` generator, the one that throws
`TimeoutError` into the caller, the one-shot generator that hands over a value.  A task with a parent runs one of these; all
other generators (user generators live or finished, and the default row) are not carriers. -/
def GenRec.t46_carrier : GenRec → Bool
  | .wait _ => true
  | .exc _ _ => true
  | .one _ _ => true
  | _ => false

/-- `p` is a user generator, live or finished; by `St.T46K.car` it never becomes a carrier -/
def St.t46_nc (s : St) (p : Nat) : Prop := p < s.gens.length ∧ (s.gen p).t46_carrier = false

/-- the task entry `t` is well formed in `s`: its event exists; if it has a parent, its own generator is a carrier and the
parent is a user generator -/
def St.T46TaskOk (s : St) (t : Task) : Prop :=
  t.e < s.evs.length ∧ (t.parent.isSome = true → t.g < s.gens.length ∧ (s.gen t.g).t46_carrier = true) ∧
  (∀ p, t.parent = some p → s.t46_nc p)

/-- the wait state `x` is well formed in `s`: its `task_event` exists and the suspended caller is a user generator -/
def St.T46WaitOk (s : St) (x : WaitSt) : Prop := x.taskEvent < s.evs.length ∧ s.t46_nc x.parentGen

/-- From `s` to `s'` the tables of events and generators have not shrunk, no generator has changed between carrier and
non-carrier, and whatever is new - a task in a task set, a wait state that is started - is well formed in `s'`; a wait state
that was started already keeps its `task_event` and its caller. -/
structure St.T46K (s s' : St) : Prop where
  evs : s.evs.length ≤ s'.evs.length
  gens : s.gens.length ≤ s'.gens.length
  car : ∀ g, g < s.gens.length → (s'.gen g).t46_carrier = (s.gen g).t46_carrier
  tasks : ∀ x t, t ∈ (s'.comp x).tasks → t ∈ (s.comp x).tasks ∨ s'.T46TaskOk t
  waits : ∀ w, (s'.wait w).started = true →
    ((s.wait w).started = true ∧ (s'.wait w).taskEvent = (s.wait w).taskEvent ∧
      (s'.wait w).parentGen = (s.wait w).parentGen) ∨ s'.T46WaitOk (s'.wait w)

theorem St.t46_nc.mono {s s' : St} (h : St.T46K s s') {p : Nat} (hp : s.t46_nc p) : s'.t46_nc p :=
  ⟨Nat.lt_of_lt_of_le hp.1 h.gens, by rw [h.car _ hp.1]; exact hp.2⟩

theorem St.T46TaskOk.ev {s : St} {t : Task} (h : s.T46TaskOk t) : t.e < s.evs.length := h.1

theorem St.T46TaskOk.carrier {s : St} {t : Task} (h : s.T46TaskOk t) (hp : t.parent.isSome = true) :
    t.g < s.gens.length ∧ (s.gen t.g).t46_carrier = true := h.2.1 hp

theorem St.T46TaskOk.parent_nc {s : St} {t : Task} (h : s.T46TaskOk t) {p : Nat} (hp : t.parent = some p) : s.t46_nc p :=
  h.2.2 p hp

theorem St.T46TaskOk.mono {s s' : St} (h : St.T46K s s') {t : Task} (ht : s.T46TaskOk t) : s'.T46TaskOk t :=
  ⟨Nat.lt_of_lt_of_le ht.ev h.evs,
   fun hp => let ⟨hlt, hc⟩ := ht.carrier hp; ⟨Nat.lt_of_lt_of_le hlt h.gens, by rw [h.car _ hlt]; exact hc⟩,
   fun _ hp => (ht.parent_nc hp).mono h⟩

theorem St.T46WaitOk.mono {s s' : St} (h : St.T46K s s') {x : WaitSt} (hx : s.T46WaitOk x) : s'.T46WaitOk x :=
  ⟨Nat.lt_of_lt_of_le hx.1 h.evs, hx.2.mono h⟩

namespace St.T46K
variable {s t : St}

@[st_pres ↓] theorem refl (s : St) : St.T46K s s :=
  ⟨Nat.le_refl _, Nat.le_refl _, fun _ _ => rfl, fun _ _ h => Or.inl h, fun _ h => Or.inl ⟨h, rfl, rfl⟩⟩

theorem trans {a b c : St} (h1 : St.T46K a b) (h2 : St.T46K b c) : St.T46K a c := by
  refine ⟨Nat.le_trans h1.evs h2.evs, Nat.le_trans h1.gens h2.gens,
    fun g hg => (h2.car g (Nat.lt_of_lt_of_le hg h1.gens)).trans (h1.car g hg), fun x t ht => ?_, fun w hw => ?_⟩
  · rcases h2.tasks x t ht with h | h
    · rcases h1.tasks x t h with h' | h'
      · exact Or.inl h'
      · exact Or.inr (h'.mono h2)
    · exact Or.inr h
  · rcases h2.waits w hw with ⟨h, he, hp⟩ | h
    · rcases h1.waits w h with ⟨h', he', hp'⟩ | h'
      · exact Or.inl ⟨h', he.trans he', hp.trans hp'⟩
      · have := h'.mono h2
        exact Or.inr ⟨by rw [he]; exact this.1, by rw [hp]; exact this.2⟩
    · exact Or.inr h

theorem of_same {t' : St} (h : St.T46K s t) (h1 : t'.evs.length = t.evs.length) (h2 : t'.gens = t.gens)
    (h3 : ∀ x, (t'.comp x).tasks = (t.comp x).tasks) (h4 : ∀ w, t'.wait w = t.wait w) : St.T46K s t' := by
  have hg : ∀ g, t'.gen g = t.gen g := fun g => by unfold St.gen; rw [h2]
  refine ⟨by rw [h1]; exact h.evs, by rw [h2]; exact h.gens, fun g hl => by rw [hg]; exact h.car g hl,
    fun x y hy => ?_, fun w hw => ?_⟩
  · rw [h3] at hy
    rcases h.tasks x y hy with h' | h'
    · exact Or.inl h'
    · exact Or.inr ⟨by rw [h1]; exact h'.ev, fun hp => by rw [h2, hg]; exact h'.carrier hp,
        fun p hp => by unfold St.t46_nc; rw [h2, hg]; exact h'.parent_nc hp⟩
  · rw [h4] at hw ⊢
    rcases h.waits w hw with h' | h'
    · exact Or.inl h'
    · exact Or.inr ⟨by rw [h1]; exact h'.1, by unfold St.t46_nc; rw [h2, hg]; exact h'.2⟩

@[st_pres ↓] theorem modComp (h : St.T46K s t) (c : Nat) (f : Comp → Comp) (hf : ∀ y : Comp, (f y).tasks = y.tasks) :
    St.T46K s (t.modComp c f) := by
  exact h.of_same rfl rfl (St.w6_modComp_comp_tasks t c f hf) (fun _ => rfl)

@[st_pres ↓] theorem modEv (h : St.T46K s t) (e : Nat) (f : Ev → Ev) : St.T46K s (t.modEv e f) :=
  h.of_same (by simp [St.modEv]) rfl (fun _ => rfl) (fun _ => rfl)

@[st_pres ↓] theorem modTimer (h : St.T46K s t) (i : Nat) (f : TimerSt → TimerSt) : St.T46K s (t.modTimer i f) :=
  h.of_same rfl rfl (fun _ => rfl) (fun _ => rfl)

@[st_pres ↓] theorem logE (h : St.T46K s t) (x : Entry) : St.T46K s (t.logE x) := h.of_same rfl rfl (fun _ => rfl) (fun _ => rfl)
@[st_pres ↓] theorem addH (h : St.T46K s t) (x : Handler) : St.T46K s (t.addH x) := h.of_same rfl rfl (fun _ => rfl) (fun _ => rfl)
@[st_pres ↓] theorem tick1 (h : St.T46K s t) (d : Int) : St.T46K s (t.tick1 d) := h.of_same rfl rfl (fun _ => rfl) (fun _ => rfl)

@[st_pres ↓] theorem addEv (h : St.T46K s t) (ev : Ev) : St.T46K s (t.addEv ev) := by
  refine h.trans ⟨by simp [St.addEv], Nat.le_refl _, fun _ _ => rfl, fun _ _ ht => Or.inl ht, fun w hw => Or.inl ⟨hw, rfl, rfl⟩⟩

@[st_pres ↓] theorem modWait (h : St.T46K s t) (w : Nat) (f : WaitSt → WaitSt)
    (hf : ∀ y : WaitSt, (f y).started = y.started ∧ (f y).taskEvent = y.taskEvent ∧ (f y).parentGen = y.parentGen) :
    St.T46K s (t.modWait w f) := by
  refine h.trans ⟨Nat.le_refl _, Nat.le_refl _, fun _ _ => rfl, fun _ _ ht => Or.inl ht, fun w' hw => ?_⟩
  rw [St.w6_modWait_wait_pres t (·.started) w f fun y => (hf y).1] at hw
  exact Or.inl ⟨hw, St.w6_modWait_wait_pres t (·.taskEvent) w f (fun y => (hf y).2.1) w',
    St.w6_modWait_wait_pres t (·.parentGen) w f (fun y => (hf y).2.2) w'⟩

@[st_pres ↓] theorem unregisterTask (h : St.T46K s t) (c : Nat) (x : Task) : St.T46K s (t.unregisterTask c x) := by
  refine h.trans ⟨Nat.le_refl _, Nat.le_refl _, fun _ _ => rfl, fun y z hz => ?_, fun w hw => Or.inl ⟨hw, rfl, rfl⟩⟩
  rw [St.t46_tasks_unregisterTask] at hz
  split at hz
  · exact Or.inl (List.mem_of_mem_erase hz)
  · exact Or.inl hz

theorem registerTask (h : St.T46K s t) (c : Nat) (x : Task) (hx : t.T46TaskOk x) : St.T46K s (t.registerTask c x) := by
  refine h.trans ⟨Nat.le_refl _, Nat.le_refl _, fun _ _ => rfl, fun y z hz => ?_, fun w hw => Or.inl ⟨hw, rfl, rfl⟩⟩
  rw [St.t46_tasks_registerTask] at hz
  split at hz
  · rcases (mem_addUniq _ _ _).1 hz with h' | h'
    · exact Or.inl h'
    · subst h'; exact Or.inr hx
  · exact Or.inl hz

end St.T46K

end CV.Core
