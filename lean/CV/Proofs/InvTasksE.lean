import CV.Proofs.InvTasksBase
/-
`St.T46E s s'`: from `s` to `s'` nothing has changed that the accounting reads - no `waitingHandlers`, no task set, of
no wait state whether it is started or pending nor (once started) its `task_event` and caller, of no generator whether it
is a carrier - and the tables of events and generators have not shrunk.  Most of the machine is of this kind: every helper
and every arm of `step` except the few that move obligations (`registerTask`, `unregisterTask`, the exits of
`processTask`, `applyValue`, `startWait`, `_on_done`, `_on_tick`).  The helpers and arms are walked once, for this
relation; the four relations that the invariants use (`St.T46M`, `St.T46G`, `St.T46V`, `St.T46K`) follow from it
(`toM`, `toG`, `toV`, `toK`).
-/
namespace CV.Core

structure St.T46E (s s' : St) : Prop where
  evs : s.evs.length ≤ s'.evs.length
  gens : s.gens.length ≤ s'.gens.length
  car : ∀ g, g < s.gens.length → (s'.gen g).t46_carrier = (s.gen g).t46_carrier
  waiting : ∀ e, (s'.ev e).waiting = (s.ev e).waiting
  tasks : ∀ x, (s'.comp x).tasks = (s.comp x).tasks
  waits : ∀ w, (s'.wait w).started = (s.wait w).started ∧ (s'.wait w).t46_pending = (s.wait w).t46_pending ∧
    ((s.wait w).started = true →
      (s'.wait w).taskEvent = (s.wait w).taskEvent ∧ (s'.wait w).parentGen = (s.wait w).parentGen)

namespace St.T46E
variable {s t : St}

@[st_pres ↓] theorem refl (s : St) : St.T46E s s :=
  ⟨Nat.le_refl _, Nat.le_refl _, fun _ _ => rfl, fun _ => rfl, fun _ => rfl, fun _ => ⟨rfl, rfl, fun _ => ⟨rfl, rfl⟩⟩⟩

theorem trans {a b c : St} (h1 : St.T46E a b) (h2 : St.T46E b c) : St.T46E a c :=
  ⟨Nat.le_trans h1.evs h2.evs, Nat.le_trans h1.gens h2.gens,
   fun g hg => (h2.car g (Nat.lt_of_lt_of_le hg h1.gens)).trans (h1.car g hg),
   fun e => (h2.waiting e).trans (h1.waiting e), fun x => (h2.tasks x).trans (h1.tasks x),
   fun w => ⟨(h2.waits w).1.trans (h1.waits w).1, (h2.waits w).2.1.trans (h1.waits w).2.1, fun hs =>
     have a := (h1.waits w).2.2 hs
     have b := (h2.waits w).2.2 ((h1.waits w).1.trans hs)
     ⟨b.1.trans a.1, b.2.trans a.2⟩⟩⟩

theorem slack (h : St.T46E s t) (e : Nat) : t.t46_D e = s.t46_D e := by
  have h1 : t.t46_WT e = s.t46_WT e :=
    t46_sum_congr (fun c : Comp => t46_sumTasks e c.tasks) dfltComp rfl _ _ fun i => congrArg _ (h.tasks i)
  have h2 : t.t46_WW e = s.t46_WW e := by
    refine t46_sum_congr (WaitSt.t46_wt e) dfltWait (by simp [WaitSt.t46_wt, WaitSt.t46_pending, dfltWait]) _ _ fun i => ?_
    obtain ⟨_, hp, hte⟩ := h.waits i
    show (t.wait i).t46_wt e = (s.wait i).t46_wt e
    unfold WaitSt.t46_wt
    rw [hp]
    by_cases hq : (s.wait i).t46_pending = true
    · have hst : (s.wait i).started = true := by
        simp only [WaitSt.t46_pending, Bool.and_eq_true] at hq; exact hq.1.1
      rw [(hte hst).1]
    · rw [if_neg fun h => hq h.1, if_neg fun h => hq h.1]
  unfold St.t46_D
  rw [h1, h2, h.waiting]

theorem toM (h : St.T46E s t) : St.T46M s t := fun e => by rw [h.slack e]; exact Int.le_refl _

theorem toG (h : St.T46E s t) {ex : Option Task} : St.T46G ex s t :=
  ⟨fun x y _ hy => by rw [h.tasks]; exact hy, fun hn x => by rw [h.tasks]; exact hn x⟩

theorem toV (h : St.T46E s t) {xt : Option Nat} : St.T46V xt s t := ⟨fun e _ => h.waiting e⟩

theorem toK (h : St.T46E s t) : St.T46K s t :=
  ⟨h.evs, h.gens, h.car, fun x y hy => Or.inl (by rw [← h.tasks]; exact hy), fun w hw =>
    have hs := (h.waits w).1.symm.trans hw
    Or.inl ⟨hs, (h.waits w).2.2 hs⟩⟩

theorem modComp_self (t : St) (c : Nat) (f : Comp → Comp) (hf : ∀ y : Comp, (f y).tasks = y.tasks) :
    St.T46E t (t.modComp c f) :=
  ⟨Nat.le_refl _, Nat.le_refl _, fun _ _ => rfl, fun _ => rfl, St.w6_modComp_comp_tasks t c f hf,
   fun _ => ⟨rfl, rfl, fun _ => ⟨rfl, rfl⟩⟩⟩

theorem modEv_self (t : St) (e : Nat) (f : Ev → Ev) (hf : ∀ y : Ev, (f y).waiting = y.waiting) :
    St.T46E t (t.modEv e f) :=
  ⟨Nat.le_of_eq (St.w6_modEv_evs_length t e f).symm, Nat.le_refl _, fun _ _ => rfl,
   St.w6_modEv_ev_pres t (·.waiting) e f hf, fun _ => rfl, fun _ => ⟨rfl, rfl, fun _ => ⟨rfl, rfl⟩⟩⟩

theorem modWait_self (t : St) (w : Nat) (f : WaitSt → WaitSt)
    (hf : ∀ y : WaitSt, (f y).started = y.started ∧ (f y).t46_pending = y.t46_pending ∧
      (f y).taskEvent = y.taskEvent ∧ (f y).parentGen = y.parentGen) : St.T46E t (t.modWait w f) :=
  ⟨Nat.le_refl _, Nat.le_refl _, fun _ _ => rfl, fun _ => rfl, fun _ => rfl, fun x =>
    ⟨St.w6_modWait_wait_pres t (·.started) w f (fun y => (hf y).1) x,
     St.w6_modWait_wait_pres t (·.t46_pending) w f (fun y => (hf y).2.1) x, fun _ =>
     ⟨St.w6_modWait_wait_pres t (·.taskEvent) w f (fun y => (hf y).2.2.1) x,
      St.w6_modWait_wait_pres t (·.parentGen) w f (fun y => (hf y).2.2.2) x⟩⟩⟩

theorem setGen_self (t : St) (g : Nat) (x : GenRec) (hx : x.t46_carrier = (t.gen g).t46_carrier) :
    St.T46E t (t.setGen g x) := by
  refine ⟨Nat.le_refl _, Nat.le_of_eq (St.w6_setGen_gens_length t g x).symm, fun g' _ => ?_, fun _ => rfl, fun _ => rfl,
    fun _ => ⟨rfl, rfl, fun _ => ⟨rfl, rfl⟩⟩⟩
  rcases St.w6_setGen_gen_cases t g x g' with h | ⟨rfl, _, h⟩ <;> rw [h]
  exact hx

theorem addEv_self (t : St) (ev : Ev) (hv : ev.waiting = 0) : St.T46E t (t.addEv ev) :=
  ⟨by simp, Nat.le_refl _, fun _ _ => rfl, fun x => St.t46_ev_addEv_waiting t ev x hv, fun _ => rfl,
   fun _ => ⟨rfl, rfl, fun _ => ⟨rfl, rfl⟩⟩⟩

theorem addGen_self (t : St) (x : GenRec) : St.T46E t (t.addGen x) :=
  ⟨Nat.le_refl _, by simp, fun g hg => by rw [St.t46_gen_addGen_lt t x g hg], fun _ => rfl, fun _ => rfl,
   fun _ => ⟨rfl, rfl, fun _ => ⟨rfl, rfl⟩⟩⟩

theorem addWait_self (t : St) (x : WaitSt) (hx : x.started = false) : St.T46E t (t.addWait x) := by
  refine ⟨Nat.le_refl _, Nat.le_refl _, fun _ _ => rfl, fun _ => rfl, fun _ => rfl, fun w => ?_⟩
  rw [St.w6_addWait_wait]
  split
  · rename_i hw
    rw [St.w6_wait_ge t w (Nat.le_of_eq hw.symm)]
    exact ⟨hx, by simp [WaitSt.t46_pending, hx, dfltWait], fun h => by cases h⟩
  · exact ⟨rfl, rfl, fun _ => ⟨rfl, rfl⟩⟩

@[st_pres ↓] theorem modComp (h : St.T46E s t) (c : Nat) (f : Comp → Comp) (hf : ∀ y : Comp, (f y).tasks = y.tasks) :
    St.T46E s (t.modComp c f) := h.trans (modComp_self t c f hf)

@[st_pres ↓] theorem modEv (h : St.T46E s t) (e : Nat) (f : Ev → Ev) (hf : ∀ y : Ev, (f y).waiting = y.waiting) :
    St.T46E s (t.modEv e f) := h.trans (modEv_self t e f hf)

@[st_pres ↓] theorem modWait (h : St.T46E s t) (w : Nat) (f : WaitSt → WaitSt)
    (hf : ∀ y : WaitSt, (f y).started = y.started ∧ (f y).t46_pending = y.t46_pending ∧
      (f y).taskEvent = y.taskEvent ∧ (f y).parentGen = y.parentGen) : St.T46E s (t.modWait w f) :=
  h.trans (modWait_self t w f hf)

@[st_pres ↓] theorem modTimer (h : St.T46E s t) (i : Nat) (f : TimerSt → TimerSt) : St.T46E s (t.modTimer i f) :=
  h.trans ⟨Nat.le_refl _, Nat.le_refl _, fun _ _ => rfl, fun _ => rfl, fun _ => rfl, fun _ => ⟨rfl, rfl, fun _ => ⟨rfl, rfl⟩⟩⟩

@[st_pres ↓] theorem logE (h : St.T46E s t) (x : Entry) : St.T46E s (t.logE x) :=
  h.trans ⟨Nat.le_refl _, Nat.le_refl _, fun _ _ => rfl, fun _ => rfl, fun _ => rfl, fun _ => ⟨rfl, rfl, fun _ => ⟨rfl, rfl⟩⟩⟩

@[st_pres ↓] theorem addH (h : St.T46E s t) (x : Handler) : St.T46E s (t.addH x) :=
  h.trans ⟨Nat.le_refl _, Nat.le_refl _, fun _ _ => rfl, fun _ => rfl, fun _ => rfl, fun _ => ⟨rfl, rfl, fun _ => ⟨rfl, rfl⟩⟩⟩

@[st_pres ↓] theorem tick1 (h : St.T46E s t) (d : Int) : St.T46E s (t.tick1 d) :=
  h.trans ⟨Nat.le_refl _, Nat.le_refl _, fun _ _ => rfl, fun _ => rfl, fun _ => rfl, fun _ => ⟨rfl, rfl, fun _ => ⟨rfl, rfl⟩⟩⟩

@[st_pres ↓] theorem addEv (h : St.T46E s t) (ev : Ev) (hv : ev.waiting = 0) : St.T46E s (t.addEv ev) :=
  h.trans (addEv_self t ev hv)

@[st_pres ↓] theorem addGen (h : St.T46E s t) (x : GenRec) : St.T46E s (t.addGen x) := h.trans (addGen_self t x)

@[st_pres ↓] theorem addWait (h : St.T46E s t) (x : WaitSt) (hx : x.started = false) : St.T46E s (t.addWait x) :=
  h.trans (addWait_self t x hx)

theorem setGen (h : St.T46E s t) (g : Nat) (x : GenRec) (hx : x.t46_carrier = (t.gen g).t46_carrier) :
    St.T46E s (t.setGen g x) := h.trans (setGen_self t g x hx)

theorem setGen_nc (h : St.T46E s t) (g : Nat) (x : GenRec) (hs : (s.gen g).t46_carrier = false)
    (hx : x.t46_carrier = false) : St.T46E s (t.setGen g x) := by
  refine h.setGen g x ?_
  have hg : g < s.gens.length := St.gen_lt_of_ne fun hd => by rw [hd] at hs; cases hs
  rw [h.car g hg, hs, hx]

@[st_pres ↓] theorem setGen_user (h : St.T46E s t) (g e hd o : Nat) (rest : Prog) (st : Nat) (pc : Option Bool) (sd : Bool)
    (hs : (s.gen g).t46_carrier = false) : St.T46E s (t.setGen g (.user e hd o rest st pc sd)) := h.setGen_nc g _ hs rfl

@[st_pres ↓] theorem setGen_dead (h : St.T46E s t) (g : Nat) (hs : (s.gen g).t46_carrier = false) :
    St.T46E s (t.setGen g .dead) := h.setGen_nc g _ hs rfl

end St.T46E

@[st_pres ↓] theorem St.T46E.addHandler {s t : St} (h : St.T46E s t) (x : Nat) : St.T46E s (t.addHandler x) :=
  St.addHandler_pres t x h (fun _ h => by st_pres) (fun _ _ h => by st_pres) (fun _ _ h => by st_pres)

@[st_pres ↓] theorem St.T46E.removeHandler {s t : St} (h : St.T46E s t) (x : Nat) (n : Option Name) :
    St.T46E s ((t.removeHandler x n).2) := by
  st_pres_unfold St.removeHandler

@[st_pres ↓] theorem St.T46E.fireContext {s t : St} (h : St.T46E s t) (r e : Nat) :
    St.T46E s (t.fireContext r e) :=
  St.fireContext_pres t r e h (fun _ _ h => by st_pres) (fun _ _ h => by st_pres) (fun _ _ h => by st_pres)

@[st_pres ↓] theorem St.T46E.fireRaw {s t : St} (h : St.T46E s t) (self e : Nat) (chans : List Chan) (prio : Int) :
    St.T46E s (t.fireRaw self e chans prio) := by
  st_pres_unfold St.fireRaw

@[st_pres ↓] theorem St.T46E.childEv {s t : St} (h : St.T46E s t) (p sfx : Nat) :
    St.T46E s (t.childEv p sfx) := by
  st_pres_unfold St.childEv

@[st_pres ↓] theorem St.T46E.fireChild {s t : St} (h : St.T46E s t) (self p sfx : Nat) (chans : List Chan) :
    St.T46E s (t.fireChild self p sfx chans) := by
  st_pres_unfold St.fireChild

@[st_pres ↓] theorem St.T46E.inform {s t : St} (h : St.T46E s t) (e : Nat) (force : Bool) :
    St.T46E s (t.inform e force) := by
  st_pres_unfold St.inform

@[st_pres ↓] theorem St.T46E.setValue {s t : St} (h : St.T46E s t) (e : Nat) (x : VItem) :
    St.T46E s (t.setValue e x) := by
  st_pres_unfold St.setValue

@[st_pres ↓] theorem St.T46E.fireTmplEv {s t : St} (h : St.T46E s t) (self : Nat) (ev : Ev) (target : Option Chan) (prio : Int)
    (hv : ev.waiting = 0) : St.T46E s (t.fireTmplEv self ev target prio) := by
  unfold St.fireTmplEv; dsimp only
  apply St.T46E.fireRaw
  exact St.T46E.addEv h ev hv

@[st_pres ↓] theorem St.T46E.effectDone1 {s t : St} (h : St.T46E s t) (r e : Nat) (announce : Bool) :
    St.T46E s ((t.effectDone1 r e announce).2) :=
  St.effectDone1_pres t r e announce h (fun _ => by st_pres) (fun _ _ h => by st_pres) (fun _ h => by st_pres)

@[st_pres ↓] theorem St.T46E.eventDonePre {s t : St} (h : St.T46E s t) (r e : Nat) (err : Bool) :
    St.T46E s ((t.eventDonePre r e err).2) := by
  st_pres_unfold St.eventDonePre

@[st_pres ↓] theorem St.T46E.reduceTimeLeft {s t : St} (h : St.T46E s t) (e : Nat) (d : Int) :
    St.T46E s (t.reduceTimeLeft e d) := by
  st_pres_unfold St.reduceTimeLeft

@[st_pres ↓] theorem St.T46E.registerPre {s t : St} (h : St.T46E s t) (c p : Nat) :
    St.T46E s ((t.registerPre c p).2) :=
  St.registerPre_pres h c p (fun _ => by st_pres) (fun _ _ h => by st_pres) (fun _ h => by st_pres)
    (fun _ _ _ _ h => by st_pres)

@[st_pres ↓] theorem St.T46E.registerFin {s t : St} (h : St.T46E s t) (c : Nat) :
    St.T46E s (t.registerFin c) := by
  st_pres_unfold St.registerFin

@[st_pres ↓] theorem St.T46E.unregister {s t : St} (h : St.T46E s t) (c : Nat) :
    St.T46E s (t.unregister c) := by
  st_pres_unfold St.unregister

@[st_pres ↓] theorem St.T46E.prepUnregPre {s t : St} (h : St.T46E s t) (c : Nat) :
    St.T46E s (t.prepUnregPre c) := by
  st_pres_unfold St.prepUnregPre

@[st_pres ↓] theorem St.T46E.prepUnregFin {s t : St} (h : St.T46E s t) (c : Nat) :
    St.T46E s (t.prepUnregFin c) := by
  st_pres_unfold St.prepUnregFin

@[st_pres ↓] theorem St.T46E.actFire {s t : St} (h : St.T46E s t) (self i : Nat) (target : Option Chan) (prio : Int) (cancel : Bool) :
    St.T46E s (t.actFire self i target prio cancel) := by
  st_pres_unfold St.actFire

@[st_pres ↓] theorem St.T46E.actStopEv {s t : St} (h : St.T46E s t) (ev : Option Nat) :
    St.T46E s (t.actStopEv ev) := by
  st_pres_unfold St.actStopEv

@[st_pres ↓] theorem St.T46E.timerReset {s t : St} (h : St.T46E s t) (i : Nat) :
    St.T46E s (t.timerReset i) := by
  st_pres_unfold St.timerReset

@[st_pres ↓] theorem St.T46E.timerCreate {s t : St} (h : St.T46E s t) (i : Nat) :
    St.T46E s (t.timerCreate i) := by
  st_pres_unfold St.timerCreate

@[st_pres ↓] theorem St.T46E.timerTick {s t : St} (h : St.T46E s t) (i e : Nat) :
    St.T46E s (t.timerTick i e) :=
  St.timerTick_pres t i e h (fun _ _ h => by st_pres) (fun _ => by st_pres)
    (fun _ _ _ _ h => by st_pres) (fun _ _ h => by st_pres) (fun _ _ h => by st_pres)

@[st_pres ↓] theorem St.T46E.stopBegin {s t : St} (h : St.T46E s t) (c : Nat) :
    St.T46E s (t.stopBegin c) := by
  st_pres_unfold St.stopBegin

@[st_pres ↓] theorem St.T46E.stopSetCode {s t : St} (h : St.T46E s t) (r : Nat) (code : Code) :
    St.T46E s (t.stopSetCode r code) := by
  st_pres_unfold St.stopSetCode

@[st_pres ↓] theorem St.T46E.genCall {s t : St} (h : St.T46E s t) (owner i : Nat) (target : Option Chan) (timeout : Option Nat) :
    St.T46E s (t.genCall owner i target timeout) := by
  st_pres_unfold St.genCall

@[st_pres ↓] theorem St.T46E.genWait {s t : St} (h : St.T46E s t) (owner : Nat) (name : Name) (target : Option Chan) (timeout : Option Nat) :
    St.T46E s (t.genWait owner name target timeout) := by
  st_pres_unfold St.genWait

@[st_pres ↓] theorem St.T46E.fireException {s t : St} (h : St.T46E s t) (r e : Nat) :
    St.T46E s (t.fireException r e) := by
  st_pres_unfold St.fireException

@[st_pres ↓] theorem St.T46E.setValueOpt {s t : St} (h : St.T46E s t) (e : Nat) (v : Option Nat) :
    St.T46E s (t.setValueOpt e v) := by
  st_pres_unfold St.setValueOpt

@[st_pres ↓] theorem St.T46E.onWaitEvent {s t : St} (h : St.T46E s t) (w e : Nat) :
    St.T46E s ((t.onWaitEvent w e).2) := by
  st_pres_unfold St.onWaitEvent

@[st_pres ↓] theorem St.T46E.onFallbackGE {s t : St} (h : St.T46E s t) (e : Nat) :
    St.T46E s ((t.onFallbackGE e).2) := by
  st_pres_unfold St.onFallbackGE

@[st_pres ↓] theorem St.T46E.computeHandlers {s t : St} (h : St.T46E s t) (r : Nat) (name : Name) (chans : List Chan) :
    St.T46E s ((t.computeHandlers r name chans).2) := by
  st_pres_unfold St.computeHandlers

@[st_pres ↓] theorem St.T46E.dispComplete {s t : St} (h : St.T46E s t) (e : Nat) (ev : Ev) :
    St.T46E s (t.dispComplete e ev) := by
  st_pres_unfold St.dispComplete

@[st_pres ↓] theorem St.T46E.cacheRefresh {s t : St} (h : St.T46E s t) (r : Nat) :
    St.T46E s (t.cacheRefresh r) := by
  st_pres_unfold St.cacheRefresh

@[st_pres ↓] theorem St.T46E.lookupHandlers {s t : St} (h : St.T46E s t) (r : Nat) (name : Name) (chans : List Chan) :
    St.T46E s ((t.lookupHandlers r name chans).2) := by
  st_pres_unfold St.lookupHandlers

@[st_pres ↓] theorem St.T46E.dispGE {s t : St} (h : St.T46E s t) (r e remaining : Nat) (name : Name) :
    St.T46E s (t.dispGE r e remaining name) := by
  st_pres_unfold St.dispGE

@[st_pres ↓] theorem St.T46E.dispatchPre {s t : St} (h : St.T46E s t) (r e remaining : Nat) :
    St.T46E s ((t.dispatchPre r e remaining).2) := by
  st_pres_unfold St.dispatchPre

@[st_pres ↓] theorem St.T46E.handlerRaised {s t : St} (h : St.T46E s t) (r e : Nat) :
    St.T46E s (t.handlerRaised r e) := by
  st_pres_unfold St.handlerRaised

@[st_pres ↓] theorem St.T46E.geTasksCheck {s t : St} (h : St.T46E s t) (r e : Nat) :
    St.T46E s (t.geTasksCheck r e) := by
  st_pres_unfold St.geTasksCheck

@[st_pres ↓] theorem St.T46E.flushBegin {s t : St} (h : St.T46E s t) (r : Nat) :
    St.T46E s (t.flushBegin r) := by
  st_pres_unfold St.flushBegin

@[st_pres ↓] theorem St.T46E.tickGenerate {s t : St} (h : St.T46E s t) (c : Nat) :
    St.T46E s (t.tickGenerate c) := by
  st_pres_unfold St.tickGenerate

@[st_pres ↓] theorem St.T46E.runBegin {s t : St} (h : St.T46E s t) (c : Nat) :
    St.T46E s (t.runBegin c) := by
  st_pres_unfold St.runBegin

@[st_pres ↓] theorem St.T46E.runEnd {s t : St} (h : St.T46E s t) (c : Nat) :
    St.T46E s ((t.runEnd c).2) := by
  st_pres_unfold St.runEnd

@[st_pres ↓] theorem St.T46E.actStep {s t : St} (h : St.T46E s t) (ctx : HCtx) (a : Act) : St.T46E s (actStep t ctx a).st := by
  cases a <;> (unfold CV.Core.actStep; (try dsimp only); st_pres)

@[st_pres ↓] theorem St.T46E.updateRootAll (s : St) : ∀ (fuel : Nat) (todo : List Nat) (root : Nat) (t : St),
    St.T46E s t → St.T46E s (St.updateRootAll fuel todo root t) :=
  fun fuel todo root t h => St.updateRootAll_pres root (fun _ _ h => by st_pres) fuel todo t h

/-- `startWait w` leaves the accounting alone up to its last update, which marks the wait state `w` as started -/
theorem St.t46_startWait_eq (s : St) (w : Nat) : ∃ u F, St.T46E s u ∧ s.startWait w = u.modWait w F := by
  unfold St.startWait
  dsimp only
  exact ⟨_, _, by st_pres, rfl⟩

/-- `next(g)` keeps a user generator a user generator -/
@[st_pres ↓] theorem St.T46E.resumeGenPre {s t : St} (h : St.T46E s t) (g : Nat) (silent : Bool) :
    St.T46E s (t.resumeGenPre g silent) := by
  unfold St.resumeGenPre
  split
  · rename_i hg
    have hx : ∀ a b c d e' f g', (GenRec.user a b c d e' f g').t46_carrier = (t.gen g).t46_carrier := by
      intros; rw [hg]; rfl
    exact pred_ite (h.setGen g _ (hx ..)) (pred_ite ((h.setGen g _ (hx ..)).logE _) (h.setGen g _ (hx ..)))
  · exact h

-- What this adds to `st_pres_side`: the side condition `hs : (s.gen g).t46_carrier = false` of `St.T46E.setGen_user` and
-- `setGen_dead`.  When `st_pres` has split a `match s.gen g with | .user … => …`, the equation `s.gen g = .user …` is
-- among the hypotheses: rewriting with it, `t46_carrier` computes to `false`.
macro_rules | `(tactic| st_pres_side) => `(tactic| first
  | ((with_reducible show GenRec.t46_carrier _ = false); simp only [*, GenRec.t46_carrier]; done)
  | fail)

/-- the operations that move obligations, and those that overwrite a generator (that it keeps its kind is seen where
they are used: `stepGen`, the task frames) -/
def t46_moving : List Op :=
  [.unregisterTask, .stopIteration, .errorBranch, .ownSub, .parentSub, .parentPlain, .applyValue, .onWaitDone, .onWaitTick,
   .setGenDead, .setGenUser, .setGenExc, .setGenOne]

theorem St.T46E.keeps (s : St) (o : Op) (ho : o ∉ t46_moving) : o.Keeps (St.T46E s) := by
  cases o
  case unregisterTask | stopIteration | errorBranch | ownSub | parentSub | parentPlain | applyValue | onWaitDone
      | onWaitTick | setGenDead | setGenUser | setGenExc | setGenOne => exact absurd (by decide) ho
  all_goals (intro t h; intros; st_pres)

/-- the frames whose step moves obligations: the task frames, `hApply` (a generator handler is registered) and `invoke`
(the closures `_on_done` and `_on_tick` of `waitEvent`) -/
def Frame.t46_moves : Frame → Bool
  | .ptBody .. => true
  | .ptOwn .. => true
  | .ptParent .. => true
  | .hApply .. => true
  | .invoke .. => true
  | _ => false

theorem t46_stepFrame_E (c : Cfg) (k : List Frame) (f : Frame) (hf : f.t46_moves = false) :
    St.T46E c.st (stepFrame c k f).st := by
  cases f <;> first | (cases hf; done) | skip
  case stepGen g =>
    -- Every exit overwrites the generator `g`, by the rest of its program or by `.dead`; that is no change of kind because
    -- the arm has just read `g` as a user generator.  `st_pres` splits that `match`, and the side condition of
    -- `St.T46E.setGen_user` / `setGen_dead` (`g` was no carrier) is read off its equation by the closer added above.
    dsimp only [stepFrame, Cfg.stepGen]
    st_pres
  all_goals exact stepFrame_pres_avoiding c k (St.T46E.keeps _) _ rfl (St.T46E.refl _)

theorem t46_unwind_E (c : Cfg) (k : List Frame) (ex : Exn) (f : Frame) : St.T46E c.st (unwind c k ex f).st :=
  unwind_pres_avoiding c k (St.T46E.keeps _) ex f rfl (St.T46E.refl _)

@[st_pres ↓] theorem Cfg.invokeUser_t46e {s0 : St} (c : Cfg) (k : List Frame) (s : St) (h e owner p : Nat) (hle : St.T46E s0 s) :
    St.T46E s0 (c.invokeUser k s h e owner p).st := by
  unfold Cfg.invokeUser; dsimp only; st_pres

/-- `S` is `c.st` with at most the log entry `.hinv` added: the state in which `_on_done` or `_on_tick` of a wait state runs -/
theorem Cfg.t46_invoke_cases (c : Cfg) (k : List Frame) (r h e : Nat) :
    St.T46E c.st (c.invoke k r h e).st ∨
    ∃ S w, St.T46E c.st S ∧ (∀ w', S.wait w' = c.st.wait w') ∧ S.gens = c.st.gens ∧
      (((c.st.handler h).kind = .waitDone w ∧ (c.invoke k r h e).st = (S.onWaitDone w e).2) ∨
       ((c.st.handler h).kind = .waitTick w ∧ (c.invoke k r h e).st = (S.onWaitTick w).2)) := by
  have hE : St.T46E c.st (c.w6_invokeSt h e) := by unfold Cfg.w6_invokeSt; st_pres
  rw [Cfg.invoke_eq]
  split
  case h_4 w hk => exact .inr ⟨_, w, hE, c.w6_invokeSt_wait h e, c.w6_invokeSt_gens h e, .inl ⟨hk, rfl⟩⟩
  case h_5 w hk => exact .inr ⟨_, w, hE, c.w6_invokeSt_wait h e, c.w6_invokeSt_gens h e, .inr ⟨hk, rfl⟩⟩
  all_goals
    left
    st_pres
  -- `.fallbackExc`: nothing but the log entry
  exact hE

/-- The arm `ptBody r t` as the accounting sees it (`Cfg.ptBody_cases` with the states forgotten): up to a state `u` nothing
the accounting reads has changed, nor any root; then the task `t` is unregistered or not, again nothing changes (up to
`s'`), and the arm leaves by one of its exits. -/
inductive Cfg.T46PtBody (c : Cfg) (k : List Frame) (r : Nat) (t : Task) : Cfg → Prop
  | own (u : St) : St.T46E c.st u → T46PtBody c k r t (c.goto k u [.stepGen t.g, .ptOwn r t])
  | stop (u : St) : St.T46E c.st u → (∀ x, u.rootOf x = c.st.rootOf x) → T46PtBody c k r t (c.contStop k u r t)
  | error (u : St) : St.T46E c.st u → (∀ x, u.rootOf x = c.st.rootOf x) → T46PtBody c k r t (c.contError k u r t false)
  | value (u : St) : St.T46E c.st u → T46PtBody c k r t (c.pop k u)
  | resumed (u s' : St) (p : Nat) (v : Bool) : St.T46E c.st u → (∀ x, u.rootOf x = c.st.rootOf x) →
      St.T46E (u.unregisterTask r t) s' → t.parent = some p →
      T46PtBody c k r t (c.goto k s' [.stepGen p, .ptParent r t p v])
  | dropped (u : St) : St.T46E c.st u → (∀ x, u.rootOf x = c.st.rootOf x) →
      T46PtBody c k r t (c.pop k (u.unregisterTask r t))
  | uncaught (u s' : St) (p : Nat) : St.T46E c.st u → (∀ x, u.rootOf x = c.st.rootOf x) →
      St.T46E (u.unregisterTask r t) s' → t.parent = some p → T46PtBody c k r t (c.contError k s' r t true)
  | alone (u : St) : St.T46E c.st u → (∀ x, u.rootOf x = c.st.rootOf x) → t.parent = none →
      T46PtBody c k r t (c.contError k (u.unregisterTask r t) r t false)

theorem Cfg.t46_ptBody_cases (c : Cfg) (k : List Frame) (r : Nat) (t : Task) : c.T46PtBody k r t (c.ptBody k r t) := by
  -- the three prefixes: nothing, the `removeHandler` of a `waitEvent` generator, a carrier marking itself fired
  have h0 : ∀ x, c.st.rootOf x = c.st.rootOf x := fun _ => rfl
  have hrm := fun w => St.T46E.removeHandler (.refl c.st) (c.st.wait w).hDone (some ((c.st.wait w).evName.child sfxDone))
  have hrmr := fun w => St.removeHandler_rootOf c.st (c.st.wait w).hDone (some ((c.st.wait w).evName.child sfxDone))
  have hex : ∀ w b, c.st.gen t.g = .exc w b → St.T46E c.st (c.st.setGen t.g (.exc w true)) :=
    fun w b hg => St.T46E.setGen_self c.st t.g _ (by rw [hg]; rfl)
  have h := Cfg.ptBody_cases c k r t
  generalize c.ptBody k r t = c' at h ⊢
  cases h with
  | own _ => exact .own _ (St.T46E.resumeGenPre (.refl _) _ _)
  | waitRaised _ _ => exact .error _ (hrm _) (hrmr _)
  | waitResumed _ _ _ hp _ => exact .resumed _ _ _ _ (hrm _) (hrmr _) (((St.T46E.refl _).logE _).resumeGenPre _ _) hp
  | waitDropped _ _ _ _ _ => exact .dropped _ (hrm _) (hrmr _)
  | waitStop _ _ _ => exact .stop _ (hrm _) (hrmr _)
  | excFired _ => exact .stop _ (.refl _) h0
  | excCaught hg hp _ _ => exact .resumed _ _ _ _ (hex _ _ hg) h0 (((St.T46E.refl _).logE _).resumeGenPre _ _) hp
  | excUncaught hg hp hgp _ =>
    -- the caller, a user generator, is overwritten by a finished one: no carrier before, none after
    exact .uncaught _ _ _ (hex _ _ hg) h0 (((St.T46E.refl _).logE _).setGen _ .dead (congrArg GenRec.t46_carrier hgp).symm) hp
  | excDropped hg _ _ => exact .dropped _ (hex _ _ hg) h0
  | excAlone hg hp => exact .alone _ (hex _ _ hg) h0 hp
  | dead _ => exact .stop _ (.refl _) h0
  | oneStop _ => exact .stop _ (.refl _) h0
  | oneValue hg => exact .value _ (St.T46E.setValueOpt (St.T46E.setGen_self c.st t.g _ (by rw [hg]; rfl)) _ _)

end CV.Core
