import CV.Proofs.InvTasksE
/-
`St.T46G` over the helpers and arms: read off `St.T46E` where the accounting is left alone; the helpers that move
obligations and the arms of the task frames, `hApply` and `invoke` are walked, the task that may disappear being the task of
the frame.
-/

namespace CV.Core

@[st_pres ↓] theorem St.T46G.addHandler {xt : Option Task} {s t : St} (h : St.T46G xt s t) (x : Nat) : St.T46G xt s (t.addHandler x) :=
  h.trans (St.T46E.addHandler (.refl t) x).toG

@[st_pres ↓] theorem St.T46G.removeHandler {xt : Option Task} {s t : St} (h : St.T46G xt s t) (x : Nat) (n : Option Name) :
    St.T46G xt s ((t.removeHandler x n).2) :=
  h.trans (St.T46E.removeHandler (.refl t) x n).toG

@[st_pres ↓] theorem St.T46G.fireRaw {xt : Option Task} {s t : St} (h : St.T46G xt s t) (self e : Nat) (chans : List Chan) (prio : Int) :
    St.T46G xt s (t.fireRaw self e chans prio) :=
  h.trans (St.T46E.fireRaw (.refl t) self e chans prio).toG

@[st_pres ↓] theorem St.T46G.fireChild {xt : Option Task} {s t : St} (h : St.T46G xt s t) (self p sfx : Nat) (chans : List Chan) :
    St.T46G xt s (t.fireChild self p sfx chans) :=
  h.trans (St.T46E.fireChild (.refl t) self p sfx chans).toG

@[st_pres ↓] theorem St.T46G.inform {xt : Option Task} {s t : St} (h : St.T46G xt s t) (e : Nat) (force : Bool) :
    St.T46G xt s (t.inform e force) :=
  h.trans (St.T46E.inform (.refl t) e force).toG

@[st_pres ↓] theorem St.T46G.setValue {xt : Option Task} {s t : St} (h : St.T46G xt s t) (e : Nat) (x : VItem) :
    St.T46G xt s (t.setValue e x) :=
  h.trans (St.T46E.setValue (.refl t) e x).toG

@[st_pres ↓] theorem St.T46G.registerPre {xt : Option Task} {s t : St} (h : St.T46G xt s t) (c p : Nat) :
    St.T46G xt s ((t.registerPre c p).2) :=
  h.trans (St.T46E.registerPre (.refl t) c p).toG

@[st_pres ↓] theorem St.T46G.unregister {xt : Option Task} {s t : St} (h : St.T46G xt s t) (c : Nat) :
    St.T46G xt s (t.unregister c) :=
  h.trans (St.T46E.unregister (.refl t) c).toG

@[st_pres ↓] theorem St.T46G.prepUnregPre {xt : Option Task} {s t : St} (h : St.T46G xt s t) (c : Nat) :
    St.T46G xt s (t.prepUnregPre c) :=
  h.trans (St.T46E.prepUnregPre (.refl t) c).toG

@[st_pres ↓] theorem St.T46G.timerTick {xt : Option Task} {s t : St} (h : St.T46G xt s t) (i e : Nat) :
    St.T46G xt s (t.timerTick i e) :=
  h.trans (St.T46E.timerTick (.refl t) i e).toG

@[st_pres ↓] theorem St.T46G.resumeGenPre {xt : Option Task} {s t : St} (h : St.T46G xt s t) (g : Nat) (silent : Bool) :
    St.T46G xt s (t.resumeGenPre g silent) :=
  h.trans (St.T46E.resumeGenPre (.refl t) g silent).toG

@[st_pres ↓] theorem St.T46G.fireException {xt : Option Task} {s t : St} (h : St.T46G xt s t) (r e : Nat) :
    St.T46G xt s (t.fireException r e) :=
  h.trans (St.T46E.fireException (.refl t) r e).toG

@[st_pres ↓] theorem St.T46G.setValueOpt {xt : Option Task} {s t : St} (h : St.T46G xt s t) (e : Nat) (v : Option Nat) :
    St.T46G xt s (t.setValueOpt e v) :=
  h.trans (St.T46E.setValueOpt (.refl t) e v).toG

@[st_pres ↓] theorem St.T46G.dispatchPre {xt : Option Task} {s t : St} (h : St.T46G xt s t) (r e remaining : Nat) :
    St.T46G xt s ((t.dispatchPre r e remaining).2) :=
  h.trans (St.T46E.dispatchPre (.refl t) r e remaining).toG

@[st_pres ↓] theorem St.T46G.geTasksCheck {xt : Option Task} {s t : St} (h : St.T46G xt s t) (r e : Nat) :
    St.T46G xt s (t.geTasksCheck r e) :=
  h.trans (St.T46E.geTasksCheck (.refl t) r e).toG

@[st_pres ↓] theorem St.T46G.flushBegin {xt : Option Task} {s t : St} (h : St.T46G xt s t) (r : Nat) :
    St.T46G xt s (t.flushBegin r) :=
  h.trans (St.T46E.flushBegin (.refl t) r).toG

@[st_pres ↓] theorem St.T46G.updateRootAll {xt : Option Task} (s : St) : ∀ (fuel : Nat) (todo : List Nat) (root : Nat) (t : St),
    St.T46G xt s t → St.T46G xt s (St.updateRootAll fuel todo root t) :=
  fun fuel todo root t h => h.trans (St.T46E.updateRootAll t fuel todo root t (.refl t)).toG

/-! ## not read off `St.T46E`: `fireTmplEv` for an event with any `waiting`, and the helpers that move obligations -/

@[st_pres ↓] theorem St.T46G.fireTmplEv {xt : Option Task} {s t : St} (h : St.T46G xt s t) (self : Nat) (ev : Ev) (target : Option Chan) (prio : Int) :
    St.T46G xt s (t.fireTmplEv self ev target prio) := by
  st_pres_unfold St.fireTmplEv

@[st_pres ↓] theorem St.T46G.startWait {xt : Option Task} {s t : St} (h : St.T46G xt s t) (w : Nat) :
    St.T46G xt s (t.startWait w) := by
  obtain ⟨u, F, hE, hu⟩ := St.t46_startWait_eq t w
  rw [hu]
  exact (h.trans hE.toG).modWait w F

@[st_pres ↓] theorem St.T46G.stopIteration {xt : Option Task} {s t : St} (h : St.T46G xt s t) (r : Nat) (x : Task) (hex : xt = some x) :
    St.T46G xt s ((t.stopIteration r x).2) :=
  St.stopIteration_pres t r x (by st_pres) (fun _ _ h => by st_pres) (fun _ h => by st_pres)

@[st_pres ↓] theorem St.T46G.errorBranch {xt : Option Task} {s t : St} (h : St.T46G xt s t) (r : Nat) (x : Task) (resumed : Bool) (hex : xt = some x) :
    St.T46G xt s ((t.errorBranch r x resumed).2) :=
  St.errorBranch_pres t r x resumed (by st_pres) (fun _ h => by st_pres) (fun _ h => by st_pres)
    (fun _ _ h => by st_pres) (fun _ _ h => by st_pres) (fun _ h => by st_pres) (fun _ _ h => by st_pres)

@[st_pres ↓] theorem St.T46G.ownSub {xt : Option Task} {s t : St} (h : St.T46G xt s t) (r : Nat) (x : Task) (w : Nat) (hex : xt = some ⟨x.e, x.g, none⟩) :
    St.T46G xt s (t.ownSub r x w) := by
  st_pres_unfold St.ownSub

@[st_pres ↓] theorem St.T46G.parentSub {xt : Option Task} {s t : St} (h : St.T46G xt s t) (r : Nat) (x : Task) (p w2 : Nat) (viaThrow : Bool) :
    St.T46G xt s (t.parentSub r x p w2 viaThrow) := by
  st_pres_unfold St.parentSub

@[st_pres ↓] theorem St.T46G.parentPlain {xt : Option Task} {s t : St} (h : St.T46G xt s t) (r : Nat) (x : Task) (p : Nat) (v : Option Nat) (viaThrow : Bool) :
    St.T46G xt s (t.parentPlain r x p v viaThrow) := by
  st_pres_unfold St.parentPlain

@[st_pres ↓] theorem St.T46G.onWaitDone {xt : Option Task} {s t : St} (h : St.T46G xt s t) (w e : Nat) :
    St.T46G xt s ((t.onWaitDone w e).2) :=
  St.onWaitDone_pres t w e h (fun _ _ _ h => by st_pres) (fun _ _ => by st_pres)

@[st_pres ↓] theorem St.T46G.onWaitTick {xt : Option Task} {s t : St} (h : St.T46G xt s t) (w : Nat) :
    St.T46G xt s ((t.onWaitTick w).2) := by
  exact St.onWaitTick_pres t w h (fun _ h n hu => hu.removeHandler h n) (fun _ _ _ => by st_pres) (by st_pres)

@[st_pres ↓] theorem St.T46G.applyValue {xt : Option Task} {s t : St} (h : St.T46G xt s t) (r e : Nat) (value : Outcome) :
    St.T46G xt s (t.applyValue r e value) := by
  st_pres_unfold St.applyValue

@[st_pres ↓] theorem Cfg.contStop_t46g {xt : Option Task} {s0 : St} (c : Cfg) (k : List Frame) (s : St) (r : Nat) (x : Task) (hle : St.T46G xt s0 s) (hex : xt = some x) :
    St.T46G xt s0 (c.contStop k s r x).st := by
  rw [Cfg.contStop_st]; st_pres

@[st_pres ↓] theorem Cfg.contError_t46g {xt : Option Task} {s0 : St} (c : Cfg) (k : List Frame) (s : St) (r : Nat) (x : Task) (resumed : Bool) (hle : St.T46G xt s0 s) (hex : xt = some x) :
    St.T46G xt s0 (c.contError k s r x resumed).st := by
  rw [Cfg.contError_st]; st_pres

@[st_pres ↓] theorem Cfg.ptBody_t46g {xt : Option Task} (c : Cfg) (k : List Frame) (r : Nat) (x : Task) (hex : xt = some x) :
    St.T46G xt c.st (c.ptBody k r x).st := by
  have hc := Cfg.t46_ptBody_cases c k r x
  generalize c.ptBody k r x = c' at hc ⊢
  have hU := fun (u : St) (hE : St.T46E c.st u) => St.T46G.unregisterTask (hE.toG (ex := xt)) r x hex
  cases hc with
  | own u hE => exact hE.toG
  | stop u hE _ => exact Cfg.contStop_t46g c k u r x hE.toG hex
  | error u hE _ => exact Cfg.contError_t46g c k u r x false hE.toG hex
  | value u hE => exact hE.toG
  | resumed u s' p v hE _ hE2 _ => exact (hU u hE).trans hE2.toG
  | dropped u hE _ => exact hU u hE
  | uncaught u s' p hE _ hE2 _ => exact Cfg.contError_t46g c k s' r x true ((hU u hE).trans hE2.toG) hex
  | alone u hE _ _ => exact Cfg.contError_t46g c k _ r x false (hU u hE) hex

-- `hex` is the side condition of `Cfg.contStop_t46g` and `Cfg.contError_t46g` (the exits `.stop` and `.raised` unregister
-- `x`), `hex2` that of `St.T46G.ownSub` (the exit `.sub w` unregisters it in the spelling `⟨x.e, x.g, none⟩`); `st_pres`
-- finds both by `assumption`.  They agree when `x.parent = none`, which clause (own) of `T46Guard` provides.
@[st_pres ↓] theorem Cfg.ptOwn_t46g {xt : Option Task} (c : Cfg) (k : List Frame) (r : Nat) (x : Task) (hex : xt = some x) (hex2 : xt = some ⟨x.e, x.g, none⟩) :
    St.T46G xt c.st (c.ptOwn k r x).st := by
  unfold Cfg.ptOwn; (try dsimp only); st_pres

@[st_pres ↓] theorem Cfg.ptParent_t46g {xt : Option Task} (c : Cfg) (k : List Frame) (r : Nat) (x : Task) (p : Nat) (viaThrow : Bool) (hex : xt = some x) :
    St.T46G xt c.st (c.ptParent k r x p viaThrow).st := by
  unfold Cfg.ptParent; (try dsimp only); st_pres

theorem Cfg.invoke_t46g {xt : Option Task} (c : Cfg) (k : List Frame) (r h e : Nat) :
    St.T46G xt c.st (c.invoke k r h e).st := by
  rcases Cfg.t46_invoke_cases c k r h e with hE | ⟨S, w, hE, _, _, ⟨_, he⟩ | ⟨_, he⟩⟩
  · exact hE.toG
  · rw [he]; exact hE.toG.onWaitDone w e
  · rw [he]; exact hE.toG.onWaitTick w

theorem Cfg.hApply_t46g {xt : Option Task} (c : Cfg) (k : List Frame) (r e : Nat) (rest : List Nat) (err : Bool) (value : Outcome) :
    St.T46G xt c.st (c.hApply k r e rest err value).st := by
  unfold Cfg.hApply; (try dsimp only); st_pres

/-! ## the other arms one by one

Each leaves the accounting alone: read off `t46_stepFrame_E` (`runCatchExn`, an arm of `unwind`: off `t46_unwind_E`).
With the arms above this is `St.T46G` for every arm of `step` by name; `t46_stepFrame_inv` takes these arms all at once, from
`t46_stepFrame_E` itself. -/

@[st_pres ↓] theorem Cfg.tick_t46g {xt : Option Task} (c : Cfg) (k : List Frame) (x : Nat) :
    St.T46G xt c.st (c.tick k x).st :=
  (t46_stepFrame_E c k (.tick x) rfl).toG

@[st_pres ↓] theorem Cfg.taskLoop_t46g {xt : Option Task} (c : Cfg) (k : List Frame) (x : Nat) (ts : List Task) :
    St.T46G xt c.st (c.taskLoop k x ts).st :=
  (t46_stepFrame_E c k (.taskLoop x ts) rfl).toG

theorem Cfg.effectDone_t46g {xt : Option Task} (c : Cfg) (k : List Frame) (r e : Nat) (announce : Bool) :
    St.T46G xt c.st (c.effectDone k r e announce).st :=
  (t46_stepFrame_E c k (.effectDone r e announce) rfl).toG

theorem Cfg.eventDone_t46g {xt : Option Task} (c : Cfg) (k : List Frame) (r e : Nat) (err : Bool) :
    St.T46G xt c.st (c.eventDone k r e err).st :=
  (t46_stepFrame_E c k (.eventDone r e err) rfl).toG

theorem Cfg.updateRoot_t46g {xt : Option Task} (c : Cfg) (k : List Frame) (todo : List Nat) (root : Nat) :
    St.T46G xt c.st (c.updateRoot k todo root).st :=
  (t46_stepFrame_E c k (.updateRoot todo root) rfl).toG

theorem Cfg.register_t46g {xt : Option Task} (c : Cfg) (k : List Frame) (x p : Nat) :
    St.T46G xt c.st (c.register k x p).st :=
  (t46_stepFrame_E c k (.register x p) rfl).toG

theorem Cfg.registerFin_t46g {xt : Option Task} (c : Cfg) (k : List Frame) (x : Nat) :
    St.T46G xt c.st (c.registerFin k x).st :=
  (t46_stepFrame_E c k (.registerFin x) rfl).toG

theorem Cfg.prepUnregFin_t46g {xt : Option Task} (c : Cfg) (k : List Frame) (x : Nat) :
    St.T46G xt c.st (c.prepUnregFin k x).st :=
  (t46_stepFrame_E c k (.prepUnregFin x) rfl).toG

theorem Cfg.stopMgr_t46g {xt : Option Task} (c : Cfg) (k : List Frame) (x : Nat) (code : Code) :
    St.T46G xt c.st (c.stopMgr k x code).st :=
  (t46_stepFrame_E c k (.stopMgr x code) rfl).toG

theorem Cfg.ticks_t46g {xt : Option Task} (c : Cfg) (k : List Frame) (x n : Nat) :
    St.T46G xt c.st (c.ticks k x n).st :=
  (t46_stepFrame_E c k (.ticks x n) rfl).toG

theorem Cfg.stopFin_t46g {xt : Option Task} (c : Cfg) (k : List Frame) (code : Code) :
    St.T46G xt c.st (c.stopFin k code).st :=
  (t46_stepFrame_E c k (.stopFin code) rfl).toG

theorem Cfg.timerNew_t46g {xt : Option Task} (c : Cfg) (k : List Frame) (i : Nat) :
    St.T46G xt c.st (c.timerNew k i).st :=
  (t46_stepFrame_E c k (.timerNew i) rfl).toG

theorem Cfg.acts_t46g {xt : Option Task} (c : Cfg) (k : List Frame) (ctx : HCtx) (prog : Prog) :
    St.T46G xt c.st (c.acts k ctx prog).st :=
  (t46_stepFrame_E c k (.acts ctx prog) rfl).toG

theorem Cfg.doFin_t46g {xt : Option Task} (c : Cfg) (k : List Frame) (x : Nat) :
    St.T46G xt c.st (c.doFin k x).st :=
  (t46_stepFrame_E c k (.doFin x) rfl).toG

theorem Cfg.drainQ_t46g {xt : Option Task} (c : Cfg) (k : List Frame) (x : Nat) :
    St.T46G xt c.st (c.drainQ k x).st :=
  (t46_stepFrame_E c k (.drainQ x) rfl).toG

theorem Cfg.stepGen_t46g {xt : Option Task} (c : Cfg) (k : List Frame) (g : Nat) :
    St.T46G xt c.st (c.stepGen k g).st :=
  (t46_stepFrame_E c k (.stepGen g) rfl).toG

theorem Cfg.processTask_t46g {xt : Option Task} (c : Cfg) (k : List Frame) (r : Nat) (x : Task) :
    St.T46G xt c.st (c.processTask k r x).st :=
  (t46_stepFrame_E c k (.processTask r x) rfl).toG

theorem Cfg.ptFin_t46g {xt : Option Task} (c : Cfg) (k : List Frame) (r : Nat) (handling : Option Nat) :
    St.T46G xt c.st (c.ptFin k r handling).st :=
  (t46_stepFrame_E c k (.ptFin r handling) rfl).toG

theorem Cfg.dispatcher_t46g {xt : Option Task} (c : Cfg) (k : List Frame) (r e remaining : Nat) :
    St.T46G xt c.st (c.dispatcher k r e remaining).st :=
  (t46_stepFrame_E c k (.dispatcher r e remaining) rfl).toG

theorem Cfg.hLoop_t46g {xt : Option Task} (c : Cfg) (k : List Frame) (r e : Nat) (hs : List Nat) (err : Bool) (stale : Outcome) :
    St.T46G xt c.st (c.hLoop k r e hs err stale).st :=
  (t46_stepFrame_E c k (.hLoop r e hs err stale) rfl).toG

theorem Cfg.invokeFin_t46g {xt : Option Task} (c : Cfg) (k : List Frame) (e h : Nat) :
    St.T46G xt c.st (c.invokeFin k e h).st :=
  (t46_stepFrame_E c k (.invokeFin e h) rfl).toG

theorem Cfg.hAfter_t46g {xt : Option Task} (c : Cfg) (k : List Frame) (r e : Nat) (rest : List Nat) (err : Bool) (stale : Outcome) :
    St.T46G xt c.st (c.hAfter k r e rest err stale).st :=
  (t46_stepFrame_E c k (.hAfter r e rest err stale) rfl).toG

theorem Cfg.dispFin_t46g {xt : Option Task} (c : Cfg) (k : List Frame) (r e : Nat) (err : Bool) :
    St.T46G xt c.st (c.dispFin k r e err).st :=
  (t46_stepFrame_E c k (.dispFin r e err) rfl).toG

theorem Cfg.dispatchLoop_t46g {xt : Option Task} (c : Cfg) (k : List Frame) (r : Nat) :
    St.T46G xt c.st (c.dispatchLoop k r).st :=
  (t46_stepFrame_E c k (.dispatchLoop r) rfl).toG

theorem Cfg.flush_t46g {xt : Option Task} (c : Cfg) (k : List Frame) (x : Nat) :
    St.T46G xt c.st (c.flush k x).st :=
  (t46_stepFrame_E c k (.flush x) rfl).toG

theorem Cfg.flushFin_t46g {xt : Option Task} (c : Cfg) (k : List Frame) (r : Nat) (old : Bool) :
    St.T46G xt c.st (c.flushFin k r old).st :=
  (t46_stepFrame_E c k (.flushFin r old) rfl).toG

theorem Cfg.tickFin_t46g {xt : Option Task} (c : Cfg) (k : List Frame) (x : Nat) (old : Bool) :
    St.T46G xt c.st (c.tickFin k x old).st :=
  (t46_stepFrame_E c k (.tickFin x old) rfl).toG

theorem Cfg.tickGen_t46g {xt : Option Task} (c : Cfg) (k : List Frame) (x : Nat) :
    St.T46G xt c.st (c.tickGen k x).st :=
  (t46_stepFrame_E c k (.tickGen x) rfl).toG

theorem Cfg.run_t46g {xt : Option Task} (c : Cfg) (k : List Frame) (x : Nat) :
    St.T46G xt c.st (c.run k x).st :=
  (t46_stepFrame_E c k (.run x) rfl).toG

theorem Cfg.runLoop_t46g {xt : Option Task} (c : Cfg) (k : List Frame) (x : Nat) :
    St.T46G xt c.st (c.runLoop k x).st :=
  (t46_stepFrame_E c k (.runLoop x) rfl).toG

theorem Cfg.runFin_t46g {xt : Option Task} (c : Cfg) (k : List Frame) (x : Nat) :
    St.T46G xt c.st (c.runFin k x).st :=
  (t46_stepFrame_E c k (.runFin x) rfl).toG

theorem Cfg.runCatchExn_t46g {xt : Option Task} (c : Cfg) (k : List Frame) (x : Nat) (exn : Exn) :
    St.T46G xt c.st (c.runCatchExn k x exn).st :=
  (t46_unwind_E c k exn (.runCatch x)).toG

theorem Cfg.runRethrow_t46g {xt : Option Task} (c : Cfg) (k : List Frame) (exn : Exn) :
    St.T46G xt c.st (c.runRethrow k exn).st :=
  (t46_stepFrame_E c k (.runRethrow exn) rfl).toG

end CV.Core
