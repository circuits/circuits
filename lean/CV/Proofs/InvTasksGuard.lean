import CV.Proofs.InvTasksStep
import CV.Proofs.InvTasksQ
import CV.Proofs.InvTasksK
import CV.Proofs.InvWaitMain
/-
The clauses of the run hypothesis `T46Guard` are discharged one after the other.

The clauses about the `waitEvent` closures follow from the wait-protocol invariant `W6CInv` of C06 (admissible sessions
`W6ReachW`): a handler of kind `waitDone w` / `waitTick w` exists only for a started wait state.  `T46GuardCore` is
`T46Guard` without them.

Clause (gen) follows from the RANGE invariant `T46RQ` over ALL sessions (`Reach`, no guard needed): event ids in the queues
of all components, in `Timer.event` and in the frames `.dispatcher / .hLoop / .hAfter / .hApply` are ids of existing events.
On the stack: the frames that carry the id of the event being dispatched are pushed only by a frame carrying the same id -
except `.dispatchLoop`, which takes the id from the queue (`Frame.Pushes.t46_dev`).  `T46GuardMin` is what is left.

Clause (own) follows from the kind invariant `T46TP`, whose preservation is shown here; that leaves the sessions guarded by
the two real restrictions only (`T46GuardMin2` = (tick) + (root)).
-/
namespace CV.Core

theorem W6CInv.t46_started {n0 : Nat} {c : Cfg} (hw : W6CInv n0 c) (h w : Nat)
    (hk : (c.st.handler h).kind = .waitDone w ∨ (c.st.handler h).kind = .waitTick w) :
    (c.st.wait w).started = true := by
  have hlt : h < c.st.hs.length := by
    apply handler_lt_of_kind
    rcases hk with hk | hk <;> rw [hk] <;> exact fun h => by cases h
  rcases hk with hk | hk
  · exact (hw.w.1.kindDone h w (by simpa using hlt) (by simpa using hk)).2.1
  · exact (hw.w.1.kindTick h w (by simpa using hlt) (by simpa using hk)).2.1

structure T46GuardCore (c : Cfg) : Prop where
  tick : ∀ x k, c.stack = .tick x :: k → c.exn = none → (c.st.comp x).tasks ≠ [] →
    t46_quiet k = true ∧ c.st.rootOf x = x
  root : ∀ x ts, Frame.taskLoop x ts ∈ c.stack → (step c).st.rootOf x = c.st.rootOf x
  gen : ∀ r e rest err g k, c.stack = .hApply r e rest err (.gen g) :: k → c.exn = none → e < c.st.evs.length
  own : ∀ r t k w, c.stack = .ptOwn r t :: k → c.exn = none → c.ret.yield = .sub w →
    t.parent = none ∧ t.e < c.st.evs.length

theorem T46Guard.of_core {n0 : Nat} {c : Cfg} (hc : T46GuardCore c) (hw : W6CInv n0 c) : T46Guard c :=
  ⟨hc.tick, hc.root, hc.gen, hc.own,
   fun _ h _ _ w _ _ hk => hw.t46_started h w (Or.inl hk),
   fun _ h _ _ w _ _ hk => hw.t46_started h w (Or.inr hk)⟩

/-- admissible sessions (`W6ReachW`) on which the core guard holds at every step taken -/
inductive T46ReachC (s0 : St) : Cfg → Prop
  | init (d : Nat) (tape : List Entry) (op : ExtOp) (hop : op.w6ok s0.hs.length) :
      T46ReachC s0 (startOf (envChange s0 d tape) op)
  | step {c : Cfg} : T46ReachC s0 c → T46GuardCore c → T46ReachC s0 (CV.Core.step c)
  | next {c : Cfg} (d : Nat) (tape : List Entry) (op : ExtOp) (hop : op.w6ok s0.hs.length) :
      T46ReachC s0 c → done c = true → T46ReachC s0 (startOf (envChange c.st d tape) op)

theorem T46ReachC.admissible {s0 : St} {c : Cfg} (h : T46ReachC s0 c) : W6ReachW s0.hs.length s0 c := by
  induction h with
  | init d tape op hop => exact W6ReachW.init d tape op hop
  | step _ _ ih => exact W6ReachW.step ih
  | next d tape op hop _ hd ih => exact W6ReachW.next d tape op hop ih hd

theorem T46ReachC.guarded {s0 : St} (hi : W6InitWait s0) {c : Cfg} (h : T46ReachC s0 c) : T46Reach s0 c := by
  induction h with
  | init d tape op _ => exact T46Reach.init d tape op
  | step hprev hg ih => exact T46Reach.step ih (T46Guard.of_core hg (hprev.admissible.cinv hi))
  | next d tape op _ _ hd ih => exact T46Reach.next d tape op ih hd

def Frame.t46_dEv : Frame → Option Nat
  | .dispatcher _ e _ => some e
  | .hLoop _ e _ _ _ => some e
  | .hAfter _ e _ _ _ => some e
  | .hApply _ e _ _ _ => some e
  | _ => none

/-- `g` may be pushed by the step of `f` -/
def Frame.t46_dOk (f g : Frame) : Bool :=
  match g.t46_dEv with
  | none => true
  | some e => f.t46_dEv == some e

/-- the step of `f` that led to `c'` pushed (on `k`, the rest of the stack) no frame carrying an event id other than the one
`f` carries -/
def T46DevOk (f : Frame) (k : List Frame) (c' : Cfg) : Prop :=
  ∃ fs, c'.stack = fs ++ k ∧ fs.all (fun g => f.t46_dOk g) = true

theorem Frame.Pushes.t46_dev {c : Cfg} {f : Frame} {fs : List Frame} (h : f.Pushes c fs)
    (hf : ∀ r, f ≠ .dispatchLoop r) : fs.all (fun g => f.t46_dOk g) = true := by
  cases h
  case dispatchLoop => exact absurd rfl (hf _)
  case actsCall hg | stepGenCall hg => cases hg <;> rfl
  case dispatcher | hLoop | hAfterStop | hAfter | hApply => simp [Frame.t46_dOk, Frame.t46_dEv]
  all_goals rfl

theorem Cfg.contStop_t46d (f : Frame) (c : Cfg) (k : List Frame) (s : St) (r : Nat) (t : Task) :
    T46DevOk f k (c.contStop k s r t) :=
  pred_ite ⟨_, rfl, rfl⟩ ⟨[], rfl, rfl⟩

theorem Cfg.contError_t46d (f : Frame) (c : Cfg) (k : List Frame) (s : St) (r : Nat) (t : Task) (b : Bool) :
    T46DevOk f k (c.contError k s r t b) :=
  pred_ite ⟨_, rfl, rfl⟩ ⟨[], rfl, rfl⟩

theorem t46_stepFrame_dev (c : Cfg) (k : List Frame) (f : Frame) (hf : ∀ r, f ≠ .dispatchLoop r) :
    T46DevOk f k (stepFrame c k f) :=
  stepFrame_all c k f fun _ hp => hp.t46_dev hf

theorem t46_unwind_dev (c : Cfg) (k : List Frame) (ex : Exn) (f : Frame) : T46DevOk f k (unwind c k ex f) :=
  unwind_all c k ex f fun _ => rfl

theorem t46_step_q (c : Cfg) : St.T46Q c.st (step c).st :=
  step_pres c (St.T46Q.keeps _) (St.T46Q.refl _)

/-- the range invariant: the event ids in queues and timers (`ok`) and in the frames of the stack that carry one (`fr`) are
ids of existing events -/
structure T46RQ (c : Cfg) : Prop where
  ok : c.st.T46QOk
  fr : ∀ f ∈ c.stack, ∀ e, f.t46_dEv = some e → e < c.st.evs.length

theorem T46RQ.next {c c' : Cfg} (h : T46RQ c) {f : Frame} {k : List Frame} (hs : c.stack = f :: k)
    (hq : St.T46Q c.st c'.st) (fs : List Frame) (hfs : c'.stack = fs ++ k)
    (hnew : ∀ g ∈ fs, ∀ e, g.t46_dEv = some e → e < c.st.evs.length) : T46RQ c' := by
  refine ⟨hq.ok h.ok, fun g hg e he => Nat.lt_of_lt_of_le ?_ hq.evs⟩
  rw [hfs] at hg
  rcases List.mem_append.1 hg with h1 | h1
  · exact hnew g h1 e he
  · exact h.fr g (by rw [hs]; simp [h1]) e he

theorem T46RQ.ofDev {c c' : Cfg} (h : T46RQ c) {f : Frame} {k : List Frame} (hs : c.stack = f :: k)
    (hq : St.T46Q c.st c'.st) (hd : T46DevOk f k c') : T46RQ c' := by
  obtain ⟨fs, hfs, hall⟩ := hd
  refine h.next hs hq fs hfs fun g hg e he => ?_
  have := List.all_eq_true.1 hall g hg
  simp only [Frame.t46_dOk, he, beq_iff_eq] at this
  exact h.fr f (by rw [hs]; simp) e this

theorem t46_step_rq (c : Cfg) (h : T46RQ c) : T46RQ (step c) := by
  cases hs : c.stack with
  | nil => rw [step_nil c hs]; exact h
  | cons f k =>
    have hq := t46_step_q c
    cases hx : c.exn with
    | some ex =>
      rw [step_cons_exn c f k ex hs hx] at hq ⊢
      exact h.ofDev hs hq (t46_unwind_dev c k ex f)
    | none =>
      rw [step_cons c f k hs hx] at hq ⊢
      by_cases hdl : ∃ r, f = .dispatchLoop r
      · obtain ⟨r, rfl⟩ := hdl
        obtain ⟨fs, hfs, hp⟩ := (stepFrame_pushes c k (.dispatchLoop r)).stack
        cases hp
        case pop => exact h.next hs hq [] hfs fun _ hg => by cases hg
        case dispatchLoop it q hpop =>
          refine h.next hs hq _ hfs fun g hg e he => ?_
          rcases List.mem_cons.1 hg with rfl | hg
          · cases he
            exact h.ok.1 r it (EQ.t46_pop_has _ _ it q hpop).1
          · rw [List.mem_singleton.1 hg] at he; cases he
      · exact h.ofDev hs hq (t46_stepFrame_dev c k f fun r hf => hdl ⟨r, hf⟩)

/-- the hypothesis on the initial state: every id in a queue or in a `Timer.event` is the id of an existing event
    (e.g. all queues empty and no timer has fired yet) -/

def T46InitQ (s0 : St) : Prop := s0.T46QOk

theorem t46_start_rq (s : St) (hs : s.T46QOk) (d : Nat) (tape : List Entry) (op : ExtOp) :
    T46RQ (startOf (envChange s d tape) op) := by
  refine ⟨?_, ?_⟩
  · rw [startOf_st]; exact hs
  · cases op <;> (intro g hg e he; simp [startOf, startDo, startTick, startFlush, startRun, Cfg.start] at hg) <;>
      first | (rcases hg with h1 | h1 <;> subst h1 <;> cases he) | (subst hg; cases he)

theorem t46_reach_rq {s0 : St} (h0 : T46InitQ s0) : ∀ c, Reach s0 c → T46RQ c :=
  Reach.inv (fun c => T46RQ c) (fun d tape op => t46_start_rq s0 h0 d tape op) t46_step_rq
    (fun c d tape op hc _ => t46_start_rq c.st hc.ok d tape op)

/-- clause (gen) -/
theorem T46RQ.gen {c : Cfg} (h : T46RQ c) (r e : Nat) (rest : List Nat) (err : Bool) (v : Outcome) (k : List Frame)
    (hs : c.stack = .hApply r e rest err v :: k) : e < c.st.evs.length :=
  h.fr (.hApply r e rest err v) (by rw [hs]; simp) e rfl

/-- `T46GuardCore` without clause (gen) -/
structure T46GuardMin (c : Cfg) : Prop where
  tick : ∀ x k, c.stack = .tick x :: k → c.exn = none → (c.st.comp x).tasks ≠ [] →
    t46_quiet k = true ∧ c.st.rootOf x = x
  root : ∀ x ts, Frame.taskLoop x ts ∈ c.stack → (step c).st.rootOf x = c.st.rootOf x
  own : ∀ r t k w, c.stack = .ptOwn r t :: k → c.exn = none → c.ret.yield = .sub w →
    t.parent = none ∧ t.e < c.st.evs.length

theorem T46Guard.of_min {n0 : Nat} {c : Cfg} (hm : T46GuardMin c) (hw : W6CInv n0 c) (hq : T46RQ c) : T46Guard c :=
  T46Guard.of_core ⟨hm.tick, hm.root, fun r e rest err g k hs _ => hq.gen r e rest err (.gen g) k hs, hm.own⟩ hw

/-- admissible sessions on which `T46GuardMin` holds at every step taken (`M` for `Min`; nothing to do with `St.T46M`) -/
inductive T46ReachM (s0 : St) : Cfg → Prop
  | init (d : Nat) (tape : List Entry) (op : ExtOp) (hop : op.w6ok s0.hs.length) :
      T46ReachM s0 (startOf (envChange s0 d tape) op)
  | step {c : Cfg} : T46ReachM s0 c → T46GuardMin c → T46ReachM s0 (CV.Core.step c)
  | next {c : Cfg} (d : Nat) (tape : List Entry) (op : ExtOp) (hop : op.w6ok s0.hs.length) :
      T46ReachM s0 c → done c = true → T46ReachM s0 (startOf (envChange c.st d tape) op)

theorem T46ReachM.admissible {s0 : St} {c : Cfg} (h : T46ReachM s0 c) : W6ReachW s0.hs.length s0 c := by
  induction h with
  | init d tape op hop => exact W6ReachW.init d tape op hop
  | step _ _ ih => exact W6ReachW.step ih
  | next d tape op hop _ hd ih => exact W6ReachW.next d tape op hop ih hd

theorem T46ReachM.guarded {s0 : St} (hi : W6InitWait s0) (hq : T46InitQ s0) {c : Cfg} (h : T46ReachM s0 c) :
    T46Reach s0 c := by
  induction h with
  | init d tape op _ => exact T46Reach.init d tape op
  | step hprev hg ih =>
    exact T46Reach.step ih (T46Guard.of_min hg (hprev.admissible.cinv hi) (t46_reach_rq hq _ hprev.admissible.reach))
  | next d tape op _ _ hd ih => exact T46Reach.next d tape op ih hd

theorem T46InitQ.of_empty (s0 : St) (hq : ∀ x, (s0.comp x).eq.queue = [] ∧ (s0.comp x).eq.heap = [])
    (ht : ∀ (i : Nat) (tm : TimerSt), s0.timers[i]? = some tm → tm.ev = none) : T46InitQ s0 := by
  refine ⟨fun x it hit => ?_, fun i tm te hi he => ?_⟩
  · rcases hit with h | h
    · rw [(hq x).1] at h; cases h
    · rw [(hq x).2] at h; cases h
  · rw [ht i tm hi] at he; cases he

def Outcome.t46_isGen : Outcome → Bool
  | .gen _ => true
  | _ => false

def Frame.t46_kfree : Frame → Bool
  | .ptOwn .. => false
  | .ptParent .. => false
  | .hLoop _ _ _ _ o => !o.t46_isGen
  | .hAfter _ _ _ _ o => !o.t46_isGen
  | .hApply _ _ _ _ o => !o.t46_isGen
  | _ => true

/-- a handler result that is a generator is a user generator (it will become the generator of an ordinary task) -/
def T46OutK (s : St) (o : Outcome) : Prop := ∀ g, o = .gen g → s.t46_nc g

/-- what the kind invariant asks of a frame: of `.ptOwn`, what clause (own) of `T46Guard` wants and that the task's generator
is a user generator; of `.ptParent`, that the event exists and the caller (and the task's parent) is a user generator; of the
handler-loop frames, `T46OutK` of the result they hold.  `Frame.t46_kfree` are the frames of which nothing is asked. -/
def T46FrameK (s : St) : Frame → Prop
  | .ptOwn _ t => t.parent = none ∧ t.e < s.evs.length ∧ s.t46_nc t.g
  | .ptParent _ t p _ => t.e < s.evs.length ∧ s.t46_nc p ∧ ∀ p', t.parent = some p' → s.t46_nc p'
  | .hLoop _ _ _ _ o => T46OutK s o
  | .hAfter _ _ _ _ o => T46OutK s o
  | .hApply _ _ _ _ o => T46OutK s o
  | _ => True

theorem T46OutK.of_not {s : St} {o : Outcome} (h : o.t46_isGen = false) : T46OutK s o := by
  intro g hg; subst hg; cases h

theorem T46FrameK.of_kfree {s : St} {f : Frame} (h : f.t46_kfree = true) : T46FrameK s f := by
  cases f <;> first | trivial | cases h | exact T46OutK.of_not (by simpa [Frame.t46_kfree] using h)

theorem T46OutK.mono {s s' : St} (h : St.T46K s s') {o : Outcome} (ho : T46OutK s o) : T46OutK s' o :=
  fun g hg => (ho g hg).mono h

theorem T46FrameK.mono {s s' : St} (h : St.T46K s s') {f : Frame} (hf : T46FrameK s f) : T46FrameK s' f := by
  cases f <;> first | trivial | skip
  case ptOwn r t =>
    obtain ⟨hpar, he, hg⟩ := hf
    exact ⟨hpar, Nat.lt_of_lt_of_le he h.evs, hg.mono h⟩
  case ptParent r t p v =>
    obtain ⟨he, hp, hpar⟩ := hf
    exact ⟨Nat.lt_of_lt_of_le he h.evs, hp.mono h, fun p' hp' => (hpar p' hp').mono h⟩
  case hLoop r e hs err o => exact T46OutK.mono h hf
  case hAfter r e hs err o => exact T46OutK.mono h hf
  case hApply r e hs err o => exact T46OutK.mono h hf

/-- the step that led to `c'` pushed (on `k`, the rest of the stack) only frames of which `T46FrameK` asks nothing -/
def T46KfOk (k : List Frame) (c' : Cfg) : Prop := ∃ fs, c'.stack = fs ++ k ∧ fs.all Frame.t46_kfree = true

theorem t46_unwind_kf (c : Cfg) (k : List Frame) (ex : Exn) (f : Frame) : T46KfOk k (unwind c k ex f) :=
  unwind_all c k ex f fun _ => rfl

theorem t46_unwind_K (c : Cfg) (k : List Frame) (ex : Exn) (f : Frame) : St.T46K c.st (unwind c k ex f).st :=
  (t46_unwind_E c k ex f).toK

/-- as `T46KfOk`, except that the other frames pushed satisfy `P` -/
def T46Pushed (P : Frame → Prop) (k : List Frame) (c' : Cfg) : Prop :=
  ∃ fs, c'.stack = fs ++ k ∧ ∀ g ∈ fs, g.t46_kfree = true ∨ P g

theorem T46KfOk.pushed {P : Frame → Prop} {k : List Frame} {c' : Cfg} (h : T46KfOk k c') : T46Pushed P k c' := by
  obtain ⟨fs, h1, h2⟩ := h
  exact ⟨fs, h1, fun g hg => Or.inl (List.all_eq_true.1 h2 g hg)⟩

theorem t46_pushed_pair {P : Frame → Prop} {a b : Frame} (ha : a.t46_kfree = true) (hb : P b) :
    ∀ g ∈ [a, b], g.t46_kfree = true ∨ P g := by
  intro g hg
  simp only [List.mem_cons, List.not_mem_nil, or_false] at hg
  rcases hg with rfl | rfl
  · exact Or.inl ha
  · exact Or.inr hb

/-- The frames an arm pushes are harmless, with these exceptions, which satisfy `T46FrameK` in a later state `s'`:
`ptBody` pushes `.ptParent r t p …` with `p` the task's parent, or `.ptOwn r t` for a task whose generator is a user
generator; the handler loop keeps its handler result, and `hAfter` may take it from the return register. -/
theorem Frame.Pushes.t46_frameK {c : Cfg} {f : Frame} {fs : List Frame} (h : f.Pushes c fs) {s' : St}
    (hK : St.T46K c.st s') (htop : T46FrameK c.st f) (hret : T46OutK c.st c.ret.outcome)
    (hbody : ∀ r t, f = .ptBody r t → c.st.T46TaskOk t) : ∀ g ∈ fs, g.t46_kfree = true ∨ T46FrameK s' g := by
  cases h
  case ptBodyOwn r t e h o rest st pc sd hgen =>
    have hok := hbody r t rfl
    have hnc : c.st.t46_nc t.g := ⟨c.st.w6_gen_lt_of_user t.g hgen, by rw [hgen]; rfl⟩
    refine t46_pushed_pair rfl ⟨?_, Nat.lt_of_lt_of_le hok.ev hK.evs, hnc.mono hK⟩
    -- a task with a parent runs a carrier generator, not a user generator
    cases hp : t.parent with
    | none => rfl
    | some p =>
      have := (hok.carrier (by rw [hp]; rfl)).2
      rw [hnc.2] at this; cases this
  case ptBodyParent r t p v hpar =>
    have hok := hbody r t rfl
    exact t46_pushed_pair rfl
      ⟨Nat.lt_of_lt_of_le hok.ev hK.evs, (hok.parent_nc hpar).mono hK, fun _ hp' => (hok.parent_nc hp').mono hK⟩
  case hLoop | hAfterStop => exact t46_pushed_pair rfl (T46OutK.mono hK htop)
  case hApply => exact fun g hg => Or.inr (by rw [List.mem_singleton.1 hg]; exact T46OutK.mono hK htop)
  case hAfter r e rest err st err' o ho =>
    subst ho
    exact fun g hg => Or.inr (by rw [List.mem_singleton.1 hg]; exact T46OutK.mono hK hret)
  case actsCall hg | stepGenCall hg => cases hg <;> exact fun g hg => Or.inl (List.all_eq_true.1 rfl g hg)
  all_goals exact fun g hg => Or.inl (List.all_eq_true.1 rfl g hg)

/-- the kind invariant: every registered task and every started wait state is well formed (`St.T46TaskOk`, `St.T46WaitOk`),
every frame satisfies `T46FrameK`, and so does the handler result in the return register -/
structure T46TP (c : Cfg) : Prop where
  tasks : ∀ x t, t ∈ (c.st.comp x).tasks → c.st.T46TaskOk t
  waits : ∀ w, (c.st.wait w).started = true → c.st.T46WaitOk (c.st.wait w)
  frames : ∀ f ∈ c.stack, T46FrameK c.st f
  ret : T46OutK c.st c.ret.outcome

theorem T46TP.next {c c' : Cfg} (h : T46TP c) {f : Frame} {k : List Frame} (hs : c.stack = f :: k)
    (hK : St.T46K c.st c'.st) (fs : List Frame) (hfs : c'.stack = fs ++ k) (hnew : ∀ g ∈ fs, T46FrameK c'.st g)
    (hret : f.Returns c c') : T46TP c' := by
  refine ⟨fun x t ht => ?_, fun w hw => ?_, fun g hg => ?_, ?_⟩
  · rcases hK.tasks x t ht with h1 | h1
    · exact (h.tasks x t h1).mono hK
    · exact h1
  · rcases hK.waits w hw with ⟨h1, h2, h3⟩ | h1
    · have := (h.waits w h1).mono hK
      unfold St.T46WaitOk at this ⊢
      rw [h2, h3]; exact this
    · exact h1
  · rw [hfs] at hg
    rcases List.mem_append.1 hg with h1 | h1
    · exact hnew g h1
    · exact (h.frames g (by rw [hs]; simp [h1])).mono hK
  · exact hret.outcome (fun g hg => (h.ret g hg).mono hK) fun g _ _ _ _ hg =>
      ⟨c'.st.w6_gen_lt_of_user g hg, congrArg GenRec.t46_carrier hg⟩

theorem T46TP.ofPushed {P : Frame → Prop} {c c' : Cfg} (h : T46TP c) {f : Frame} {k : List Frame} (hs : c.stack = f :: k)
    (hK : St.T46K c.st c'.st) (hp : T46Pushed P k c') (hP : ∀ g, P g → T46FrameK c'.st g) (hret : f.Returns c c') :
    T46TP c' := by
  obtain ⟨fs, hfs, hall⟩ := hp
  refine h.next hs hK fs hfs (fun g hg => ?_) hret
  rcases hall g hg with h1 | h1
  · exact T46FrameK.of_kfree h1
  · exact hP g h1

theorem t46_stepFrame_K {n0 : Nat} {c : Cfg} (hinv : T46Inv c) (htp : T46TP c) (hw : W6CInv n0 c) (hq : T46RQ c)
    (k : List Frame) (f : Frame) (hs : c.stack = f :: k) : St.T46K c.st (stepFrame c k f).st := by
  have htop : T46FrameK c.st f := htp.frames f (by rw [hs]; simp)
  cases f
  case ptBody r t =>
    obtain ⟨-, hmem, -⟩ := hinv.top_ptBody hs
    exact Cfg.t46_ptBody_K c k r t (htp.tasks r t hmem).ev
  case ptOwn r t =>
    obtain ⟨-, he, hg⟩ := htop
    exact Cfg.t46_ptOwn_K c k r t he hg
  case ptParent r t p v =>
    obtain ⟨he, hp, -⟩ := htop
    exact Cfg.t46_ptParent_K c k r t p v he hp
  case hApply r e rest err v => exact Cfg.t46_hApply_K c k r e rest err v (hq.gen r e rest err v k hs)
  case invoke r h e =>
    refine Cfg.t46_invoke_K c k r h e (fun w hk => ?_) (fun w hk => ?_)
    · have hst := hw.t46_started h w (Or.inl hk)
      have hlt := St.t46_wait_started_lt c.st w hst
      have hg := hw.w.2.taskGen w (by simpa using hlt)
      simp only [St.w6_view_wg, St.w6_view_ng, St.w6_view_gen, WaitSt.w6g] at hg
      exact ⟨htp.waits w hst, hg.1, by rw [hg.2]; rfl⟩
    · exact htp.waits w (hw.t46_started h w (Or.inr hk))
  all_goals exact (t46_stepFrame_E c k _ rfl).toK

theorem t46_step_K {n0 : Nat} {c : Cfg} (hinv : T46Inv c) (htp : T46TP c) (hw : W6CInv n0 c) (hq : T46RQ c) :
    St.T46K c.st (step c).st := by
  cases hs : c.stack with
  | nil => rw [step_nil c hs]; exact St.T46K.refl _
  | cons f k =>
    cases hx : c.exn with
    | some ex => rw [step_cons_exn c f k ex hs hx]; exact t46_unwind_K c k ex f
    | none => rw [step_cons c f k hs hx]; exact t46_stepFrame_K hinv htp hw hq k f hs

theorem t46_step_tp {n0 : Nat} (c : Cfg) (hinv : T46Inv c) (htp : T46TP c) (hw : W6CInv n0 c) (hq : T46RQ c) :
    T46TP (step c) := by
  cases hs : c.stack with
  | nil => rw [step_nil c hs]; exact htp
  | cons f k =>
    have htop : T46FrameK c.st f := htp.frames f (by rw [hs]; simp)
    cases hx : c.exn with
    | some ex =>
      rw [step_cons_exn c f k ex hs hx]
      exact htp.ofPushed (P := fun _ => False) hs (t46_unwind_K c k ex f) (t46_unwind_kf c k ex f).pushed
        (fun _ h => h.elim) (.kept (unwind_ret c k ex f))
    | none =>
      rw [step_cons c f k hs hx]
      have hK := t46_stepFrame_K hinv htp hw hq k f hs
      obtain ⟨⟨fs, hfs, hp⟩, hret⟩ := stepFrame_pushes c k f
      refine htp.ofPushed hs hK ⟨fs, hfs, hp.t46_frameK hK htop htp.ret fun r t hf => ?_⟩ (fun _ h => h) hret
      obtain ⟨-, hmem, -⟩ := hinv.top_ptBody (hf ▸ hs)
      exact htp.tasks r t hmem

/-- clause (own) -/
theorem T46TP.own {c : Cfg} (h : T46TP c) (r : Nat) (t : Task) (k : List Frame) (hs : c.stack = .ptOwn r t :: k) :
    t.parent = none ∧ t.e < c.st.evs.length := by
  obtain ⟨hpar, he, -⟩ := h.frames (.ptOwn r t) (by rw [hs]; simp)
  exact ⟨hpar, he⟩

theorem t46_start_tp (s : St) (ht : ∀ x t, t ∈ (s.comp x).tasks → s.T46TaskOk t)
    (hw : ∀ w, (s.wait w).started = true → s.T46WaitOk (s.wait w)) (d : Nat) (tape : List Entry) (op : ExtOp) :
    T46TP (startOf (envChange s d tape) op) := by
  refine ⟨?_, ?_, ?_, ?_⟩
  · rw [startOf_st]; exact ht
  · rw [startOf_st]; exact hw
  · cases op <;> (intro g hg; simp [startOf, startDo, startTick, startFlush, startRun, Cfg.start] at hg) <;>
      first | (rcases hg with h1 | h1 <;> subst h1 <;> trivial) | (subst hg; trivial)
  · have : (startOf (envChange s d tape) op).ret = .none := by cases op <;> rfl
    rw [this]; intro g hg; cases hg

/-- the guard: no re-entry of the task loop, no root change under an active task loop -/
structure T46GuardMin2 (c : Cfg) : Prop where
  tick : ∀ x k, c.stack = .tick x :: k → c.exn = none → (c.st.comp x).tasks ≠ [] →
    t46_quiet k = true ∧ c.st.rootOf x = x
  root : ∀ x ts, Frame.taskLoop x ts ∈ c.stack → (step c).st.rootOf x = c.st.rootOf x

theorem T46Guard.of_min2 {n0 : Nat} {c : Cfg} (hm : T46GuardMin2 c) (hw : W6CInv n0 c) (hq : T46RQ c) (htp : T46TP c) :
    T46Guard c :=
  T46Guard.of_min ⟨hm.tick, hm.root, fun r t k _ hs _ _ => htp.own r t k hs⟩ hw hq

/-- admissible sessions (`W6ReachW`) on which (tick) and (root) hold at every step taken -/
inductive T46ReachM2 (s0 : St) : Cfg → Prop
  | init (d : Nat) (tape : List Entry) (op : ExtOp) (hop : op.w6ok s0.hs.length) :
      T46ReachM2 s0 (startOf (envChange s0 d tape) op)
  | step {c : Cfg} : T46ReachM2 s0 c → T46GuardMin2 c → T46ReachM2 s0 (CV.Core.step c)
  | next {c : Cfg} (d : Nat) (tape : List Entry) (op : ExtOp) (hop : op.w6ok s0.hs.length) :
      T46ReachM2 s0 c → done c = true → T46ReachM2 s0 (startOf (envChange c.st d tape) op)

theorem T46ReachM2.admissible {s0 : St} {c : Cfg} (h : T46ReachM2 s0 c) : W6ReachW s0.hs.length s0 c := by
  induction h with
  | init d tape op hop => exact W6ReachW.init d tape op hop
  | step _ _ ih => exact W6ReachW.step ih
  | next d tape op hop _ hd ih => exact W6ReachW.next d tape op hop ih hd

/-- one induction for the three: the guard at a step comes from `T46TP`, whose step needs `T46Inv`, whose step needs the guard -/
theorem T46ReachM2.all {s0 : St} (h0 : T46Init s0) (hi : W6InitWait s0) (hq : T46InitQ s0) {c : Cfg}
    (h : T46ReachM2 s0 c) : T46Reach s0 c ∧ T46Inv c ∧ T46TP c := by
  induction h with
  | init d tape op _ =>
    refine ⟨T46Reach.init d tape op, t46_reach_inv h0 _ (T46Reach.init d tape op), ?_⟩
    exact t46_start_tp s0 (fun x t ht => by rw [h0.tasks x] at ht; cases ht)
      (fun w hw => by
        have : s0.wait w = dfltWait := by unfold St.wait; rw [h0.waits]; rfl
        rw [this] at hw; cases hw) d tape op
  | @step c0 hprev hg ih =>
    obtain ⟨hr, hinv, htp⟩ := ih
    have hw := hprev.admissible.cinv hi
    have hrq := t46_reach_rq hq _ hprev.admissible.reach
    have hguard := T46Guard.of_min2 hg hw hrq htp
    exact ⟨T46Reach.step hr hguard, t46_step_inv _ hinv hguard, t46_step_tp c0 hinv htp hw hrq⟩
  | @next c0 d tape op _ hprev hd ih =>
    obtain ⟨hr, hinv, htp⟩ := ih
    have hr' := T46Reach.next d tape op hr hd
    exact ⟨hr', t46_reach_inv h0 _ hr', t46_start_tp c0.st htp.tasks htp.waits d tape op⟩

end CV.Core
