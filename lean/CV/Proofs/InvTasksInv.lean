import CV.Proofs.InvTasksBase
import CV.Proofs.CoreStack
/-
The configuration invariant `T46Inv`, the run hypothesis `T46Guard`, and the lemmas about stack shapes.

`T46Inv c`
  * `acct`  : for every event e,  (frame weights of e on the stack) ≤ slack of e
              i.e.  waiting e ≥ task weights + pending-wait weights + frame weights  (all weights ≥ 0);
  * `nd`    : task sets are duplicate-free;
  * `shape` : a `.taskLoop x ts` frame has only quiet frames below it (no task frame, no other task loop, no handler
              in progress), `x` is its own root, `ts` is a duplicate-free part of x's task set; a task frame
              (`.processTask / .ptBody / .ptOwn / .ptParent r t`) sits directly on (its `ptFin` and) the task loop of
              the same component, `t` has been taken out of the loop's list, and - except for `.ptParent`, which runs
              after the unregistration - `t` is still in the task set.  So at most ONE task is in flight.

At the end, the forms in which a step keeps the invariant (`T46Inv.go`, `goLight`, `goPlain`; those for the task frames,
`goUnder`, `goUnderM`, `goTask`, `goParent`, are in InvTasksStep.lean); every arm except `tick`, the task loop and the task
frames pushes only plain frames (`stepFrame_t46s`).
-/
namespace CV.Core

def Frame.t46_plain : Frame → Bool
  | .processTask .. => false
  | .ptBody .. => false
  | .ptOwn .. => false
  | .ptParent .. => false
  | .taskLoop .. => false
  | _ => true

/-- frames that must not be below a task loop: task frames, task loops, a handler in progress -/
def Frame.t46_noisy : Frame → Bool
  | .processTask .. => true
  | .ptBody .. => true
  | .ptOwn .. => true
  | .ptParent .. => true
  | .taskLoop .. => true
  | .hAfter .. => true
  | .hApply .. => true
  | _ => false

def t46_quiet (k : List Frame) : Bool := k.all fun f => !f.t46_noisy

/-- what lies below a task frame of the task `t` of component `r`: (the `ptFin` of `processTask` and) the task loop of `r`,
from whose list `t` has been taken -/
def T46Under (r : Nat) (t : Task) : List Frame → Prop
  | .taskLoop x ts :: _ => x = r ∧ t ∉ ts
  | .ptFin _ _ :: .taskLoop x ts :: _ => x = r ∧ t ∉ ts
  | _ => False

/-- `.processTask` sits directly on the task loop -/
def T46Under0 (r : Nat) (t : Task) : List Frame → Prop
  | .taskLoop x ts :: _ => x = r ∧ t ∉ ts
  | _ => False

/-- the clause of `T46Inv.shape` for the frame `f` lying on `k`; it restricts only the task loop and the task frames -/
def T46FrameOk (s : St) (k : List Frame) : Frame → Prop
  | .taskLoop x ts => t46_quiet k = true ∧ s.rootOf x = x ∧ ts.Nodup ∧ ∀ t ∈ ts, t ∈ (s.comp x).tasks
  | .processTask r t => T46Under0 r t k ∧ t ∈ (s.comp r).tasks
  | .ptBody r t => T46Under r t k ∧ t ∈ (s.comp r).tasks
  | .ptOwn r t => T46Under r t k ∧ t ∈ (s.comp r).tasks
  | .ptParent r t _ _ => T46Under r t k
  | _ => True

/-- every frame of the stack is `T46FrameOk` on what lies below it -/
def T46Shape (s : St) : List Frame → Prop
  | [] => True
  | f :: k => T46FrameOk s k f ∧ T46Shape s k

structure T46Inv (c : Cfg) : Prop where
  acct : ∀ e, t46_WF e c.stack ≤ c.st.t46_D e
  nd : ∀ x, (c.st.comp x).tasks.Nodup
  shape : T46Shape c.st c.stack

/-- RUN HYPOTHESIS (the section on the accounting in CV/Props/C04.lean says which clauses are real restrictions). -/
structure T46Guard (c : Cfg) : Prop where
  /-- `tick()` with pending tasks is entered only outside task processing and outside handlers, on a root -/
  tick : ∀ x k, c.stack = .tick x :: k → c.exn = none → (c.st.comp x).tasks ≠ [] →
    t46_quiet k = true ∧ c.st.rootOf x = x
  /-- a step does not change the root of a component whose task loop is active -/
  root : ∀ x ts, Frame.taskLoop x ts ∈ c.stack → (step c).st.rootOf x = c.st.rootOf x
  /-- the event whose handler returned a generator exists -/
  gen : ∀ r e rest err g k, c.stack = .hApply r e rest err (.gen g) :: k → c.exn = none → e < c.st.evs.length
  /-- the task whose own generator yields a `call`/`wait` is an ordinary generator task of an existing event -/
  own : ∀ r t k w, c.stack = .ptOwn r t :: k → c.exn = none → c.ret.yield = .sub w →
    t.parent = none ∧ t.e < c.st.evs.length
  /-- `_on_done` of a wait state runs on a started wait state (when its flag is already set - a second `_done` event of the
      awaited event, or a stale invocation after the resumption - it does nothing:
      `if state.flag or state.timed_out: return`) -/
  done : ∀ r h e k w, c.stack = .invoke r h e :: k → c.exn = none → (c.st.handler h).kind = .waitDone w →
    (c.st.wait w).started = true
  /-- `_on_tick` of a wait state runs on a started wait state -/
  tickh : ∀ r h e k w, c.stack = .invoke r h e :: k → c.exn = none → (c.st.handler h).kind = .waitTick w →
    (c.st.wait w).started = true

theorem T46FrameOk.of_plain {s : St} {k : List Frame} {f : Frame} (h : f.t46_plain = true) : T46FrameOk s k f := by
  cases f <;> first | trivial | cases h

theorem Frame.t46_plain_of_quiet {f : Frame} (h : f.t46_noisy = false) : f.t46_plain = true := by
  cases f <;> first | rfl | cases h

theorem Frame.t46_wt_plain {f : Frame} (e : Nat) (h : f.t46_plain = true) : f.t46_wt e = 0 := by
  cases f <;> first | rfl | cases h

theorem t46_WF_plain (e : Nat) : ∀ (fs : List Frame), (∀ f ∈ fs, f.t46_plain = true) → t46_WF e fs = 0 :=
  fun fs h => t46_sum_zero (Frame.t46_wt e) fs fun f hf => Frame.t46_wt_plain e (h f hf)

theorem T46Shape.of_quiet {s : St} : ∀ {k : List Frame}, t46_quiet k = true → T46Shape s k
  | [], _ => trivial
  | f :: k, h => by
    simp only [t46_quiet, List.all_cons, Bool.and_eq_true, Bool.not_eq_true'] at h
    exact ⟨T46FrameOk.of_plain (Frame.t46_plain_of_quiet h.1), T46Shape.of_quiet (by simpa [t46_quiet] using h.2)⟩

theorem T46Shape.append_plain {s : St} {k : List Frame} : ∀ {fs : List Frame}, (∀ f ∈ fs, f.t46_plain = true) →
    T46Shape s k → T46Shape s (fs ++ k)
  | [], _, h => h
  | f :: fs, hp, h => ⟨T46FrameOk.of_plain (hp f (by simp)), T46Shape.append_plain (fun g hg => hp g (by simp [hg])) h⟩

theorem t46_quiet_append_plain {k : List Frame} {fs : List Frame} (hfs : ∀ f ∈ fs, f.t46_noisy = false)
    (h : t46_quiet k = true) : t46_quiet (fs ++ k) = true := by
  simp only [t46_quiet, List.all_append, Bool.and_eq_true, List.all_eq_true, Bool.not_eq_true'] at h ⊢
  exact ⟨hfs, h⟩

theorem T46Shape.mono {s s' : St} (hG : St.T46G none s s') : ∀ {k : List Frame},
    (∀ x ts, Frame.taskLoop x ts ∈ k → s'.rootOf x = s.rootOf x) → T46Shape s k → T46Shape s' k
  | [], _, _ => trivial
  | f :: k, hr, h => by
    refine ⟨?_, T46Shape.mono hG (fun x ts hm => hr x ts (by simp [hm])) h.2⟩
    have h1 := h.1
    have hg : ∀ x t, t ∈ (s.comp x).tasks → t ∈ (s'.comp x).tasks := fun x t => hG.grow x t (by simp)
    cases f <;> try exact h1
    case processTask r t | ptBody r t | ptOwn r t =>
      obtain ⟨hu, hmem⟩ := h1
      exact ⟨hu, hg _ _ hmem⟩
    case taskLoop x ts =>
      obtain ⟨hq, hroot, hnd, hmem⟩ := h1
      exact ⟨hq, by rw [hr x ts (by simp)]; exact hroot, hnd, fun t ht => hg _ _ (hmem t ht)⟩

theorem T46Under.elim {r : Nat} {t : Task} {k : List Frame} (h : T46Under r t k) :
    ∃ pre ts k', k = pre ++ Frame.taskLoop r ts :: k' ∧ t ∉ ts ∧ (∀ f ∈ pre, f.t46_plain = true) ∧
      (pre = [] ∨ ∃ a b, pre = [Frame.ptFin a b]) := by
  rcases k with _ | ⟨f, k⟩
  · cases h
  · cases f <;> first | (simp [T46Under] at h; done) | skip
    case taskLoop x ts =>
      obtain ⟨h1, h2⟩ := h
      subst h1
      exact ⟨[], ts, k, rfl, h2, by simp, Or.inl rfl⟩
    case ptFin a b =>
      rcases k with _ | ⟨f2, k2⟩
      · simp [T46Under] at h
      · cases f2 <;> first | (simp [T46Under] at h; done) | skip
        case taskLoop x ts =>
          obtain ⟨h1, h2⟩ := h
          subst h1
          exact ⟨[.ptFin a b], ts, k2, rfl, h2, by simp [Frame.t46_plain], Or.inr ⟨a, b, rfl⟩⟩

theorem T46Under0.elim {r : Nat} {t : Task} {k : List Frame} (h : T46Under0 r t k) :
    ∃ ts k', k = Frame.taskLoop r ts :: k' ∧ t ∉ ts := by
  rcases k with _ | ⟨f, k⟩
  · cases h
  · cases f <;> first | (simp [T46Under0] at h; done) | skip
    case taskLoop x ts =>
      obtain ⟨h1, h2⟩ := h
      subst h1
      exact ⟨ts, k, rfl, h2⟩

theorem T46Under0.fin {r : Nat} {t : Task} {k : List Frame} (h : T46Under0 r t k) (a : Nat) (b : Option Nat) :
    T46Under r t (Frame.ptFin a b :: k) := by
  obtain ⟨ts, k', hk, hn⟩ := h.elim
  subst hk
  exact ⟨rfl, hn⟩

theorem T46Shape.drop {s : St} {k : List Frame} : ∀ {pre : List Frame}, T46Shape s (pre ++ k) → T46Shape s k
  | [], h => h
  | _ :: pre, h => T46Shape.drop (pre := pre) h.2

theorem T46Shape.under {s : St} {r : Nat} {t : Task} {k : List Frame} (hu : T46Under r t k) (hs : T46Shape s k) :
    s.rootOf r = r ∧ ∃ pre ts k', k = pre ++ Frame.taskLoop r ts :: k' ∧ t ∉ ts ∧ (∀ f ∈ pre, f.t46_plain = true) ∧
      t46_quiet k' = true ∧ ts.Nodup ∧ (∀ t' ∈ ts, t' ∈ (s.comp r).tasks) := by
  obtain ⟨pre, ts, k', hk, hn, hp, _⟩ := hu.elim
  subst hk
  obtain ⟨hq, hroot, hnd, hmem⟩ := (T46Shape.drop hs).1
  exact ⟨hroot, pre, ts, k', rfl, hn, hp, hq, hnd, hmem⟩

theorem T46Shape.under_mono {s s' : St} {r : Nat} {t : Task} {k : List Frame} (hu : T46Under r t k)
    (hs : T46Shape s k) (hG : St.T46G (some t) s s')
    (hr : ∀ x ts, Frame.taskLoop x ts ∈ k → s'.rootOf x = s.rootOf x) : T46Shape s' k := by
  obtain ⟨hroot, pre, ts, k', hk, hn, hp, hq, hnd, hmem⟩ := T46Shape.under hu hs
  subst hk
  refine T46Shape.append_plain hp ⟨⟨hq, ?_, hnd, fun t' ht' => ?_⟩, T46Shape.of_quiet hq⟩
  · rw [hr r ts (by simp)]; exact hroot
  · refine hG.grow r t' (fun he => hn ?_) (hmem t' ht')
    cases he; exact ht'

/-- the step that led to `c'` put only plain frames in the place of the top frame (`k` is the rest of the stack); the suffix
`_t46s` marks the lemmas that say so of an arm or an exit -/
def T46StackOk (k : List Frame) (c' : Cfg) : Prop := ∃ fs, c'.stack = fs ++ k ∧ ∀ f ∈ fs, f.t46_plain = true

theorem Frame.Pushes.t46_plain {c : Cfg} {f : Frame} {fs : List Frame} (h : f.Pushes c fs) (hf : f.t46_plain = true)
    (ht : ∀ x, f ≠ .tick x) : fs.all Frame.t46_plain = true := by
  cases h
  case tickTasks x _ => exact absurd rfl (ht x)
  case actsCall hg | stepGenCall hg => cases hg <;> rfl
  case processTask | ptBodyOwn | ptBodyParent | taskLoop => cases hf
  all_goals rfl

theorem stepFrame_t46s (c : Cfg) (k : List Frame) (f : Frame) (hf : f.t46_plain = true) (ht : ∀ x, f ≠ .tick x) :
    T46StackOk k (stepFrame c k f) :=
  let ⟨fs, hst, h⟩ := stepFrame_all c k f fun _ hp => hp.t46_plain hf ht
  ⟨fs, hst, List.all_eq_true.1 h⟩

theorem unwind_t46s (c : Cfg) (k : List Frame) (ex : Exn) (f : Frame) : T46StackOk k (unwind c k ex f) :=
  let ⟨fs, hst, h⟩ := unwind_all c k ex f fun _ => rfl
  ⟨fs, hst, List.all_eq_true.1 h⟩

theorem Cfg.pop_t46s (c : Cfg) (k : List Frame) (s : St) : T46StackOk k (c.pop k s) := ⟨[], rfl, fun _ h => by cases h⟩

theorem Cfg.contStop_t46s (c : Cfg) (k : List Frame) (s : St) (r : Nat) (t : Task) : T46StackOk k (c.contStop k s r t) :=
  pred_ite ⟨[_], rfl, fun g hg => List.all_eq_true.1 rfl g hg⟩ (Cfg.pop_t46s ..)

theorem Cfg.contError_t46s (c : Cfg) (k : List Frame) (s : St) (r : Nat) (t : Task) (b : Bool) :
    T46StackOk k (c.contError k s r t b) :=
  pred_ite ⟨[_], rfl, fun g hg => List.all_eq_true.1 rfl g hg⟩ (Cfg.pop_t46s ..)

/-- `shape` read at the top of the stack: the clause of the top frame (`T46FrameOk` computes it once `f` is a constructor)
and the shape of the rest -/
theorem T46Inv.top {c : Cfg} (h : T46Inv c) {f : Frame} {k : List Frame} (hs : c.stack = f :: k) :
    T46FrameOk c.st k f ∧ T46Shape c.st k := by
  have hsh := h.shape
  rwa [hs] at hsh

theorem T46Inv.tail {c : Cfg} (h : T46Inv c) {f : Frame} {k : List Frame} (hs : c.stack = f :: k) : T46Shape c.st k :=
  (h.top hs).2

theorem T46Inv.top_ptBody {c : Cfg} (h : T46Inv c) {r : Nat} {t : Task} {k : List Frame} (hs : c.stack = .ptBody r t :: k) :
    T46Under r t k ∧ t ∈ (c.st.comp r).tasks ∧ T46Shape c.st k :=
  let ⟨⟨hu, hmem⟩, hk⟩ := h.top hs
  ⟨hu, hmem, hk⟩

theorem T46Inv.top_ptOwn {c : Cfg} (h : T46Inv c) {r : Nat} {t : Task} {k : List Frame} (hs : c.stack = .ptOwn r t :: k) :
    T46Under r t k ∧ t ∈ (c.st.comp r).tasks ∧ T46Shape c.st k :=
  let ⟨⟨hu, hmem⟩, hk⟩ := h.top hs
  ⟨hu, hmem, hk⟩

theorem T46Inv.top_ptParent {c : Cfg} (h : T46Inv c) {r : Nat} {t : Task} {p : Nat} {v : Bool} {k : List Frame}
    (hs : c.stack = .ptParent r t p v :: k) : T46Under r t k ∧ T46Shape c.st k :=
  h.top hs

/-- The slack the step leaves has to pay for the frames `fs` put in the place of `f`, whose weight is set free.  Every arm
goes through this lemma, in one of the forms `goLight`, `goPlain` and, in InvTasksStep.lean, `goUnder`, `goUnderM`, `goTask`,
`goParent`. -/
theorem T46Inv.go {c c' : Cfg} (h : T46Inv c) {f : Frame} {k : List Frame} (hs : c.stack = f :: k) (fs : List Frame)
    (hfs : c'.stack = fs ++ k) (hD : ∀ e, c.st.t46_D e - f.t46_wt e + t46_WF e fs ≤ c'.st.t46_D e)
    (hnd : ∀ x, (c'.st.comp x).tasks.Nodup) (hsh : T46Shape c'.st (fs ++ k)) : T46Inv c' := by
  refine ⟨fun e => ?_, hnd, hfs ▸ hsh⟩
  have h1 := h.acct e
  rw [hs, t46_WF_cons] at h1
  rw [hfs, t46_WF_append]
  have := hD e
  omega

theorem T46Inv.goLight {c c' : Cfg} (h : T46Inv c) {f : Frame} {k : List Frame} (hs : c.stack = f :: k) (fs : List Frame)
    (hfs : c'.stack = fs ++ k) (hw : ∀ e, t46_WF e fs = 0) (hM : St.T46M c.st c'.st) (hG : St.T46G none c.st c'.st)
    (hsh : T46Shape c'.st (fs ++ k)) : T46Inv c' :=
  h.go hs fs hfs (fun e => by rw [hw e]; have := hM e; have := Frame.t46_wt_nonneg e f; omega) (hG.nd h.nd) hsh

theorem T46Inv.goPlain {c c' : Cfg} (h : T46Inv c) {f : Frame} {k : List Frame} (hs : c.stack = f :: k)
    (hM : St.T46M c.st c'.st) (hG : St.T46G none c.st c'.st)
    (hr : ∀ x ts, Frame.taskLoop x ts ∈ k → c'.st.rootOf x = c.st.rootOf x) (hst : T46StackOk k c') : T46Inv c' := by
  obtain ⟨fs, hfs, hp⟩ := hst
  exact h.goLight hs fs hfs (fun e => t46_WF_plain e fs hp) hM hG (T46Shape.append_plain hp (T46Shape.mono hG hr (h.tail hs)))

end CV.Core
