import CV.Proofs.InvTasksSpecial
/-
`St.T46K` over the helpers and arms: read off `St.T46E` where the accounting is left alone; then the helpers that register
tasks or overwrite generators, each under the range / kind hypothesis it needs about the state it is applied to, and the arms
that do (`stepGen`, the exits and the arms of the task frames, `hApply`, `invoke`), each under the hypotheses about its frame
that the invariants of InvTasksGuard.lean provide.
-/
namespace CV.Core

namespace St.T46K
variable {s t : St}

@[st_pres ↓] theorem addGen (h : St.T46K s t) (x : GenRec) : St.T46K s (t.addGen x) :=
  h.trans (St.T46E.addGen_self t x).toK

theorem setGen (h : St.T46K s t) (g : Nat) (x : GenRec)
    (hx : x.t46_carrier = (t.gen g).t46_carrier) : St.T46K s (t.setGen g x) :=
  h.trans (St.T46E.setGen_self t g x hx).toK

@[st_pres ↓] theorem addWait (h : St.T46K s t) (x : WaitSt) (hx : x.started = false) : St.T46K s (t.addWait x) :=
  h.trans (St.T46E.addWait_self t x hx).toK

end St.T46K

@[st_pres ↓] theorem St.T46K.addHandler {s t : St} (h : St.T46K s t) (x : Nat) : St.T46K s (t.addHandler x) :=
  h.trans (St.T46E.addHandler (.refl t) x).toK

@[st_pres ↓] theorem St.T46K.removeHandler {s t : St} (h : St.T46K s t) (x : Nat) (n : Option Name) :
    St.T46K s ((t.removeHandler x n).2) :=
  h.trans (St.T46E.removeHandler (.refl t) x n).toK

@[st_pres ↓] theorem St.T46K.fireRaw {s t : St} (h : St.T46K s t) (self e : Nat) (chans : List Chan) (prio : Int) :
    St.T46K s (t.fireRaw self e chans prio) :=
  h.trans (St.T46E.fireRaw (.refl t) self e chans prio).toK

@[st_pres ↓] theorem St.T46K.fireChild {s t : St} (h : St.T46K s t) (self p sfx : Nat) (chans : List Chan) :
    St.T46K s (t.fireChild self p sfx chans) :=
  h.trans (St.T46E.fireChild (.refl t) self p sfx chans).toK

@[st_pres ↓] theorem St.T46K.inform {s t : St} (h : St.T46K s t) (e : Nat) (force : Bool) :
    St.T46K s (t.inform e force) :=
  h.trans (St.T46E.inform (.refl t) e force).toK

@[st_pres ↓] theorem St.T46K.setValue {s t : St} (h : St.T46K s t) (e : Nat) (x : VItem) :
    St.T46K s (t.setValue e x) :=
  h.trans (St.T46E.setValue (.refl t) e x).toK

@[st_pres ↓] theorem St.T46K.fireTmplEv {s t : St} (h : St.T46K s t) (self : Nat) (ev : Ev) (target : Option Chan) (prio : Int) :
    St.T46K s (t.fireTmplEv self ev target prio) := by
  st_pres_unfold St.fireTmplEv

@[st_pres ↓] theorem St.T46K.registerPre {s t : St} (h : St.T46K s t) (c p : Nat) :
    St.T46K s ((t.registerPre c p).2) :=
  h.trans (St.T46E.registerPre (.refl t) c p).toK

@[st_pres ↓] theorem St.T46K.unregister {s t : St} (h : St.T46K s t) (c : Nat) :
    St.T46K s (t.unregister c) :=
  h.trans (St.T46E.unregister (.refl t) c).toK

@[st_pres ↓] theorem St.T46K.prepUnregPre {s t : St} (h : St.T46K s t) (c : Nat) :
    St.T46K s (t.prepUnregPre c) :=
  h.trans (St.T46E.prepUnregPre (.refl t) c).toK

@[st_pres ↓] theorem St.T46K.timerTick {s t : St} (h : St.T46K s t) (i e : Nat) :
    St.T46K s (t.timerTick i e) :=
  h.trans (St.T46E.timerTick (.refl t) i e).toK

@[st_pres ↓] theorem St.T46K.genCall {s t : St} (h : St.T46K s t) (owner i : Nat) (target : Option Chan) (timeout : Option Nat) :
    St.T46K s (t.genCall owner i target timeout) :=
  h.trans (St.T46E.genCall (.refl t) owner i target timeout).toK

@[st_pres ↓] theorem St.T46K.genWait {s t : St} (h : St.T46K s t) (owner : Nat) (name : Name) (target : Option Chan) (timeout : Option Nat) :
    St.T46K s (t.genWait owner name target timeout) :=
  h.trans (St.T46E.genWait (.refl t) owner name target timeout).toK

@[st_pres ↓] theorem St.T46K.fireException {s t : St} (h : St.T46K s t) (r e : Nat) :
    St.T46K s (t.fireException r e) :=
  h.trans (St.T46E.fireException (.refl t) r e).toK

@[st_pres ↓] theorem St.T46K.errorBranch {s t : St} (h : St.T46K s t) (r : Nat) (x : Task) (resumed : Bool) :
    St.T46K s ((t.errorBranch r x resumed).2) :=
  St.errorBranch_pres t r x resumed (by st_pres) (fun _ h => by st_pres) (fun _ h => by st_pres)
    (fun _ _ h => by st_pres) (fun _ _ h => by st_pres) (fun _ h => by st_pres) (fun _ _ h => by st_pres)

@[st_pres ↓] theorem St.T46K.setValueOpt {s t : St} (h : St.T46K s t) (e : Nat) (v : Option Nat) :
    St.T46K s (t.setValueOpt e v) :=
  h.trans (St.T46E.setValueOpt (.refl t) e v).toK

@[st_pres ↓] theorem St.T46K.onWaitEvent {s t : St} (h : St.T46K s t) (w e : Nat) :
    St.T46K s ((t.onWaitEvent w e).2) :=
  h.trans (St.T46E.onWaitEvent (.refl t) w e).toK

@[st_pres ↓] theorem St.T46K.onFallbackGE {s t : St} (h : St.T46K s t) (e : Nat) :
    St.T46K s ((t.onFallbackGE e).2) :=
  h.trans (St.T46E.onFallbackGE (.refl t) e).toK

@[st_pres ↓] theorem St.T46K.dispatchPre {s t : St} (h : St.T46K s t) (r e remaining : Nat) :
    St.T46K s ((t.dispatchPre r e remaining).2) :=
  h.trans (St.T46E.dispatchPre (.refl t) r e remaining).toK

@[st_pres ↓] theorem St.T46K.geTasksCheck {s t : St} (h : St.T46K s t) (r e : Nat) :
    St.T46K s (t.geTasksCheck r e) :=
  h.trans (St.T46E.geTasksCheck (.refl t) r e).toK

@[st_pres ↓] theorem St.T46K.flushBegin {s t : St} (h : St.T46K s t) (r : Nat) :
    St.T46K s (t.flushBegin r) :=
  h.trans (St.T46E.flushBegin (.refl t) r).toK

@[st_pres ↓] theorem St.T46K.actStep {s t : St} (h : St.T46K s t) (ctx : HCtx) (a : Act) : St.T46K s (actStep t ctx a).st :=
  h.trans (St.T46E.actStep (.refl t) ctx a).toK

@[st_pres ↓] theorem St.T46K.updateRootAll (s : St) : ∀ (fuel : Nat) (todo : List Nat) (root : Nat) (t : St),
    St.T46K s t → St.T46K s (St.updateRootAll fuel todo root t) :=
  fun fuel todo root t h => h.trans (St.T46E.updateRootAll t fuel todo root t (.refl t)).toK

theorem Cfg.contError_t46k {s0 : St} (c : Cfg) (k : List Frame) (s : St) (r : Nat) (x : Task) (resumed : Bool) (hle : St.T46K s0 s) :
    St.T46K s0 (c.contError k s r x resumed).st := by
  rw [Cfg.contError_st]; st_pres

/-! ## the arms that leave the accounting alone, one by one

Read off `t46_stepFrame_E` (`runCatchExn`, an arm of `unwind`: off `t46_unwind_E`).  With the arms at the end of the file
(`stepGen`, the task frames, `hApply`, `invoke`) this is `St.T46K` for every arm of `step` by name; `t46_stepFrame_K` takes
these arms all at once, from `t46_stepFrame_E` itself. -/

theorem Cfg.effectDone_t46k (c : Cfg) (k : List Frame) (r e : Nat) (announce : Bool) :
    St.T46K c.st (c.effectDone k r e announce).st :=
  (t46_stepFrame_E c k (.effectDone r e announce) rfl).toK

theorem Cfg.eventDone_t46k (c : Cfg) (k : List Frame) (r e : Nat) (err : Bool) :
    St.T46K c.st (c.eventDone k r e err).st :=
  (t46_stepFrame_E c k (.eventDone r e err) rfl).toK

theorem Cfg.updateRoot_t46k (c : Cfg) (k : List Frame) (todo : List Nat) (root : Nat) :
    St.T46K c.st (c.updateRoot k todo root).st :=
  (t46_stepFrame_E c k (.updateRoot todo root) rfl).toK

theorem Cfg.register_t46k (c : Cfg) (k : List Frame) (x p : Nat) :
    St.T46K c.st (c.register k x p).st :=
  (t46_stepFrame_E c k (.register x p) rfl).toK

theorem Cfg.registerFin_t46k (c : Cfg) (k : List Frame) (x : Nat) :
    St.T46K c.st (c.registerFin k x).st :=
  (t46_stepFrame_E c k (.registerFin x) rfl).toK

theorem Cfg.prepUnregFin_t46k (c : Cfg) (k : List Frame) (x : Nat) :
    St.T46K c.st (c.prepUnregFin k x).st :=
  (t46_stepFrame_E c k (.prepUnregFin x) rfl).toK

theorem Cfg.stopMgr_t46k (c : Cfg) (k : List Frame) (x : Nat) (code : Code) :
    St.T46K c.st (c.stopMgr k x code).st :=
  (t46_stepFrame_E c k (.stopMgr x code) rfl).toK

theorem Cfg.ticks_t46k (c : Cfg) (k : List Frame) (x n : Nat) :
    St.T46K c.st (c.ticks k x n).st :=
  (t46_stepFrame_E c k (.ticks x n) rfl).toK

theorem Cfg.stopFin_t46k (c : Cfg) (k : List Frame) (code : Code) :
    St.T46K c.st (c.stopFin k code).st :=
  (t46_stepFrame_E c k (.stopFin code) rfl).toK

theorem Cfg.timerNew_t46k (c : Cfg) (k : List Frame) (i : Nat) :
    St.T46K c.st (c.timerNew k i).st :=
  (t46_stepFrame_E c k (.timerNew i) rfl).toK

theorem Cfg.acts_t46k (c : Cfg) (k : List Frame) (ctx : HCtx) (prog : Prog) :
    St.T46K c.st (c.acts k ctx prog).st :=
  (t46_stepFrame_E c k (.acts ctx prog) rfl).toK

theorem Cfg.doFin_t46k (c : Cfg) (k : List Frame) (x : Nat) :
    St.T46K c.st (c.doFin k x).st :=
  (t46_stepFrame_E c k (.doFin x) rfl).toK

theorem Cfg.drainQ_t46k (c : Cfg) (k : List Frame) (x : Nat) :
    St.T46K c.st (c.drainQ k x).st :=
  (t46_stepFrame_E c k (.drainQ x) rfl).toK

theorem Cfg.processTask_t46k (c : Cfg) (k : List Frame) (r : Nat) (x : Task) :
    St.T46K c.st (c.processTask k r x).st :=
  (t46_stepFrame_E c k (.processTask r x) rfl).toK

theorem Cfg.ptFin_t46k (c : Cfg) (k : List Frame) (r : Nat) (handling : Option Nat) :
    St.T46K c.st (c.ptFin k r handling).st :=
  (t46_stepFrame_E c k (.ptFin r handling) rfl).toK

theorem Cfg.dispatcher_t46k (c : Cfg) (k : List Frame) (r e remaining : Nat) :
    St.T46K c.st (c.dispatcher k r e remaining).st :=
  (t46_stepFrame_E c k (.dispatcher r e remaining) rfl).toK

theorem Cfg.hLoop_t46k (c : Cfg) (k : List Frame) (r e : Nat) (hs : List Nat) (err : Bool) (stale : Outcome) :
    St.T46K c.st (c.hLoop k r e hs err stale).st :=
  (t46_stepFrame_E c k (.hLoop r e hs err stale) rfl).toK

theorem Cfg.invokeUser_t46k {s0 : St} (c : Cfg) (k : List Frame) (s : St) (h e owner p : Nat) (hle : St.T46K s0 s) :
    St.T46K s0 (c.invokeUser k s h e owner p).st :=
  hle.trans (Cfg.invokeUser_t46e c k s h e owner p (.refl s)).toK

theorem Cfg.invokeFin_t46k (c : Cfg) (k : List Frame) (e h : Nat) :
    St.T46K c.st (c.invokeFin k e h).st :=
  (t46_stepFrame_E c k (.invokeFin e h) rfl).toK

theorem Cfg.hAfter_t46k (c : Cfg) (k : List Frame) (r e : Nat) (rest : List Nat) (err : Bool) (stale : Outcome) :
    St.T46K c.st (c.hAfter k r e rest err stale).st :=
  (t46_stepFrame_E c k (.hAfter r e rest err stale) rfl).toK

theorem Cfg.dispFin_t46k (c : Cfg) (k : List Frame) (r e : Nat) (err : Bool) :
    St.T46K c.st (c.dispFin k r e err).st :=
  (t46_stepFrame_E c k (.dispFin r e err) rfl).toK

theorem Cfg.dispatchLoop_t46k (c : Cfg) (k : List Frame) (r : Nat) :
    St.T46K c.st (c.dispatchLoop k r).st :=
  (t46_stepFrame_E c k (.dispatchLoop r) rfl).toK

theorem Cfg.flush_t46k (c : Cfg) (k : List Frame) (x : Nat) :
    St.T46K c.st (c.flush k x).st :=
  (t46_stepFrame_E c k (.flush x) rfl).toK

theorem Cfg.flushFin_t46k (c : Cfg) (k : List Frame) (r : Nat) (old : Bool) :
    St.T46K c.st (c.flushFin k r old).st :=
  (t46_stepFrame_E c k (.flushFin r old) rfl).toK

theorem Cfg.tick_t46k (c : Cfg) (k : List Frame) (x : Nat) :
    St.T46K c.st (c.tick k x).st :=
  (t46_stepFrame_E c k (.tick x) rfl).toK

theorem Cfg.taskLoop_t46k (c : Cfg) (k : List Frame) (x : Nat) (ts : List Task) :
    St.T46K c.st (c.taskLoop k x ts).st :=
  (t46_stepFrame_E c k (.taskLoop x ts) rfl).toK

theorem Cfg.tickFin_t46k (c : Cfg) (k : List Frame) (x : Nat) (old : Bool) :
    St.T46K c.st (c.tickFin k x old).st :=
  (t46_stepFrame_E c k (.tickFin x old) rfl).toK

theorem Cfg.tickGen_t46k (c : Cfg) (k : List Frame) (x : Nat) :
    St.T46K c.st (c.tickGen k x).st :=
  (t46_stepFrame_E c k (.tickGen x) rfl).toK

theorem Cfg.run_t46k (c : Cfg) (k : List Frame) (x : Nat) :
    St.T46K c.st (c.run k x).st :=
  (t46_stepFrame_E c k (.run x) rfl).toK

theorem Cfg.runLoop_t46k (c : Cfg) (k : List Frame) (x : Nat) :
    St.T46K c.st (c.runLoop k x).st :=
  (t46_stepFrame_E c k (.runLoop x) rfl).toK

theorem Cfg.runFin_t46k (c : Cfg) (k : List Frame) (x : Nat) :
    St.T46K c.st (c.runFin k x).st :=
  (t46_stepFrame_E c k (.runFin x) rfl).toK

theorem Cfg.runCatchExn_t46k (c : Cfg) (k : List Frame) (x : Nat) (ex : Exn) :
    St.T46K c.st (c.runCatchExn k x ex).st :=
  (t46_unwind_E c k ex (.runCatch x)).toK

theorem Cfg.runRethrow_t46k (c : Cfg) (k : List Frame) (ex : Exn) :
    St.T46K c.st (c.runRethrow k ex).st :=
  (t46_stepFrame_E c k (.runRethrow ex) rfl).toK

theorem St.t46_gen_addGen_eq (s : St) (x : GenRec) : (s.addGen x).gen s.gens.length = x :=
  (St.w6_addGen_gen s x _).trans (if_pos rfl)

theorem St.T46TaskOk.none (s : St) (e g : Nat) (he : e < s.evs.length) : s.T46TaskOk ⟨e, g, none⟩ :=
  ⟨he, fun h => (by cases h), fun _ h => (by cases h)⟩

theorem St.t46_nc.addGen {s : St} {p : Nat} (h : s.t46_nc p) (x : GenRec) : (s.addGen x).t46_nc p :=
  h.mono (St.T46E.addGen_self s x).toK

theorem St.T46K.modWait2Set {s t : St} (h : St.T46K s t) (w : Nat) (F G : WaitSt → WaitSt)
    (hG : ∀ y, t.T46WaitOk (G y)) : St.T46K s ((t.modWait w F).modWait w G) := by
  refine h.trans ⟨Nat.le_refl _, Nat.le_refl _, fun _ _ => rfl, fun _ _ ht => Or.inl ht, fun w' hw => ?_⟩
  rw [St.w6_modWait_wait_eq] at hw ⊢
  split
  · exact Or.inr (hG _)
  · rename_i hc
    rw [if_neg hc] at hw
    rw [St.w6_modWait_wait_eq] at hw ⊢
    rw [St.w6_modWait_waits_length] at hc
    rw [if_neg hc] at hw ⊢
    exact Or.inl ⟨hw, rfl, rfl⟩

theorem St.t46_startWait_K (s : St) (w : Nat) (G : WaitSt → WaitSt) (e pg : Nat)
    (hG : ∀ y, (G y).taskEvent = e ∧ (G y).parentGen = pg)
    (he : e < s.evs.length) (hpg : s.t46_nc pg) : St.T46K s ((s.startWait w).modWait w G) := by
  obtain ⟨u, F, hE, hu⟩ := St.t46_startWait_eq s w
  rw [hu]
  refine hE.toK.modWait2Set w F G fun y => ?_
  unfold St.T46WaitOk
  rw [(hG y).1, (hG y).2]
  exact ⟨Nat.lt_of_lt_of_le he hE.evs, hpg.mono hE.toK⟩

theorem St.t46_applyValue_K (s : St) (r e : Nat) (v : Outcome) (he : ∀ g, v = .gen g → e < s.evs.length) :
    St.T46K s (s.applyValue r e v) := by
  unfold St.applyValue
  split
  · st_pres
  · rename_i g
    refine St.T46K.registerTask (St.T46K.modEv (St.T46K.refl s) _ _) r _ ?_
    exact St.T46TaskOk.none _ e g (by simpa [St.modEv] using he g rfl)
  · st_pres
  · st_pres

theorem St.t46_onWaitDone_K (s : St) (w e : Nat) (hte : (s.wait w).taskEvent < s.evs.length)
    (hg : (s.wait w).task < s.gens.length ∧ (s.gen (s.wait w).task).t46_carrier = true)
    (hpn : s.t46_nc (s.wait w).parentGen) :
    St.T46K s (s.onWaitDone w e).2 := by
  refine St.onWaitDone_pres s w e (St.T46K.refl s) (fun _ h n hu => hu.removeHandler h n) fun _ _ => ?_
  apply St.T46K.registerTask
  case hx => exact ⟨hte, fun _ => hg, fun p hp => by cases hp; exact hpn⟩
  st_pres

theorem St.t46_onWaitTick_K (s : St) (w : Nat) (hte : (s.wait w).taskEvent < s.evs.length)
    (hpn : s.t46_nc (s.wait w).parentGen) :
    St.T46K s (s.onWaitTick w).2 := by
  refine St.onWaitTick_pres s w (St.T46K.refl s) (fun _ h n hu => hu.removeHandler h n) (fun _ _ _ => ?_) (by st_pres)
  apply St.T46K.registerTask
  case h => st_pres
  refine ⟨hte, fun _ => ⟨?_, ?_⟩, fun p hp => by
    cases hp
    exact St.t46_nc.addGen (s := s.modWait w fun x => { x with timedOut := true }) hpn _⟩
  · show s.gens.length < (s.gens ++ [GenRec.exc w false]).length
    simp
  · rw [St.w6_addGen_gen]; exact congrArg GenRec.t46_carrier (if_pos rfl)

theorem St.t46_stopIteration_K (s : St) (r : Nat) (t : Task) (he : t.e < s.evs.length) :
    St.T46K s (s.stopIteration r t).2 := by
  rcases St.t46_stopIteration_cases s r t with ⟨p, _, h⟩ | ⟨_, h | h⟩ <;> rw [h] <;> unfold St.t46_stop1
  · refine St.T46K.registerTask (St.T46K.unregisterTask (St.T46K.modEv (St.T46K.refl s) _ _) _ _) r _ ?_
    exact St.T46TaskOk.none _ _ _ (by simpa [St.modEv, St.unregisterTask, St.modComp] using he)
  · st_pres
  · st_pres

theorem St.t46_ownSub_K (s : St) (r : Nat) (t : Task) (w : Nat) (he : t.e < s.evs.length) (hg : s.t46_nc t.g) :
    St.T46K s (s.ownSub r t w) := by
  unfold St.ownSub
  dsimp only
  refine St.T46K.trans (?_ : St.T46K s ((s.modEv t.e fun x => { x with waiting := x.waiting + 1 }).unregisterTask r
    ⟨t.e, t.g, none⟩)) (St.t46_startWait_K _ w _ t.e t.g (fun _ => ⟨rfl, rfl⟩) ?_ ?_)
  · st_pres
  · simpa [St.modEv, St.unregisterTask, St.modComp] using he
  · exact hg

theorem St.t46_parentSub_K (s : St) (r : Nat) (t : Task) (p w2 : Nat) (v : Bool) (he : t.e < s.evs.length)
    (hp : s.t46_nc p) : St.T46K s (s.parentSub r t p w2 v) := by
  unfold St.parentSub
  by_cases hv : v = true
  · rw [if_pos hv]
    refine St.T46K.registerTask (St.T46K.addGen (St.T46K.refl s) _) r _
      ⟨he, fun _ => ⟨?_, ?_⟩, fun p' hp' => by cases hp'; exact hp.addGen _⟩
    · show s.gens.length < (s.gens ++ [GenRec.one none false]).length
      simp
    · rw [St.w6_addGen_gen, if_pos rfl]; rfl
  · rw [if_neg hv]
    exact St.t46_startWait_K s w2 _ t.e p (fun _ => ⟨rfl, rfl⟩) he hp

theorem St.t46_parentPlain_K (s : St) (r : Nat) (t : Task) (p : Nat) (v : Option Nat) (vt : Bool) (he : t.e < s.evs.length)
    (hp : s.t46_nc p) : St.T46K s (s.parentPlain r t p v vt) := by
  unfold St.parentPlain
  by_cases hv : vt = true
  · rw [if_pos hv]
    refine St.T46K.registerTask (St.T46K.addGen (St.T46K.refl s) _) r _
      ⟨he, fun _ => ⟨?_, ?_⟩, fun p' hp' => by cases hp'; exact hp.addGen _⟩
    · show s.gens.length < (s.gens ++ [GenRec.one v false]).length
      simp
    · rw [St.w6_addGen_gen, if_pos rfl]; rfl
  · rw [if_neg hv]
    have h1 : St.T46K s ((s.modEv t.e fun x => { x with waiting := x.waiting - 1 }).setValueOpt t.e v) := by st_pres
    exact St.T46K.registerTask h1 r _ (St.T46TaskOk.none _ _ _ (Nat.lt_of_lt_of_le he h1.evs))

theorem St.t46_resumeGenPre_K (s : St) (g : Nat) (silent : Bool) : St.T46K s (s.resumeGenPre g silent) :=
  (St.T46E.resumeGenPre (.refl s) g silent).toK

theorem St.t46_gen_lt_of_user (s : St) (g : Nat) {e h o : Nat} {rest : Prog} {st : Nat} {pc : Option Bool} {sd : Bool}
    (hg : s.gen g = .user e h o rest st pc sd) : g < s.gens.length :=
  s.w6_gen_lt_of_user g hg

theorem Cfg.t46_stepGen_K (c : Cfg) (k : List Frame) (g : Nat) : St.T46K c.st (c.stepGen k g).st :=
  (t46_stepFrame_E c k (.stepGen g) rfl).toK

theorem Cfg.t46_contStop_K {s0 : St} (c : Cfg) (k : List Frame) (s : St) (r : Nat) (t : Task) (hle : St.T46K s0 s)
    (he : t.e < s.evs.length) : St.T46K s0 (c.contStop k s r t).st := by
  rw [Cfg.contStop_st]
  exact hle.trans (St.t46_stopIteration_K s r t he)

/-- `ptBody` registers a task in one case only: the exit `stopIteration`, for which the event of `t` has to exist -/
theorem Cfg.t46_ptBody_K (c : Cfg) (k : List Frame) (r : Nat) (t : Task) (he : t.e < c.st.evs.length) :
    St.T46K c.st (c.ptBody k r t).st := by
  have hc := Cfg.t46_ptBody_cases c k r t
  generalize c.ptBody k r t = c' at hc ⊢
  cases hc with
  | own u hE => exact hE.toK
  | stop u hE _ => exact Cfg.t46_contStop_K c k u r t hE.toK (Nat.lt_of_lt_of_le he hE.evs)
  | error u hE _ => exact Cfg.contError_t46k c k u r t false hE.toK
  | value u hE => exact hE.toK
  | resumed u s' p v hE _ hE2 _ => exact (St.T46K.unregisterTask hE.toK r t).trans hE2.toK
  | dropped u hE _ => exact St.T46K.unregisterTask hE.toK r t
  | uncaught u s' p hE _ hE2 _ => exact Cfg.contError_t46k c k s' r t true ((St.T46K.unregisterTask hE.toK r t).trans hE2.toK)
  | alone u hE _ _ => exact Cfg.contError_t46k c k _ r t false (St.T46K.unregisterTask hE.toK r t)

theorem Cfg.t46_ptOwn_K (c : Cfg) (k : List Frame) (r : Nat) (t : Task) (he : t.e < c.st.evs.length)
    (hg : c.st.t46_nc t.g) : St.T46K c.st (c.ptOwn k r t).st := by
  unfold Cfg.ptOwn
  split
  · simp only [Cfg.pop_st]; exact St.T46K.setValueOpt (St.T46K.refl _) _ _
  · simp only [Cfg.pop_st]; exact St.t46_ownSub_K _ r t _ he hg
  · exact Cfg.t46_contStop_K c k _ r t (St.T46K.refl _) he
  · exact Cfg.contError_t46k c k _ r t false (St.T46K.refl _)
  · exact St.T46K.refl _
  · exact St.T46K.refl _

theorem Cfg.t46_ptParent_K (c : Cfg) (k : List Frame) (r : Nat) (t : Task) (p : Nat) (v : Bool)
    (he : t.e < c.st.evs.length) (hp : c.st.t46_nc p) : St.T46K c.st (c.ptParent k r t p v).st := by
  unfold Cfg.ptParent
  split
  · simp only [Cfg.pop_st]; exact St.t46_parentSub_K _ r t p _ v he hp
  · simp only [Cfg.pop_st]; exact St.t46_parentPlain_K _ r t p _ v he hp
  · exact Cfg.t46_contStop_K c k _ r t (St.T46K.refl _) he
  · exact Cfg.contError_t46k c k _ r t true (St.T46K.refl _)
  · exact St.T46K.refl _
  · exact St.T46K.refl _

theorem Cfg.t46_hApply_K (c : Cfg) (k : List Frame) (r e : Nat) (rest : List Nat) (err : Bool) (v : Outcome)
    (he : e < c.st.evs.length) : St.T46K c.st (c.hApply k r e rest err v).st := by
  unfold Cfg.hApply
  dsimp only
  split <;> exact St.T46K.geTasksCheck (St.t46_applyValue_K c.st r e v (fun _ _ => he)) r e

theorem Cfg.t46_invoke_K (c : Cfg) (k : List Frame) (r h e : Nat)
    (hd : ∀ w, (c.st.handler h).kind = .waitDone w → c.st.T46WaitOk (c.st.wait w) ∧
      (c.st.wait w).task < c.st.gens.length ∧ (c.st.gen (c.st.wait w).task).t46_carrier = true)
    (ht : ∀ w, (c.st.handler h).kind = .waitTick w → c.st.T46WaitOk (c.st.wait w)) :
    St.T46K c.st (c.invoke k r h e).st := by
  rcases Cfg.t46_invoke_cases c k r h e with hE | ⟨S, w, hE, hw, hg, ⟨hk, he⟩ | ⟨hk, he⟩⟩
  · exact hE.toK
  · obtain ⟨h1, h2, h3⟩ := hd w hk
    have h1' := h1.mono hE.toK
    rw [he]
    refine hE.toK.trans (St.t46_onWaitDone_K S w e (by rw [hw]; exact h1'.1) ?_ (by rw [hw]; exact h1'.2))
    unfold St.gen
    rw [hw, hg]
    exact ⟨h2, h3⟩
  · have h1' := (ht w hk).mono hE.toK
    rw [he]
    exact hE.toK.trans (St.t46_onWaitTick_K S w (by rw [hw]; exact h1'.1) (by rw [hw]; exact h1'.2))

end CV.Core
