import CV.Proofs.InvTasksStep
import CV.Proofs.InvTasksV
/-
The RUN-LEVEL `eventDone_once` (`t46_trace_once`).

DISPATCH CONTEXTS.  A dispatch of `e` lives on the stack as exactly one
frame `.hLoop / .hAfter / .hApply / .dispFin / .eventDone r e …` at any time (`Frame.t46_cw e` = 1 for these).  Every arm
of `step` pushes at most as many contexts of `e` as its own frame is a SOURCE for (`Frame.t46_sw e`: the context frames
themselves, `.dispatcher r e`, and the task frames of a task of `e`, whose exit may call `_eventDone(e)`), and the frames
`.hLoop / .dispFin / .eventDone` only ever sit on top of the stack.

`T46Trace s0 e c p`: `c` is a configuration of a guarded session from `s0` and along the way the end-of-event step of `e`
(`_eventDone(e)` entered with `waitingHandlers = 0`: `t46_passB`) went through `p` times.
`T46Once e n0 c p`:
    p + (dispatch contexts of e open on the stack) + n0 ≤ number of `.disp e` entries in the log          (k)
    waitingHandlers(e) ≥ 1  →  p + 1 + n0 ≤ number of `.disp e` entries in the log                         (j)
    `.hLoop / .dispFin / .eventDone` frames sit only on top of the stack                                    (top)
(k) says: every pass is paid for by its own dispatch.  (j) is what lets a task of `e` perform the pass after its
dispatcher has returned: while obligations exist, one dispatch is still unpaid.
-/
namespace CV.Core

def Frame.t46_cw (e : Nat) : Frame → Nat
  | .hLoop _ e' _ _ _ => if e' = e then 1 else 0
  | .hAfter _ e' _ _ _ => if e' = e then 1 else 0
  | .hApply _ e' _ _ _ => if e' = e then 1 else 0
  | .dispFin _ e' _ => if e' = e then 1 else 0
  | .eventDone _ e' _ => if e' = e then 1 else 0
  | _ => 0

def Frame.t46_sw (e : Nat) : Frame → Nat
  | .hLoop _ e' _ _ _ => if e' = e then 1 else 0
  | .hAfter _ e' _ _ _ => if e' = e then 1 else 0
  | .hApply _ e' _ _ _ => if e' = e then 1 else 0
  | .dispFin _ e' _ => if e' = e then 1 else 0
  | .eventDone _ e' _ => if e' = e then 1 else 0
  | .dispatcher _ e' _ => if e' = e then 1 else 0
  | .ptBody _ t => if t.e = e then 1 else 0
  | .ptOwn _ t => if t.e = e then 1 else 0
  | .ptParent _ t _ _ => if t.e = e then 1 else 0
  | _ => 0

def Frame.t46_topOnly : Frame → Bool
  | .hLoop .. => true
  | .dispFin .. => true
  | .eventDone .. => true
  | _ => false

def t46_ctx (e : Nat) (k : List Frame) : Nat := (k.map (Frame.t46_cw e)).sum

@[simp] theorem t46_ctx_nil (e : Nat) : t46_ctx e [] = 0 := rfl

@[simp] theorem t46_ctx_cons (e : Nat) (f : Frame) (k : List Frame) : t46_ctx e (f :: k) = f.t46_cw e + t46_ctx e k := by
  simp [t46_ctx]

theorem t46_ctx_append (e : Nat) (a b : List Frame) : t46_ctx e (a ++ b) = t46_ctx e a + t46_ctx e b := by
  simp [t46_ctx]

theorem Frame.t46_cw_le_sw (e : Nat) (f : Frame) : f.t46_cw e ≤ f.t46_sw e := by
  cases f <;> simp [Frame.t46_cw, Frame.t46_sw]

/-- the step that led to `c'` put, in the place of the top frame (`k` is the rest of the stack), frames with at most `b e`
dispatch contexts of each event `e`, and none that has to be on top except at the top -/
def T46CtxOk (b : Nat → Nat) (k : List Frame) (c' : Cfg) : Prop :=
  ∃ fs, c'.stack = fs ++ k ∧ (∀ g ∈ fs.tail, g.t46_topOnly = false) ∧ ∀ e, t46_ctx e fs ≤ b e

theorem Frame.Pushes.t46_ctx {c : Cfg} {f : Frame} {fs : List Frame} (h : f.Pushes c fs) :
    fs.tail.all (fun g => !g.t46_topOnly) = true ∧ ∀ e, t46_ctx e fs ≤ f.t46_sw e := by
  cases h
  case actsCall hg | stepGenCall hg => cases hg <;> exact ⟨rfl, fun e => Nat.zero_le _⟩
  case ptBodyDone | ptOwnDone | ptParentDone | dispatcher | hLoopEnd | hLoop | hAfterStop | hAfter | hApplyEnd | hApply |
      dispFin =>
    exact ⟨rfl, fun e => by simp [Frame.t46_cw, Frame.t46_sw]⟩
  all_goals exact ⟨rfl, fun e => Nat.zero_le _⟩

theorem t46_stepFrame_ctx (c : Cfg) (k : List Frame) (f : Frame) :
    T46CtxOk (fun e => f.t46_sw e) k (stepFrame c k f) := by
  obtain ⟨fs, hst, hp⟩ := (stepFrame_pushes c k f).stack
  exact ⟨fs, hst, fun g hg => by simpa using List.all_eq_true.1 hp.t46_ctx.1 g hg, hp.t46_ctx.2⟩

theorem Cfg.pop_t46c (b : Nat → Nat) (c : Cfg) (k : List Frame) (s : St) : T46CtxOk b k (c.pop k s) :=
  ⟨[], rfl, fun _ h => by simp at h, fun _ => Nat.zero_le _⟩

/-- `_eventDone` itself ends the context it stands for -/
theorem Cfg.eventDone_t46c0 (c : Cfg) (k : List Frame) (r e : Nat) (a : Bool) :
    T46CtxOk (fun _ => 0) k (c.eventDone k r e a) :=
  pred_ite ⟨[_], rfl, (fun _ h => by cases h), fun _ => Nat.le_refl 0⟩ (Cfg.pop_t46c ..)

theorem t46_unwind_ctx (c : Cfg) (k : List Frame) (ex : Exn) (f : Frame) : T46CtxOk (fun _ => 0) k (unwind c k ex f) := by
  rcases unwind_stack c k ex f with h | ⟨x, rfl, h⟩
  · exact ⟨[], h, (fun _ h => by cases h), fun _ => Nat.le_refl 0⟩
  · exact ⟨_, h, fun g hg => by simp at hg; rcases hg with rfl | rfl <;> rfl, fun _ => Nat.le_refl 0⟩

/-- the event whose `waitingHandlers` the step of a frame may change -/
def Frame.t46_wev : Frame → Option Nat
  | .hApply _ e _ _ _ => some e
  | .ptBody _ t => some t.e
  | .ptOwn _ t => some t.e
  | .ptParent _ t _ _ => some t.e
  | _ => none

theorem t46_stepFrame_V (c : Cfg) (k : List Frame) (f : Frame) : St.T46V f.t46_wev c.st (stepFrame c k f).st := by
  cases f
  case ptBody r t => exact Cfg.ptBody_t46v c k r t rfl
  case ptOwn r t => exact Cfg.ptOwn_t46v c k r t rfl
  case ptParent r t p v => exact Cfg.ptParent_t46v c k r t p v rfl
  case hApply r e rest err v => exact Cfg.hApply_t46v c k r e rest err v rfl
  case invoke r h e => exact Cfg.invoke_t46v c k r h e
  all_goals exact (t46_stepFrame_E c k _ rfl).toV

theorem Cfg.t46_dispatcher_log (c : Cfg) (k : List Frame) (r e rem : Nat) :
    ∃ es, (c.dispatcher k r e rem).st.log = es ++ c.st.log ∧ Entry.disp e ∈ es := by
  have hle : St.Le (c.st.logE (.disp e)) (c.dispatcher k r e rem).st := by
    unfold Cfg.dispatcher St.dispatchPre
    (try dsimp only)
    st_pres
  obtain ⟨es, h1, _⟩ := hle.hist
  exact ⟨es ++ [.disp e], by rw [h1]; simp [St.logE], by simp⟩

theorem Frame.t46_sw_le_one (e : Nat) (f : Frame) : f.t46_sw e ≤ 1 := by
  cases f <;> simp only [Frame.t46_sw] <;> first | omega | (split <;> omega)

theorem Frame.t46_wev_sw (e : Nat) (f : Frame) (h : f.t46_wev = some e) : f.t46_sw e = 1 := by
  cases f <;> simp only [Frame.t46_wev] at h <;> first | (cases h; simp [Frame.t46_sw]; done) | cases h

theorem Frame.t46_cw_zero (e : Nat) (f : Frame) (h1 : f.t46_noisy = false) (h2 : f.t46_topOnly = false) :
    f.t46_cw e = 0 := by
  cases f <;> simp_all [Frame.t46_cw, Frame.t46_noisy, Frame.t46_topOnly]

theorem t46_ctx_zero (e : Nat) : ∀ (k : List Frame), (∀ f ∈ k, f.t46_cw e = 0) → t46_ctx e k = 0
  | [], _ => rfl
  | f :: k, h => by
    rw [t46_ctx_cons, h f (by simp), t46_ctx_zero e k (fun g hg => h g (by simp [hg]))]

theorem T46Under.ctx_zero {s : St} {r : Nat} {t : Task} {k : List Frame} (hu : T46Under r t k) (hs : T46Shape s k)
    (htop : ∀ g ∈ k, g.t46_topOnly = false) (e : Nat) : t46_ctx e k = 0 := by
  obtain ⟨pre, ts, k', hk, _, _, hpre⟩ := hu.elim
  subst hk
  have hq := (T46Shape.loop_quiet hs).1
  simp only [t46_quiet, List.all_eq_true, Bool.not_eq_true'] at hq
  apply t46_ctx_zero
  intro f hf
  rcases List.mem_append.1 hf with h1 | h1
  · rcases hpre with hp | ⟨a, b, hp⟩
    · subst hp; cases h1
    · subst hp; simp at h1; subst h1; rfl
  · rcases List.mem_cons.1 h1 with h2 | h2
    · subst h2; rfl
    · exact Frame.t46_cw_zero e f (hq f h2) (htop f (by simp [h2]))

/-- After `p` passes of the end-of-event step of `e`, in a session whose initial log had `n0` entries `.disp e`. -/
structure T46Once (e n0 : Nat) (c : Cfg) (p : Nat) : Prop where
  /-- every pass made and every dispatch context of `e` open on the stack is paid for by a dispatch of its own -/
  k : p + t46_ctx e c.stack + n0 ≤ c.st.log.count (Entry.disp e)
  /-- while `waitingHandlers` of `e` is positive, one dispatch is still unpaid: the pass a task of `e` makes after its
  dispatcher has returned -/
  j : 1 ≤ (c.st.ev e).waiting → p + 1 + n0 ≤ c.st.log.count (Entry.disp e)
  top : ∀ g ∈ c.stack.tail, g.t46_topOnly = false

theorem t46_passB_iff (c : Cfg) (e : Nat) : t46_passB c e = true ↔ T46Pass c e := by
  constructor
  · exact t46_passB_spec c e
  · rintro ⟨r, err, k, hs, hx, hw⟩
    unfold t46_passB
    rw [hx, hs]
    simp [hw]

theorem t46_passB_top (c : Cfg) (e : Nat) (f : Frame) (k : List Frame) (hs : c.stack = f :: k)
    (h : t46_passB c e = true) : c.exn = none ∧ (c.st.ev e).waiting = 0 ∧ ∃ r err, f = .eventDone r e err := by
  obtain ⟨r, err, k', hs', hx, hw⟩ := t46_passB_spec c e h
  rw [hs] at hs'
  cases hs'
  exact ⟨hx, hw, r, err, rfl⟩

theorem T46CtxOk.at {B : Nat → Nat} {k : List Frame} {c' : Cfg} (h : T46CtxOk B k c') (e : Nat) :
    ∃ fs, c'.stack = fs ++ k ∧ (∀ g ∈ fs.tail, g.t46_topOnly = false) ∧ t46_ctx e fs ≤ B e := by
  obtain ⟨fs, h1, h2, h3⟩ := h
  exact ⟨fs, h1, h2, h3 e⟩

theorem T46Once.go {e n0 : Nat} {c c' : Cfg} {p p' : Nat} {f : Frame} {k : List Frame} (hs : c.stack = f :: k)
    (ho : T46Once e n0 c p) (b : Nat)
    (hc : ∃ fs, c'.stack = fs ++ k ∧ (∀ g ∈ fs.tail, g.t46_topOnly = false) ∧ t46_ctx e fs ≤ b)
    (hK : p' + b + t46_ctx e k + n0 ≤ c'.st.log.count (Entry.disp e))
    (hJ : 1 ≤ (c'.st.ev e).waiting → p' + 1 + n0 ≤ c'.st.log.count (Entry.disp e)) : T46Once e n0 c' p' := by
  obtain ⟨fs, hfs, htl, hb⟩ := hc
  have htop := ho.top
  rw [hs] at htop
  refine ⟨?_, hJ, ?_⟩
  · rw [hfs, t46_ctx_append]
    omega
  · rw [hfs]
    intro g hg
    cases fs with
    | nil => exact htop g (List.mem_of_mem_tail hg)
    | cons a fs' =>
      rcases List.mem_append.1 (by simpa using hg) with h1 | h1
      · exact htl g (by simpa using h1)
      · exact htop g (by simpa using h1)

theorem t46_count_append_ge (e : Nat) (es l : List Entry) :
    l.count (Entry.disp e) ≤ (es ++ l).count (Entry.disp e) := by
  rw [List.count_append]; omega

theorem t46_passB_false (c : Cfg) (e : Nat) (f : Frame) (k : List Frame) (hs : c.stack = f :: k)
    (hf : ∀ r err, f ≠ .eventDone r e err) : t46_passB c e = false := by
  cases hb : t46_passB c e with
  | false => rfl
  | true =>
    obtain ⟨_, _, r, err, h⟩ := t46_passB_top c e f k hs hb
    exact absurd h (hf r err)

/-- How a frame can be a source of dispatch contexts of `e`: it is such a context and hands it on (the handler loop, `dispFin`)
or ends it (`eventDone`), it opens one (`dispatcher`), or it is the frame of a task of `e`, whose exit may call `_eventDone`. -/
inductive Frame.T46Src (e : Nat) : Frame → Prop
  | ctx {f : Frame} : f.t46_cw e = 1 → (∀ r err, f ≠ .eventDone r e err) → T46Src e f
  | done (r : Nat) (err : Bool) : T46Src e (.eventDone r e err)
  | disp (r rem : Nat) : T46Src e (.dispatcher r e rem)
  | task (r : Nat) (t : Task) {f : Frame} : t.e = e → (f = .ptBody r t ∨ f = .ptOwn r t ∨ ∃ p v, f = .ptParent r t p v) →
      T46Src e f

theorem Frame.T46Src.of_sw {e : Nat} {f : Frame} (h : f.t46_sw e ≠ 0) : f.T46Src e := by
  have key : ∀ a : Nat, (if a = e then 1 else 0) ≠ 0 → a = e := fun a h => by
    split at h
    · assumption
    · exact absurd rfl h
  cases f <;> simp only [Frame.t46_sw] at h <;> first | exact absurd rfl h | skip
  case hLoop | hAfter | hApply | dispFin => exact .ctx (by simp [Frame.t46_cw, key _ h]) nofun
  case eventDone r e' err => exact key _ h ▸ .done r err
  case dispatcher r e' rem => exact key _ h ▸ .disp r rem
  case ptBody r t => exact .task r t (key _ h) (Or.inl rfl)
  case ptOwn r t => exact .task r t (key _ h) (Or.inr (Or.inl rfl))
  case ptParent r t p v => exact .task r t (key _ h) (Or.inr (Or.inr ⟨p, v, rfl⟩))

theorem T46Inv.under_of_task {c : Cfg} (h : T46Inv c) {f : Frame} {k : List Frame} {r : Nat} {t : Task} (hs : c.stack = f :: k)
    (hf : f = .ptBody r t ∨ f = .ptOwn r t ∨ ∃ p v, f = .ptParent r t p v) : T46Under r t k ∧ T46Shape c.st k := by
  rcases hf with rfl | rfl | ⟨p, v, rfl⟩
  · exact let ⟨hu, _, hk⟩ := h.top_ptBody hs; ⟨hu, hk⟩
  · exact let ⟨hu, _, hk⟩ := h.top_ptOwn hs; ⟨hu, hk⟩
  · exact h.top_ptParent hs

/-- One step.  What happens to (k) and (j) depends on what the top frame `f` has to do with `e`: nothing - then neither
the contexts of `e` nor its `waitingHandlers` change; or `f` is a source of contexts of `e` in one of the four ways of
`Frame.T46Src`. -/
theorem t46_step_once {e n0 : Nat} {c : Cfg} {p : Nat} (hi : T46Inv c) (ho : T46Once e n0 c p) :
    T46Once e n0 (step c) (p + if t46_passB c e then 1 else 0) := by
  cases hs : c.stack with
  | nil =>
    have hp : t46_passB c e = false := by
      unfold t46_passB; rw [hs]; cases c.exn <;> rfl
    rw [step_nil c hs, hp]
    exact ho
  | cons f k =>
    obtain ⟨es, hlog⟩ := step_log c
    have hcnt : c.st.log.count (Entry.disp e) ≤ (step c).st.log.count (Entry.disp e) := by
      rw [hlog]; exact t46_count_append_ge e es _
    have hK := ho.k
    rw [hs, t46_ctx_cons] at hK
    have htop : ∀ g ∈ k, g.t46_topOnly = false := by
      have := ho.top; rw [hs] at this; exact this
    -- a step that is no pass, pushes at most `b` contexts of `e` and leaves `waitingHandlers` of `e` alone
    have quiet : ∀ {c' : Cfg} (b : Nat), t46_passB c e = false → b ≤ f.t46_cw e →
        (∃ fs, c'.stack = fs ++ k ∧ (∀ g ∈ fs.tail, g.t46_topOnly = false) ∧ t46_ctx e fs ≤ b) →
        c.st.log.count (Entry.disp e) ≤ c'.st.log.count (Entry.disp e) → (c'.st.ev e).waiting = (c.st.ev e).waiting →
        T46Once e n0 c' (p + if t46_passB c e then 1 else 0) := by
      intro c' b hp hb hC hcnt hw
      rw [hp]
      refine ho.go hs b hC (by simp only [Bool.false_eq_true, if_false]; omega) (fun h1 => ?_)
      rw [hw] at h1
      have := ho.j h1
      simp only [Bool.false_eq_true, if_false]; omega
    cases hx : c.exn with
    | some ex =>
      have hp : t46_passB c e = false := by
        cases hb : t46_passB c e with
        | false => rfl
        | true => have := (t46_passB_top c e f k hs hb).1; rw [hx] at this; cases this
      rw [step_cons_exn c f k ex hs hx] at hcnt ⊢
      exact quiet 0 hp (Nat.zero_le _) ((t46_unwind_ctx c k ex f).at e) hcnt ((t46_unwind_E c k ex f).waiting e)
    | none =>
      have hV := t46_stepFrame_V c k f
      have hCe := (t46_stepFrame_ctx c k f).at e
      rw [step_cons c f k hs hx] at hcnt ⊢
      by_cases hsw : f.t46_sw e = 0
      · -- the frame has nothing to do with e
        have hp : t46_passB c e = false :=
          t46_passB_false c e f k hs (fun r err h => by subst h; simp [Frame.t46_sw] at hsw)
        have hwev : some e ≠ f.t46_wev := fun h => by
          have := Frame.t46_wev_sw e f h.symm; omega
        (try dsimp only at hCe)
        rw [hsw] at hCe
        exact quiet 0 hp (Nat.zero_le _) hCe hcnt (hV.w e hwev)
      · have hsw1 := Frame.t46_sw_le_one e f
        (try dsimp only at hCe)
        rw [show f.t46_sw e = 1 by omega] at hCe
        -- a step that is no pass and after which one more dispatch of `e` than passes is logged
        have open1 : t46_passB c e = false →
            p + 1 + t46_ctx e k + n0 ≤ (stepFrame c k f).st.log.count (Entry.disp e) →
            (1 ≤ ((stepFrame c k f).st.ev e).waiting → p + 1 + n0 ≤ (stepFrame c k f).st.log.count (Entry.disp e)) →
            T46Once e n0 (stepFrame c k f) (p + if t46_passB c e then 1 else 0) := by
          intro hnp hN hJ
          rw [hnp]
          exact ho.go hs 1 hCe (by simp only [Bool.false_eq_true, if_false]; omega)
            (fun h1 => by have := hJ h1; simp only [Bool.false_eq_true, if_false]; omega)
        cases Frame.T46Src.of_sw hsw with
        | ctx hcw hne =>
          -- the context is handed on: its dispatch is logged and not yet passed
          rw [hcw] at hK
          exact open1 (t46_passB_false c e f k hs hne) (by omega) (fun _ => by omega)
        | done r err =>
          -- `_eventDone(e)`: the context ends; it is a pass iff `waitingHandlers` is 0, and then its dispatch pays for it
          have hw := hV.w e (by simp [Frame.t46_wev])
          simp only [Frame.t46_cw, if_true] at hK
          refine ho.go hs 0 ((Cfg.eventDone_t46c0 c k r e err).at e) (by split <;> omega) (fun h1 => ?_)
          dsimp only [stepFrame] at hw h1
          rw [hw] at h1
          cases hb : t46_passB c e with
          | false => have := ho.j h1; simp only [Bool.false_eq_true, if_false]; omega
          | true => have := (t46_passB_top c e _ k hs hb).2.1; omega
        | disp r rem =>
          -- `_dispatcher(e)` logs `.disp e` and opens the context
          obtain ⟨es', hl', hm'⟩ := Cfg.t46_dispatcher_log c k r e rem
          have hN1 : c.st.log.count (Entry.disp e) + 1 ≤ (stepFrame c k (.dispatcher r e rem)).st.log.count (Entry.disp e) := by
            dsimp only [stepFrame]
            rw [hl', List.count_append]
            have := List.count_pos_iff.2 hm'
            omega
          have hw := hV.w e (by simp [Frame.t46_wev])
          simp only [Frame.t46_cw] at hK
          refine open1 (t46_passB_false c e _ k hs nofun) (by omega) (fun h1 => ?_)
          rw [hw] at h1
          have := ho.j h1
          omega
        | task r t hte hf =>
          -- a task of `e` in flight: no context of `e` is open below it, and `waitingHandlers(e) ≥ 1` says that a
          -- dispatch of `e` is still unpaid
          obtain ⟨hu, hsh⟩ := hi.under_of_task hs hf
          have hz := hu.ctx_zero hsh htop e
          have hw1 : 1 ≤ (c.st.ev e).waiting := hte ▸ hi.inflight_bound r t k (by
            rcases hf with rfl | rfl | ⟨p', v, rfl⟩
            · exact Or.inl hs
            · exact Or.inr (Or.inl hs)
            · exact Or.inr (Or.inr ⟨p', v, hs⟩))
          have hj := ho.j hw1
          refine open1 (t46_passB_false c e f k hs fun r' err h => ?_) (by omega) (fun _ => by omega)
          rcases hf with rfl | rfl | ⟨p', v, rfl⟩ <;> cases h

inductive T46Trace (s0 : St) (e : Nat) : Cfg → Nat → Prop
  | init (d : Nat) (tape : List Entry) (op : ExtOp) : T46Trace s0 e (startOf (envChange s0 d tape) op) 0
  | step {c : Cfg} {p : Nat} : T46Trace s0 e c p → T46Guard c →
      T46Trace s0 e (CV.Core.step c) (p + if t46_passB c e then 1 else 0)
  | next {c : Cfg} {p : Nat} (d : Nat) (tape : List Entry) (op : ExtOp) :
      T46Trace s0 e c p → done c = true → T46Trace s0 e (startOf (envChange c.st d tape) op) p

theorem T46Trace.reach {s0 : St} {e : Nat} {c : Cfg} {p : Nat} (h : T46Trace s0 e c p) : T46Reach s0 c := by
  induction h with
  | init d tape op => exact T46Reach.init d tape op
  | step _ hg ih => exact T46Reach.step ih hg
  | next d tape op _ hd ih => exact T46Reach.next d tape op ih hd

theorem T46Reach.trace {s0 : St} (e : Nat) {c : Cfg} (h : T46Reach s0 c) : ∃ p, T46Trace s0 e c p := by
  induction h with
  | init d tape op => exact ⟨0, T46Trace.init d tape op⟩
  | step _ hg ih => obtain ⟨p, hp⟩ := ih; exact ⟨_, T46Trace.step hp hg⟩
  | next d tape op _ hd ih => obtain ⟨p, hp⟩ := ih; exact ⟨p, T46Trace.next d tape op hp hd⟩

theorem t46_start_once (e n0 p : Nat) (s : St) (d : Nat) (tape : List Entry) (op : ExtOp)
    (hk : p + n0 ≤ s.log.count (Entry.disp e))
    (hj : 1 ≤ (s.ev e).waiting → p + 1 + n0 ≤ s.log.count (Entry.disp e)) :
    T46Once e n0 (startOf (envChange s d tape) op) p := by
  have hst : ∀ fs : List Frame, t46_ctx e fs = 0 → (∀ g ∈ fs.tail, g.t46_topOnly = false) →
      T46Once e n0 (Cfg.start (envChange s d tape) fs) p := by
    intro fs h1 h2
    refine ⟨?_, hj, h2⟩
    show p + t46_ctx e fs + n0 ≤ s.log.count (Entry.disp e)
    rw [h1]; omega
  cases op
  · exact hst _ (by simp [Frame.t46_cw]) (by simp [Frame.t46_topOnly])
  · exact hst _ (by simp [Frame.t46_cw]) (by simp)
  · exact hst _ (by simp [Frame.t46_cw]) (by simp)
  · exact hst _ (by simp [Frame.t46_cw]) (by simp)

/-- the run-level form of eventDone_once (`eventDone_once_partial` in CV/Props/C04.lean) -/
theorem t46_trace_once {s0 : St} (h0 : T46Init s0) (e : Nat) (hw0 : (s0.ev e).waiting = 0) :
    ∀ c p, T46Trace s0 e c p → T46Once e (s0.log.count (Entry.disp e)) c p := by
  intro c p ht
  induction ht with
  | init d tape op =>
    exact t46_start_once e _ 0 s0 d tape op (by omega) (fun h => by omega)
  | step hprev hg ih =>
    exact t46_step_once (t46_reach_inv h0 _ hprev.reach) ih
  | @next c0 p0 d tape op hprev hd ih =>
    have hst : c0.stack = [] := by simpa [done] using hd
    have hk := ih.k
    rw [hst] at hk
    exact t46_start_once e _ p0 c0.st d tape op (by simpa using hk) ih.j

end CV.Core
