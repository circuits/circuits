import CV.Proofs.InvTasksBase
import CV.Proofs.CoreStep
import CV.Proofs.CoreQueue
/-
Event ids in the queues of all components and in `Timer.event` are ids of existing events (`St.T46QOk`).
`St.T46Q s s'`: the event table grew and `T46QOk s → T46QOk s'`; its primitives.  Every helper respects `St.T46Q`
(`fireRaw` for an event that exists), and `St.T46Q.keeps` hands them to the generic walk through the arms of `step`.
`fireRaw`, `flushBegin`, `registerPre`, `timerTick` and the queue update of `dispatchLoop` write queues or `Timer.event`:
their proofs say where each id comes from.
-/
namespace CV.Core

def EQ.t46_has (q : EQ) (it : QItem) : Prop := it ∈ q.queue ∨ it ∈ q.heap

def St.T46QOk (s : St) : Prop :=
  (∀ x it, (s.comp x).eq.t46_has it → it.ev < s.evs.length) ∧
  (∀ (i : Nat) (tm : TimerSt) (te : Nat), s.timers[i]? = some tm → tm.ev = some te → te < s.evs.length)

structure St.T46Q (s s' : St) : Prop where
  evs : s.evs.length ≤ s'.evs.length
  ok : s.T46QOk → s'.T46QOk

namespace St.T46Q
variable {s t : St}

@[st_pres ↓] theorem refl (s : St) : St.T46Q s s := ⟨Nat.le_refl _, fun h => h⟩

theorem trans {a b c : St} (h1 : St.T46Q a b) (h2 : St.T46Q b c) : St.T46Q a c :=
  ⟨Nat.le_trans h1.evs h2.evs, fun h => h2.ok (h1.ok h)⟩

theorem of_items {t' : St} (h : St.T46Q s t) (h1 : t'.evs.length = t.evs.length) (h3 : t'.timers = t.timers)
    (h2 : ∀ x it, (t'.comp x).eq.t46_has it → ∃ y, (t.comp y).eq.t46_has it) : St.T46Q s t' :=
  h.trans ⟨by rw [h1]; exact Nat.le_refl _, fun hs => ⟨fun x it hit => by
    obtain ⟨y, hy⟩ := h2 x it hit
    rw [h1]; exact hs.1 y it hy, fun i tm te hi he => by rw [h1]; rw [h3] at hi; exact hs.2 i tm te hi he⟩⟩

theorem of_same {t' : St} (h : St.T46Q s t) (h1 : t'.evs.length = t.evs.length) (h2 : ∀ x, (t'.comp x).eq = (t.comp x).eq)
    (h3 : t'.timers = t.timers) : St.T46Q s t' :=
  h.of_items h1 h3 fun x it hit => ⟨x, by rw [← h2 x]; exact hit⟩

theorem modCompEq (h : St.T46Q s t) (c : Nat) (f : Comp → Comp)
    (hf : t.T46QOk → ∀ it, (f (t.comp c)).eq.t46_has it → it.ev < t.evs.length) : St.T46Q s (t.modComp c f) := by
  refine h.trans ⟨Nat.le_refl _, fun hs => ⟨fun x it hit => ?_, hs.2⟩⟩
  rw [St.w6_modComp_comp_eq] at hit
  split at hit
  · rename_i hc
    rw [hc.1] at hit
    exact hf hs it hit
  · exact hs.1 x it hit

@[st_pres ↓] theorem modComp (h : St.T46Q s t) (c : Nat) (f : Comp → Comp) (hf : ∀ y : Comp, (f y).eq = y.eq) :
    St.T46Q s (t.modComp c f) :=
  h.modCompEq c f fun hs it hit => by rw [hf] at hit; exact hs.1 c it hit

@[st_pres ↓] theorem modEv (h : St.T46Q s t) (e : Nat) (f : Ev → Ev) : St.T46Q s (t.modEv e f) :=
  h.of_same (by simp [St.modEv]) (fun _ => rfl) rfl

@[st_pres ↓] theorem modWait (h : St.T46Q s t) (w : Nat) (f : WaitSt → WaitSt) : St.T46Q s (t.modWait w f) := h.of_same rfl (fun _ => rfl) rfl
@[st_pres ↓] theorem setGen (h : St.T46Q s t) (g : Nat) (x : GenRec) : St.T46Q s (t.setGen g x) := h.of_same rfl (fun _ => rfl) rfl
@[st_pres ↓] theorem logE (h : St.T46Q s t) (x : Entry) : St.T46Q s (t.logE x) := h.of_same rfl (fun _ => rfl) rfl
@[st_pres ↓] theorem addH (h : St.T46Q s t) (x : Handler) : St.T46Q s (t.addH x) := h.of_same rfl (fun _ => rfl) rfl
@[st_pres ↓] theorem addGen (h : St.T46Q s t) (g : GenRec) : St.T46Q s (t.addGen g) := h.of_same rfl (fun _ => rfl) rfl
@[st_pres ↓] theorem addWait (h : St.T46Q s t) (w : WaitSt) : St.T46Q s (t.addWait w) := h.of_same rfl (fun _ => rfl) rfl
@[st_pres ↓] theorem tick1 (h : St.T46Q s t) (d : Int) : St.T46Q s (t.tick1 d) := h.of_same rfl (fun _ => rfl) rfl

@[st_pres ↓] theorem registerTask (h : St.T46Q s t) (c : Nat) (x : Task) : St.T46Q s (t.registerTask c x) :=
  h.modComp _ _ fun _ => rfl

@[st_pres ↓] theorem unregisterTask (h : St.T46Q s t) (c : Nat) (x : Task) : St.T46Q s (t.unregisterTask c x) :=
  h.modComp _ _ fun _ => rfl

@[st_pres ↓] theorem addEv (h : St.T46Q s t) (ev : Ev) : St.T46Q s (t.addEv ev) := by
  have hl : t.evs.length ≤ (t.addEv ev).evs.length := by simp [St.addEv]
  exact h.trans ⟨hl, fun hs => ⟨fun x it hit => Nat.lt_of_lt_of_le (hs.1 x it hit) hl,
    fun i tm te hi he => Nat.lt_of_lt_of_le (hs.2 i tm te hi he) hl⟩⟩

theorem modTimerEv (h : St.T46Q s t) (i : Nat) (f : TimerSt → TimerSt)
    (hf : ∀ y te, (f y).ev = some te → y.ev = some te ∨ te < t.evs.length) : St.T46Q s (t.modTimer i f) := by
  refine h.trans ⟨Nat.le_refl _, fun hs => ⟨hs.1, fun j tm te hj he => ?_⟩⟩
  unfold St.modTimer at hj
  simp only [List.getElem?_modify] at hj
  cases hq : t.timers[j]? with
  | none => rw [hq] at hj; simp at hj
  | some y =>
    rw [hq] at hj
    have hj : (if i = j then f y else y) = tm := by simpa using hj
    by_cases hij : i = j
    · rw [if_pos hij] at hj
      subst hj
      rcases hf y te he with h' | h'
      · exact hs.2 j y te hq h'
      · exact h'
    · rw [if_neg hij] at hj
      subst hj
      exact hs.2 j _ te hq he

@[st_pres ↓] theorem modTimer (h : St.T46Q s t) (i : Nat) (f : TimerSt → TimerSt) (hf : ∀ y : TimerSt, (f y).ev = y.ev) :
    St.T46Q s (t.modTimer i f) :=
  h.modTimerEv i f fun y te he => Or.inl (by rw [← hf]; exact he)

end St.T46Q

@[st_pres ↓] theorem St.T46Q.addHandler {s t : St} (h : St.T46Q s t) (x : Nat) : St.T46Q s (t.addHandler x) :=
  St.addHandler_pres t x h (fun _ h => by st_pres) (fun _ _ h => by st_pres) (fun _ _ h => by st_pres)

@[st_pres ↓] theorem St.T46Q.removeHandler {s t : St} (h : St.T46Q s t) (x : Nat) (n : Option Name) :
    St.T46Q s ((t.removeHandler x n).2) := by
  st_pres_unfold St.removeHandler

@[st_pres ↓] theorem St.T46Q.fireContext {s t : St} (h : St.T46Q s t) (r e : Nat) :
    St.T46Q s (t.fireContext r e) :=
  St.fireContext_pres t r e h (fun _ _ h => by st_pres) (fun _ _ h => by st_pres) (fun _ _ h => by st_pres)

theorem St.T46Q.fireRaw {s t : St} (h : St.T46Q s t) (self e : Nat) (chans : List Chan) (prio : Int)
    (he : e < t.evs.length) : St.T46Q s (t.fireRaw self e chans prio) := by
  unfold St.fireRaw
  dsimp only
  apply St.T46Q.logE
  refine St.T46Q.modCompEq ?_ _ _ fun hs it hit => ?_
  · st_pres
  · dsimp only [EQ.t46_has, EQ.append] at hit
    rcases hit with h1 | h1
    · rcases List.mem_append.1 h1 with h2 | h2
      · exact hs.1 _ it (Or.inl h2)
      · have : it.ev = e := by simp at h2; rw [h2]
        rw [this]
        refine Nat.lt_of_lt_of_le he ?_
        exact (St.Le.fireContext (St.Le.modEv (St.Le.refl t) _ _) _ _).evs
    · exact hs.1 _ it (Or.inr h1)

@[st_pres ↓] theorem St.T46Q.childEv {s t : St} (h : St.T46Q s t) (p sfx : Nat) :
    St.T46Q s (t.childEv p sfx) := by
  st_pres_unfold St.childEv

@[st_pres ↓] theorem St.T46Q.fireChild {s t : St} (h : St.T46Q s t) (self p sfx : Nat) (chans : List Chan) :
    St.T46Q s (t.fireChild self p sfx chans) := by
  unfold St.fireChild
  exact St.T46Q.fireRaw (St.T46Q.childEv h p sfx) _ _ _ _ (by simp [St.childEv, St.addEv])

@[st_pres ↓] theorem St.T46Q.inform {s t : St} (h : St.T46Q s t) (e : Nat) (force : Bool) :
    St.T46Q s (t.inform e force) := by
  st_pres_unfold St.inform

@[st_pres ↓] theorem St.T46Q.setValue {s t : St} (h : St.T46Q s t) (e : Nat) (x : VItem) :
    St.T46Q s (t.setValue e x) := by
  st_pres_unfold St.setValue

@[st_pres ↓] theorem St.T46Q.fireTmplEv {s t : St} (h : St.T46Q s t) (self : Nat) (ev : Ev) (target : Option Chan) (prio : Int) :
    St.T46Q s (t.fireTmplEv self ev target prio) := by
  unfold St.fireTmplEv
  dsimp only
  exact St.T46Q.fireRaw (St.T46Q.addEv h ev) _ _ _ _ (by simp [St.addEv])

@[st_pres ↓] theorem St.T46Q.effectDone1 {s t : St} (h : St.T46Q s t) (r e : Nat) (announce : Bool) :
    St.T46Q s ((t.effectDone1 r e announce).2) :=
  St.effectDone1_pres t r e announce h (fun _ => by st_pres) (fun _ _ h => by st_pres) (fun _ h => by st_pres)

@[st_pres ↓] theorem St.T46Q.eventDonePre {s t : St} (h : St.T46Q s t) (r e : Nat) (err : Bool) :
    St.T46Q s ((t.eventDonePre r e err).2) := by
  st_pres_unfold St.eventDonePre

@[st_pres ↓] theorem St.T46Q.reduceTimeLeft {s t : St} (h : St.T46Q s t) (e : Nat) (d : Int) :
    St.T46Q s (t.reduceTimeLeft e d) := by
  st_pres_unfold St.reduceTimeLeft

/-- `drainFrom`: the deque of `c` is appended to the deque of `r` -/
theorem St.t46_drainStep (u : St) (r c : Nat) :
    St.T46Q u ((u.modComp r fun x => { x with eq := ((u.comp r).eq.drainFrom (u.comp c).eq).1, dirty := true }).modComp c
      fun x => { x with eq := ((u.comp r).eq.drainFrom (u.comp c).eq).2 }) := by
  refine St.T46Q.of_items (St.T46Q.refl u) rfl rfl fun x it hit => ?_
  rw [St.w6_modComp_comp_eq] at hit
  split at hit
  · dsimp only [EQ.drainFrom, EQ.t46_has] at hit
    rcases hit with h1 | h1
    · cases h1
    · exact ⟨c, Or.inr h1⟩
  · rw [St.w6_modComp_comp_eq] at hit
    split at hit
    · dsimp only [EQ.drainFrom, EQ.t46_has] at hit
      rcases hit with h1 | h1
      · rcases List.mem_append.1 h1 with h2 | h2
        · exact ⟨r, Or.inl h2⟩
        · exact ⟨c, Or.inl h2⟩
      · exact ⟨r, Or.inr h1⟩
    · exact ⟨x, hit⟩

@[st_pres ↓] theorem St.T46Q.registerPre {s t : St} (h : St.T46Q s t) (c p : Nat) : St.T46Q s ((t.registerPre c p).2) := by
  unfold St.registerPre
  have h1 : St.T46Q s (t.modComp c fun x => { x with parent := p, root := (t.comp p).root }) :=
    h.modComp _ _ fun _ => rfl
  refine pred_ite_snd (pred_ite_snd h1 ?_) h1
  -- the last step drains the queue of `c` into that of the root, or does nothing
  refine pred_ite (St.T46Q.trans ?_ (St.t46_drainStep _ _ _)) ?_
  all_goals
    refine St.T46Q.modComp ?_ _ _ fun _ => rfl
    refine pred_ite (St.T46Q.modComp (St.T46Q.modComp h1 _ _ ?_) _ _ ?_) h1 <;> exact fun _ => rfl

@[st_pres ↓] theorem St.T46Q.registerFin {s t : St} (h : St.T46Q s t) (c : Nat) :
    St.T46Q s (t.registerFin c) := by
  st_pres_unfold St.registerFin

@[st_pres ↓] theorem St.T46Q.unregister {s t : St} (h : St.T46Q s t) (c : Nat) :
    St.T46Q s (t.unregister c) := by
  st_pres_unfold St.unregister

@[st_pres ↓] theorem St.T46Q.prepUnregPre {s t : St} (h : St.T46Q s t) (c : Nat) :
    St.T46Q s (t.prepUnregPre c) := by
  st_pres_unfold St.prepUnregPre

@[st_pres ↓] theorem St.T46Q.prepUnregFin {s t : St} (h : St.T46Q s t) (c : Nat) :
    St.T46Q s (t.prepUnregFin c) := by
  st_pres_unfold St.prepUnregFin

@[st_pres ↓] theorem St.T46Q.actFire {s t : St} (h : St.T46Q s t) (self i : Nat) (target : Option Chan) (prio : Int) (cancel : Bool) :
    St.T46Q s (t.actFire self i target prio cancel) := by
  st_pres_unfold St.actFire

@[st_pres ↓] theorem St.T46Q.actStopEv {s t : St} (h : St.T46Q s t) (ev : Option Nat) :
    St.T46Q s (t.actStopEv ev) := by
  st_pres_unfold St.actStopEv

@[st_pres ↓] theorem St.T46Q.timerReset {s t : St} (h : St.T46Q s t) (i : Nat) :
    St.T46Q s (t.timerReset i) := by
  st_pres_unfold St.timerReset

@[st_pres ↓] theorem St.T46Q.timerCreate {s t : St} (h : St.T46Q s t) (i : Nat) :
    St.T46Q s (t.timerCreate i) := by
  st_pres_unfold St.timerCreate

/-- the event a timer fires is the one it holds, which is in range, or the one it has just created -/
@[st_pres ↓] theorem St.T46Q.timerTick {s t : St} (h : St.T46Q s t) (i e : Nat) : St.T46Q s (t.timerTick i e) := by
  refine ⟨Nat.le_trans h.evs (St.Le.timerTick (St.Le.refl t) i e).evs, fun hs0 => ?_⟩
  have hs := h.ok hs0
  refine (St.timerTick_pres_ev (P := St.T46Q t) t i e (.refl t) (fun _ _ h => by st_pres) (fun tm c ch htm => ?_)
    (fun _ _ h => by st_pres) (fun _ _ h => by st_pres)).ok hs
  split
  · rename_i te hev
    exact St.T46Q.fireRaw (.refl t) _ _ _ _ (hs.2 i tm te htm hev)
  · refine St.T46Q.fireRaw (St.T46Q.modTimerEv (St.T46Q.addEv (.refl t) _) i _ fun y te he => Or.inr ?_) _ _ _ _ ?_
    · simp at he; subst he; simp
    · simp

@[st_pres ↓] theorem St.T46Q.startWait {s t : St} (h : St.T46Q s t) (w : Nat) :
    St.T46Q s (t.startWait w) :=
  St.startWait_pres t w h (fun _ _ => by st_pres) (fun _ _ _ _ _ h => by st_pres) (fun _ _ _ _ _ h => by st_pres)

@[st_pres ↓] theorem St.T46Q.stopBegin {s t : St} (h : St.T46Q s t) (c : Nat) :
    St.T46Q s (t.stopBegin c) := by
  st_pres_unfold St.stopBegin

@[st_pres ↓] theorem St.T46Q.stopSetCode {s t : St} (h : St.T46Q s t) (r : Nat) (code : Code) :
    St.T46Q s (t.stopSetCode r code) := by
  st_pres_unfold St.stopSetCode

@[st_pres ↓] theorem St.T46Q.genCall {s t : St} (h : St.T46Q s t) (owner i : Nat) (target : Option Chan) (timeout : Option Nat) :
    St.T46Q s (t.genCall owner i target timeout) := by
  st_pres_unfold St.genCall

@[st_pres ↓] theorem St.T46Q.genWait {s t : St} (h : St.T46Q s t) (owner : Nat) (name : Name) (target : Option Chan) (timeout : Option Nat) :
    St.T46Q s (t.genWait owner name target timeout) := by
  st_pres_unfold St.genWait

@[st_pres ↓] theorem St.T46Q.resumeGenPre {s t : St} (h : St.T46Q s t) (g : Nat) (silent : Bool) :
    St.T46Q s (t.resumeGenPre g silent) := by
  st_pres_unfold St.resumeGenPre

@[st_pres ↓] theorem St.T46Q.stopIteration {s t : St} (h : St.T46Q s t) (r : Nat) (x : Task) :
    St.T46Q s ((t.stopIteration r x).2) :=
  St.stopIteration_pres t r x (by st_pres) (fun _ _ h => by st_pres) (fun _ h => by st_pres)

@[st_pres ↓] theorem St.T46Q.fireException {s t : St} (h : St.T46Q s t) (r e : Nat) :
    St.T46Q s (t.fireException r e) := by
  st_pres_unfold St.fireException

@[st_pres ↓] theorem St.T46Q.errorBranch {s t : St} (h : St.T46Q s t) (r : Nat) (x : Task) (resumed : Bool) :
    St.T46Q s ((t.errorBranch r x resumed).2) :=
  St.errorBranch_pres t r x resumed (by st_pres) (fun _ h => by st_pres) (fun _ h => by st_pres)
    (fun _ _ h => by st_pres) (fun _ _ h => by st_pres) (fun _ h => by st_pres) (fun _ _ h => by st_pres)

@[st_pres ↓] theorem St.T46Q.ownSub {s t : St} (h : St.T46Q s t) (r : Nat) (x : Task) (w : Nat) :
    St.T46Q s (t.ownSub r x w) := by
  st_pres_unfold St.ownSub

@[st_pres ↓] theorem St.T46Q.setValueOpt {s t : St} (h : St.T46Q s t) (e : Nat) (v : Option Nat) :
    St.T46Q s (t.setValueOpt e v) := by
  st_pres_unfold St.setValueOpt

@[st_pres ↓] theorem St.T46Q.parentSub {s t : St} (h : St.T46Q s t) (r : Nat) (x : Task) (p w2 : Nat) (viaThrow : Bool) :
    St.T46Q s (t.parentSub r x p w2 viaThrow) := by
  st_pres_unfold St.parentSub

@[st_pres ↓] theorem St.T46Q.parentPlain {s t : St} (h : St.T46Q s t) (r : Nat) (x : Task) (p : Nat) (v : Option Nat) (viaThrow : Bool) :
    St.T46Q s (t.parentPlain r x p v viaThrow) := by
  st_pres_unfold St.parentPlain

@[st_pres ↓] theorem St.T46Q.onWaitEvent {s t : St} (h : St.T46Q s t) (w e : Nat) :
    St.T46Q s ((t.onWaitEvent w e).2) := by
  st_pres_unfold St.onWaitEvent

@[st_pres ↓] theorem St.T46Q.onWaitDone {s t : St} (h : St.T46Q s t) (w e : Nat) :
    St.T46Q s ((t.onWaitDone w e).2) :=
  St.onWaitDone_pres t w e h (fun _ _ _ h => by st_pres) (fun _ _ => by st_pres)

@[st_pres ↓] theorem St.T46Q.onWaitTick {s t : St} (h : St.T46Q s t) (w : Nat) :
    St.T46Q s ((t.onWaitTick w).2) := by
  exact St.onWaitTick_pres t w h (fun _ h n hu => hu.removeHandler h n) (fun _ _ _ => by st_pres) (by st_pres)

@[st_pres ↓] theorem St.T46Q.onFallbackGE {s t : St} (h : St.T46Q s t) (e : Nat) :
    St.T46Q s ((t.onFallbackGE e).2) := by
  st_pres_unfold St.onFallbackGE

@[st_pres ↓] theorem St.T46Q.computeHandlers {s t : St} (h : St.T46Q s t) (r : Nat) (name : Name) (chans : List Chan) :
    St.T46Q s ((t.computeHandlers r name chans).2) := by
  st_pres_unfold St.computeHandlers

@[st_pres ↓] theorem St.T46Q.dispComplete {s t : St} (h : St.T46Q s t) (e : Nat) (ev : Ev) :
    St.T46Q s (t.dispComplete e ev) := by
  st_pres_unfold St.dispComplete

@[st_pres ↓] theorem St.T46Q.cacheRefresh {s t : St} (h : St.T46Q s t) (r : Nat) :
    St.T46Q s (t.cacheRefresh r) := by
  st_pres_unfold St.cacheRefresh

@[st_pres ↓] theorem St.T46Q.lookupHandlers {s t : St} (h : St.T46Q s t) (r : Nat) (name : Name) (chans : List Chan) :
    St.T46Q s ((t.lookupHandlers r name chans).2) := by
  st_pres_unfold St.lookupHandlers

@[st_pres ↓] theorem St.T46Q.dispGE {s t : St} (h : St.T46Q s t) (r e remaining : Nat) (name : Name) :
    St.T46Q s (t.dispGE r e remaining name) := by
  st_pres_unfold St.dispGE

@[st_pres ↓] theorem St.T46Q.dispatchPre {s t : St} (h : St.T46Q s t) (r e remaining : Nat) :
    St.T46Q s ((t.dispatchPre r e remaining).2) := by
  st_pres_unfold St.dispatchPre

@[st_pres ↓] theorem St.T46Q.handlerRaised {s t : St} (h : St.T46Q s t) (r e : Nat) :
    St.T46Q s (t.handlerRaised r e) := by
  st_pres_unfold St.handlerRaised

@[st_pres ↓] theorem St.T46Q.applyValue {s t : St} (h : St.T46Q s t) (r e : Nat) (value : Outcome) :
    St.T46Q s (t.applyValue r e value) := by
  st_pres_unfold St.applyValue

@[st_pres ↓] theorem St.T46Q.geTasksCheck {s t : St} (h : St.T46Q s t) (r e : Nat) :
    St.T46Q s (t.geTasksCheck r e) := by
  st_pres_unfold St.geTasksCheck

@[st_pres ↓] theorem St.T46Q.flushBegin {s t : St} (h : St.T46Q s t) (r : Nat) : St.T46Q s (t.flushBegin r) := by
  unfold St.flushBegin
  dsimp only
  refine St.T46Q.modCompEq ?_ _ _ fun hs it hit => ?_
  · st_pres
  · have hc : ∀ (u : St) (b : Bool) (x : Entry) (y : Nat), (if b = true then u.logE x else u).comp y = u.comp y := by
      intro u b x y; split <;> rfl
    have hl : ∀ (u : St) (b : Bool) (x : Entry), (if b = true then u.logE x else u).evs.length = u.evs.length := by
      intro u b x; split <;> rfl
    rw [hc] at hit
    rw [hl]
    have hok : t.T46QOk := by
      refine ⟨fun x it' h' => ?_, fun i tm te hi he' => ?_⟩
      · have := hs.1 x it' (by rw [hc]; exact h'); rwa [hl] at this
      · have := hs.2 i tm te (by revert hi; split <;> exact id) he'; rwa [hl] at this
    dsimp only [EQ.t46_has, EQ.begin] at hit
    split at hit
    · rcases hit with h1 | h1
      · cases h1
      · rcases List.mem_append.1 h1 with h2 | h2
        · exact hok.1 r it (Or.inr h2)
        · exact hok.1 r it (Or.inl h2)
    · exact hok.1 r it hit

@[st_pres ↓] theorem St.T46Q.tickGenerate {s t : St} (h : St.T46Q s t) (c : Nat) : St.T46Q s (t.tickGenerate c) := by
  unfold St.tickGenerate
  split
  · dsimp only
    exact St.T46Q.fireRaw (St.T46Q.addEv (St.T46Q.tick1 h 1) _) _ _ _ _ (by simp [St.addEv, St.tick1])
  · exact h

@[st_pres ↓] theorem St.T46Q.runBegin {s t : St} (h : St.T46Q s t) (c : Nat) :
    St.T46Q s (t.runBegin c) := by
  st_pres_unfold St.runBegin

@[st_pres ↓] theorem St.T46Q.runEnd {s t : St} (h : St.T46Q s t) (c : Nat) :
    St.T46Q s ((t.runEnd c).2) := by
  st_pres_unfold St.runEnd

@[st_pres ↓] theorem St.T46Q.actStep {s t : St} (h : St.T46Q s t) (ctx : HCtx) (a : Act) : St.T46Q s (actStep t ctx a).st := by
  cases a <;> (unfold CV.Core.actStep; (try dsimp only); st_pres)

@[st_pres ↓] theorem St.T46Q.updateRootAll (s : St) : ∀ (fuel : Nat) (todo : List Nat) (root : Nat) (t : St),
    St.T46Q s t → St.T46Q s (St.updateRootAll fuel todo root t) :=
  fun fuel todo root t h => St.updateRootAll_pres root (fun _ _ h => by st_pres) fuel todo t h

theorem EQ.t46_pop_has (q : EQ) (pick : List QItem → Option QItem) (it : QItem) (q' : EQ) (h : q.pop pick = some (it, q')) :
    q.t46_has it ∧ ∀ x, q'.t46_has x → q.t46_has x := by
  obtain ⟨_, hc, rfl⟩ := pop_spec h
  exact ⟨Or.inr (mem_minCands hc).1, fun x hx => hx.imp id List.mem_of_mem_erase⟩

/-- The one arm that writes `eq`, `dispatchLoop`, stores the queue that `popEvent` returned: all its items are in the queue it read. -/
theorem St.T46Q.keeps (s : St) (o : Op) : o.Keeps (St.T46Q s) := by
  cases o
  case modCompEq =>
    intro t h r it q hp
    exact h.modCompEq _ _ fun hs x hx => hs.1 r x ((EQ.t46_pop_has _ _ it q hp).2 x hx)
  all_goals (intro t h; intros; st_pres)

end CV.Core
