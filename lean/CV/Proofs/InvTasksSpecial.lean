import CV.Proofs.InvTasksE
/-
`St.T46M` over the helpers and arms: read off `St.T46E` where the accounting is left alone.

Then the helpers that MOVE obligations - `applyValue` (a generator handler is registered), the closures `_on_done` and
`_on_tick` of `waitEvent`, and the exits of `processTask`.  Each of them changes `waitingHandlers`, task sets and wait states
of ONE event, so what it does to the accounting is one number: how much of that event's slack it may spend (`St.T46S e k`;
`k < 0`: it gives slack back).  The primitives that move obligations each have their number (`St.T46S.modEv`, `registerTask`,
`unregisterTask_mem`, `unpend`, `adopt`), everything between them leaves the accounting alone (`St.T46E`), and the number of a
helper is the sum along its definition.  The arms that move obligations are in InvTasksStep.lean.
-/
namespace CV.Core

namespace St.T46M
variable {s t : St}

@[st_pres ↓] theorem modComp (h : St.T46M s t) (c : Nat) (f : Comp → Comp) (hf : ∀ y : Comp, (f y).tasks = y.tasks) :
    St.T46M s (t.modComp c f) := h.trans (St.T46E.modComp_self t c f hf).toM

@[st_pres ↓] theorem modEv (h : St.T46M s t) (e : Nat) (f : Ev → Ev) (hf : ∀ y : Ev, (f y).waiting = y.waiting) :
    St.T46M s (t.modEv e f) := h.trans (St.T46E.modEv_self t e f hf).toM

@[st_pres ↓] theorem addEv (h : St.T46M s t) (ev : Ev) (hv : ev.waiting = 0) : St.T46M s (t.addEv ev) :=
  h.trans (St.T46E.addEv_self t ev hv).toM

@[st_pres ↓] theorem addWait (h : St.T46M s t) (x : WaitSt) (hx : x.started = false) : St.T46M s (t.addWait x) :=
  h.trans (St.T46E.addWait_self t x hx).toM

end St.T46M

@[st_pres ↓] theorem St.T46M.addHandler {s t : St} (h : St.T46M s t) (x : Nat) : St.T46M s (t.addHandler x) :=
  h.trans (St.T46E.addHandler (.refl t) x).toM

@[st_pres ↓] theorem St.T46M.removeHandler {s t : St} (h : St.T46M s t) (x : Nat) (n : Option Name) :
    St.T46M s ((t.removeHandler x n).2) :=
  h.trans (St.T46E.removeHandler (.refl t) x n).toM

@[st_pres ↓] theorem St.T46M.fireRaw {s t : St} (h : St.T46M s t) (self e : Nat) (chans : List Chan) (prio : Int) :
    St.T46M s (t.fireRaw self e chans prio) :=
  h.trans (St.T46E.fireRaw (.refl t) self e chans prio).toM

@[st_pres ↓] theorem St.T46M.fireChild {s t : St} (h : St.T46M s t) (self p sfx : Nat) (chans : List Chan) :
    St.T46M s (t.fireChild self p sfx chans) :=
  h.trans (St.T46E.fireChild (.refl t) self p sfx chans).toM

@[st_pres ↓] theorem St.T46M.inform {s t : St} (h : St.T46M s t) (e : Nat) (force : Bool) :
    St.T46M s (t.inform e force) :=
  h.trans (St.T46E.inform (.refl t) e force).toM

@[st_pres ↓] theorem St.T46M.setValue {s t : St} (h : St.T46M s t) (e : Nat) (x : VItem) :
    St.T46M s (t.setValue e x) :=
  h.trans (St.T46E.setValue (.refl t) e x).toM

@[st_pres ↓] theorem St.T46M.fireTmplEv {s t : St} (h : St.T46M s t) (self : Nat) (ev : Ev) (target : Option Chan) (prio : Int)
    (hv : ev.waiting = 0) : St.T46M s (t.fireTmplEv self ev target prio) :=
  h.trans (St.T46E.fireTmplEv (.refl t) self ev target prio hv).toM

@[st_pres ↓] theorem St.T46M.registerPre {s t : St} (h : St.T46M s t) (c p : Nat) :
    St.T46M s ((t.registerPre c p).2) :=
  h.trans (St.T46E.registerPre (.refl t) c p).toM

@[st_pres ↓] theorem St.T46M.unregister {s t : St} (h : St.T46M s t) (c : Nat) :
    St.T46M s (t.unregister c) :=
  h.trans (St.T46E.unregister (.refl t) c).toM

@[st_pres ↓] theorem St.T46M.prepUnregPre {s t : St} (h : St.T46M s t) (c : Nat) :
    St.T46M s (t.prepUnregPre c) :=
  h.trans (St.T46E.prepUnregPre (.refl t) c).toM

@[st_pres ↓] theorem St.T46M.timerTick {s t : St} (h : St.T46M s t) (i e : Nat) :
    St.T46M s (t.timerTick i e) :=
  h.trans (St.T46E.timerTick (.refl t) i e).toM

@[st_pres ↓] theorem St.T46M.resumeGenPre {s t : St} (h : St.T46M s t) (g : Nat) (silent : Bool) :
    St.T46M s (t.resumeGenPre g silent) :=
  h.trans (St.T46E.resumeGenPre (.refl t) g silent).toM

@[st_pres ↓] theorem St.T46M.fireException {s t : St} (h : St.T46M s t) (r e : Nat) :
    St.T46M s (t.fireException r e) :=
  h.trans (St.T46E.fireException (.refl t) r e).toM

@[st_pres ↓] theorem St.T46M.setValueOpt {s t : St} (h : St.T46M s t) (e : Nat) (v : Option Nat) :
    St.T46M s (t.setValueOpt e v) :=
  h.trans (St.T46E.setValueOpt (.refl t) e v).toM

@[st_pres ↓] theorem St.T46M.onWaitEvent {s t : St} (h : St.T46M s t) (w e : Nat) :
    St.T46M s ((t.onWaitEvent w e).2) :=
  h.trans (St.T46E.onWaitEvent (.refl t) w e).toM

@[st_pres ↓] theorem St.T46M.onFallbackGE {s t : St} (h : St.T46M s t) (e : Nat) :
    St.T46M s ((t.onFallbackGE e).2) :=
  h.trans (St.T46E.onFallbackGE (.refl t) e).toM

@[st_pres ↓] theorem St.T46M.dispatchPre {s t : St} (h : St.T46M s t) (r e remaining : Nat) :
    St.T46M s ((t.dispatchPre r e remaining).2) :=
  h.trans (St.T46E.dispatchPre (.refl t) r e remaining).toM

@[st_pres ↓] theorem St.T46M.geTasksCheck {s t : St} (h : St.T46M s t) (r e : Nat) :
    St.T46M s (t.geTasksCheck r e) :=
  h.trans (St.T46E.geTasksCheck (.refl t) r e).toM

@[st_pres ↓] theorem St.T46M.flushBegin {s t : St} (h : St.T46M s t) (r : Nat) :
    St.T46M s (t.flushBegin r) :=
  h.trans (St.T46E.flushBegin (.refl t) r).toM

@[st_pres ↓] theorem St.T46M.updateRootAll (s : St) : ∀ (fuel : Nat) (todo : List Nat) (root : Nat) (t : St),
    St.T46M s t → St.T46M s (St.updateRootAll fuel todo root t) :=
  fun fuel todo root t h => h.trans (St.T46E.updateRootAll t fuel todo root t (.refl t)).toM

/-! ## the arms that leave the accounting alone, one by one

Read off `t46_stepFrame_E` (`runCatchExn`, an arm of `unwind`: off `t46_unwind_E`).  With the arms of InvTasksStep.lean (the
task frames, `hApply`, `invoke`) this is every arm of `step` by name; `t46_stepFrame_inv` takes these arms all at once, from
`t46_stepFrame_E` itself. -/

@[st_pres ↓] theorem Cfg.tick_t46m (c : Cfg) (k : List Frame) (x : Nat) :
    St.T46M c.st (c.tick k x).st :=
  (t46_stepFrame_E c k (.tick x) rfl).toM

@[st_pres ↓] theorem Cfg.taskLoop_t46m (c : Cfg) (k : List Frame) (x : Nat) (ts : List Task) :
    St.T46M c.st (c.taskLoop k x ts).st :=
  (t46_stepFrame_E c k (.taskLoop x ts) rfl).toM

theorem Cfg.effectDone_t46m (c : Cfg) (k : List Frame) (r e : Nat) (announce : Bool) :
    St.T46M c.st (c.effectDone k r e announce).st :=
  (t46_stepFrame_E c k (.effectDone r e announce) rfl).toM

theorem Cfg.eventDone_t46m (c : Cfg) (k : List Frame) (r e : Nat) (err : Bool) :
    St.T46M c.st (c.eventDone k r e err).st :=
  (t46_stepFrame_E c k (.eventDone r e err) rfl).toM

theorem Cfg.updateRoot_t46m (c : Cfg) (k : List Frame) (todo : List Nat) (root : Nat) :
    St.T46M c.st (c.updateRoot k todo root).st :=
  (t46_stepFrame_E c k (.updateRoot todo root) rfl).toM

theorem Cfg.register_t46m (c : Cfg) (k : List Frame) (x p : Nat) :
    St.T46M c.st (c.register k x p).st :=
  (t46_stepFrame_E c k (.register x p) rfl).toM

theorem Cfg.registerFin_t46m (c : Cfg) (k : List Frame) (x : Nat) :
    St.T46M c.st (c.registerFin k x).st :=
  (t46_stepFrame_E c k (.registerFin x) rfl).toM

theorem Cfg.prepUnregFin_t46m (c : Cfg) (k : List Frame) (x : Nat) :
    St.T46M c.st (c.prepUnregFin k x).st :=
  (t46_stepFrame_E c k (.prepUnregFin x) rfl).toM

theorem Cfg.stopMgr_t46m (c : Cfg) (k : List Frame) (x : Nat) (code : Code) :
    St.T46M c.st (c.stopMgr k x code).st :=
  (t46_stepFrame_E c k (.stopMgr x code) rfl).toM

theorem Cfg.ticks_t46m (c : Cfg) (k : List Frame) (x n : Nat) :
    St.T46M c.st (c.ticks k x n).st :=
  (t46_stepFrame_E c k (.ticks x n) rfl).toM

theorem Cfg.stopFin_t46m (c : Cfg) (k : List Frame) (code : Code) :
    St.T46M c.st (c.stopFin k code).st :=
  (t46_stepFrame_E c k (.stopFin code) rfl).toM

theorem Cfg.timerNew_t46m (c : Cfg) (k : List Frame) (i : Nat) :
    St.T46M c.st (c.timerNew k i).st :=
  (t46_stepFrame_E c k (.timerNew i) rfl).toM

theorem Cfg.acts_t46m (c : Cfg) (k : List Frame) (ctx : HCtx) (prog : Prog) :
    St.T46M c.st (c.acts k ctx prog).st :=
  (t46_stepFrame_E c k (.acts ctx prog) rfl).toM

theorem Cfg.doFin_t46m (c : Cfg) (k : List Frame) (x : Nat) :
    St.T46M c.st (c.doFin k x).st :=
  (t46_stepFrame_E c k (.doFin x) rfl).toM

theorem Cfg.drainQ_t46m (c : Cfg) (k : List Frame) (x : Nat) :
    St.T46M c.st (c.drainQ k x).st :=
  (t46_stepFrame_E c k (.drainQ x) rfl).toM

theorem Cfg.stepGen_t46m (c : Cfg) (k : List Frame) (g : Nat) :
    St.T46M c.st (c.stepGen k g).st :=
  (t46_stepFrame_E c k (.stepGen g) rfl).toM

theorem Cfg.processTask_t46m (c : Cfg) (k : List Frame) (r : Nat) (x : Task) :
    St.T46M c.st (c.processTask k r x).st :=
  (t46_stepFrame_E c k (.processTask r x) rfl).toM

theorem Cfg.ptFin_t46m (c : Cfg) (k : List Frame) (r : Nat) (handling : Option Nat) :
    St.T46M c.st (c.ptFin k r handling).st :=
  (t46_stepFrame_E c k (.ptFin r handling) rfl).toM

theorem Cfg.dispatcher_t46m (c : Cfg) (k : List Frame) (r e remaining : Nat) :
    St.T46M c.st (c.dispatcher k r e remaining).st :=
  (t46_stepFrame_E c k (.dispatcher r e remaining) rfl).toM

theorem Cfg.hLoop_t46m (c : Cfg) (k : List Frame) (r e : Nat) (hs : List Nat) (err : Bool) (stale : Outcome) :
    St.T46M c.st (c.hLoop k r e hs err stale).st :=
  (t46_stepFrame_E c k (.hLoop r e hs err stale) rfl).toM

theorem Cfg.invokeUser_t46m {s0 : St} (c : Cfg) (k : List Frame) (s : St) (h e owner p : Nat) (hle : St.T46M s0 s) :
    St.T46M s0 (c.invokeUser k s h e owner p).st :=
  hle.trans (Cfg.invokeUser_t46e c k s h e owner p (.refl s)).toM

theorem Cfg.invokeFin_t46m (c : Cfg) (k : List Frame) (e h : Nat) :
    St.T46M c.st (c.invokeFin k e h).st :=
  (t46_stepFrame_E c k (.invokeFin e h) rfl).toM

theorem Cfg.hAfter_t46m (c : Cfg) (k : List Frame) (r e : Nat) (rest : List Nat) (err : Bool) (stale : Outcome) :
    St.T46M c.st (c.hAfter k r e rest err stale).st :=
  (t46_stepFrame_E c k (.hAfter r e rest err stale) rfl).toM

theorem Cfg.dispFin_t46m (c : Cfg) (k : List Frame) (r e : Nat) (err : Bool) :
    St.T46M c.st (c.dispFin k r e err).st :=
  (t46_stepFrame_E c k (.dispFin r e err) rfl).toM

theorem Cfg.dispatchLoop_t46m (c : Cfg) (k : List Frame) (r : Nat) :
    St.T46M c.st (c.dispatchLoop k r).st :=
  (t46_stepFrame_E c k (.dispatchLoop r) rfl).toM

theorem Cfg.flush_t46m (c : Cfg) (k : List Frame) (x : Nat) :
    St.T46M c.st (c.flush k x).st :=
  (t46_stepFrame_E c k (.flush x) rfl).toM

theorem Cfg.flushFin_t46m (c : Cfg) (k : List Frame) (r : Nat) (old : Bool) :
    St.T46M c.st (c.flushFin k r old).st :=
  (t46_stepFrame_E c k (.flushFin r old) rfl).toM

theorem Cfg.tickFin_t46m (c : Cfg) (k : List Frame) (x : Nat) (old : Bool) :
    St.T46M c.st (c.tickFin k x old).st :=
  (t46_stepFrame_E c k (.tickFin x old) rfl).toM

theorem Cfg.tickGen_t46m (c : Cfg) (k : List Frame) (x : Nat) :
    St.T46M c.st (c.tickGen k x).st :=
  (t46_stepFrame_E c k (.tickGen x) rfl).toM

theorem Cfg.run_t46m (c : Cfg) (k : List Frame) (x : Nat) :
    St.T46M c.st (c.run k x).st :=
  (t46_stepFrame_E c k (.run x) rfl).toM

theorem Cfg.runLoop_t46m (c : Cfg) (k : List Frame) (x : Nat) :
    St.T46M c.st (c.runLoop k x).st :=
  (t46_stepFrame_E c k (.runLoop x) rfl).toM

theorem Cfg.runFin_t46m (c : Cfg) (k : List Frame) (x : Nat) :
    St.T46M c.st (c.runFin k x).st :=
  (t46_stepFrame_E c k (.runFin x) rfl).toM

theorem Cfg.runCatchExn_t46m (c : Cfg) (k : List Frame) (x : Nat) (ex : Exn) :
    St.T46M c.st (c.runCatchExn k x ex).st :=
  (t46_unwind_E c k ex (.runCatch x)).toM

theorem Cfg.runRethrow_t46m (c : Cfg) (k : List Frame) (ex : Exn) :
    St.T46M c.st (c.runRethrow k ex).st :=
  (t46_stepFrame_E c k (.runRethrow ex) rfl).toM

def St.T46S (e : Nat) (k : Int) (s s' : St) : Prop := ∀ x, s.t46_D x - (if e = x then k else 0) ≤ s'.t46_D x

namespace St.T46S
variable {e : Nat} {k a b : Int} {s t u : St}

theorem of_M (h : St.T46M s t) : St.T46S e 0 s t := fun x => by
  have := h x
  split <;> omega

theorem of_E (h : St.T46E s t) : St.T46S e 0 s t := of_M h.toM

theorem toM (h : St.T46S e k s t) (hk : k ≤ 0) : St.T46M s t := fun x => by
  have := h x
  split at this <;> omega

theorem trans (h1 : St.T46S e a s t) (h2 : St.T46S e b t u) : St.T46S e (a + b) s u := fun x => by
  have := h1 x
  have := h2 x
  by_cases hx : e = x
  · rw [if_pos hx] at *; omega
  · rw [if_neg hx] at *; omega

theorem mono (h : St.T46S e a s t) (hab : a ≤ b) : St.T46S e b s t := fun x => by
  have := h x
  by_cases hx : e = x
  · rw [if_pos hx] at *; omega
  · rw [if_neg hx] at *; omega

end St.T46S

theorem St.t46_D_modEv (s : St) (e : Nat) (f : Ev → Ev) (x : Nat) :
    (s.modEv e f).t46_D x =
      s.t46_D x + (if e = x ∧ x < s.evs.length then (f (s.ev x)).waiting - (s.ev x).waiting else 0) := by
  unfold St.t46_D
  have h1 : (s.modEv e f).t46_WT x = s.t46_WT x := rfl
  have h2 : (s.modEv e f).t46_WW x = s.t46_WW x := rfl
  rw [h1, h2, St.t46_ev_modEv]
  split <;> omega

/-- an increment (`k < 0`) counts only for an event that exists -/
theorem St.T46S.modEv (s : St) (e : Nat) (f : Ev → Ev) (k : Int) (hf : ∀ y : Ev, (f y).waiting = y.waiting - k)
    (hk : 0 ≤ k ∨ e < s.evs.length) : St.T46S e k s (s.modEv e f) := fun x => by
  rw [St.t46_D_modEv]
  by_cases hx : e = x
  · subst hx
    rw [if_pos rfl]
    by_cases hl : e < s.evs.length
    · rw [if_pos ⟨rfl, hl⟩, hf]; omega
    · rw [if_neg fun h => hl h.2]
      have := hk.resolve_right hl
      omega
  · rw [if_neg hx, if_neg fun h => hx h.1]; omega

theorem St.T46S.dec (s : St) (e : Nat) (k : Int) (hk : 0 ≤ k) :
    St.T46S e k s (s.modEv e fun y => { y with waiting := y.waiting - k }) :=
  St.T46S.modEv s e _ k (fun _ => rfl) (Or.inl hk)

theorem St.T46S.inc (s : St) (e : Nat) (f : Ev → Ev) (hf : ∀ y : Ev, (f y).waiting = y.waiting + 1) (he : e < s.evs.length) :
    St.T46S e (-1) s (s.modEv e f) :=
  St.T46S.modEv s e f (-1) (fun y => by rw [hf]; omega) (Or.inr he)

theorem St.t46_D_registerTask_ge (s : St) (c : Nat) (t : Task) (x : Nat) :
    s.t46_D x - t.t46_wt x ≤ (s.registerTask c t).t46_D x := by
  unfold St.t46_D
  have h1 : (s.registerTask c t).t46_WW x = s.t46_WW x := rfl
  have h2 : ∀ y, (s.registerTask c t).ev y = s.ev y := fun _ => rfl
  rw [h1, h2]
  have := St.t46_WT_registerTask_le s c t x
  omega

theorem St.T46S.registerTask (s : St) (c : Nat) (t : Task) :
    St.T46S t.e (if t.parent.isSome then 2 else 1) s (s.registerTask c t) := fun x => by
  have := St.t46_D_registerTask_ge s c t x
  unfold Task.t46_wt at this
  by_cases hx : t.e = x
  · rw [if_pos hx] at *; omega
  · rw [if_neg hx] at *; omega

theorem St.T46S.registerTask_none (s : St) (c e g : Nat) : St.T46S e 1 s (s.registerTask c ⟨e, g, none⟩) :=
  St.T46S.registerTask s c ⟨e, g, none⟩

theorem St.T46S.registerTask_some (s : St) (c e g p : Nat) : St.T46S e 2 s (s.registerTask c ⟨e, g, some p⟩) :=
  St.T46S.registerTask s c ⟨e, g, some p⟩

theorem St.t46_D_unregisterTask_mem (s : St) (c : Nat) (t : Task) (x : Nat)
    (h : t ∈ (s.comp (s.rootOf c)).tasks) :
    (s.unregisterTask c t).t46_D x = s.t46_D x + t.t46_wt x := by
  unfold St.t46_D
  have h1 : (s.unregisterTask c t).t46_WW x = s.t46_WW x := rfl
  have h2 : ∀ y, (s.unregisterTask c t).ev y = s.ev y := fun _ => rfl
  rw [h1, h2, St.t46_WT_unregisterTask_mem s c t x h]
  omega

theorem St.T46S.unregisterTask_mem (s : St) (c : Nat) (t : Task) (h : t ∈ (s.comp (s.rootOf c)).tasks) :
    St.T46S t.e (-(if t.parent.isSome then 2 else 1)) s (s.unregisterTask c t) := fun x => by
  rw [St.t46_D_unregisterTask_mem s c t x h]
  unfold Task.t46_wt
  by_cases hx : t.e = x
  · rw [if_pos hx, if_pos hx]; omega
  · rw [if_neg hx, if_neg hx]; omega

theorem St.t46_D_unregisterTask_ge (s : St) (c : Nat) (t : Task) (x : Nat) :
    s.t46_D x ≤ (s.unregisterTask c t).t46_D x :=
  St.T46M.unregisterTask (St.T46M.refl s) c t x

theorem St.T46S.unregisterTask_mem_none (s : St) (c e g : Nat) (h : (⟨e, g, none⟩ : Task) ∈ (s.comp (s.rootOf c)).tasks) :
    St.T46S e (-1) s (s.unregisterTask c ⟨e, g, none⟩) :=
  St.T46S.unregisterTask_mem s c ⟨e, g, none⟩ h

theorem St.T46S.unregisterTask (s : St) (c : Nat) (t : Task) {e : Nat} : St.T46S e 0 s (s.unregisterTask c t) :=
  .of_M (St.T46M.unregisterTask (St.T46M.refl s) c t)

theorem St.t46_D_registerTask_mem (s : St) (c : Nat) (t : Task) (x : Nat) (h : t ∈ (s.comp (s.rootOf c)).tasks) :
    (s.registerTask c t).t46_D x = s.t46_D x := by
  unfold St.t46_D
  have h1 : (s.registerTask c t).t46_WW x = s.t46_WW x := rfl
  have h2 : ∀ y, (s.registerTask c t).ev y = s.ev y := fun _ => rfl
  rw [h1, h2]
  unfold St.registerTask
  rw [St.t46_WT_modComp]
  have : addUniq (s.comp (s.rootOf c)).tasks t = (s.comp (s.rootOf c)).tasks := by
    unfold addUniq; rw [if_pos (by simpa using h)]
  dsimp only
  rw [this]
  split <;> omega

theorem St.t46_D_modWait (s : St) (w : Nat) (f : WaitSt → WaitSt) (x : Nat) :
    (s.modWait w f).t46_D x =
      s.t46_D x - (if w < s.waits.length then (f (s.wait w)).t46_wt x - (s.wait w).t46_wt x else 0) := by
  unfold St.t46_D
  have h1 : (s.modWait w f).t46_WT x = s.t46_WT x := rfl
  have h2 : ∀ y, (s.modWait w f).ev y = s.ev y := fun _ => rfl
  rw [h1, h2, St.t46_WW_modWait]
  split <;> omega

theorem St.t46_wait_started_lt (s : St) (w : Nat) (h : (s.wait w).started = true) : w < s.waits.length :=
  St.wait_lt_of_ne fun hd => by rw [hd] at h; cases h

theorem WaitSt.t46_wt_of_pending (w : WaitSt) (x : Nat) (h : w.t46_pending = true) :
    w.t46_wt x = if w.taskEvent = x then 2 else 0 := by
  simp [WaitSt.t46_wt, h]

theorem WaitSt.t46_wt_of_not (w : WaitSt) (x : Nat) (h : w.t46_pending = false) : w.t46_wt x = 0 := by
  simp [WaitSt.t46_wt, h]

theorem WaitSt.t46_wt_le (w : WaitSt) (x : Nat) : w.t46_wt x ≤ if w.taskEvent = x then 2 else 0 := by
  unfold WaitSt.t46_wt
  by_cases h : w.taskEvent = x
  · simp only [h, and_true, if_true]; split <;> omega
  · simp only [h, and_false, if_false]; omega

theorem St.T46S.unpend (s : St) (w : Nat) (f : WaitSt → WaitSt) (hp : (s.wait w).t46_pending = true)
    (hf : (f (s.wait w)).t46_pending = false) : St.T46S (s.wait w).taskEvent (-2) s (s.modWait w f) := fun x => by
  have hst : (s.wait w).started = true := by
    simp only [WaitSt.t46_pending, Bool.and_eq_true] at hp; exact hp.1.1
  rw [St.t46_D_modWait, if_pos (St.t46_wait_started_lt s w hst), WaitSt.t46_wt_of_pending _ x hp, WaitSt.t46_wt_of_not _ x hf]
  split <;> omega

/-- whatever the wait state is before and after the two updates, in the end it weighs at most 2, and on `e` -/
theorem St.T46S.adopt (u : St) (w : Nat) (F G : WaitSt → WaitSt) (e : Nat) (hG : ∀ y, (G y).taskEvent = e) :
    St.T46S e 2 u ((u.modWait w F).modWait w G) := fun x => by
  rw [St.t46_D_modWait, St.t46_D_modWait, St.w6_modWait_waits_length]
  by_cases hw : w < u.waits.length
  · rw [if_pos hw, if_pos hw, St.w6_modWait_wait_lt u w F hw]
    have h1 := WaitSt.t46_wt_le (G (F (u.wait w))) x
    rw [hG] at h1
    have h2 := WaitSt.t46_wt_nonneg x (u.wait w)
    omega
  · rw [if_neg hw, if_neg hw]; split <;> omega

theorem St.T46S.startWait (s : St) (w : Nat) (G : WaitSt → WaitSt) (e : Nat) (hG : ∀ y, (G y).taskEvent = e) :
    St.T46S e 2 s ((s.startWait w).modWait w G) := by
  obtain ⟨u, F, hE, he⟩ := St.t46_startWait_eq s w
  rw [he]
  exact ((St.T46S.of_E hE).trans (St.T46S.adopt u w F G e hG)).mono (by decide)

theorem St.t46_applyValue_M (s : St) (r e : Nat) (v : Outcome) (he : ∀ g, v = .gen g → e < s.evs.length) :
    St.T46M s (s.applyValue r e v) := by
  unfold St.applyValue
  split
  · st_pres
  · -- `waitingHandlers += 1` pays for the generator task
    rename_i g
    refine ((St.T46S.inc s e _ ?_ (he g rfl)).trans (St.T46S.registerTask_none _ r e g)).toM (by decide)
    exact fun _ => rfl
  · st_pres
  · st_pres

/-- `_on_done`: either it sets the flag for the first time (the pending wait becomes the resumption task), or - a second
    `_done` event of the awaited event, a stale invocation, or one after the time-out - it does nothing
    (`if state.flag or state.timed_out: return`) -/

theorem St.t46_onWaitDone_M (s : St) (w e : Nat) (hst : (s.wait w).started = true) :
    St.T46M s (s.onWaitDone w e).2 := by
  refine St.onWaitDone_pres s w e (St.T46M.refl s) (fun _ h n hu => hu.removeHandler h n) fun hfl hto => ?_
  exact ((St.T46S.unpend s w _ (by simp [WaitSt.t46_pending, hst, hfl, hto]) (by simp [WaitSt.t46_pending])).trans
    (St.T46S.registerTask_some _ (s.wait w).owner (s.wait w).taskEvent (s.wait w).task (s.wait w).parentGen)).toM (by decide)

/-- `_on_tick` at the time-out: the pending wait state is traded for the `TimeoutError` task, which has a parent -/
theorem St.t46_onWaitTick_M (s : St) (w : Nat) (hst : (s.wait w).started = true) :
    St.T46M s (s.onWaitTick w).2 := by
  refine St.onWaitTick_pres s w (St.T46M.refl s) (fun _ h n hu => hu.removeHandler h n) (fun hfl hto _ => ?_) (by st_pres)
  exact (((St.T46S.unpend s w _ (by simp [WaitSt.t46_pending, hst, hfl, hto]) (by simp [WaitSt.t46_pending])).trans
    (.of_E (St.T46E.addGen_self _ _))).trans
    (St.T46S.registerTask_some _ (s.wait w).owner (s.wait w).taskEvent s.gens.length (s.wait w).parentGen)).toM (by decide)

def St.t46_stop1 (s : St) (r : Nat) (t : Task) : St :=
  (s.modEv t.e fun y => { y with waiting := y.waiting - 1 }).unregisterTask r t

theorem St.t46_stopIteration_cases (s : St) (r : Nat) (t : Task) :
    (∃ p, t.parent = some p ∧ (s.stopIteration r t).2 = (s.t46_stop1 r t).registerTask r ⟨t.e, p, none⟩) ∨
    (t.parent = none ∧ ((s.stopIteration r t).2 = (s.t46_stop1 r t).inform t.e true ∨
      (s.stopIteration r t).2 = s.t46_stop1 r t)) := by
  unfold St.stopIteration St.t46_stop1
  dsimp only
  cases hq : t.parent with
  | some p => exact Or.inl ⟨p, rfl, rfl⟩
  | none =>
    refine Or.inr ⟨rfl, ?_⟩
    dsimp only
    split
    · exact Or.inl rfl
    · exact Or.inr rfl

/-- after the decrement and the unregistration of a task of weight `w`, `stopIteration` registers the caller's task
(1, if the task had a parent) or does nothing that counts -/
theorem St.t46_stopIteration_S (s : St) (r : Nat) (t : Task) (w : Int) (h1 : St.T46S t.e (1 - w) s (s.t46_stop1 r t)) :
    St.T46S t.e (2 - w) s (s.stopIteration r t).2 := by
  rcases St.t46_stopIteration_cases s r t with ⟨p, _, he⟩ | ⟨_, he | he⟩ <;> rw [he]
  · exact (h1.trans (St.T46S.registerTask_none _ r t.e p)).mono (by omega)
  · exact (h1.trans (.of_E (St.T46E.inform (.refl _) t.e true))).mono (by omega)
  · exact h1.mono (by omega)

theorem St.t46_stopIteration_any (s : St) (r : Nat) (t : Task) (x : Nat) :
    s.t46_D x - (if t.e = x then 2 else 0) ≤ (s.stopIteration r t).2.t46_D x :=
  ((St.t46_stopIteration_S s r t 0
    (((St.T46S.dec s t.e 1 (by decide)).trans (St.T46S.unregisterTask _ r t)).mono (by decide))).mono (by decide) :
      St.T46S t.e 2 s _) x

/-- the exit of a task that is still registered: its own weight pays -/
theorem St.t46_stopIteration_mem (s : St) (r : Nat) (t : Task) (hm : t ∈ (s.comp (s.rootOf r)).tasks) :
    St.T46M s (s.stopIteration r t).2 := by
  have h1 := (St.T46S.dec s t.e 1 (by decide)).trans (St.T46S.unregisterTask_mem _ r t hm)
  rcases St.t46_stopIteration_cases s r t with ⟨p, hp, he⟩ | ⟨hp, he | he⟩ <;> rw [he]
  · exact (h1.trans (St.T46S.registerTask_none _ r t.e p)).toM (by simp [hp])
  · exact (h1.trans (.of_E (St.T46E.inform (.refl _) t.e true))).toM (by simp [hp])
  · exact h1.toM (by simp [hp])

theorem St.t46_errMid_E (s : St) (r : Nat) (t : Task) :
    St.T46E (s.unregisterTask r t) (((s.errMid r t).modEv t.e errF).errTail r t.e) := by
  st_pres_unfold St.errMid St.errTail St.feedback

theorem St.t46_errorBranch_S (s : St) (r : Nat) (t : Task) (resumed : Bool) (w : Int)
    (h1 : St.T46S t.e w s (s.unregisterTask r t)) :
    St.T46S t.e (w + if resumed then 2 else if t.parent.isNone then 1 else 0) s (s.errorBranch r t resumed).2 := by
  rw [St.v4_errorBranch_snd]
  have h := h1.trans (St.T46S.of_E (St.t46_errMid_E s r t))
  cases resumed <;> cases ht : t.parent <;> simp only [Option.isNone_none, Option.isNone_some, Bool.or_false, Bool.or_true,
    Bool.false_eq_true, if_true, if_false]
  · exact (h.trans (St.T46S.dec _ t.e 1 (by decide))).mono (by omega)
  · exact h.mono (by omega)
  · exact (h.trans (St.T46S.dec _ t.e 2 (by decide))).mono (by omega)
  · exact (h.trans (St.T46S.dec _ t.e 2 (by decide))).mono (by omega)

theorem St.t46_errorBranch_any (s : St) (r : Nat) (t : Task) (resumed : Bool) (x : Nat) :
    s.t46_D x - (if t.e = x then 2 else 0) ≤ (s.errorBranch r t resumed).2.t46_D x :=
  ((St.t46_errorBranch_S s r t resumed 0 (St.T46S.unregisterTask s r t)).mono
    (by cases resumed <;> simp <;> split <;> omega) : St.T46S t.e 2 s _) x

theorem St.t46_errorBranch_any1 (s : St) (r : Nat) (t : Task) (x : Nat) :
    s.t46_D x - (if t.e = x then 1 else 0) ≤ (s.errorBranch r t false).2.t46_D x :=
  ((St.t46_errorBranch_S s r t false 0 (St.T46S.unregisterTask s r t)).mono (by simp; split <;> omega) :
    St.T46S t.e 1 s _) x

theorem St.t46_errorBranch_mem (s : St) (r : Nat) (t : Task) (hm : t ∈ (s.comp (s.rootOf r)).tasks) :
    St.T46M s (s.errorBranch r t false).2 :=
  (St.t46_errorBranch_S s r t false _ (St.T46S.unregisterTask_mem s r t hm)).toM (by cases t.parent <;> simp)

/-- the task's own generator yields a `call`/`wait`: the task entry (1) and the increment (1) pay for the pending wait (2) -/
theorem St.t46_ownSub_M (s : St) (r : Nat) (t : Task) (w : Nat) (he : t.e < s.evs.length)
    (hm : (⟨t.e, t.g, none⟩ : Task) ∈ (s.comp (s.rootOf r)).tasks) : St.T46M s (s.ownSub r t w) := by
  unfold St.ownSub
  dsimp only
  refine (((St.T46S.inc s t.e _ ?_ he).trans (St.T46S.unregisterTask_mem_none _ r t.e t.g hm)).trans
    (St.T46S.startWait _ w _ t.e fun _ => rfl)).toM (by decide)
  exact fun _ => rfl

theorem St.t46_parentSub_any (s : St) (r : Nat) (t : Task) (p w2 : Nat) (v : Bool) (x : Nat) :
    s.t46_D x - (if t.e = x then 2 else 0) ≤ (s.parentSub r t p w2 v).t46_D x := by
  refine (?_ : St.T46S t.e 2 s (s.parentSub r t p w2 v)) x
  unfold St.parentSub
  split
  · exact ((St.T46S.of_E (St.T46E.addGen_self s _)).trans (St.T46S.registerTask_some _ r t.e s.gens.length p)).mono
      (by decide)
  · exact St.T46S.startWait s w2 _ t.e fun _ => rfl

theorem St.t46_parentPlain_any (s : St) (r : Nat) (t : Task) (p : Nat) (v : Option Nat) (vt : Bool) (x : Nat) :
    s.t46_D x - (if t.e = x then 2 else 0) ≤ (s.parentPlain r t p v vt).t46_D x := by
  refine (?_ : St.T46S t.e 2 s (s.parentPlain r t p v vt)) x
  unfold St.parentPlain
  split
  · exact ((St.T46S.of_E (St.T46E.addGen_self s _)).trans (St.T46S.registerTask_some _ r t.e s.gens.length p)).mono
      (by decide)
  · exact (((St.T46S.dec s t.e 1 (by decide)).trans (.of_E (St.T46E.setValueOpt (.refl _) t.e v))).trans
      (St.T46S.registerTask_none _ r t.e p)).mono (by decide)

end CV.Core
