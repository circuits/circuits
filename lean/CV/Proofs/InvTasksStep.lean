import CV.Proofs.InvTasksInv
import CV.Proofs.InvTasksSpecial
import CV.Proofs.InvTasksG
import CV.Proofs.InvEffects
/-
`T46Inv` through the arms of the task loop and of the task frames; then `T46Inv c → T46Guard c → T46Inv (step c)` by cases
on the top frame (all 38 frames, normal execution and unwinding), guarded sessions `T46Reach`, and the invariant on every
configuration of a guarded session from an initial state without tasks and wait states (`t46_reach_inv`).

At the end, the consequences of `T46Inv` used by CV/Props/C04.lean, and the witness that the run hypothesis `T46Guard`
cannot be dropped (the run `cw2` of CV/Proofs/InvEffects.lean: a handler of `foo` calls `stop()` while the manager is
running but not executing; the inline ticks run the task loop inside the handler).
-/
namespace CV.Core

theorem Cfg.t46_contStop_st (c : Cfg) (k : List Frame) (s : St) (r : Nat) (t : Task) :
    (c.contStop k s r t).st = (s.stopIteration r t).2 :=
  Cfg.contStop_st c k s r t

theorem T46Inv.goUnder {c c' : Cfg} (h : T46Inv c) {f : Frame} {k : List Frame} {r : Nat} {t : Task}
    (hs : c.stack = f :: k) (hu : T46Under r t k)
    (hD : ∀ e, c.st.t46_D e - f.t46_wt e ≤ c'.st.t46_D e) (hG : St.T46G (some t) c.st c'.st)
    (hr : ∀ x ts, Frame.taskLoop x ts ∈ k → c'.st.rootOf x = c.st.rootOf x) (hst : T46StackOk k c') : T46Inv c' := by
  obtain ⟨fs, hfs, hp⟩ := hst
  exact h.go hs fs hfs (fun e => by rw [t46_WF_plain e fs hp]; have := hD e; omega) (hG.nd h.nd)
    (T46Shape.append_plain hp (T46Shape.under_mono hu (h.tail hs) hG hr))

theorem T46Inv.goTask {c c' : Cfg} (h : T46Inv c) {f : Frame} {k : List Frame} {r : Nat} {t : Task}
    (hs : c.stack = f :: k) (hu : T46Under r t k) (F : Frame) (hF : T46FrameOk c'.st k F)
    (hD : ∀ e, c.st.t46_D e - f.t46_wt e + F.t46_wt e ≤ c'.st.t46_D e) (hG : St.T46G (some t) c.st c'.st)
    (hr : ∀ x ts, Frame.taskLoop x ts ∈ k → c'.st.rootOf x = c.st.rootOf x)
    (fs : List Frame) (hp : ∀ g ∈ fs, g.t46_plain = true) (hfs : c'.stack = fs ++ F :: k) : T46Inv c' := by
  refine h.go hs (fs ++ [F]) (by rw [hfs]; simp) (fun e => ?_) (hG.nd h.nd) ?_
  · rw [t46_WF_append, t46_WF_plain e fs hp, t46_WF_cons, t46_WF_nil]
    have := hD e
    omega
  · rw [List.append_assoc]
    exact T46Shape.append_plain hp ⟨hF, T46Shape.under_mono hu (h.tail hs) hG hr⟩

/-- `tick()` with pending tasks opens the task loop: that it does so on a quiet stack and on a root is the guard -/
theorem Cfg.t46_tick {c : Cfg} (h : T46Inv c) {x : Nat} {k : List Frame} (hs : c.stack = .tick x :: k)
    (hq : (c.st.comp x).tasks ≠ [] → t46_quiet k = true ∧ c.st.rootOf x = x)
    (hr : ∀ y ts, Frame.taskLoop y ts ∈ k → (c.tick k x).st.rootOf y = c.st.rootOf y) : T46Inv (c.tick k x) := by
  generalize hc' : c.tick k x = c' at hr ⊢
  unfold Cfg.tick at hc'
  dsimp only at hc'
  split at hc'
  · rename_i hne
    subst hc'
    obtain ⟨hq1, hq2⟩ := hq fun h0 => by rw [h0] at hne; simp at hne
    have hE := St.T46E.modComp_self c.st x (fun y => { y with flushing := true }) fun _ => rfl
    refine h.goLight hs [.taskLoop x _, .tickFin x _, .tickGen x] rfl (fun e => by simp [Frame.t46_wt]) hE.toM hE.toG
      ⟨⟨?_, ?_, h.nd x, fun t ht => by rw [Cfg.goto_st, hE.tasks]; exact ht⟩, trivial, trivial, T46Shape.mono hE.toG hr (h.tail hs)⟩
    · simpa [t46_quiet, Frame.t46_noisy] using hq1
    · refine (St.w6_modComp_comp_pres c.st (·.root) x _ ?h1 x).trans hq2
      case h1 => exact fun _ => rfl
  · subst hc'
    exact h.goPlain hs (St.T46M.refl _) (St.T46G.refl _) hr ⟨[.tickGen x], rfl, by simp [Frame.t46_plain]⟩

/-- that the task handed to `processTask` is not in the list the loop keeps needs the list to be duplicate-free -/
theorem Cfg.t46_taskLoop {c : Cfg} (h : T46Inv c) {x : Nat} {ts : List Task} {k : List Frame}
    (hs : c.stack = .taskLoop x ts :: k) : T46Inv (c.taskLoop k x ts) := by
  unfold Cfg.taskLoop
  split
  · exact h.goPlain hs (St.T46M.refl _) (St.T46G.refl _) (fun _ _ _ => rfl) (Cfg.pop_t46s ..)
  · rename_i t0 rest0
    obtain ⟨⟨hq, hroot, hnd, hmem⟩, hk⟩ := h.top hs
    refine h.goLight hs [.processTask x _, .taskLoop x _] rfl (fun e => by simp [Frame.t46_wt]) (St.T46M.refl _)
      (St.T46G.refl _) ⟨⟨⟨rfl, fun hm => ?_⟩, hmem _ (St.chooseTask_mem c.st t0 rest0)⟩,
        ⟨hq, hroot, hnd.erase _, fun t ht => hmem t (List.mem_of_mem_erase ht)⟩, hk⟩
    exact ((List.Nodup.mem_erase_iff hnd).1 hm).1 rfl

theorem Cfg.t46_processTask {c : Cfg} (h : T46Inv c) {r : Nat} {t : Task} {k : List Frame}
    (hs : c.stack = .processTask r t :: k)
    (hr : ∀ y ts, Frame.taskLoop y ts ∈ k → (c.processTask k r t).st.rootOf y = c.st.rootOf y) :
    T46Inv (c.processTask k r t) := by
  obtain ⟨⟨hu, hmem⟩, hk⟩ := h.top hs
  have hE : St.T46E c.st (c.processTask k r t).st := t46_stepFrame_E c k (.processTask r t) rfl
  exact h.goLight hs [.ptBody r t, .ptFin r _] rfl (fun e => by simp [Frame.t46_wt]) hE.toM hE.toG
    ⟨⟨hu.fin _ _, by rw [hE.tasks]; exact hmem⟩, trivial, T46Shape.mono hE.toG hr hk⟩

theorem T46Inv.goUnderM {c c' : Cfg} (h : T46Inv c) {f : Frame} {k : List Frame} {r : Nat} {t : Task}
    (hs : c.stack = f :: k) (hu : T46Under r t k) (hM : St.T46M c.st c'.st) (hG : St.T46G (some t) c.st c'.st)
    (hr : ∀ x ts, Frame.taskLoop x ts ∈ k → c'.st.rootOf x = c.st.rootOf x) (hst : T46StackOk k c') : T46Inv c' :=
  h.goUnder hs hu (fun e => by have := hM e; have := Frame.t46_wt_nonneg e f; omega) hG hr hst

/-- `ptBody` hands over to `.ptParent r t p v` under the generator of the caller: the step has to set 2 free on the event
of `t` -/
theorem T46Inv.goParent {c c' : Cfg} (h : T46Inv c) {k : List Frame} {r : Nat} {t : Task} (p : Nat) (v : Bool)
    (hs : c.stack = .ptBody r t :: k) (hu : T46Under r t k) (hS : St.T46S t.e (-2) c.st c'.st)
    (hG : St.T46G (some t) c.st c'.st) (hr : ∀ x ts, Frame.taskLoop x ts ∈ k → c'.st.rootOf x = c.st.rootOf x)
    (hfs : c'.stack = [.stepGen p] ++ .ptParent r t p v :: k) : T46Inv c' :=
  h.goTask hs hu (.ptParent r t p v) hu (fun e => by
    have := hS e
    simp only [Frame.t46_wt]
    split at this <;> omega) hG hr [.stepGen p] (by simp [Frame.t46_plain]) hfs

theorem T46Inv.contStopMem {c : Cfg} (h : T46Inv c) {f : Frame} {k : List Frame} {r : Nat} {t : Task}
    (hs : c.stack = f :: k) (hu : T46Under r t k) (s' : St) (hE : St.T46E c.st s')
    (hm : t ∈ (s'.comp (s'.rootOf r)).tasks)
    (hr : ∀ x ts, Frame.taskLoop x ts ∈ k → (c.contStop k s' r t).st.rootOf x = c.st.rootOf x) :
    T46Inv (c.contStop k s' r t) := by
  refine h.goUnderM hs hu ?_ (Cfg.contStop_t46g c k s' r t hE.toG rfl) hr (Cfg.contStop_t46s ..)
  rw [Cfg.contStop_st]
  exact hE.toM.trans (St.t46_stopIteration_mem s' r t hm)

theorem T46Inv.contErrorMem {c : Cfg} (h : T46Inv c) {f : Frame} {k : List Frame} {r : Nat} {t : Task}
    (hs : c.stack = f :: k) (hu : T46Under r t k) (s' : St) (hE : St.T46E c.st s')
    (hm : t ∈ (s'.comp (s'.rootOf r)).tasks)
    (hr : ∀ x ts, Frame.taskLoop x ts ∈ k → (c.contError k s' r t false).st.rootOf x = c.st.rootOf x) :
    T46Inv (c.contError k s' r t false) := by
  refine h.goUnderM hs hu ?_ (Cfg.contError_t46g c k s' r t false hE.toG rfl) hr (Cfg.contError_t46s ..)
  rw [Cfg.contError_st]
  exact hE.toM.trans (St.t46_errorBranch_mem s' r t hm)

theorem Cfg.t46_ptBody {c : Cfg} (h : T46Inv c) {r : Nat} {t : Task} {k : List Frame}
    (hs : c.stack = .ptBody r t :: k)
    (hr : ∀ y ts, Frame.taskLoop y ts ∈ k → (c.ptBody k r t).st.rootOf y = c.st.rootOf y) :
    T46Inv (c.ptBody k r t) := by
  obtain ⟨hu, hmem, hk⟩ := h.top_ptBody hs
  have hroot := (T46Shape.under hu hk).1
  -- `t` is registered in every state `u` in which the arm may unregister it or leave by an exit of a registered task
  have hm : ∀ u : St, St.T46E c.st u → (∀ x, u.rootOf x = c.st.rootOf x) → t ∈ (u.comp (u.rootOf r)).tasks :=
    fun u hE hur => by rw [hur, hroot, hE.tasks]; exact hmem
  -- what the unregistration sets free (the weight of `t`: 2 with a parent, else 1)
  have hU := fun (u : St) hE hur => (St.T46S.of_E hE).trans (St.T46S.unregisterTask_mem u r t (hm u hE hur))
  -- what is left of the task sets, whichever exit is taken
  have hG := Cfg.ptBody_t46g c k r t (rfl : some t = some t)
  have hc := Cfg.t46_ptBody_cases c k r t
  generalize c.ptBody k r t = c' at hc hr hG ⊢
  cases hc with
  | own u hE =>
    exact h.goTask hs hu (.ptOwn r t) ⟨hu, by rw [Cfg.goto_st, hE.tasks]; exact hmem⟩
      (fun e => by have := hE.toM e; simp only [Frame.t46_wt, Cfg.goto_st]; omega) hG hr
      [.stepGen t.g] (by simp [Frame.t46_plain]) rfl
  | stop u hE hur => exact h.contStopMem hs hu u hE (hm u hE hur) hr
  | error u hE hur => exact h.contErrorMem hs hu u hE (hm u hE hur) hr
  | value u hE => exact h.goUnderM hs hu hE.toM hG hr (Cfg.pop_t46s ..)
  | resumed u s' p v hE hur hE2 hp =>
    -- the weight of the resumption task passes to the `.ptParent` frame
    exact h.goParent p v hs hu (((hU u hE hur).trans (.of_E hE2)).mono (by simp [hp])) hG hr rfl
  | dropped u hE hur => exact h.goUnderM hs hu ((hU u hE hur).toM (by split <;> omega)) hG hr (Cfg.pop_t46s ..)
  | uncaught u s' p hE hur hE2 hp =>
    -- the 2 of the task pay for the error branch of the resumed caller
    refine h.goUnderM hs hu ?_ hG hr (Cfg.contError_t46s ..)
    rw [Cfg.contError_st]
    exact (((hU u hE hur).trans (.of_E hE2)).trans (St.t46_errorBranch_any s' r t true)).toM (by simp [hp])
  | alone u hE hur hp =>
    refine h.goUnderM hs hu ?_ hG hr (Cfg.contError_t46s ..)
    rw [Cfg.contError_st]
    exact ((hU u hE hur).trans (St.t46_errorBranch_any1 _ r t)).toM (by simp [hp])

theorem Cfg.t46_ptOwn {c : Cfg} (h : T46Inv c) {r : Nat} {t : Task} {k : List Frame}
    (hs : c.stack = .ptOwn r t :: k)
    (hown : ∀ w, c.ret.yield = .sub w → t.parent = none ∧ t.e < c.st.evs.length)
    (hr : ∀ y ts, Frame.taskLoop y ts ∈ k → (c.ptOwn k r t).st.rootOf y = c.st.rootOf y) :
    T46Inv (c.ptOwn k r t) := by
  obtain ⟨hu, hmem, hk⟩ := h.top_ptOwn hs
  have hroot := (T46Shape.under hu hk).1
  have hm : t ∈ (c.st.comp (c.st.rootOf r)).tasks := by rw [hroot]; exact hmem
  generalize hc' : c.ptOwn k r t = c' at hr ⊢
  unfold Cfg.ptOwn at hc'
  split at hc'
  · rename_i v hy
    subst hc'
    have hE := St.T46E.setValueOpt (.refl c.st) t.e v
    exact h.goUnderM hs hu hE.toM hE.toG hr (Cfg.pop_t46s ..)
  · rename_i w hy
    subst hc'
    obtain ⟨hp, he⟩ := hown w hy
    have ht : (⟨t.e, t.g, none⟩ : Task) = t := by
      cases t; simp only at hp; subst hp; rfl
    exact h.goUnderM hs hu (St.t46_ownSub_M c.st r t w he (by rw [ht]; exact hm))
      (St.T46G.ownSub (St.T46G.refl _) r t w (by rw [ht])) hr (Cfg.pop_t46s ..)
  · subst hc'
    exact h.contStopMem hs hu _ (.refl _) hm hr
  · subst hc'
    exact h.contErrorMem hs hu _ (.refl _) hm hr
  · subst hc'
    exact h.goUnderM hs hu (St.T46M.refl _) (St.T46G.refl _) hr ⟨[_], rfl, by simp [Frame.t46_plain]⟩
  · subst hc'
    exact h.goUnderM hs hu (St.T46M.refl _) (St.T46G.refl _) hr ⟨[_], rfl, by simp [Frame.t46_plain]⟩

/-- the frame weighs 2 on the event of `t`: that is what each of its exits may spend -/
theorem Cfg.t46_ptParent {c : Cfg} (h : T46Inv c) {r : Nat} {t : Task} {p : Nat} {v : Bool} {k : List Frame}
    (hs : c.stack = .ptParent r t p v :: k)
    (hr : ∀ y ts, Frame.taskLoop y ts ∈ k → (c.ptParent k r t p v).st.rootOf y = c.st.rootOf y) :
    T46Inv (c.ptParent k r t p v) := by
  obtain ⟨hu, -⟩ := h.top_ptParent hs
  have hG := Cfg.ptParent_t46g c k r t p v (rfl : some t = some t)
  generalize hc' : c.ptParent k r t p v = c' at hr hG ⊢
  unfold Cfg.ptParent at hc'
  split at hc'
  · subst hc'
    exact h.goUnder hs hu (St.t46_parentSub_any _ _ _ _ _ _) hG hr (Cfg.pop_t46s ..)
  · subst hc'
    exact h.goUnder hs hu (St.t46_parentPlain_any _ _ _ _ _ _) hG hr (Cfg.pop_t46s ..)
  · subst hc'
    refine h.goUnder hs hu ?_ hG hr (Cfg.contStop_t46s ..)
    rw [Cfg.contStop_st]
    exact St.t46_stopIteration_any _ _ _
  · subst hc'
    refine h.goUnder hs hu ?_ hG hr (Cfg.contError_t46s ..)
    rw [Cfg.contError_st]
    exact St.t46_errorBranch_any _ _ _ _
  · subst hc'
    exact h.goUnderM hs hu (St.T46M.refl _) hG hr ⟨[_], rfl, by simp [Frame.t46_plain]⟩
  · subst hc'
    exact h.goUnderM hs hu (St.T46M.refl _) hG hr ⟨[_], rfl, by simp [Frame.t46_plain]⟩

/-! ## the two plain arms whose slack needs the guard: `hApply`, `invoke` -/

theorem Cfg.t46_hApply_M (c : Cfg) (k : List Frame) (r e : Nat) (rest : List Nat) (err : Bool) (v : Outcome)
    (hg : ∀ g, v = .gen g → e < c.st.evs.length) : St.T46M c.st (c.hApply k r e rest err v).st := by
  unfold Cfg.hApply
  dsimp only
  split <;> exact St.T46M.geTasksCheck (St.t46_applyValue_M c.st r e v hg) r e

theorem Cfg.t46_invoke_M (c : Cfg) (k : List Frame) (r h e : Nat)
    (hd : ∀ w, (c.st.handler h).kind = .waitDone w → (c.st.wait w).started = true)
    (ht : ∀ w, (c.st.handler h).kind = .waitTick w → (c.st.wait w).started = true) :
    St.T46M c.st (c.invoke k r h e).st := by
  rcases Cfg.t46_invoke_cases c k r h e with hE | ⟨S, w, hE, hw, _, ⟨hk, he⟩ | ⟨hk, he⟩⟩
  · exact hE.toM
  · rw [he]; exact hE.toM.trans (St.t46_onWaitDone_M S w e (by rw [hw]; exact hd w hk))
  · rw [he]; exact hE.toM.trans (St.t46_onWaitTick_M S w (by rw [hw]; exact ht w hk))

theorem t46_unwind_inv {c : Cfg} (h : T46Inv c) (k : List Frame) (ex : Exn) (f : Frame) (hs : c.stack = f :: k)
    (hr : ∀ x ts, Frame.taskLoop x ts ∈ k → (unwind c k ex f).st.rootOf x = c.st.rootOf x) :
    T46Inv (unwind c k ex f) :=
  h.goPlain hs (t46_unwind_E c k ex f).toM (t46_unwind_E c k ex f).toG hr (unwind_t46s c k ex f)

theorem t46_stepFrame_inv {c : Cfg} (h : T46Inv c) (hg : T46Guard c) (k : List Frame) (f : Frame)
    (hs : c.stack = f :: k) (hx : c.exn = none)
    (hr : ∀ x ts, Frame.taskLoop x ts ∈ k → (stepFrame c k f).st.rootOf x = c.st.rootOf x) :
    T46Inv (stepFrame c k f) := by
  -- once `f` is a constructor, `hst rfl nofun` says that its arm pushes only plain frames: `f` is plain itself (`rfl`) and
  -- is not `.tick` (`nofun`)
  have hst := stepFrame_t46s c k f
  cases f
  case processTask r t => exact Cfg.t46_processTask h hs hr
  case ptBody r t => exact Cfg.t46_ptBody h hs hr
  case ptOwn r t => exact Cfg.t46_ptOwn h hs (fun w hw => hg.own r t k w hs hx hw) hr
  case ptParent r t p v => exact Cfg.t46_ptParent h hs hr
  case tick x => exact Cfg.t46_tick h hs (fun hne => hg.tick x k hs hx hne) hr
  case taskLoop x ts => exact Cfg.t46_taskLoop h hs
  case invoke r hh e =>
    exact h.goPlain hs (Cfg.t46_invoke_M c k r hh e (fun w hk => hg.done r hh e k w hs hx hk)
      (fun w hk => hg.tickh r hh e k w hs hx hk)) (Cfg.invoke_t46g c k r hh e) hr (hst rfl nofun)
  case hApply r e rest err v =>
    refine h.goPlain hs (Cfg.t46_hApply_M c k r e rest err v (fun g hv => ?_)) (Cfg.hApply_t46g c k r e rest err v) hr (hst rfl nofun)
    subst hv
    exact hg.gen r e rest err g k hs hx
  -- the other arms leave the accounting alone
  all_goals
    refine h.goPlain hs (St.T46E.toM ?_) (St.T46E.toG ?_) hr (hst rfl nofun) <;> exact t46_stepFrame_E c k _ rfl

theorem t46_step_inv (c : Cfg) (h : T46Inv c) (hg : T46Guard c) : T46Inv (step c) := by
  cases hs : c.stack with
  | nil => rw [step_nil c hs]; exact h
  | cons f k =>
    have hroot : ∀ x ts, Frame.taskLoop x ts ∈ k → (step c).st.rootOf x = c.st.rootOf x :=
      fun x ts hm => hg.root x ts (by rw [hs]; exact List.mem_cons_of_mem _ hm)
    cases hx : c.exn with
    | none =>
      rw [step_cons c f k hs hx] at hroot ⊢
      exact t46_stepFrame_inv h hg k f hs hx hroot
    | some ex =>
      rw [step_cons_exn c f k ex hs hx] at hroot ⊢
      exact t46_unwind_inv h k ex f hs hroot

structure T46Init (s0 : St) : Prop where
  tasks : ∀ x, (s0.comp x).tasks = []
  waits : s0.waits = []
  waiting : ∀ e, 0 ≤ (s0.ev e).waiting

/-- `Reach` restricted to runs on which `T46Guard` holds at every step taken -/
inductive T46Reach (s0 : St) : Cfg → Prop
  | init (d : Nat) (tape : List Entry) (op : ExtOp) : T46Reach s0 (startOf (envChange s0 d tape) op)
  | step {c : Cfg} : T46Reach s0 c → T46Guard c → T46Reach s0 (CV.Core.step c)
  | next {c : Cfg} (d : Nat) (tape : List Entry) (op : ExtOp) :
      T46Reach s0 c → done c = true → T46Reach s0 (startOf (envChange c.st d tape) op)

theorem T46Reach.reach {s0 : St} {c : Cfg} (h : T46Reach s0 c) : Reach s0 c := by
  induction h with
  | init d tape op => exact Reach.init d tape op
  | step _ _ ih => exact Reach.step ih
  | next d tape op _ hd ih => exact Reach.next d tape op ih hd

theorem T46Reach.of_reach {s0 : St} (hG : ∀ c, Reach s0 c → T46Guard c) {c : Cfg} (h : Reach s0 c) : T46Reach s0 c := by
  induction h with
  | init d tape op => exact T46Reach.init d tape op
  | step hr ih => exact T46Reach.step ih (hG _ hr)
  | next d tape op _ hd ih => exact T46Reach.next d tape op ih hd

theorem T46Init.slack {s0 : St} (h : T46Init s0) (e : Nat) : 0 ≤ s0.t46_D e := by
  unfold St.t46_D St.t46_WT St.t46_WW
  rw [h.waits]
  have : (s0.comps.map fun c => t46_sumTasks e c.tasks).sum = 0 := by
    apply t46_sum_zero
    intro a ha
    obtain ⟨i, hi, rfl⟩ := List.getElem_of_mem ha
    have := h.tasks i
    unfold St.comp at this
    rw [List.getD_eq_getElem?_getD, List.getElem?_eq_getElem hi] at this
    simp only [Option.getD_some] at this
    rw [this]; rfl
  rw [this]
  have := h.waiting e
  simp; omega

theorem t46_start_inv (s : St) (hd : ∀ e, 0 ≤ s.t46_D e) (hn : ∀ x, (s.comp x).tasks.Nodup)
    (d : Nat) (tape : List Entry) (op : ExtOp) : T46Inv (startOf (envChange s d tape) op) := by
  have hst : ∀ fs, (∀ f ∈ fs, f.t46_plain = true) → T46Inv (Cfg.start (envChange s d tape) fs) := by
    intro fs hp
    refine ⟨fun e => ?_, hn, ?_⟩
    · show t46_WF e fs ≤ s.t46_D e
      rw [t46_WF_plain e fs hp]; exact hd e
    · have := T46Shape.append_plain (s := envChange s d tape) (k := []) hp trivial
      rwa [List.append_nil] at this
  cases op <;> exact hst _ (by simp [Frame.t46_plain])

theorem t46_reach_inv {s0 : St} (h0 : T46Init s0) : ∀ c, T46Reach s0 c → T46Inv c := by
  intro c hr
  induction hr with
  | init d tape op =>
    exact t46_start_inv s0 h0.slack (fun x => by rw [h0.tasks x]; exact List.nodup_nil) d tape op
  | step _ hg ih => exact t46_step_inv _ ih hg
  | @next c0 d tape op _ hd ih =>
    refine t46_start_inv _ (fun e => ?_) ih.nd d tape op
    have h1 := ih.acct e
    have : c0.stack = [] := by simpa [done] using hd
    rw [this] at h1
    simpa using h1

theorem St.t46_WT_nonneg (s : St) (e : Nat) : 0 ≤ s.t46_WT e :=
  t46_sum_nonneg (fun c : Comp => t46_sumTasks e c.tasks) (fun c => t46_sumTasks_nonneg e c.tasks) s.comps

theorem St.t46_WW_nonneg (s : St) (e : Nat) : 0 ≤ s.t46_WW e :=
  t46_sum_nonneg _ (WaitSt.t46_wt_nonneg e) s.waits

theorem St.t46_task_le_WT (s : St) (e x : Nat) (t : Task) (ht : t ∈ (s.comp x).tasks) : t.t46_wt e ≤ s.t46_WT e := by
  have hx : x < s.comps.length := St.comp_lt_of_ne fun hd => by rw [hd] at ht; cases ht
  have h1 : s.comp x ∈ s.comps := by
    unfold St.comp
    rw [List.getD_eq_getElem?_getD, List.getElem?_eq_getElem hx]
    exact List.getElem_mem hx
  have h2 := t46_sum_ge_mem (fun c : Comp => t46_sumTasks e c.tasks) (fun c => t46_sumTasks_nonneg e c.tasks) s.comps _ h1
  have h3 := t46_sum_ge_mem (Task.t46_wt e) (Task.t46_wt_nonneg e) (s.comp x).tasks t ht
  unfold St.t46_WT
  unfold t46_sumTasks at h2 ⊢
  omega

theorem St.t46_wait_le_WW (s : St) (e w : Nat) (hw : w < s.waits.length) : (s.wait w).t46_wt e ≤ s.t46_WW e := by
  have h1 : s.wait w ∈ s.waits := by
    unfold St.wait
    rw [List.getD_eq_getElem?_getD, List.getElem?_eq_getElem hw]
    exact List.getElem_mem hw
  exact t46_sum_ge_mem (WaitSt.t46_wt e) (WaitSt.t46_wt_nonneg e) s.waits _ h1

theorem t46_frame_le_WF (e : Nat) (k : List Frame) (f : Frame) (hf : f ∈ k) : f.t46_wt e ≤ t46_WF e k :=
  t46_sum_ge_mem (Frame.t46_wt e) (Frame.t46_wt_nonneg e) k f hf

theorem T46Inv.bound {c : Cfg} (h : T46Inv c) (e : Nat) :
    c.st.t46_WT e + c.st.t46_WW e + t46_WF e c.stack ≤ (c.st.ev e).waiting := by
  have := h.acct e
  unfold St.t46_D at this
  omega

theorem T46Inv.waiting_nonneg {c : Cfg} (h : T46Inv c) (e : Nat) : 0 ≤ (c.st.ev e).waiting := by
  have := h.bound e
  have := St.t46_WT_nonneg c.st e
  have := St.t46_WW_nonneg c.st e
  have := t46_WF_nonneg e c.stack
  omega

theorem T46Inv.task_bound {c : Cfg} (h : T46Inv c) (x : Nat) (t : Task) (ht : t ∈ (c.st.comp x).tasks) :
    (if t.parent.isSome then 2 else 1) ≤ (c.st.ev t.e).waiting := by
  have h1 := h.bound t.e
  have h2 := St.t46_task_le_WT c.st t.e x t ht
  have h3 : t.t46_wt t.e = if t.parent.isSome then 2 else 1 := by simp [Task.t46_wt]
  have := St.t46_WW_nonneg c.st t.e
  have := t46_WF_nonneg t.e c.stack
  omega

theorem T46Inv.no_obligations {c : Cfg} (h : T46Inv c) (e : Nat) (hw : (c.st.ev e).waiting = 0) :
    (∀ x t, t ∈ (c.st.comp x).tasks → t.e ≠ e) ∧
    (∀ w, w < c.st.waits.length → (c.st.wait w).t46_pending = true → (c.st.wait w).taskEvent ≠ e) ∧
    (∀ r t p v, Frame.ptParent r t p v ∈ c.stack → t.e ≠ e) := by
  have hb := h.bound e
  have h1 := St.t46_WT_nonneg c.st e
  have h2 := St.t46_WW_nonneg c.st e
  have h3 := t46_WF_nonneg e c.stack
  refine ⟨fun x t ht he => ?_, fun w hlt hp he => ?_, fun r t p v hf he => ?_⟩
  · have := St.t46_task_le_WT c.st e x t ht
    have : 1 ≤ t.t46_wt e := by simp only [Task.t46_wt, he, if_true]; split <;> omega
    omega
  · have := St.t46_wait_le_WW c.st e w hlt
    rw [WaitSt.t46_wt_of_pending _ _ hp, if_pos he] at this
    omega
  · have := t46_frame_le_WF e c.stack _ hf
    simp only [Frame.t46_wt, he, if_true] at this
    omega

/-- a task frame in flight: its task is still registered (so it counts), except after the unregistration (`ptParent`,
    which counts 2 itself) -/

theorem T46Inv.inflight_bound {c : Cfg} (h : T46Inv c) (r : Nat) (t : Task) (k : List Frame)
    (hs : c.stack = .ptBody r t :: k ∨ c.stack = .ptOwn r t :: k ∨ ∃ p v, c.stack = .ptParent r t p v :: k) :
    1 ≤ (c.st.ev t.e).waiting := by
  rcases hs with hs | hs | ⟨p, v, hs⟩
  · obtain ⟨-, hmem, -⟩ := h.top_ptBody hs
    have := h.task_bound r t hmem
    split at this <;> omega
  · obtain ⟨-, hmem, -⟩ := h.top_ptOwn hs
    have := h.task_bound r t hmem
    split at this <;> omega
  · have h1 := h.bound t.e
    rw [hs, t46_WF_cons] at h1
    have := St.t46_WT_nonneg c.st t.e
    have := St.t46_WW_nonneg c.st t.e
    have := t46_WF_nonneg t.e k
    simp only [Frame.t46_wt, if_true] at h1
    omega

theorem T46Shape.loop_quiet {s : St} : ∀ {a : List Frame} {x : Nat} {ts : List Task} {b : List Frame},
    T46Shape s (a ++ Frame.taskLoop x ts :: b) → t46_quiet b = true ∧ s.rootOf x = x ∧
      ∀ t ∈ ts, t ∈ (s.comp x).tasks := by
  intro a x ts b h
  obtain ⟨hq, hroot, -, hmem⟩ := (T46Shape.drop h).1
  exact ⟨hq, hroot, hmem⟩

/-- the end-of-event step of `e` goes through in `c`: `_eventDone(e)` is entered with `waitingHandlers = 0` -/
def T46Pass (c : Cfg) (e : Nat) : Prop :=
  ∃ r err k, c.stack = .eventDone r e err :: k ∧ c.exn = none ∧ (c.st.ev e).waiting = 0

def t46_passB (c : Cfg) (e : Nat) : Bool :=
  match c.exn, c.stack with
  | none, .eventDone _ e' _ :: _ => e' == e && decide ((c.st.ev e).waiting = 0)
  | _, _ => false

theorem t46_passB_spec (c : Cfg) (e : Nat) (h : t46_passB c e = true) : T46Pass c e := by
  unfold t46_passB at h
  split at h
  · rename_i r e' err k hx hs
    simp only [Bool.and_eq_true, beq_iff_eq, decide_eq_true_eq] at h
    obtain ⟨h1, h2⟩ := h
    subst h1
    exact ⟨r, err, k, hs, hx, h2⟩
  · cases h

def t46_badTickB (c : Cfg) : Bool :=
  match c.exn, c.stack with
  | none, .tick x :: k => !(c.st.comp x).tasks.isEmpty && !(t46_quiet k)
  | _, _ => false

theorem t46_badTickB_spec (c : Cfg) (h : t46_badTickB c = true) : ¬ T46Guard c := by
  intro hg
  unfold t46_badTickB at h
  split at h
  · rename_i x k hx hs
    simp only [Bool.and_eq_true, Bool.not_eq_true'] at h
    have hne : (c.st.comp x).tasks ≠ [] := by
      intro h0; rw [h0] at h; simp at h
    have := (hg.tick x k hs hx hne).1
    rw [this] at h
    exact absurd h.2 (by simp)
  · cases h

def t46_noDispB (c1 c2 : Cfg) (e : Nat) : Bool :=
  let d := c2.st.log.length - c1.st.log.length
  c2.st.log.drop d == c1.st.log && !(c2.st.log.take d).contains (Entry.disp e)

theorem t46_noDispB_spec (c1 c2 : Cfg) (e : Nat) (h : t46_noDispB c1 c2 e = true) :
    ∃ es, c2.st.log = es ++ c1.st.log ∧ Entry.disp e ∉ es := by
  unfold t46_noDispB at h
  simp only [Bool.and_eq_true, beq_iff_eq, Bool.not_eq_true', List.contains_eq_mem, decide_eq_false_iff_not] at h
  refine ⟨c2.st.log.take (c2.st.log.length - c1.st.log.length), ?_, h.2⟩
  have := List.take_append_drop (c2.st.log.length - c1.st.log.length) c2.st.log
  rw [h.1] at this
  exact this.symm

/-- a state without events, tasks and wait states, as a driver session starts in -/
theorem T46Init.of_no_events {s : St} (ht : ∀ x, (s.comp x).tasks = []) (hw : s.waits = []) (he : s.evs = []) :
    T46Init s :=
  ⟨ht, hw, fun e => by rw [St.w6_ev_ge s e (by rw [he]; exact Nat.zero_le e)]; decide⟩

theorem t46_s0w_init : T46Init C05.s0w := .of_no_events (fun x => by cases x <;> rfl) rfl rfl

theorem t46_cw2_pass1 : t46_passB (C05.cw2 55) 0 = true := by decide +kernel
theorem t46_cw2_pass2 : t46_passB (C05.cw2 86) 0 = true := by decide +kernel
theorem t46_cw2_nodisp : t46_noDispB (C05.cw2 55) (C05.cw2 86) 0 = true := by decide +kernel
theorem t46_cw2_badtick : t46_badTickB (C05.cw2 19) = true := by decide +kernel

end CV.Core
