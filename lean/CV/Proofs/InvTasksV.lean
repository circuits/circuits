import CV.Proofs.InvTasksE
/-
`St.T46V` over the helpers and arms: read off `St.T46E` where the accounting is left alone; the helpers that move
obligations and the arms of the task frames, `hApply` and `invoke` are walked, the excepted event being that of the frame.
-/

namespace CV.Core

@[st_pres ↓] theorem St.T46V.addHandler {xt : Option Nat} {s t : St} (h : St.T46V xt s t) (x : Nat) : St.T46V xt s (t.addHandler x) :=
  h.trans (St.T46E.addHandler (.refl t) x).toV

@[st_pres ↓] theorem St.T46V.removeHandler {xt : Option Nat} {s t : St} (h : St.T46V xt s t) (x : Nat) (n : Option Name) :
    St.T46V xt s ((t.removeHandler x n).2) :=
  h.trans (St.T46E.removeHandler (.refl t) x n).toV

@[st_pres ↓] theorem St.T46V.fireRaw {xt : Option Nat} {s t : St} (h : St.T46V xt s t) (self e : Nat) (chans : List Chan) (prio : Int) :
    St.T46V xt s (t.fireRaw self e chans prio) :=
  h.trans (St.T46E.fireRaw (.refl t) self e chans prio).toV

@[st_pres ↓] theorem St.T46V.fireChild {xt : Option Nat} {s t : St} (h : St.T46V xt s t) (self p sfx : Nat) (chans : List Chan) :
    St.T46V xt s (t.fireChild self p sfx chans) :=
  h.trans (St.T46E.fireChild (.refl t) self p sfx chans).toV

@[st_pres ↓] theorem St.T46V.inform {xt : Option Nat} {s t : St} (h : St.T46V xt s t) (e : Nat) (force : Bool) :
    St.T46V xt s (t.inform e force) :=
  h.trans (St.T46E.inform (.refl t) e force).toV

@[st_pres ↓] theorem St.T46V.setValue {xt : Option Nat} {s t : St} (h : St.T46V xt s t) (e : Nat) (x : VItem) :
    St.T46V xt s (t.setValue e x) :=
  h.trans (St.T46E.setValue (.refl t) e x).toV

@[st_pres ↓] theorem St.T46V.registerPre {xt : Option Nat} {s t : St} (h : St.T46V xt s t) (c p : Nat) :
    St.T46V xt s ((t.registerPre c p).2) :=
  h.trans (St.T46E.registerPre (.refl t) c p).toV

@[st_pres ↓] theorem St.T46V.unregister {xt : Option Nat} {s t : St} (h : St.T46V xt s t) (c : Nat) :
    St.T46V xt s (t.unregister c) :=
  h.trans (St.T46E.unregister (.refl t) c).toV

@[st_pres ↓] theorem St.T46V.prepUnregPre {xt : Option Nat} {s t : St} (h : St.T46V xt s t) (c : Nat) :
    St.T46V xt s (t.prepUnregPre c) :=
  h.trans (St.T46E.prepUnregPre (.refl t) c).toV

@[st_pres ↓] theorem St.T46V.timerTick {xt : Option Nat} {s t : St} (h : St.T46V xt s t) (i e : Nat) :
    St.T46V xt s (t.timerTick i e) :=
  h.trans (St.T46E.timerTick (.refl t) i e).toV

@[st_pres ↓] theorem St.T46V.resumeGenPre {xt : Option Nat} {s t : St} (h : St.T46V xt s t) (g : Nat) (silent : Bool) :
    St.T46V xt s (t.resumeGenPre g silent) :=
  h.trans (St.T46E.resumeGenPre (.refl t) g silent).toV

@[st_pres ↓] theorem St.T46V.fireException {xt : Option Nat} {s t : St} (h : St.T46V xt s t) (r e : Nat) :
    St.T46V xt s (t.fireException r e) :=
  h.trans (St.T46E.fireException (.refl t) r e).toV

@[st_pres ↓] theorem St.T46V.setValueOpt {xt : Option Nat} {s t : St} (h : St.T46V xt s t) (e : Nat) (v : Option Nat) :
    St.T46V xt s (t.setValueOpt e v) :=
  h.trans (St.T46E.setValueOpt (.refl t) e v).toV

@[st_pres ↓] theorem St.T46V.dispatchPre {xt : Option Nat} {s t : St} (h : St.T46V xt s t) (r e remaining : Nat) :
    St.T46V xt s ((t.dispatchPre r e remaining).2) :=
  h.trans (St.T46E.dispatchPre (.refl t) r e remaining).toV

@[st_pres ↓] theorem St.T46V.geTasksCheck {xt : Option Nat} {s t : St} (h : St.T46V xt s t) (r e : Nat) :
    St.T46V xt s (t.geTasksCheck r e) :=
  h.trans (St.T46E.geTasksCheck (.refl t) r e).toV

@[st_pres ↓] theorem St.T46V.flushBegin {xt : Option Nat} {s t : St} (h : St.T46V xt s t) (r : Nat) :
    St.T46V xt s (t.flushBegin r) :=
  h.trans (St.T46E.flushBegin (.refl t) r).toV

@[st_pres ↓] theorem St.T46V.updateRootAll {xt : Option Nat} (s : St) : ∀ (fuel : Nat) (todo : List Nat) (root : Nat) (t : St),
    St.T46V xt s t → St.T46V xt s (St.updateRootAll fuel todo root t) :=
  fun fuel todo root t h => h.trans (St.T46E.updateRootAll t fuel todo root t (.refl t)).toV

@[st_pres ↓] theorem St.T46V.startWait {xt : Option Nat} {s t : St} (h : St.T46V xt s t) (w : Nat) :
    St.T46V xt s (t.startWait w) := by
  obtain ⟨u, F, hE, hu⟩ := St.t46_startWait_eq t w
  rw [hu]
  exact (h.trans hE.toV).modWait w F

@[st_pres ↓] theorem St.T46V.stopIteration {xt : Option Nat} {s t : St} (h : St.T46V xt s t) (r : Nat) (x : Task) (hex : xt = some x.e) :
    St.T46V xt s ((t.stopIteration r x).2) :=
  St.stopIteration_pres t r x (by st_pres) (fun _ _ h => by st_pres) (fun _ h => by st_pres)

@[st_pres ↓] theorem St.T46V.errorBranch {xt : Option Nat} {s t : St} (h : St.T46V xt s t) (r : Nat) (x : Task) (resumed : Bool) (hex : xt = some x.e) :
    St.T46V xt s ((t.errorBranch r x resumed).2) :=
  St.errorBranch_pres t r x resumed (by st_pres) (fun _ h => by st_pres) (fun _ h => by st_pres)
    (fun _ _ h => by st_pres) (fun _ _ h => by st_pres) (fun _ h => by st_pres) (fun _ _ h => by st_pres)

@[st_pres ↓] theorem St.T46V.ownSub {xt : Option Nat} {s t : St} (h : St.T46V xt s t) (r : Nat) (x : Task) (w : Nat) (hex : xt = some x.e) :
    St.T46V xt s (t.ownSub r x w) := by
  st_pres_unfold St.ownSub

@[st_pres ↓] theorem St.T46V.parentSub {xt : Option Nat} {s t : St} (h : St.T46V xt s t) (r : Nat) (x : Task) (p w2 : Nat) (viaThrow : Bool) :
    St.T46V xt s (t.parentSub r x p w2 viaThrow) := by
  st_pres_unfold St.parentSub

@[st_pres ↓] theorem St.T46V.parentPlain {xt : Option Nat} {s t : St} (h : St.T46V xt s t) (r : Nat) (x : Task) (p : Nat) (v : Option Nat) (viaThrow : Bool) (hex : xt = some x.e) :
    St.T46V xt s (t.parentPlain r x p v viaThrow) := by
  st_pres_unfold St.parentPlain

@[st_pres ↓] theorem St.T46V.onWaitDone {xt : Option Nat} {s t : St} (h : St.T46V xt s t) (w e : Nat) :
    St.T46V xt s ((t.onWaitDone w e).2) :=
  St.onWaitDone_pres t w e h (fun _ _ _ h => by st_pres) (fun _ _ => by st_pres)

@[st_pres ↓] theorem St.T46V.onWaitTick {xt : Option Nat} {s t : St} (h : St.T46V xt s t) (w : Nat) :
    St.T46V xt s ((t.onWaitTick w).2) := by
  exact St.onWaitTick_pres t w h (fun _ h n hu => hu.removeHandler h n) (fun _ _ _ => by st_pres) (by st_pres)

@[st_pres ↓] theorem St.T46V.applyValue {xt : Option Nat} {s t : St} (h : St.T46V xt s t) (r e : Nat) (value : Outcome) (hex : xt = some e) :
    St.T46V xt s (t.applyValue r e value) := by
  st_pres_unfold St.applyValue

@[st_pres ↓] theorem Cfg.contStop_t46v {xt : Option Nat} {s0 : St} (c : Cfg) (k : List Frame) (s : St) (r : Nat) (x : Task) (hle : St.T46V xt s0 s) (hex : xt = some x.e) :
    St.T46V xt s0 (c.contStop k s r x).st := by
  rw [Cfg.contStop_st]; st_pres

@[st_pres ↓] theorem Cfg.contError_t46v {xt : Option Nat} {s0 : St} (c : Cfg) (k : List Frame) (s : St) (r : Nat) (x : Task) (resumed : Bool) (hle : St.T46V xt s0 s) (hex : xt = some x.e) :
    St.T46V xt s0 (c.contError k s r x resumed).st := by
  rw [Cfg.contError_st]; st_pres

theorem Cfg.ptBody_t46v {xt : Option Nat} (c : Cfg) (k : List Frame) (r : Nat) (x : Task) (hex : xt = some x.e) :
    St.T46V xt c.st (c.ptBody k r x).st := by
  have hc := Cfg.t46_ptBody_cases c k r x
  generalize c.ptBody k r x = c' at hc ⊢
  have hU := fun (u : St) (hE : St.T46E c.st u) => St.T46V.unregisterTask (hE.toV (xt := xt)) r x
  cases hc with
  | own u hE => exact hE.toV
  | stop u hE _ => exact Cfg.contStop_t46v c k u r x hE.toV hex
  | error u hE _ => exact Cfg.contError_t46v c k u r x false hE.toV hex
  | value u hE => exact hE.toV
  | resumed u s' p v hE _ hE2 _ => exact (hU u hE).trans hE2.toV
  | dropped u hE _ => exact hU u hE
  | uncaught u s' p hE _ hE2 _ => exact Cfg.contError_t46v c k s' r x true ((hU u hE).trans hE2.toV) hex
  | alone u hE _ _ => exact Cfg.contError_t46v c k _ r x false (hU u hE) hex

theorem Cfg.ptOwn_t46v {xt : Option Nat} (c : Cfg) (k : List Frame) (r : Nat) (x : Task) (hex : xt = some x.e) :
    St.T46V xt c.st (c.ptOwn k r x).st := by
  unfold Cfg.ptOwn; (try dsimp only); st_pres

theorem Cfg.ptParent_t46v {xt : Option Nat} (c : Cfg) (k : List Frame) (r : Nat) (x : Task) (p : Nat) (viaThrow : Bool) (hex : xt = some x.e) :
    St.T46V xt c.st (c.ptParent k r x p viaThrow).st := by
  unfold Cfg.ptParent; (try dsimp only); st_pres

theorem Cfg.invoke_t46v {xt : Option Nat} (c : Cfg) (k : List Frame) (r h e : Nat) :
    St.T46V xt c.st (c.invoke k r h e).st := by
  rcases Cfg.t46_invoke_cases c k r h e with hE | ⟨S, w, hE, _, _, ⟨_, he⟩ | ⟨_, he⟩⟩
  · exact hE.toV
  · rw [he]; exact hE.toV.onWaitDone w e
  · rw [he]; exact hE.toV.onWaitTick w

theorem Cfg.hApply_t46v {xt : Option Nat} (c : Cfg) (k : List Frame) (r e : Nat) (rest : List Nat) (err : Bool) (value : Outcome) (hex : xt = some e) :
    St.T46V xt c.st (c.hApply k r e rest err value).st := by
  unfold Cfg.hApply; (try dsimp only); st_pres

/-! ## the other arms one by one

Each leaves the accounting alone: read off `t46_stepFrame_E` (`runCatchExn`, an arm of `unwind`: off `t46_unwind_E`).
With the arms above this is `St.T46V` for every arm of `step` by name; `t46_stepFrame_V` takes these arms all at once, from
`t46_stepFrame_E` itself. -/

theorem Cfg.effectDone_t46v {xt : Option Nat} (c : Cfg) (k : List Frame) (r e : Nat) (announce : Bool) :
    St.T46V xt c.st (c.effectDone k r e announce).st :=
  (t46_stepFrame_E c k (.effectDone r e announce) rfl).toV

theorem Cfg.eventDone_t46v {xt : Option Nat} (c : Cfg) (k : List Frame) (r e : Nat) (err : Bool) :
    St.T46V xt c.st (c.eventDone k r e err).st :=
  (t46_stepFrame_E c k (.eventDone r e err) rfl).toV

theorem Cfg.updateRoot_t46v {xt : Option Nat} (c : Cfg) (k : List Frame) (todo : List Nat) (root : Nat) :
    St.T46V xt c.st (c.updateRoot k todo root).st :=
  (t46_stepFrame_E c k (.updateRoot todo root) rfl).toV

theorem Cfg.register_t46v {xt : Option Nat} (c : Cfg) (k : List Frame) (x p : Nat) :
    St.T46V xt c.st (c.register k x p).st :=
  (t46_stepFrame_E c k (.register x p) rfl).toV

theorem Cfg.registerFin_t46v {xt : Option Nat} (c : Cfg) (k : List Frame) (x : Nat) :
    St.T46V xt c.st (c.registerFin k x).st :=
  (t46_stepFrame_E c k (.registerFin x) rfl).toV

theorem Cfg.prepUnregFin_t46v {xt : Option Nat} (c : Cfg) (k : List Frame) (x : Nat) :
    St.T46V xt c.st (c.prepUnregFin k x).st :=
  (t46_stepFrame_E c k (.prepUnregFin x) rfl).toV

theorem Cfg.stopMgr_t46v {xt : Option Nat} (c : Cfg) (k : List Frame) (x : Nat) (code : Code) :
    St.T46V xt c.st (c.stopMgr k x code).st :=
  (t46_stepFrame_E c k (.stopMgr x code) rfl).toV

theorem Cfg.ticks_t46v {xt : Option Nat} (c : Cfg) (k : List Frame) (x n : Nat) :
    St.T46V xt c.st (c.ticks k x n).st :=
  (t46_stepFrame_E c k (.ticks x n) rfl).toV

theorem Cfg.stopFin_t46v {xt : Option Nat} (c : Cfg) (k : List Frame) (code : Code) :
    St.T46V xt c.st (c.stopFin k code).st :=
  (t46_stepFrame_E c k (.stopFin code) rfl).toV

theorem Cfg.timerNew_t46v {xt : Option Nat} (c : Cfg) (k : List Frame) (i : Nat) :
    St.T46V xt c.st (c.timerNew k i).st :=
  (t46_stepFrame_E c k (.timerNew i) rfl).toV

theorem Cfg.acts_t46v {xt : Option Nat} (c : Cfg) (k : List Frame) (ctx : HCtx) (prog : Prog) :
    St.T46V xt c.st (c.acts k ctx prog).st :=
  (t46_stepFrame_E c k (.acts ctx prog) rfl).toV

theorem Cfg.doFin_t46v {xt : Option Nat} (c : Cfg) (k : List Frame) (x : Nat) :
    St.T46V xt c.st (c.doFin k x).st :=
  (t46_stepFrame_E c k (.doFin x) rfl).toV

theorem Cfg.drainQ_t46v {xt : Option Nat} (c : Cfg) (k : List Frame) (x : Nat) :
    St.T46V xt c.st (c.drainQ k x).st :=
  (t46_stepFrame_E c k (.drainQ x) rfl).toV

theorem Cfg.stepGen_t46v {xt : Option Nat} (c : Cfg) (k : List Frame) (g : Nat) :
    St.T46V xt c.st (c.stepGen k g).st :=
  (t46_stepFrame_E c k (.stepGen g) rfl).toV

theorem Cfg.processTask_t46v {xt : Option Nat} (c : Cfg) (k : List Frame) (r : Nat) (x : Task) :
    St.T46V xt c.st (c.processTask k r x).st :=
  (t46_stepFrame_E c k (.processTask r x) rfl).toV

theorem Cfg.ptFin_t46v {xt : Option Nat} (c : Cfg) (k : List Frame) (r : Nat) (handling : Option Nat) :
    St.T46V xt c.st (c.ptFin k r handling).st :=
  (t46_stepFrame_E c k (.ptFin r handling) rfl).toV

theorem Cfg.dispatcher_t46v {xt : Option Nat} (c : Cfg) (k : List Frame) (r e remaining : Nat) :
    St.T46V xt c.st (c.dispatcher k r e remaining).st :=
  (t46_stepFrame_E c k (.dispatcher r e remaining) rfl).toV

theorem Cfg.hLoop_t46v {xt : Option Nat} (c : Cfg) (k : List Frame) (r e : Nat) (hs : List Nat) (err : Bool) (stale : Outcome) :
    St.T46V xt c.st (c.hLoop k r e hs err stale).st :=
  (t46_stepFrame_E c k (.hLoop r e hs err stale) rfl).toV

theorem Cfg.invokeFin_t46v {xt : Option Nat} (c : Cfg) (k : List Frame) (e h : Nat) :
    St.T46V xt c.st (c.invokeFin k e h).st :=
  (t46_stepFrame_E c k (.invokeFin e h) rfl).toV

theorem Cfg.hAfter_t46v {xt : Option Nat} (c : Cfg) (k : List Frame) (r e : Nat) (rest : List Nat) (err : Bool) (stale : Outcome) :
    St.T46V xt c.st (c.hAfter k r e rest err stale).st :=
  (t46_stepFrame_E c k (.hAfter r e rest err stale) rfl).toV

theorem Cfg.dispFin_t46v {xt : Option Nat} (c : Cfg) (k : List Frame) (r e : Nat) (err : Bool) :
    St.T46V xt c.st (c.dispFin k r e err).st :=
  (t46_stepFrame_E c k (.dispFin r e err) rfl).toV

theorem Cfg.dispatchLoop_t46v {xt : Option Nat} (c : Cfg) (k : List Frame) (r : Nat) :
    St.T46V xt c.st (c.dispatchLoop k r).st :=
  (t46_stepFrame_E c k (.dispatchLoop r) rfl).toV

theorem Cfg.flush_t46v {xt : Option Nat} (c : Cfg) (k : List Frame) (x : Nat) :
    St.T46V xt c.st (c.flush k x).st :=
  (t46_stepFrame_E c k (.flush x) rfl).toV

theorem Cfg.flushFin_t46v {xt : Option Nat} (c : Cfg) (k : List Frame) (r : Nat) (old : Bool) :
    St.T46V xt c.st (c.flushFin k r old).st :=
  (t46_stepFrame_E c k (.flushFin r old) rfl).toV

theorem Cfg.tick_t46v {xt : Option Nat} (c : Cfg) (k : List Frame) (x : Nat) :
    St.T46V xt c.st (c.tick k x).st :=
  (t46_stepFrame_E c k (.tick x) rfl).toV

theorem Cfg.taskLoop_t46v {xt : Option Nat} (c : Cfg) (k : List Frame) (x : Nat) (ts : List Task) :
    St.T46V xt c.st (c.taskLoop k x ts).st :=
  (t46_stepFrame_E c k (.taskLoop x ts) rfl).toV

theorem Cfg.tickFin_t46v {xt : Option Nat} (c : Cfg) (k : List Frame) (x : Nat) (old : Bool) :
    St.T46V xt c.st (c.tickFin k x old).st :=
  (t46_stepFrame_E c k (.tickFin x old) rfl).toV

theorem Cfg.tickGen_t46v {xt : Option Nat} (c : Cfg) (k : List Frame) (x : Nat) :
    St.T46V xt c.st (c.tickGen k x).st :=
  (t46_stepFrame_E c k (.tickGen x) rfl).toV

theorem Cfg.run_t46v {xt : Option Nat} (c : Cfg) (k : List Frame) (x : Nat) :
    St.T46V xt c.st (c.run k x).st :=
  (t46_stepFrame_E c k (.run x) rfl).toV

theorem Cfg.runLoop_t46v {xt : Option Nat} (c : Cfg) (k : List Frame) (x : Nat) :
    St.T46V xt c.st (c.runLoop k x).st :=
  (t46_stepFrame_E c k (.runLoop x) rfl).toV

theorem Cfg.runFin_t46v {xt : Option Nat} (c : Cfg) (k : List Frame) (x : Nat) :
    St.T46V xt c.st (c.runFin k x).st :=
  (t46_stepFrame_E c k (.runFin x) rfl).toV

theorem Cfg.runCatchExn_t46v {xt : Option Nat} (c : Cfg) (k : List Frame) (x : Nat) (exn : Exn) :
    St.T46V xt c.st (c.runCatchExn k x exn).st :=
  (t46_unwind_E c k exn (.runCatch x)).toV

theorem Cfg.runRethrow_t46v {xt : Option Nat} (c : Cfg) (k : List Frame) (exn : Exn) :
    St.T46V xt c.st (c.runRethrow k exn).st :=
  (t46_stepFrame_E c k (.runRethrow exn) rfl).toV

end CV.Core
