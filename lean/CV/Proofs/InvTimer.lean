import CV.Proofs.InvTimerQ
import CV.Proofs.CoreFire
/-
Timers (property C09) on the small-step core machine.  Every step has one form (`t9_step_nf`): a prefix that logs at most
the call of a handler and an idle wait and moves the clock (`T9Loud`, `T9Pre`), then quiet code (`St.Q`,
CV/Proofs/InvTimerQ.lean) or the firing branch of `Timer._on_generate_events`, whose guard is `St.timerDue` and whose
effect is `TickFire` (`T9After`).  Read off this form: what every step does to the clock, the timers and the armed
`timeLeft`s (`St.W`, `t9_step_W`), the invariant of reachable states (`TimerWF`), and the facts about one step and about
runs (`TLater`) that the C09 theorems rest on: never early (`t9_fired_guard`, `t9_spacing`), fires when due
(`t9_due_fires`), the idle wait and its bound (`t9_idle_guard`, `GEBound`, `t9_idle_bound_step`), the clock moves only in
a loop tick or an idle wait (`t9_clock_moves`), `reset()` / `Timer(…)` (`t9_reset_step`, `t9_create_step`).
-/
namespace CV.Core

variable {F : Nat → Prop}

theorem tickGenerate_q (s : St) (c : Nat) :
    St.Q F (if (s.comp c).running then s.tick1 1 else s) (s.tickGenerate c) := by
  unfold St.tickGenerate
  by_cases h : (s.comp c).running = true
  · rw [if_pos h, if_pos h]
    dsimp only
    exact St.Q.fireRaw (by st_pres) _ _ _ _ (.inl (Nat.le_refl _))
  · rw [if_neg h, if_neg h]
    exact St.Q.refl _

theorem Cfg.tickGen_q (c : Cfg) (k : List Frame) (x : Nat) :
    St.Q F (if (c.st.comp x).running then c.st.tick1 1 else c.st) (c.tickGen k x).st := by
  have h : (c.tickGen k x).st = c.st.tickGenerate x := by
    unfold Cfg.tickGen; dsimp only; split <;> rfl
  rw [h]; exact tickGenerate_q ..

theorem onFallbackGE_q (s : St) (e : Nat) :
    St.Q F (if 0 < (s.ev e).timeLeft then (s.logE (.idle (s.ev e).timeLeft)).tick1 (s.ev e).timeLeft else s)
      (s.onFallbackGE e).2 := by
  unfold St.onFallbackGE
  dsimp only
  by_cases hpos : 0 < (s.ev e).timeLeft
  · have h0 : ¬ ((s.ev e).timeLeft == 0) = true := by simp; omega
    rw [if_pos hpos, if_neg h0, if_pos (by simpa using hpos)]
    dsimp only
    st_pres
  · rw [if_neg hpos]
    split
    · dsimp only; st_pres
    · exact St.Q.refl _

/-- the log entry of a framework handler invocation -/
def Cfg.t9hinv (c : Cfg) (h e : Nat) : Entry :=
  .hinv e (c.st.handler h).kind.code (hkey c.st (c.st.handler h))

theorem Cfg.t9hinv_quiet (c : Cfg) (h e : Nat) : (c.t9hinv h e).t9quiet = true := rfl

/-- the handlers of timers and the fallback generator are framework handlers: their call is logged -/
theorem Cfg.t9_invokeSt (c : Cfg) (h e : Nat) (hc : ((c.st.handler h).kind.code != 0) = true) :
    c.w6_invokeSt h e = c.st.logE (c.t9hinv h e) := if_pos hc

theorem Cfg.t9_invoke_timer (c : Cfg) (k : List Frame) (r h e t : Nat) (hk : (c.st.handler h).kind = .timer t) :
    (c.invoke k r h e).st = (c.st.logE (c.t9hinv h e)).timerTick t e := by
  rw [Cfg.invoke_eq, hk, Cfg.t9_invokeSt c h e (by rw [hk]; rfl)]
  rfl

theorem Cfg.t9_invoke_fallback (c : Cfg) (k : List Frame) (r h e : Nat) (hk : (c.st.handler h).kind = .fallbackGE) :
    (c.invoke k r h e).st = ((c.st.logE (c.t9hinv h e)).onFallbackGE e).2 := by
  rw [Cfg.invoke_eq, hk, Cfg.t9_invokeSt c h e (by rw [hk]; rfl)]
  dsimp only
  split <;> rfl

theorem t9_unwind_q (c : Cfg) (k : List Frame) (ex : Exn) (f : Frame) : St.Q F c.st (unwind c k ex f).st :=
  unwind_pres_avoiding c k (St.Q.keeps _) ex f rfl (St.Q.refl _)

/-- the guard of `Timer._on_generate_events`: timer `t` exists, has been created, is due and its
    component has no unregistration pending -/
def St.timerDue (s : St) (t : Nat) (tm : TimerSt) : Prop :=
  s.timers[t]? = some tm ∧ tm.created = true ∧ tm.expiry ≤ s.clock ∧ (s.comp tm.comp).pending = false

/-- `self.event` is one event object, allocated (in the model) at the first firing -/
def St.timerEvAlloc (s : St) (t : Nat) (tm : TimerSt) : St :=
  match tm.ev with
  | some _ => s
  | none => (s.addEv (mkEvOfTmpl s tm.tmpl)).modTimer t fun x => { x with ev := some s.evs.length }

/-- the firing branch of `St.timerTick`, as a function of the timer record -/
def St.timerFire (s : St) (t e : Nat) (tm : TimerSt) : St :=
  let s1 := s.timerEvAlloc t tm
  let chans := match tm.target with
    | some tg => [tg]
    | none => [(s.comp tm.comp).chan]
  let s2 := s1.fireRaw tm.comp (tm.ev.getD s.evs.length) chans 0
  let s3 := if tm.persist
    then s2.modTimer t fun x => { x with expiry := s2.clock + x.interval }
    else s2.unregister tm.comp
  s3.reduceTimeLeft e 0

theorem timerTick_due {s : St} {t : Nat} {tm : TimerSt} (e : Nat) (h : s.timerDue t tm) :
    s.timerTick t e = s.timerFire t e tm := by
  obtain ⟨h1, h2, h3, h4⟩ := h
  unfold St.timerTick St.timerFire St.timerEvAlloc
  have : (s.clock ≥ tm.expiry) := h3
  simp only [h1, h2, h4, Bool.not_true, Bool.false_eq_true, ↓reduceIte, if_pos this]
  rfl

theorem timerTick_quiet {s : St} {t : Nat} (e : Nat) (h : ¬ ∃ tm, s.timerDue t tm) :
    St.Q F s (s.timerTick t e) := by
  unfold St.timerTick
  split
  · exact St.Q.refl _
  · rename_i tm htm
    refine pred_ite_of (fun _ => St.Q.refl _) fun hc => ?_
    refine pred_ite_of (fun hdue => ?_) fun _ => (St.Q.refl _).reduceTimeLeft _ _
    refine pred_ite_of (fun _ => St.Q.refl _) fun hp => ?_
    exact absurd ⟨tm, htm, by simpa using hc, hdue, by simpa using hp⟩ h

theorem St.t9_unregister_timers (s : St) (c : Nat) : (s.unregister c).timers = s.timers := by
  unfold St.unregister St.fireTmplEv; dsimp only
  split
  · rfl
  · rw [St.fireRaw_timers]; rfl

theorem St.t9_unregister_clock (s : St) (c : Nat) : (s.unregister c).clock = s.clock :=
  (St.Q.unregister (F := T9NoF) (St.Q.refl s) c).clock

theorem St.t9_unregister_post (s : St) (c : Nat) (hc : c < s.comps.length) :
    ((s.unregister c).comp c).pending = true ∨ ((s.unregister c).comp c).parent = c := by
  unfold St.unregister St.fireTmplEv; dsimp only
  split
  · rename_i h
    simpa using h
  · left
    have hp : (((s.modComp c fun x => { x with pending := true }).modComp (s.comp c).root
        fun x => { x with dirty := true }).comp c).pending = true := by
      have hin : ((s.modComp c fun x => { x with pending := true }).comp c).pending = true := by
        rw [St.w6_modComp_comp_eq, if_pos ⟨rfl, hc⟩]
      rw [St.w6_modComp_comp_eq]
      split <;> exact hin
    rw [St.fireRaw_comp, St.w6_modComp_comp_eq]
    split <;> exact hp

/-- the event object of timer `t` after the handler has fired -/
def TimerSt.evId (tm : TimerSt) (s : St) : Nat := tm.ev.getD s.evs.length

/-- `s1 = s.timerEvAlloc t tm`: timer `t` holds its event object `tm.evId s` (allocated now if it had none), and nothing
    else has changed -/
structure AllocSpec (s s1 : St) (t : Nat) (tm : TimerSt) : Prop where
  clock : s1.clock = s.clock
  log : s1.log = s.log
  comps : s1.comps = s.comps
  evs : s.evs.length ≤ s1.evs.length
  evNew : tm.ev = none → s.evs.length < s1.evs.length
  ev : ∀ i, i < s.evs.length → s1.ev i = s.ev i
  self : s1.timers[t]? = some { tm with ev := some (tm.evId s) }
  other : ∀ t' : Nat, t' ≠ t → s1.timers[t']? = s.timers[t']?
  tlen : s1.timers.length = s.timers.length

theorem timerEvAlloc_spec {s : St} {t : Nat} {tm : TimerSt} (h : s.timers[t]? = some tm) :
    AllocSpec s (s.timerEvAlloc t tm) t tm := by
  unfold St.timerEvAlloc
  cases hev : tm.ev with
  | some x =>
    refine ⟨rfl, rfl, rfl, Nat.le_refl _, by simp [hev], fun _ _ => rfl, ?_, fun _ _ => rfl, rfl⟩
    simp only [TimerSt.evId, hev, Option.getD_some]
    rw [h, ← hev]
  | none =>
    refine ⟨rfl, rfl, rfl, by simp [St.addEv, St.modTimer], by simp [St.addEv, St.modTimer], ?_, ?_, ?_,
      by simp [St.addEv, St.modTimer]⟩
    · intro i hi
      unfold St.ev
      simp only [St.addEv, St.modTimer, List.getD_eq_getElem?_getD]
      rw [List.getElem?_append_left hi]
    · simp [St.addEv, St.modTimer, h, TimerSt.evId, hev]
    · intro t' ht'
      simp [St.addEv, St.modTimer, Ne.symm ht']

/-- the firing branch of `Timer._on_generate_events` for the due timer `t` (record `tm`), called for the
    generate_events event `e`, takes `s` to `s'`: the clock stands still, the timer's event object is fired (and otherwise
    only fresh ones), `time_left` of `e` is 0, the timer is re-armed if persistent and its component unregistered if not -/
structure TickFire (s s' : St) (t e : Nat) (tm : TimerSt) : Prop where
  clock : s'.clock = s.clock
  evs : s.evs.length ≤ s'.evs.length
  evNew : tm.ev = none → s.evs.length < s'.evs.length
  comps : s'.comps.length = s.comps.length
  hist : ∃ es, s'.log = es ++ s.log ∧ (∃ n ch p, Entry.fire (tm.evId s) n ch p ∈ es) ∧
      ∀ x ∈ es, x.t9quiet = true ∨ ∃ e n ch p, x = .fire e n ch p ∧ (s.evs.length ≤ e ∨ e = tm.evId s)
  tl : ∀ i, 0 ≤ (s.ev i).timeLeft → 0 ≤ (s'.ev i).timeLeft ∧ (s'.ev i).timeLeft ≤ (s.ev i).timeLeft
  zero : e < s.evs.length → (s'.ev e).timeLeft = 0
  other : ∀ t' : Nat, t' ≠ t → s'.timers[t']? = s.timers[t']?
  self : s'.timers[t]? = some { tm with ev := some (tm.evId s),
                                        expiry := if tm.persist then s.clock + tm.interval else tm.expiry }
  tlen : s'.timers.length = s.timers.length
  unreg : tm.comp < s.comps.length → tm.persist = false →
    (s'.comp tm.comp).pending = true ∨ (s'.comp tm.comp).parent = tm.comp

theorem t9_reduceTimeLeft_zero (s : St) (e : Nat) (he : e < s.evs.length) : ((s.reduceTimeLeft e 0).ev e).timeLeft = 0 := by
  unfold St.reduceTimeLeft
  rw [St.w6_modEv_ev_lt _ _ _ he]
  split
  · rfl
  · rename_i hc
    simp only [Bool.and_eq_true, Bool.or_eq_true, decide_eq_true_eq] at hc
    omega

theorem timerFire_spec {s : St} {t : Nat} {tm : TimerSt} (e : Nat) (h : s.timers[t]? = some tm)
    (hcr : tm.created = true) : TickFire s (s.timerFire t e tm) t e tm := by
  have a := timerEvAlloc_spec h
  unfold St.timerFire
  generalize s.timerEvAlloc t tm = s1 at a
  dsimp only
  generalize (match tm.target with | some tg => [tg] | none => [(s.comp tm.comp).chan]) = chans
  -- s1 → s2 : the firing itself
  have q12 : St.Q (· = tm.evId s) s1 (s1.fireRaw tm.comp (tm.evId s) chans 0) :=
    St.Q.fireRaw (St.Q.refl _) _ _ _ _ (.inr rfl)
  have hlog2 := s1.fireRaw_log tm.comp (tm.evId s) chans 0
  generalize (s1.ev (tm.evId s)).name = n at hlog2
  have ht2 := s1.fireRaw_timers tm.comp (tm.evId s) chans 0
  have hc2 := s1.fireRaw_clock tm.comp (tm.evId s) chans 0
  show TickFire s (St.reduceTimeLeft (if tm.persist = true then _ else _) e 0) t e tm
  generalize hs2 : s1.fireRaw tm.comp (tm.evId s) chans 0 = s2 at q12 hlog2 ht2 hc2
  have hs2' : s1.fireRaw tm.comp (tm.ev.getD s.evs.length) chans 0 = s2 := hs2
  rw [hs2']
  -- s2 → s' : re-arm or unregister, then `reduce_time_left(0)`
  have hself2 : s2.timers[t]? = some { tm with ev := some (tm.evId s) } := by rw [ht2]; exact a.self
  have q2 : St.Q (· = tm.evId s) s2
      ((if tm.persist = true then s2.modTimer t fun x => { x with expiry := s2.clock + x.interval }
        else s2.unregister tm.comp).reduceTimeLeft e 0) := by
    apply St.Q.reduceTimeLeft
    split
    · apply St.Q.modTimer_step
      intro x hx
      rw [hself2] at hx
      cases hx
      exact ⟨rfl, rfl, rfl, rfl, rfl, rfl, rfl, .inr ⟨hcr, rfl⟩⟩
    · exact St.Q.unregister (St.Q.refl _) _
  generalize hs' : (if tm.persist = true then s2.modTimer t fun x => { x with expiry := s2.clock + x.interval }
        else s2.unregister tm.comp) = s3 at q2
  have q := q12.trans q2
  obtain ⟨es2, hl2, hq2⟩ := q2.hist
  have ht3 : s3.timers = if tm.persist = true then s2.timers.modify t (fun x => { x with expiry := s2.clock + x.interval })
      else s2.timers := by
    rw [← hs']; split
    · rfl
    · exact St.t9_unregister_timers _ _
  refine ⟨by rw [q.clock, a.clock], Nat.le_trans a.evs q.evs, fun hn => Nat.lt_of_lt_of_le (a.evNew hn) q.evs,
    by rw [q.comps, a.comps], ⟨es2 ++ [.fire (tm.evId s) n chans 0], ?_, ⟨n, chans, 0, by simp⟩, ?_⟩, ?_, ?_, ?_, ?_,
    by rw [q.tlen, a.tlen], ?_⟩
  · rw [hl2, hlog2, a.log]; simp
  · intro x hx
    rcases List.mem_append.mp hx with hx | hx
    · rcases hq2 x hx with hq | ⟨e', n', ch', p', rfl, hf⟩
      · exact .inl hq
      · refine .inr ⟨e', n', ch', p', rfl, hf.imp (fun hle => ?_) id⟩
        exact Nat.le_trans a.evs (Nat.le_trans q12.evs hle)
    · rw [List.mem_singleton.mp hx]
      exact .inr ⟨_, _, _, _, rfl, .inr rfl⟩
  · intro i hi
    have hr := St.t9_ev_in_range hi
    have := q.tl i (by rw [a.ev i hr]; exact hi)
    rw [a.ev i hr] at this
    exact this
  · intro he
    exact t9_reduceTimeLeft_zero s3 e (Nat.lt_of_lt_of_le he
      (Nat.le_trans a.evs (Nat.le_trans q12.evs (by
        have := q2.evs
        simpa [St.reduceTimeLeft, St.modEv] using this))))
  · intro t' ht'
    show s3.timers[t']? = _
    rw [ht3, ← a.other t' ht', ← ht2]
    split
    · simp [Ne.symm ht']
    · rfl
  · show s3.timers[t]? = _
    rw [ht3]
    split
    · rename_i hp
      rw [List.getElem?_modify, hself2, hc2, a.clock]
      simp [hp]
    · rename_i hp
      rw [hself2]
  · intro hcomp hp
    show (s3.comp tm.comp).pending = true ∨ (s3.comp tm.comp).parent = tm.comp
    rw [← hs', if_neg (by simp [hp])]
    exact St.t9_unregister_post s2 tm.comp (by rw [q12.comps, a.comps]; exact hcomp)

theorem timerTick_cases (s : St) (t e : Nat) :
    (St.Q T9NoF s (s.timerTick t e) ∧ ¬ ∃ tm, s.timerDue t tm)
    ∨ ∃ tm, s.timerDue t tm ∧ TickFire s (s.timerTick t e) t e tm := by
  by_cases h : ∃ tm, s.timerDue t tm
  · obtain ⟨tm, hd⟩ := h
    exact .inr ⟨tm, hd, by rw [timerTick_due e hd]; exact timerFire_spec e hd.1 hd.2.1⟩
  · exact .inl ⟨timerTick_quiet e h, h⟩

/-- the top frame of `c` is the call of a generate_events handler of timer `t` for event `e` -/
def TimerCall (c : Cfg) (t e : Nat) : Prop :=
  ∃ r h k, c.stack = .invoke r h e :: k ∧ c.exn = none ∧ (c.st.handler h).kind = .timer t

/-- the top frame of `c` is the call of the fallback generator for event `e` -/
def FallbackCall (c : Cfg) (e : Nat) : Prop :=
  ∃ r h k, c.stack = .invoke r h e :: k ∧ c.exn = none ∧ (c.st.handler h).kind = .fallbackGE

/-- the step of a timer call logs the invocation and runs `timerTick` -/
theorem TimerCall.step_st {c : Cfg} {t e : Nat} (hc : TimerCall c t e) :
    ∃ h, (step c).st = (c.st.logE (c.t9hinv h e)).timerTick t e := by
  obtain ⟨r, h, k, hs, hx, hk⟩ := hc
  exact ⟨h, by rw [step_cons c _ k hs hx]; exact Cfg.t9_invoke_timer c k r h e t hk⟩

/-- What a step logs, and by how much it moves the clock, before its quiet part: nothing; the clock tick of a running loop;
the call of a timer's handler; the idle wait of the fallback generator. -/
inductive T9Loud (c : Cfg) : List Entry → Int → Prop
  | quiet : T9Loud c [] 0
  | tick (x k) : c.stack = .tickGen x :: k → c.exn = none → T9Loud c [] 1
  | call (r h e k t) : c.stack = .invoke r h e :: k → c.exn = none → (c.st.handler h).kind = .timer t →
      T9Loud c [c.t9hinv h e] 0
  | idle (r h e k) : c.stack = .invoke r h e :: k → c.exn = none → (c.st.handler h).kind = .fallbackGE →
      0 < (c.st.ev e).timeLeft → T9Loud c [.idle (c.st.ev e).timeLeft, c.t9hinv h e] (c.st.ev e).timeLeft

/-- the loud prefix of a step takes `s` to `s1`: it logs `pre`, moves the clock by `d` and writes nothing else -/
structure T9Pre (s s1 : St) (pre : List Entry) (d : Int) : Prop where
  evs : s1.evs = s.evs
  timers : s1.timers = s.timers
  comps : s1.comps = s.comps
  clock : s1.clock = s.clock + d
  log : s1.log = pre ++ s.log

/-- what follows the prefix: quiet code, or the firing branch of the timer handler that is being called -/
def T9After (c : Cfg) (s1 : St) : Prop :=
  St.Q T9NoF s1 (step c).st ∨
  ∃ h e t tm, s1 = c.st.logE (c.t9hinv h e) ∧ TimerCall c t e ∧ s1.timerDue t tm ∧ TickFire s1 (step c).st t e tm

theorem T9Pre.refl (s : St) : T9Pre s s [] 0 := ⟨rfl, rfl, rfl, (Int.add_zero _).symm, rfl⟩

theorem t9_step_nf (c : Cfg) : ∃ pre d s1, T9Loud c pre d ∧ T9Pre c.st s1 pre d ∧ T9After c s1 := by
  have quiet : St.Q T9NoF c.st (step c).st → ∃ pre d s1, T9Loud c pre d ∧ T9Pre c.st s1 pre d ∧ T9After c s1 :=
    fun h => ⟨[], 0, c.st, .quiet, .refl _, .inl h⟩
  rcases hs : c.stack with _ | ⟨f, k⟩
  · exact quiet (by rw [step_nil c hs]; exact St.Q.refl _)
  · rcases hx : c.exn with _ | ex
    · have hstep := step_cons c f k hs hx
      cases f
      case tickGen x =>
        have h := Cfg.tickGen_q (F := T9NoF) c k x
        rw [← show (stepFrame c k (.tickGen x)).st = (c.tickGen k x).st from rfl, ← hstep] at h
        by_cases hr : (c.st.comp x).running = true
        · rw [if_pos hr] at h
          exact ⟨[], 1, c.st.tick1 1, .tick x k hs hx, ⟨rfl, rfl, rfl, rfl, rfl⟩, .inl h⟩
        · rw [if_neg hr] at h
          exact quiet h
      case invoke r h e =>
        have hst : (step c).st = (c.invoke k r h e).st := by rw [hstep]; rfl
        by_cases h1 : ∃ t, (c.st.handler h).kind = .timer t
        · -- the handler of a timer: its guard fails and it is quiet, or it fires
          obtain ⟨t, hk⟩ := h1
          rw [Cfg.t9_invoke_timer c k r h e t hk] at hst
          refine ⟨[c.t9hinv h e], 0, c.st.logE (c.t9hinv h e), .call r h e k t hs hx hk,
            ⟨rfl, rfl, rfl, (Int.add_zero _).symm, rfl⟩, ?_⟩
          rcases timerTick_cases (c.st.logE (c.t9hinv h e)) t e with ⟨hq, _⟩ | ⟨tm, hd, hf⟩
          · exact .inl (by rw [hst]; exact hq)
          · exact .inr ⟨h, e, t, tm, rfl, ⟨r, h, k, hs, hx, hk⟩, hd, by rw [hst]; exact hf⟩
        · by_cases h2 : (c.st.handler h).kind = .fallbackGE
          · rw [Cfg.t9_invoke_fallback c k r h e h2] at hst
            have hq := onFallbackGE_q (F := T9NoF) (c.st.logE (c.t9hinv h e)) e
            rw [← hst] at hq
            by_cases hpos : 0 < (c.st.ev e).timeLeft
            · rw [if_pos (show 0 < ((c.st.logE (c.t9hinv h e)).ev e).timeLeft from hpos)] at hq
              -- `rfl` on the states would compare them field by field before unfolding the projections
              exact ⟨_, _, _, .idle r h e k hs hx h2 hpos,
                by constructor <;> (unfold St.tick1 St.logE; rfl), .inl hq⟩
            · rw [if_neg (show ¬ 0 < ((c.st.logE (c.t9hinv h e)).ev e).timeLeft from hpos)] at hq
              exact quiet ((St.Q.logE_self _ _ (Cfg.t9hinv_quiet c h e)).trans hq)
          · exact quiet (by rw [hst]; exact Cfg.invoke_q c k r h e (fun t ht => h1 ⟨t, ht⟩) h2)
      all_goals exact quiet (by rw [hstep]; exact stepFrame_pres_avoiding c k (St.Q.keeps _) _ rfl (St.Q.refl _))
    · exact quiet (by rw [step_cons_exn c f k ex hs hx]; exact t9_unwind_q ..)

theorem T9Loud.nonneg {c : Cfg} {pre : List Entry} {d : Int} (h : T9Loud c pre d) : 0 ≤ d := by
  cases h <;> omega

theorem T9Loud.no_fire {c : Cfg} {pre : List Entry} {d : Int} (h : T9Loud c pre d) :
    ∀ x ∈ pre, ∀ e n ch p, x ≠ Entry.fire e n ch p := by
  cases h <;> simp [Cfg.t9hinv]

theorem T9Loud.idle_mem {c : Cfg} {pre : List Entry} {d d0 : Int} (h : T9Loud c pre d) (hm : Entry.idle d0 ∈ pre) :
    ∃ e, FallbackCall c e ∧ d0 = (c.st.ev e).timeLeft ∧ 0 < d0 ∧ d = d0 := by
  cases h
  case idle r h e k hs hx hk hpos =>
    simp only [Cfg.t9hinv, List.mem_cons, Entry.idle.injEq, List.not_mem_nil, or_false, reduceCtorEq] at hm
    subst hm
    exact ⟨e, ⟨r, h, k, hs, hx, hk⟩, rfl, hpos, rfl⟩
  all_goals simp [Cfg.t9hinv] at hm

theorem T9Loud.moved {c : Cfg} {pre : List Entry} {d : Int} (h : T9Loud c pre d) (hd : d ≠ 0) :
    (∃ x k, c.stack = .tickGen x :: k ∧ c.exn = none ∧ d = 1) ∨
    ∃ e, FallbackCall c e ∧ Entry.idle (c.st.ev e).timeLeft ∈ pre ∧ d = (c.st.ev e).timeLeft := by
  cases h
  case tick x k hs hx => exact .inl ⟨x, k, hs, hx, rfl⟩
  case idle r h e k hs hx hk hpos => exact .inr ⟨e, ⟨r, h, k, hs, hx, hk⟩, by simp, rfl⟩
  all_goals exact absurd rfl hd

theorem T9After.clock {c : Cfg} {s1 : St} (h : T9After c s1) : (step c).st.clock = s1.clock := by
  rcases h with hq | ⟨_, _, _, _, _, _, _, hf⟩
  · exact hq.clock
  · exact hf.clock

theorem T9After.log {c : Cfg} {s1 : St} (h : T9After c s1) : ∃ es1, (step c).st.log = es1 ++ s1.log ∧
    ∀ x ∈ es1, x.t9quiet = true ∨ ∃ e n ch p, x = Entry.fire e n ch p := by
  rcases h with hq | ⟨_, _, _, _, _, _, _, hf⟩
  · obtain ⟨es1, e1, q1⟩ := hq.hist
    exact ⟨es1, e1, fun x hx => (q1 x hx).imp id fun ⟨e, n, ch, p, h, _⟩ => ⟨e, n, ch, p, h⟩⟩
  · obtain ⟨es1, e1, _, q1⟩ := hf.hist
    exact ⟨es1, e1, fun x hx => (q1 x hx).imp id fun ⟨e, n, ch, p, h, _⟩ => ⟨e, n, ch, p, h⟩⟩

theorem T9After.log_eq {c : Cfg} {s1 : St} {pre es es1 : List Entry} {d : Int} (hp : T9Pre c.st s1 pre d)
    (h1 : (step c).st.log = es ++ c.st.log) (e1 : (step c).st.log = es1 ++ s1.log) : es = es1 ++ pre :=
  List.append_cancel_right (by rw [← h1, e1, hp.log, List.append_assoc])

/-- what a step (or a run) may do to one timer record while the clock goes from `lo` to `hi` -/
structure TimerSt.Evolve (lo hi : Int) (a b : TimerSt) : Prop where
  interval : b.interval = a.interval
  persist : b.persist = a.persist
  tmpl : b.tmpl = a.tmpl
  target : b.target = a.target
  comp : b.comp = a.comp
  parent : b.parent = a.parent
  created : a.created = true → b.created = true
  arm : (b.expiry = a.expiry ∧ b.created = a.created) ∨
        (b.created = true ∧ ∃ k, lo ≤ k ∧ k ≤ hi ∧ b.expiry = k + a.interval)

/-- what every step, quiet or not, does (`W` for weak: `St.Q` without what the three loud pieces of code break): the
    clock does not go back, armed `timeLeft`s only fall, timer records only `Evolve` -/
structure St.W (s s' : St) : Prop where
  clock : s.clock ≤ s'.clock
  tl : ∀ e, 0 ≤ (s.ev e).timeLeft → 0 ≤ (s'.ev e).timeLeft ∧ (s'.ev e).timeLeft ≤ (s.ev e).timeLeft
  timers : ∀ (t : Nat) (tm : TimerSt), s.timers[t]? = some tm →
    ∃ tm', s'.timers[t]? = some tm' ∧ TimerSt.Evolve s.clock s'.clock tm tm'

theorem TimerSt.Step.evolve {clk lo hi : Int} {a b : TimerSt} (h : TimerSt.Step clk a b) (h1 : lo ≤ clk) (h2 : clk ≤ hi) :
    TimerSt.Evolve lo hi a b := by
  refine ⟨h.interval, h.persist, h.tmpl, h.target, h.comp, h.parent, ?_, ?_⟩
  · intro ha
    rcases h.arm with ⟨_, c⟩ | ⟨c, _⟩
    · rw [c]; exact ha
    · exact c
  · exact h.arm.imp id (fun ⟨c, e⟩ => ⟨c, clk, h1, h2, e⟩)

theorem TimerSt.Evolve.mono {lo lo' hi : Int} {a b : TimerSt} (h : TimerSt.Evolve lo hi a b) (hlo : lo' ≤ lo) :
    TimerSt.Evolve lo' hi a b :=
  ⟨h.interval, h.persist, h.tmpl, h.target, h.comp, h.parent, h.created,
    h.arm.imp id fun ⟨c, k, h1, h2, e⟩ => ⟨c, k, Int.le_trans hlo h1, h2, e⟩⟩

theorem St.W.ofQ {s s' : St} (hq : St.Q F s s') : St.W s s' := by
  refine ⟨by rw [hq.clock]; exact Int.le_refl _, hq.tl, fun t tm h => ?_⟩
  obtain ⟨tm', g, st⟩ := hq.timers t tm h
  exact ⟨tm', g, st.evolve (Int.le_refl _) (by rw [hq.clock]; exact Int.le_refl _)⟩

theorem St.W.ofFire {s s' : St} {t e : Nat} {tm : TimerSt} (hd : s.timerDue t tm) (hf : TickFire s s' t e tm) :
    St.W s s' := by
  refine ⟨by rw [hf.clock]; exact Int.le_refl _, hf.tl, ?_⟩
  intro t' tm' h
  by_cases ht : t' = t
  · subst ht
    rw [hd.1] at h; cases h
    refine ⟨_, hf.self, rfl, rfl, rfl, rfl, rfl, rfl, fun h => h, ?_⟩
    by_cases hp : tm.persist = true
    · right
      dsimp only
      rw [if_pos hp]
      exact ⟨hd.2.1, s.clock, Int.le_refl _, by rw [hf.clock]; exact Int.le_refl _, rfl⟩
    · left
      dsimp only
      rw [if_neg hp]
      exact ⟨rfl, rfl⟩
  · exact ⟨tm', by rw [hf.other t' ht]; exact h, rfl, rfl, rfl, rfl, rfl, rfl, fun h => h, .inl ⟨rfl, rfl⟩⟩

theorem St.W.ofPre {s s1 s' : St} {pre : List Entry} {d : Int} (hp : T9Pre s s1 pre d) (hd : 0 ≤ d) (hw : St.W s1 s') :
    St.W s s' := by
  have hc : s.clock ≤ s1.clock := by rw [hp.clock]; omega
  have hev : ∀ e, s1.ev e = s.ev e := fun e => by unfold St.ev; rw [hp.evs]
  refine ⟨Int.le_trans hc hw.clock, fun e h => ?_, fun t tm h => ?_⟩
  · rw [← hev] at h ⊢
    exact hw.tl e h
  · obtain ⟨tm', g, ev⟩ := hw.timers t tm (by rw [hp.timers]; exact h)
    exact ⟨tm', g, ev.mono hc⟩

/-- EVERY step: the clock does not go back, armed `timeLeft`s only get lower, and a timer's
    `expiry` is either untouched or set to `k + interval` for a clock reading `k` of this step -/
theorem t9_step_W (c : Cfg) : St.W c.st (step c).st := by
  obtain ⟨pre, d, s1, hl, hp, ha⟩ := t9_step_nf c
  refine .ofPre hp hl.nonneg ?_
  rcases ha with hq | ⟨_, _, _, _, _, _, hd, hf⟩
  · exact .ofQ hq
  · exact .ofFire hd hf

structure TimerWF (s : St) : Prop where
  /-- `Timer.event` is an existing event object -/
  evIn : ∀ (t : Nat) (tm : TimerSt) (te : Nat), s.timers[t]? = some tm → tm.ev = some te → te < s.evs.length
  /-- … and different timers have different ones -/
  evInj : ∀ (t t' : Nat) (tm tm' : TimerSt) (te : Nat), s.timers[t]? = some tm → s.timers[t']? = some tm' →
    tm.ev = some te → tm'.ev = some te → t = t'
  /-- `expiry` was computed as `time() + interval` at some earlier clock reading -/
  expInv : ∀ (t : Nat) (tm : TimerSt), s.timers[t]? = some tm → tm.created = true → tm.expiry ≤ s.clock + tm.interval
  /-- the Timer component exists -/
  compIn : ∀ (t : Nat) (tm : TimerSt), s.timers[t]? = some tm → tm.comp < s.comps.length

theorem St.Q.timers_back {s s' : St} (hq : St.Q F s s') {t : Nat} {tm' : TimerSt} (h : s'.timers[t]? = some tm') :
    ∃ tm, s.timers[t]? = some tm ∧ TimerSt.Step s.clock tm tm' := by
  have hlt : t < s.timers.length := by
    rw [← hq.tlen]
    exact (List.getElem?_eq_some_iff.mp h).1
  obtain ⟨tm'', g, st⟩ := hq.timers t _ (List.getElem?_eq_getElem hlt)
  rw [h] at g; cases g
  exact ⟨_, List.getElem?_eq_getElem hlt, st⟩

theorem TimerWF.ofQ {s s' : St} (wf : TimerWF s) (hq : St.Q F s s') : TimerWF s' := by
  refine ⟨?_, ?_, ?_, ?_⟩
  · intro t tm' te h he
    obtain ⟨tm, g, st⟩ := hq.timers_back h
    exact Nat.lt_of_lt_of_le (wf.evIn t tm te g (by rw [← st.ev]; exact he)) hq.evs
  · intro t t' tm1 tm2 te h1 h2 e1 e2
    obtain ⟨a1, g1, st1⟩ := hq.timers_back h1
    obtain ⟨a2, g2, st2⟩ := hq.timers_back h2
    exact wf.evInj t t' a1 a2 te g1 g2 (by rw [← st1.ev]; exact e1) (by rw [← st2.ev]; exact e2)
  · intro t tm' h hc
    obtain ⟨tm, g, st⟩ := hq.timers_back h
    rw [hq.clock, st.interval]
    rcases st.arm with ⟨e1, c1⟩ | ⟨_, e1⟩
    · rw [e1]; exact wf.expInv t tm g (by rw [← c1]; exact hc)
    · rw [e1]; exact Int.le_refl _
  · intro t tm' h
    obtain ⟨tm, g, st⟩ := hq.timers_back h
    rw [hq.comps, st.comp]; exact wf.compIn t tm g

theorem TimerWF.pre {s s1 : St} {pre : List Entry} {d : Int} (wf : TimerWF s) (hp : T9Pre s s1 pre d) (hd : 0 ≤ d) :
    TimerWF s1 := by
  refine ⟨?_, ?_, ?_, ?_⟩
  · intro t tm te h he; rw [hp.evs]; exact wf.evIn t tm te (by rw [← hp.timers]; exact h) he
  · intro t t' a b te h1 h2
    exact wf.evInj t t' a b te (by rw [← hp.timers]; exact h1) (by rw [← hp.timers]; exact h2)
  · intro t tm h hcr
    have := wf.expInv t tm (by rw [← hp.timers]; exact h) hcr
    rw [hp.clock]; omega
  · intro t tm h; rw [hp.comps]; exact wf.compIn t tm (by rw [← hp.timers]; exact h)

/-- the event object a firing uses is new, or it is the timer's own: no other timer has it -/
theorem TimerWF.evId_fresh {s : St} (wf : TimerWF s) {t t' : Nat} {tm a : TimerSt} (ht : s.timers[t]? = some tm)
    (hne : t' ≠ t) (ha : s.timers[t']? = some a) : a.ev ≠ some (tm.evId s) := by
  intro hev
  have hlt := wf.evIn t' a _ ha hev
  unfold TimerSt.evId at hev hlt
  cases hev0 : tm.ev with
  | none => rw [hev0] at hlt; simp at hlt
  | some x =>
    rw [hev0] at hev
    exact hne (wf.evInj t' t a tm x ha ht hev hev0)

theorem TickFire.timer_cases {s s' : St} {t e : Nat} {tm : TimerSt} (hf : TickFire s s' t e tm) {t' : Nat} {a : TimerSt}
    (h : s'.timers[t']? = some a) :
    (t' = t ∧ a = { tm with ev := some (tm.evId s),
                            expiry := if tm.persist then s.clock + tm.interval else tm.expiry }) ∨
    (t' ≠ t ∧ s.timers[t']? = some a) := by
  by_cases ht : t' = t
  · subst ht
    rw [hf.self] at h
    exact .inl ⟨rfl, (Option.some.inj h).symm⟩
  · exact .inr ⟨ht, by rw [← hf.other t' ht]; exact h⟩

theorem TimerWF.ofFire {s s' : St} {t e : Nat} {tm : TimerSt} (wf : TimerWF s) (hd : s.timerDue t tm)
    (hf : TickFire s s' t e tm) : TimerWF s' := by
  have hte : tm.evId s < s'.evs.length := by
    unfold TimerSt.evId
    cases hev : tm.ev with
    | none => exact hf.evNew hev
    | some x => exact Nat.lt_of_lt_of_le (wf.evIn t tm x hd.1 hev) hf.evs
  refine ⟨?_, ?_, ?_, ?_⟩
  · intro t' a te h he
    rcases hf.timer_cases h with ⟨_, rfl⟩ | ⟨_, h⟩
    · cases he; exact hte
    · exact Nat.lt_of_lt_of_le (wf.evIn t' a te h he) hf.evs
  · intro t1 t2 a b te h1 h2 e1 e2
    rcases hf.timer_cases h1 with ⟨rfl, rfl⟩ | ⟨n1, h1⟩ <;> rcases hf.timer_cases h2 with ⟨rfl, rfl⟩ | ⟨n2, h2⟩
    · rfl
    · cases e1; exact absurd e2 (wf.evId_fresh hd.1 n2 h2)
    · cases e2; exact absurd e1 (wf.evId_fresh hd.1 n1 h1)
    · exact wf.evInj t1 t2 a b te h1 h2 e1 e2
  · intro t' a h hc
    rw [hf.clock]
    rcases hf.timer_cases h with ⟨_, rfl⟩ | ⟨_, h⟩
    · dsimp only
      split
      · exact Int.le_refl _
      · exact wf.expInv t tm hd.1 hd.2.1
    · exact wf.expInv t' a h hc
  · intro t' a h
    rw [hf.comps]
    rcases hf.timer_cases h with ⟨_, rfl⟩ | ⟨_, h⟩
    · exact wf.compIn t tm hd.1
    · exact wf.compIn t' a h

theorem TimerWF.step {c : Cfg} (wf : TimerWF c.st) : TimerWF (step c).st := by
  obtain ⟨pre, d, s1, hl, hp, ha⟩ := t9_step_nf c
  have wf1 := wf.pre hp hl.nonneg
  rcases ha with hq | ⟨_, _, _, _, _, _, hd, hf⟩
  · exact wf1.ofQ hq
  · exact wf1.ofFire hd hf

theorem TimerWF.env {s : St} (wf : TimerWF s) (d : Nat) (tape : List Entry) : TimerWF (envChange s d tape) :=
  wf.pre (pre := []) (d := d) ⟨rfl, rfl, rfl, rfl, rfl⟩ (Int.natCast_nonneg d)

theorem TimerWF.reach {s0 : St} (h0 : TimerWF s0) : ∀ c, Reach s0 c → TimerWF c.st :=
  Reach.inv_st TimerWF h0 (fun _ d tape h => h.env d tape) fun _ h => h.step

theorem TimerWF.of_fresh {s : St}
    (h : ∀ (t : Nat) (tm : TimerSt), s.timers[t]? = some tm → tm.created = false ∧ tm.ev = none ∧ tm.comp < s.comps.length) :
    TimerWF s := by
  refine ⟨?_, ?_, ?_, ?_⟩
  · intro t tm te g he; rw [(h t tm g).2.1] at he; cases he
  · intro t t' a b te g _ he; rw [(h t a g).2.1] at he; cases he
  · intro t tm g hc; rw [(h t tm g).1] at hc; cases hc
  · intro t tm g; exact (h t tm g).2.2

/-- step `c ↦ step c` logs a `fire` of the event object of timer `t` -/
def FiredIn (c : Cfg) (t : Nat) : Prop :=
  ∃ (es : List Entry) (te : Nat) (n : Name) (ch : List Chan) (p : Int) (tm' : TimerSt),
    (step c).st.log = es ++ c.st.log ∧ Entry.fire te n ch p ∈ es ∧
    (step c).st.timers[t]? = some tm' ∧ tm'.ev = some te

/-- step `c ↦ step c` logs an idle wait of `d` clock ticks -/
def IdleIn (c : Cfg) (d : Int) : Prop :=
  ∃ es : List Entry, (step c).st.log = es ++ c.st.log ∧ Entry.idle d ∈ es

/-- the firing branch fires new event objects and the object of its own timer: if it fires an object that some timer
holds afterwards, that timer is `t` -/
theorem TickFire.fired_self {s s' : St} {t e : Nat} {tm : TimerSt} (wf : TimerWF s) (hd : s.timerDue t tm)
    (hf : TickFire s s' t e tm) {es : List Entry} (hl : s'.log = es ++ s.log) {te : Nat} {n : Name} {ch : List Chan}
    {p : Int} (h2 : Entry.fire te n ch p ∈ es) {t' : Nat} {tm' : TimerSt} (h3 : s'.timers[t']? = some tm')
    (h4 : tm'.ev = some te) : t' = t := by
  rcases hf.timer_cases h3 with ⟨ht, _⟩ | ⟨hne, h3⟩
  · exact ht
  · -- an untouched timer: its object is an old one, and not that of `t`
    have hlt := wf.evIn t' tm' te h3 h4
    obtain ⟨es0, l0, _, q0⟩ := hf.hist
    obtain rfl : es = es0 := List.append_cancel_right (hl.symm.trans l0)
    rcases q0 _ h2 with hq | ⟨_, _, _, _, heq, hfr | hfr⟩
    · cases hq
    · cases heq; omega
    · cases heq; exact absurd (hfr ▸ h4) (wf.evId_fresh hd.1 hne h3)

/-- NEVER EARLY (one step).  A step that fires the event object of timer `t` is the call of a
    generate_events handler of `t`, and the guard held: created, `clock ≥ expiry`, not pending. -/
theorem t9_fired_guard {c : Cfg} {t : Nat} (wf : TimerWF c.st) (hf : FiredIn c t) :
    ∃ e tm x, TimerCall c t e ∧ c.st.timerDue t tm ∧ TickFire (c.st.logE x) (step c).st t e tm := by
  obtain ⟨es, te, n, ch, p, tm', h1, h2, h3, h4⟩ := hf
  obtain ⟨pre, d, s1, hl, hp, ha⟩ := t9_step_nf c
  have wf1 := wf.pre hp hl.nonneg
  -- the prefix logs no `fire`: the entry is logged by what follows it
  obtain ⟨es1, e1, _⟩ := ha.log
  obtain rfl := T9After.log_eq hp h1 e1
  have h2 : Entry.fire te n ch p ∈ es1 :=
    (List.mem_append.mp h2).resolve_right fun hm => hl.no_fire _ hm _ _ _ _ rfl
  rcases ha with hq | ⟨h, e, t0, tm0, rfl, hc, hd, hfire⟩
  · -- quiet code fires new event objects only, and the object of a timer is an old one
    exfalso
    obtain ⟨es', e', q1⟩ := hq.hist
    obtain rfl : es1 = es' := List.append_cancel_right (e1.symm.trans e')
    obtain ⟨tm, g, st⟩ := hq.timers_back h3
    have hlt := wf1.evIn t tm te g (by rw [← st.ev]; exact h4)
    rcases q1 _ h2 with hq' | ⟨_, _, _, _, heq, hfr | hfr⟩
    · cases hq'
    · cases heq; omega
    · exact hfr
  · obtain rfl := hfire.fired_self wf1 hd e1 h2 h3 h4
    exact ⟨e, tm0, _, hc, hd, hfire⟩

/-- … for the record `tm` that timer `t` is known to have -/
theorem t9_fired_guard_of {c : Cfg} {t : Nat} {tm : TimerSt} (wf : TimerWF c.st) (hf : FiredIn c t)
    (ht : c.st.timers[t]? = some tm) :
    ∃ e x, TimerCall c t e ∧ c.st.timerDue t tm ∧ TickFire (c.st.logE x) (step c).st t e tm := by
  obtain ⟨e, tm0, x, hc, hd, hfire⟩ := t9_fired_guard wf hf
  obtain rfl : tm0 = tm := Option.some.inj (hd.1.symm.trans ht)
  exact ⟨e, x, hc, hd, hfire⟩

/-- FIRES WHEN DUE (one step).  A call of timer `t`'s handler with the guard true fires. -/
theorem t9_due_fires {c : Cfg} {t e : Nat} {tm : TimerSt} (hc : TimerCall c t e) (hd : c.st.timerDue t tm) :
    FiredIn c t := by
  obtain ⟨h, heq⟩ := hc.step_st
  have hd' : (c.st.logE (c.t9hinv h e)).timerDue t tm := hd
  have hf := timerFire_spec e hd'.1 hd'.2.1
  rw [← timerTick_due e hd', ← heq] at hf
  obtain ⟨es, hl, ⟨n, ch, p, hm⟩, _⟩ := hf.hist
  exact ⟨es ++ [c.t9hinv h e], _, n, ch, p, _, by rw [hl]; simp [St.logE], List.mem_append_left _ hm, hf.self, rfl⟩

/-- `b` is reached from `a` by machine steps and further external operations -/
inductive TLater (a : Cfg) : Cfg → Prop
  | refl : TLater a a
  | step {b : Cfg} : TLater a b → TLater a (CV.Core.step b)
  | next {b : Cfg} (d : Nat) (tape : List Entry) (op : ExtOp) :
      TLater a b → done b = true → TLater a (startOf (envChange b.st d tape) op)

theorem Reach.tlater {s0 : St} {a b : Cfg} (h : Reach s0 a) (hl : TLater a b) : Reach s0 b := by
  induction hl with
  | refl => exact h
  | step _ ih => exact Reach.step ih
  | next d tape op _ hd ih => exact Reach.next d tape op ih hd

theorem TLater.clock {a b : Cfg} (hl : TLater a b) : a.st.clock ≤ b.st.clock := by
  induction hl with
  | refl => exact Int.le_refl _
  | step _ ih => exact Int.le_trans ih (t9_step_W _).clock
  | next d tape op _ _ ih =>
    rw [startOf_st]
    show _ ≤ _ + (d : Int)
    omega

/-- a timer armed for `k0 + interval` or later does not fire before the clock reads that -/
theorem t9_spacing {s0 : St} (h0 : TimerWF s0) {c c' : Cfg} (hr : Reach s0 c) {t : Nat} {tm : TimerSt} {k0 : Int}
    (ht : c.st.timers[t]? = some tm) (hk : k0 ≤ c.st.clock) (he : k0 + tm.interval ≤ tm.expiry)
    (hl : TLater c c') (hf : FiredIn c' t) : k0 + tm.interval ≤ c'.st.clock := by
  have inv : ∃ tm', c'.st.timers[t]? = some tm' ∧ tm'.interval = tm.interval ∧ k0 + tm.interval ≤ tm'.expiry := by
    clear hf
    induction hl with
    | refl => exact ⟨tm, ht, rfl, he⟩
    | @step b hl ih =>
      obtain ⟨tm1, g1, i1, e1⟩ := ih
      obtain ⟨tm2, g2, ev⟩ := (t9_step_W b).timers t tm1 g1
      refine ⟨tm2, g2, ev.interval.trans i1, ?_⟩
      rcases ev.arm with ⟨e2, _⟩ | ⟨_, k, hk1, _, e2⟩
      · rw [e2]; exact e1
      · rw [e2, i1]
        have := hl.clock
        omega
    | next d tape op _ _ ih => rw [startOf_st]; exact ih
  obtain ⟨tm', g, _, e1⟩ := inv
  obtain ⟨e, x, _, hd, _⟩ := t9_fired_guard_of (h0.reach c' (hr.tlater hl)) hf g
  exact Int.le_trans e1 hd.2.2.1

/-- after a step that leaves the clock where it is and timer `t` armed one interval after it (`Timer(…)`, `reset()`, the
    re-arming of a persistent timer that fired) no firing before that -/
theorem t9_spacing_armed {s0 : St} (h0 : TimerWF s0) {c c' : Cfg} (hr : Reach s0 c) {t : Nat} {tm : TimerSt}
    (ht : (step c).st.timers[t]? = some tm) (hclk : (step c).st.clock = c.st.clock)
    (he : c.st.clock + tm.interval ≤ tm.expiry) (hl : TLater (step c) c') (hf : FiredIn c' t) :
    c.st.clock + tm.interval ≤ c'.st.clock :=
  t9_spacing h0 (.step hr) ht (by rw [hclk]; exact Int.le_refl _) he hl hf

/-- timer `t` has been seen by the generate_events event `e`: `e.time_left` is armed (not
    "unlimited") and is `0` or at most the time to `t`'s expiry -/
def GEBound (s : St) (e t : Nat) : Prop :=
  ∃ tm, s.timers[t]? = some tm ∧ tm.created = true ∧ 0 ≤ (s.ev e).timeLeft ∧
    ((s.ev e).timeLeft = 0 ∨ (s.ev e).timeLeft ≤ tm.expiry - s.clock)

/-- the bound survives every step that does not move the clock (a `reset()` in between moves
    the expiry further away, never closer: `expiry ≤ clock + interval`) -/
theorem GEBound.keep {s s' : St} {e t : Nat} (wf : TimerWF s) (hw : St.W s s') (hc : s'.clock = s.clock)
    (hb : GEBound s e t) : GEBound s' e t := by
  obtain ⟨tm, g, hcr, h0, hb⟩ := hb
  obtain ⟨tm', g', ev⟩ := hw.timers t tm g
  have htl := hw.tl e h0
  refine ⟨tm', g', ev.created hcr, htl.1, ?_⟩
  have hexp := wf.expInv t tm g hcr
  rcases hb with hb | hb
  · left; omega
  · right
    rcases ev.arm with ⟨e2, _⟩ | ⟨_, k, hk1, hk2, e2⟩
    · rw [e2, hc]; omega
    · rw [e2, hc]; omega

/-- the handler of a created timer establishes the bound, unless it returns early because the
    timer's unregistration is pending -/
theorem timerTick_bound {s : St} {t e : Nat} {tm : TimerSt} (h : s.timers[t]? = some tm) (hcr : tm.created = true)
    (he : e < s.evs.length) (hp : tm.expiry ≤ s.clock → (s.comp tm.comp).pending = false) :
    GEBound (s.timerTick t e) e t := by
  by_cases hdue : tm.expiry ≤ s.clock
  · have hd : s.timerDue t tm := ⟨h, hcr, hdue, hp hdue⟩
    have hf := timerFire_spec e h hcr
    rw [← timerTick_due e hd] at hf
    exact ⟨_, hf.self, hcr, by rw [hf.zero he]; exact Int.le_refl _, .inl (hf.zero he)⟩
  · have heq : s.timerTick t e = s.reduceTimeLeft e (tm.expiry - s.clock) := by
      unfold St.timerTick
      have : ¬ (s.clock ≥ tm.expiry) := hdue
      simp only [h, hcr, Bool.not_true, Bool.false_eq_true, ↓reduceIte, if_neg this]
    rw [heq]
    refine ⟨tm, h, hcr, ?_⟩
    unfold St.reduceTimeLeft
    rw [St.w6_modEv_ev_lt _ _ _ he]
    show 0 ≤ (ite _ _ _ : Ev).timeLeft ∧ ((ite _ _ _ : Ev).timeLeft = 0 ∨ (ite _ _ _ : Ev).timeLeft ≤ tm.expiry - s.clock)
    split
    · dsimp only; omega
    · rename_i hc
      simp only [Bool.and_eq_true, Bool.or_eq_true, decide_eq_true_eq] at hc
      omega

/-- IDLE (one step).  An idle wait of `d` ticks is logged only by the fallback generator, `d` is
    the `time_left` of its generate_events event, positive, and the clock advances by exactly `d` -/
theorem t9_idle_guard {c : Cfg} {d : Int} (hi : IdleIn c d) :
    ∃ e, FallbackCall c e ∧ d = (c.st.ev e).timeLeft ∧ 0 < d ∧ (step c).st.clock = c.st.clock + d := by
  obtain ⟨es, h1, h2⟩ := hi
  obtain ⟨pre, d', s1, hl, hp, ha⟩ := t9_step_nf c
  -- what follows the prefix logs no `idle`: the entry is in the prefix
  obtain ⟨es1, e1, q1⟩ := ha.log
  obtain rfl := T9After.log_eq hp h1 e1
  rcases List.mem_append.mp h2 with hm | hm
  · rcases q1 _ hm with hq | ⟨_, _, _, _, heq⟩
    · cases hq
    · cases heq
  · obtain ⟨e, hf, hd, hpos, rfl⟩ := hl.idle_mem hm
    exact ⟨e, hf, hd, hpos, by rw [ha.clock, hp.clock]⟩

/-- IDLE BOUND (one step): the idle wait does not sleep past the expiry of any timer seen by its event -/
theorem t9_idle_bound_step {c : Cfg} {d : Int} {e t : Nat} (hi : IdleIn c d) (hf : FallbackCall c e)
    (hb : GEBound c.st e t) :
    ∃ tm, c.st.timers[t]? = some tm ∧ (step c).st.clock ≤ tm.expiry := by
  obtain ⟨e', hf', hd, hpos, hclk⟩ := t9_idle_guard hi
  have : e' = e := by
    obtain ⟨_, _, _, hs, _, _⟩ := hf
    obtain ⟨_, _, _, hs', _, _⟩ := hf'
    rw [hs] at hs'; cases hs'; rfl
  subst this
  obtain ⟨tm, g, _, _, hb⟩ := hb
  exact ⟨tm, g, by rw [hclk]; omega⟩

theorem GEBound.tlater {s0 : St} (h0 : TimerWF s0) {c c' : Cfg} (hr : Reach s0 c) {e t : Nat}
    (hb : GEBound c.st e t) (hl : TLater c c') (hc : c'.st.clock = c.st.clock) : GEBound c'.st e t := by
  induction hl with
  | refl => exact hb
  | @step b hl ih =>
    have h1 := hl.clock
    have h2 := (t9_step_W b).clock
    have hbc : b.st.clock = c.st.clock := by omega
    exact GEBound.keep (h0.reach b (hr.tlater hl)) (t9_step_W b) (by omega) (ih hbc)
  | @next b d tape op hl _ ih =>
    rw [startOf_st] at hc ⊢
    have h1 := hl.clock
    have hd : (envChange b.st d tape).clock = b.st.clock + (d : Int) := rfl
    have hbc : b.st.clock = c.st.clock := by omega
    have hb' := ih hbc
    obtain ⟨tm, g, hcr, h0', hb'⟩ := hb'
    exact ⟨tm, g, hcr, h0', by
      have : (envChange b.st d tape).clock = b.st.clock := by omega
      rw [this]; exact hb'⟩

/-- THE CLOCK MOVES ONLY in a loop tick (by 1) and in an idle wait (by the logged duration) -/
theorem t9_clock_moves {c : Cfg} (h : (step c).st.clock ≠ c.st.clock) :
    (∃ x k, c.stack = .tickGen x :: k ∧ c.exn = none ∧ (step c).st.clock = c.st.clock + 1)
    ∨ (∃ e, FallbackCall c e ∧ IdleIn c (c.st.ev e).timeLeft ∧ (step c).st.clock = c.st.clock + (c.st.ev e).timeLeft) := by
  obtain ⟨pre, d, s1, hl, hp, ha⟩ := t9_step_nf c
  have hc : (step c).st.clock = c.st.clock + d := by rw [ha.clock, hp.clock]
  rcases hl.moved (fun h0 => h (by rw [hc, h0, Int.add_zero])) with ⟨x, k, hs, hx, rfl⟩ | ⟨e, hf, hm, rfl⟩
  · exact .inl ⟨x, k, hs, hx, hc⟩
  · obtain ⟨es1, e1, _⟩ := ha.log
    exact .inr ⟨e, hf, ⟨es1 ++ pre, by rw [e1, hp.log, List.append_assoc], List.mem_append_right _ hm⟩, hc⟩

/-- the top frame executes `timer.reset()` for timer `t` (in a handler body or an external `do`) -/
def ResetIn (c : Cfg) (t : Nat) : Prop :=
  ∃ ctx rest k, c.stack = .acts ctx (.timerReset t :: rest) :: k ∧ c.exn = none

/-- the top frame executes `Timer(…)` for the not yet created timer `t` -/
def CreateIn (c : Cfg) (t : Nat) : Prop :=
  ∃ k tm, c.stack = .timerNew t :: k ∧ c.exn = none ∧ c.st.timers[t]? = some tm ∧ tm.created = false

theorem t9_reset_step {c : Cfg} {t : Nat} {tm : TimerSt} (h : ResetIn c t) (ht : c.st.timers[t]? = some tm)
    (hcr : tm.created = true) :
    (step c).st.timers[t]? = some { tm with expiry := c.st.clock + tm.interval } ∧ (step c).st.clock = c.st.clock := by
  obtain ⟨ctx, rest, k, hs, hx⟩ := h
  have : (step c).st = c.st.timerReset t := by rw [step_cons c _ k hs hx]; rfl
  rw [this]
  refine ⟨?_, rfl⟩
  simp [St.timerReset, St.modTimer, ht, hcr]

theorem t9_create_step {c : Cfg} {t : Nat} (h : CreateIn c t) :
    ∃ tm, c.st.timers[t]? = some tm ∧
      (step c).st.timers[t]? = some { tm with expiry := c.st.clock + tm.interval, created := true } ∧
      (step c).st.clock = c.st.clock := by
  obtain ⟨k, tm, hs, hx, ht, hcr⟩ := h
  have : (step c).st = c.st.timerCreate t := by
    rw [step_cons c _ k hs hx]
    show (Cfg.timerNew c k t).st = _
    unfold Cfg.timerNew
    simp [ht, hcr]
  rw [this]
  exact ⟨tm, ht, by simp [St.timerCreate, St.modTimer, ht], rfl⟩

end CV.Core
