import CV.Proofs.CoreStep
import CV.Proofs.CoreReach
/-
Timers (property C09) on the small-step core machine: the relation `St.Q F` ("quiet code") and its preservation by every
primitive and helper except the three pieces of code that are not quiet (`St.timerTick`, `St.onFallbackGE`,
`St.tickGenerate`): `St.Q.keeps`, by the pattern of CV/Proofs/Pres.lean.  The helpers with an argument of their own:
`fireContext` (waking a sleeping generate_events), `fireRaw` / `fireChild` / `fireTmplEv` (freshness of the fired object),
`reduceTimeLeft`, `timerReset`, `timerCreate`, and the arm `invoke` (quiet unless it calls a timer's handler or the
fallback generator).

Top-level names that could clash with other invariant files carry the prefix `t9` (timers, C09).
-/
namespace CV.Core

/-- C09's sense of quiet: the entry is neither a fire nor an idle wait -/
def Entry.t9quiet : Entry → Bool
  | .idle _ => false
  | .fire .. => false
  | _ => true

/-- what may happen to one timer record while the clock reads `clk` (apart from firing):
    nothing, or `expiry := clk + interval` (creation, `reset()`, re-arming) -/
structure TimerSt.Step (clk : Int) (a b : TimerSt) : Prop where
  interval : b.interval = a.interval
  persist : b.persist = a.persist
  tmpl : b.tmpl = a.tmpl
  target : b.target = a.target
  comp : b.comp = a.comp
  parent : b.parent = a.parent
  ev : b.ev = a.ev
  arm : (b.expiry = a.expiry ∧ b.created = a.created) ∨ (b.created = true ∧ b.expiry = clk + a.interval)

theorem TimerSt.Step.refl (clk : Int) (a : TimerSt) : TimerSt.Step clk a a :=
  ⟨rfl, rfl, rfl, rfl, rfl, rfl, rfl, .inl ⟨rfl, rfl⟩⟩

theorem TimerSt.Step.trans {clk : Int} {a b c : TimerSt} (h1 : TimerSt.Step clk a b) (h2 : TimerSt.Step clk b c) :
    TimerSt.Step clk a c := by
  refine ⟨h2.interval.trans h1.interval, h2.persist.trans h1.persist, h2.tmpl.trans h1.tmpl,
    h2.target.trans h1.target, h2.comp.trans h1.comp, h2.parent.trans h1.parent, h2.ev.trans h1.ev, ?_⟩
  rcases h2.arm with ⟨e2, c2⟩ | ⟨c2, e2⟩
  · rcases h1.arm with ⟨e1, c1⟩ | ⟨c1, e1⟩
    · exact .inl ⟨e2.trans e1, c2.trans c1⟩
    · exact .inr ⟨c2.trans c1, e2.trans e1⟩
  · exact .inr ⟨c2, by rw [e2, h1.interval]⟩

/-- `s'` is reached from `s` by code that lets the clock stand still, does not idle, fires only
    fresh event objects or objects in `F`, only lowers armed `timeLeft`s and only (re)arms timers. -/
structure St.Q (F : Nat → Prop) (s s' : St) : Prop where
  clock : s'.clock = s.clock
  evs : s.evs.length ≤ s'.evs.length
  comps : s'.comps.length = s.comps.length
  hist : ∃ es, s'.log = es ++ s.log ∧
    ∀ x ∈ es, x.t9quiet = true ∨ ∃ e n ch p, x = .fire e n ch p ∧ (s.evs.length ≤ e ∨ F e)
  tl : ∀ e, 0 ≤ (s.ev e).timeLeft → 0 ≤ (s'.ev e).timeLeft ∧ (s'.ev e).timeLeft ≤ (s.ev e).timeLeft
  timers : ∀ (t : Nat) (tm : TimerSt), s.timers[t]? = some tm → ∃ tm', s'.timers[t]? = some tm' ∧ TimerSt.Step s.clock tm tm'
  tlen : s'.timers.length = s.timers.length

/-- no non-fresh event object may be fired -/
abbrev T9NoF : Nat → Prop := fun _ => False

theorem St.t9_ev_in_range {s : St} {e : Nat} (h : 0 ≤ (s.ev e).timeLeft) : e < s.evs.length :=
  St.ev_lt_of_ne fun hd => by rw [hd] at h; cases h

namespace St.Q
variable {F : Nat → Prop}

theorem of_same {s s' : St} (hc : s'.clock = s.clock) (he : s'.evs = s.evs) (hk : s'.comps.length = s.comps.length)
    (hl : s'.log = s.log) (ht : s'.timers = s.timers) : St.Q F s s' := by
  refine ⟨hc, by rw [he]; exact Nat.le_refl _, hk, ⟨[], by simpa using hl, by simp⟩, ?_, ?_, by rw [ht]⟩
  · intro e h
    have : s'.ev e = s.ev e := by unfold St.ev; rw [he]
    rw [this]; exact ⟨h, Int.le_refl _⟩
  · intro t tm h
    exact ⟨tm, by rw [ht]; exact h, TimerSt.Step.refl _ _⟩

theorem refl (s : St) : St.Q F s s := of_same rfl rfl rfl rfl rfl

theorem trans {a b c : St} (h1 : St.Q F a b) (h2 : St.Q F b c) : St.Q F a c := by
  obtain ⟨es1, e1, q1⟩ := h1.hist
  obtain ⟨es2, e2, q2⟩ := h2.hist
  refine ⟨h2.clock.trans h1.clock, Nat.le_trans h1.evs h2.evs, h2.comps.trans h1.comps,
    ⟨es2 ++ es1, by rw [e2, e1, List.append_assoc], ?_⟩, ?_, ?_, h2.tlen.trans h1.tlen⟩
  · intro x hx
    rcases List.mem_append.mp hx with hx | hx
    · rcases q2 x hx with hq | ⟨e, n, ch, p, rfl, hf⟩
      · exact .inl hq
      · refine .inr ⟨e, n, ch, p, rfl, ?_⟩
        rcases hf with hf | hf
        · exact .inl (Nat.le_trans h1.evs hf)
        · exact .inr hf
    · exact q1 x hx
  · intro e h
    have a1 := h1.tl e h
    have a2 := h2.tl e a1.1
    exact ⟨a2.1, Int.le_trans a2.2 a1.2⟩
  · intro t tm h
    obtain ⟨tm1, g1, s1⟩ := h1.timers t tm h
    obtain ⟨tm2, g2, s2⟩ := h2.timers t tm1 g1
    rw [h1.clock] at s2
    exact ⟨tm2, g2, s1.trans s2⟩

theorem mono {G : Nat → Prop} {s s' : St} (h : St.Q F s s') (hfg : ∀ e, F e → G e) : St.Q G s s' := by
  obtain ⟨es, e1, q1⟩ := h.hist
  refine ⟨h.clock, h.evs, h.comps, ⟨es, e1, ?_⟩, h.tl, h.timers, h.tlen⟩
  intro x hx
  rcases q1 x hx with hq | ⟨e, n, ch, p, rfl, hf⟩
  · exact .inl hq
  · exact .inr ⟨e, n, ch, p, rfl, hf.imp id (hfg e)⟩

theorem modComp_self (t : St) (c : Nat) (f : Comp → Comp) : St.Q F t (t.modComp c f) :=
  of_same rfl rfl (by simp [St.modComp]) rfl rfl

theorem modWait_self (t : St) (w : Nat) (f : WaitSt → WaitSt) : St.Q F t (t.modWait w f) := of_same rfl rfl rfl rfl rfl
theorem setGen_self (t : St) (g : Nat) (x : GenRec) : St.Q F t (t.setGen g x) := of_same rfl rfl rfl rfl rfl
theorem addH_self (t : St) (x : Handler) : St.Q F t (t.addH x) := of_same rfl rfl rfl rfl rfl
theorem addGen_self (t : St) (g : GenRec) : St.Q F t (t.addGen g) := of_same rfl rfl rfl rfl rfl
theorem addWait_self (t : St) (w : WaitSt) : St.Q F t (t.addWait w) := of_same rfl rfl rfl rfl rfl

theorem logE_self (t : St) (x : Entry) (hx : x.t9quiet = true) : St.Q F t (t.logE x) := by
  refine ⟨rfl, Nat.le_refl _, rfl, ⟨[x], rfl, ?_⟩, fun e h => ⟨h, Int.le_refl _⟩,
    fun i tm h => ⟨tm, h, TimerSt.Step.refl _ _⟩, rfl⟩
  intro y hy
  rw [List.mem_singleton.mp hy]; exact .inl hx

theorem logFire {s t : St} (h : St.Q F s t) (e : Nat) (n : Name) (ch : List Chan) (p : Int)
    (he : s.evs.length ≤ e ∨ F e) : St.Q F s (t.logE (.fire e n ch p)) := by
  obtain ⟨es, e1, q1⟩ := h.hist
  refine ⟨h.clock, h.evs, h.comps, ⟨.fire e n ch p :: es, by simp [St.logE, e1], ?_⟩, h.tl, h.timers, h.tlen⟩
  intro x hx
  rcases List.mem_cons.mp hx with rfl | hx
  · exact .inr ⟨e, n, ch, p, rfl, he⟩
  · exact q1 x hx

theorem logFire_self (t : St) (e : Nat) (n : Name) (ch : List Chan) (p : Int) (he : t.evs.length ≤ e ∨ F e) :
    St.Q F t (t.logE (.fire e n ch p)) :=
  (refl t).logFire e n ch p he

theorem modEv_lower (t : St) (e : Nat) (f : Ev → Ev)
    (hf : ∀ x : Ev, 0 ≤ x.timeLeft → 0 ≤ (f x).timeLeft ∧ (f x).timeLeft ≤ x.timeLeft) : St.Q F t (t.modEv e f) := by
  refine ⟨rfl, by simp [St.modEv], rfl, ⟨[], rfl, by simp⟩, ?_, fun i tm h => ⟨tm, h, TimerSt.Step.refl _ _⟩, rfl⟩
  intro i h
  rw [St.w6_modEv_ev_eq]
  split
  · exact hf _ h
  · exact ⟨h, Int.le_refl _⟩

theorem modEv_self (t : St) (e : Nat) (f : Ev → Ev) (hf : ∀ x : Ev, (f x).timeLeft = x.timeLeft) :
    St.Q F t (t.modEv e f) :=
  modEv_lower t e f (fun x h => by rw [hf x]; exact ⟨h, Int.le_refl _⟩)

theorem addEv_self (t : St) (x : Ev) : St.Q F t (t.addEv x) := by
  refine ⟨rfl, by simp [St.addEv], rfl, ⟨[], rfl, by simp⟩, ?_, fun i tm h => ⟨tm, h, TimerSt.Step.refl _ _⟩, rfl⟩
  intro i h
  have hi := St.t9_ev_in_range h
  rw [St.w6_addEv_ev, if_neg (Nat.ne_of_lt hi)]; exact ⟨h, Int.le_refl _⟩

variable {s t : St}

@[st_pres ↓] theorem modComp (h : St.Q F s t) (c : Nat) (f : Comp → Comp) : St.Q F s (t.modComp c f) := h.trans (modComp_self ..)
@[st_pres ↓] theorem modWait (h : St.Q F s t) (w : Nat) (f : WaitSt → WaitSt) : St.Q F s (t.modWait w f) := h.trans (modWait_self ..)
@[st_pres ↓] theorem setGen (h : St.Q F s t) (g : Nat) (x : GenRec) : St.Q F s (t.setGen g x) := h.trans (setGen_self ..)
@[st_pres ↓] theorem addH (h : St.Q F s t) (x : Handler) : St.Q F s (t.addH x) := h.trans (addH_self ..)
@[st_pres ↓] theorem addGen (h : St.Q F s t) (g : GenRec) : St.Q F s (t.addGen g) := h.trans (addGen_self ..)
@[st_pres ↓] theorem addWait (h : St.Q F s t) (w : WaitSt) : St.Q F s (t.addWait w) := h.trans (addWait_self ..)
@[st_pres ↓] theorem addEv (h : St.Q F s t) (x : Ev) : St.Q F s (t.addEv x) := h.trans (addEv_self ..)
@[st_pres ↓] theorem logE (h : St.Q F s t) (x : Entry) (hx : x.t9quiet = true) : St.Q F s (t.logE x) := h.trans (logE_self _ _ hx)

@[st_pres ↓] theorem modEv (h : St.Q F s t) (e : Nat) (f : Ev → Ev) (hf : ∀ x : Ev, (f x).timeLeft = x.timeLeft) :
    St.Q F s (t.modEv e f) := h.trans (modEv_self _ _ _ hf)

end St.Q

attribute [st_pres] St.Q.refl

variable {F : Nat → Prop}

@[st_pres ↓] theorem St.Q.addHandler {s t : St} (h : St.Q F s t) (x : Nat) : St.Q F s (t.addHandler x) :=
  St.addHandler_pres t x h (fun _ h => by st_pres) (fun _ _ h => by st_pres) (fun _ _ h => by st_pres)

@[st_pres ↓] theorem St.Q.removeHandler {s t : St} (h : St.Q F s t) (x : Nat) (n : Option Name) :
    St.Q F s ((t.removeHandler x n).2) := by
  st_pres_unfold St.removeHandler

/-- `fire` from another thread wakes a sleeping `generate_events`: `timeLeft := 0` -/
@[st_pres ↓] theorem St.Q.wake {s t : St} (h : St.Q F s t) (e : Nat) :
    St.Q F s (t.modEv e fun x => { x with timeLeft := if x.timeLeft < 0 || x.timeLeft > 0 then 0 else x.timeLeft }) := by
  refine h.trans (St.Q.modEv_lower _ _ _ ?_)
  intro x hx
  dsimp only
  split <;> omega

@[st_pres ↓] theorem St.Q.fireContext {s t : St} (h : St.Q F s t) (r e : Nat) :
    St.Q F s (t.fireContext r e) :=
  St.fireContext_pres t r e h (fun _ _ h => h.modEv _ _ fun _ => rfl) (fun _ _ h => h.modEv _ _ fun _ => rfl)
    (fun _ _ h => h.wake _)

theorem St.Q.fireRaw {s t : St} (h : St.Q F s t) (self e : Nat) (chans : List Chan) (prio : Int)
    (he : s.evs.length ≤ e ∨ F e) : St.Q F s (t.fireRaw self e chans prio) := by
  unfold St.fireRaw
  dsimp only
  apply St.Q.logFire _ _ _ _ _ he
  st_pres

@[st_pres ↓] theorem St.Q.childEv {s t : St} (h : St.Q F s t) (p sfx : Nat) :
    St.Q F s (t.childEv p sfx) := by
  st_pres_unfold St.childEv

@[st_pres ↓] theorem St.Q.fireChild {s t : St} (h : St.Q F s t) (self p sfx : Nat) (chans : List Chan) :
    St.Q F s (t.fireChild self p sfx chans) := by
  unfold St.fireChild
  exact St.Q.fireRaw (by st_pres) _ _ _ _ (.inl h.evs)

@[st_pres ↓] theorem St.Q.inform {s t : St} (h : St.Q F s t) (e : Nat) (force : Bool) :
    St.Q F s (t.inform e force) := by
  st_pres_unfold St.inform

@[st_pres ↓] theorem St.Q.setValue {s t : St} (h : St.Q F s t) (e : Nat) (x : VItem) :
    St.Q F s (t.setValue e x) := by
  st_pres_unfold St.setValue

@[st_pres ↓] theorem St.Q.fireTmplEv {s t : St} (h : St.Q F s t) (self : Nat) (ev : Ev) (target : Option Chan) (prio : Int) :
    St.Q F s (t.fireTmplEv self ev target prio) := by
  unfold St.fireTmplEv
  exact St.Q.fireRaw (by st_pres) _ _ _ _ (.inl h.evs)

@[st_pres ↓] theorem St.Q.effectDone1 {s t : St} (h : St.Q F s t) (r e : Nat) (announce : Bool) :
    St.Q F s ((t.effectDone1 r e announce).2) :=
  St.effectDone1_pres t r e announce h (fun _ => by st_pres) (fun _ _ h => by st_pres) (fun _ h => by st_pres)

@[st_pres ↓] theorem St.Q.eventDonePre {s t : St} (h : St.Q F s t) (r e : Nat) (err : Bool) :
    St.Q F s ((t.eventDonePre r e err).2) := by
  st_pres_unfold St.eventDonePre

@[st_pres ↓] theorem St.Q.registerTask {s t : St} (h : St.Q F s t) (c : Nat) (x : Task) :
    St.Q F s (t.registerTask c x) := by
  st_pres_unfold St.registerTask

@[st_pres ↓] theorem St.Q.unregisterTask {s t : St} (h : St.Q F s t) (c : Nat) (x : Task) :
    St.Q F s (t.unregisterTask c x) := by
  st_pres_unfold St.unregisterTask

@[st_pres ↓] theorem St.Q.reduceTimeLeft {s t : St} (h : St.Q F s t) (e : Nat) (d : Int) :
    St.Q F s (t.reduceTimeLeft e d) := by
  unfold St.reduceTimeLeft
  refine h.trans (St.Q.modEv_lower _ _ _ ?_)
  intro x hx
  split
  · rename_i hc
    simp only [Bool.and_eq_true, Bool.or_eq_true, decide_eq_true_eq] at hc
    dsimp only
    omega
  · exact ⟨hx, Int.le_refl _⟩

@[st_pres ↓] theorem St.Q.registerPre {s t : St} (h : St.Q F s t) (c p : Nat) :
    St.Q F s ((t.registerPre c p).2) :=
  St.registerPre_pres h c p (fun _ => by st_pres) (fun _ _ h => by st_pres) (fun _ h => by st_pres)
    (fun _ _ _ _ h => by st_pres)

@[st_pres ↓] theorem St.Q.registerFin {s t : St} (h : St.Q F s t) (c : Nat) :
    St.Q F s (t.registerFin c) := by
  st_pres_unfold St.registerFin

@[st_pres ↓] theorem St.Q.unregister {s t : St} (h : St.Q F s t) (c : Nat) :
    St.Q F s (t.unregister c) := by
  st_pres_unfold St.unregister

@[st_pres ↓] theorem St.Q.prepUnregPre {s t : St} (h : St.Q F s t) (c : Nat) :
    St.Q F s (t.prepUnregPre c) := by
  st_pres_unfold St.prepUnregPre

@[st_pres ↓] theorem St.Q.prepUnregFin {s t : St} (h : St.Q F s t) (c : Nat) :
    St.Q F s (t.prepUnregFin c) := by
  st_pres_unfold St.prepUnregFin

@[st_pres ↓] theorem St.Q.actFire {s t : St} (h : St.Q F s t) (self i : Nat) (target : Option Chan) (prio : Int) (cancel : Bool) :
    St.Q F s (t.actFire self i target prio cancel) := by
  st_pres_unfold St.actFire

@[st_pres ↓] theorem St.Q.actStopEv {s t : St} (h : St.Q F s t) (ev : Option Nat) :
    St.Q F s (t.actStopEv ev) := by
  st_pres_unfold St.actStopEv

theorem St.Q.modTimer_step (t : St) (i : Nat) (f : TimerSt → TimerSt)
    (hf : ∀ x, t.timers[i]? = some x → TimerSt.Step t.clock x (f x)) : St.Q F t (t.modTimer i f) := by
  refine ⟨rfl, Nat.le_refl _, rfl, ⟨[], rfl, by simp⟩, fun e h => ⟨h, Int.le_refl _⟩, ?_, by simp [St.modTimer]⟩
  intro j tm h
  simp only [St.modTimer, List.getElem?_modify, h, Option.map_eq_map, Option.map_some]
  refine ⟨_, rfl, ?_⟩
  split
  · rename_i hij; subst hij; exact hf tm h
  · exact TimerSt.Step.refl _ _

@[st_pres ↓] theorem St.Q.timerReset {s t : St} (h : St.Q F s t) (i : Nat) :
    St.Q F s (t.timerReset i) := by
  unfold St.timerReset
  refine h.trans (St.Q.modTimer_step _ _ _ ?_)
  intro x _
  split
  · rename_i hc; exact ⟨rfl, rfl, rfl, rfl, rfl, rfl, rfl, .inr ⟨hc, rfl⟩⟩
  · exact TimerSt.Step.refl _ _

@[st_pres ↓] theorem St.Q.timerCreate {s t : St} (h : St.Q F s t) (i : Nat) :
    St.Q F s (t.timerCreate i) := by
  unfold St.timerCreate
  refine h.trans (St.Q.modTimer_step _ _ _ ?_)
  intro x _
  exact ⟨rfl, rfl, rfl, rfl, rfl, rfl, rfl, .inr ⟨rfl, rfl⟩⟩

@[st_pres ↓] theorem St.Q.startWait {s t : St} (h : St.Q F s t) (w : Nat) :
    St.Q F s (t.startWait w) :=
  St.startWait_pres t w h (fun _ _ => by st_pres) (fun _ _ _ _ _ h => by st_pres) (fun _ _ _ _ _ h => by st_pres)

@[st_pres ↓] theorem St.Q.stopBegin {s t : St} (h : St.Q F s t) (c : Nat) :
    St.Q F s (t.stopBegin c) := by
  st_pres_unfold St.stopBegin

@[st_pres ↓] theorem St.Q.stopSetCode {s t : St} (h : St.Q F s t) (r : Nat) (code : Code) :
    St.Q F s (t.stopSetCode r code) := by
  st_pres_unfold St.stopSetCode

@[st_pres ↓] theorem St.Q.genCall {s t : St} (h : St.Q F s t) (owner i : Nat) (target : Option Chan) (timeout : Option Nat) :
    St.Q F s (t.genCall owner i target timeout) := by
  st_pres_unfold St.genCall

@[st_pres ↓] theorem St.Q.genWait {s t : St} (h : St.Q F s t) (owner : Nat) (name : Name) (target : Option Chan) (timeout : Option Nat) :
    St.Q F s (t.genWait owner name target timeout) := by
  st_pres_unfold St.genWait

@[st_pres ↓] theorem St.Q.resumeGenPre {s t : St} (h : St.Q F s t) (g : Nat) (silent : Bool) :
    St.Q F s (t.resumeGenPre g silent) := by
  st_pres_unfold St.resumeGenPre

@[st_pres ↓] theorem St.Q.stopIteration {s t : St} (h : St.Q F s t) (r : Nat) (x : Task) :
    St.Q F s ((t.stopIteration r x).2) :=
  St.stopIteration_pres t r x (by st_pres) (fun _ _ h => by st_pres) (fun _ h => by st_pres)

@[st_pres ↓] theorem St.Q.fireException {s t : St} (h : St.Q F s t) (r e : Nat) :
    St.Q F s (t.fireException r e) := by
  st_pres_unfold St.fireException

@[st_pres ↓] theorem St.Q.errorBranch {s t : St} (h : St.Q F s t) (r : Nat) (x : Task) (resumed : Bool) :
    St.Q F s ((t.errorBranch r x resumed).2) :=
  St.errorBranch_pres t r x resumed (by st_pres) (fun _ h => by st_pres) (fun _ h => by st_pres)
    (fun _ _ h => by st_pres) (fun _ _ h => by st_pres) (fun _ h => by st_pres) (fun _ _ h => by st_pres)

@[st_pres ↓] theorem St.Q.ownSub {s t : St} (h : St.Q F s t) (r : Nat) (x : Task) (w : Nat) :
    St.Q F s (t.ownSub r x w) := by
  st_pres_unfold St.ownSub

@[st_pres ↓] theorem St.Q.setValueOpt {s t : St} (h : St.Q F s t) (e : Nat) (v : Option Nat) :
    St.Q F s (t.setValueOpt e v) := by
  st_pres_unfold St.setValueOpt

@[st_pres ↓] theorem St.Q.parentSub {s t : St} (h : St.Q F s t) (r : Nat) (x : Task) (p w2 : Nat) (viaThrow : Bool) :
    St.Q F s (t.parentSub r x p w2 viaThrow) := by
  st_pres_unfold St.parentSub

@[st_pres ↓] theorem St.Q.parentPlain {s t : St} (h : St.Q F s t) (r : Nat) (x : Task) (p : Nat) (v : Option Nat) (viaThrow : Bool) :
    St.Q F s (t.parentPlain r x p v viaThrow) := by
  st_pres_unfold St.parentPlain

@[st_pres ↓] theorem St.Q.onWaitEvent {s t : St} (h : St.Q F s t) (w e : Nat) :
    St.Q F s ((t.onWaitEvent w e).2) := by
  st_pres_unfold St.onWaitEvent

@[st_pres ↓] theorem St.Q.onWaitDone {s t : St} (h : St.Q F s t) (w e : Nat) :
    St.Q F s ((t.onWaitDone w e).2) :=
  St.onWaitDone_pres t w e h (fun _ _ _ h => by st_pres) (fun _ _ => by st_pres)

@[st_pres ↓] theorem St.Q.onWaitTick {s t : St} (h : St.Q F s t) (w : Nat) :
    St.Q F s ((t.onWaitTick w).2) :=
  St.onWaitTick_pres t w h (fun _ _ _ h => h.removeHandler _ _) (fun _ _ _ => by st_pres) (by st_pres)

@[st_pres ↓] theorem St.Q.computeHandlers {s t : St} (h : St.Q F s t) (r : Nat) (name : Name) (chans : List Chan) :
    St.Q F s ((t.computeHandlers r name chans).2) := by
  st_pres_unfold St.computeHandlers

@[st_pres ↓] theorem St.Q.dispComplete {s t : St} (h : St.Q F s t) (e : Nat) (ev : Ev) :
    St.Q F s (t.dispComplete e ev) := by
  st_pres_unfold St.dispComplete

@[st_pres ↓] theorem St.Q.cacheRefresh {s t : St} (h : St.Q F s t) (r : Nat) :
    St.Q F s (t.cacheRefresh r) := by
  st_pres_unfold St.cacheRefresh

@[st_pres ↓] theorem St.Q.lookupHandlers {s t : St} (h : St.Q F s t) (r : Nat) (name : Name) (chans : List Chan) :
    St.Q F s ((t.lookupHandlers r name chans).2) := by
  st_pres_unfold St.lookupHandlers

@[st_pres ↓] theorem St.Q.dispGE {s t : St} (h : St.Q F s t) (r e remaining : Nat) (name : Name) :
    St.Q F s (t.dispGE r e remaining name) := by
  st_pres_unfold St.dispGE

@[st_pres ↓] theorem St.Q.dispatchPre {s t : St} (h : St.Q F s t) (r e remaining : Nat) :
    St.Q F s ((t.dispatchPre r e remaining).2) := by
  st_pres_unfold St.dispatchPre

@[st_pres ↓] theorem St.Q.handlerRaised {s t : St} (h : St.Q F s t) (r e : Nat) :
    St.Q F s (t.handlerRaised r e) := by
  st_pres_unfold St.handlerRaised

@[st_pres ↓] theorem St.Q.applyValue {s t : St} (h : St.Q F s t) (r e : Nat) (value : Outcome) :
    St.Q F s (t.applyValue r e value) := by
  st_pres_unfold St.applyValue

@[st_pres ↓] theorem St.Q.geTasksCheck {s t : St} (h : St.Q F s t) (r e : Nat) :
    St.Q F s (t.geTasksCheck r e) := by
  st_pres_unfold St.geTasksCheck

@[st_pres ↓] theorem St.Q.flushBegin {s t : St} (h : St.Q F s t) (r : Nat) :
    St.Q F s (t.flushBegin r) := by
  st_pres_unfold St.flushBegin

@[st_pres ↓] theorem St.Q.runBegin {s t : St} (h : St.Q F s t) (c : Nat) :
    St.Q F s (t.runBegin c) := by
  st_pres_unfold St.runBegin

@[st_pres ↓] theorem St.Q.runEnd {s t : St} (h : St.Q F s t) (c : Nat) :
    St.Q F s ((t.runEnd c).2) := by
  st_pres_unfold St.runEnd

@[st_pres ↓] theorem St.Q.actStep {s t : St} (h : St.Q F s t) (ctx : HCtx) (a : Act) : St.Q F s (actStep t ctx a).st := by
  cases a <;> st_pres_unfold CV.Core.actStep

@[st_pres ↓] theorem St.Q.updateRootAll (s : St) : ∀ (fuel : Nat) (todo : List Nat) (root : Nat) (t : St),
    St.Q F s t → St.Q F s (St.updateRootAll fuel todo root t) :=
  fun fuel todo root t h => St.updateRootAll_pres root (fun _ _ h => by st_pres) fuel todo t h

/-- the three pieces of code that are not quiet: the handler of a timer, the fallback generator, the loop tick -/
def t9loudOps : List Op := [.timerTick, .onFallbackGE, .tickGenerate]

theorem St.Q.keeps (s : St) (o : Op) (ho : o ∉ t9loudOps) : o.Keeps (St.Q F s) := by
  cases o
  case timerTick | onFallbackGE | tickGenerate => exact absurd (by decide) ho
  all_goals (intro t h; intros; st_pres)

theorem Cfg.invoke_q (c : Cfg) (k : List Frame) (r h e : Nat)
    (h1 : ∀ t, (c.st.handler h).kind ≠ .timer t) (h2 : (c.st.handler h).kind ≠ .fallbackGE) :
    St.Q F c.st (c.invoke k r h e).st := by
  have hs : St.Q F c.st (c.w6_invokeSt h e) := pred_ite ((St.Q.refl _).logE _ rfl) (St.Q.refl _)
  rw [Cfg.invoke_eq]
  generalize c.w6_invokeSt h e = s at hs ⊢
  -- the arms of `Cfg.invoke` in order: `.user`, `.prepUnregComplete`, the three handlers of a wait state, `.timer`,
  -- `.fallbackGE`, `.fallbackExc`
  split
  · unfold Cfg.invokeUser; dsimp only; st_pres
  · st_pres
  · st_pres
  · st_pres
  · st_pres
  · rename_i t hk; exact absurd hk (h1 t)
  · rename_i hk; exact absurd hk h2
  · exact hs

end CV.Core
