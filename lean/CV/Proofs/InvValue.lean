import CV.Proofs.InvValueBase
/-
C04, machine level: every helper of Pure.lean / Step.lean respects `VN` (`VG` and `NE` together), except that the two
`except BaseException` clauses `handlerRaised` (of the handler loop) and `errorBranch` (of `processTask`) raise `errors` of
their own event (`VN.handlerRaised_other`, `VN.errorBranch_other`: for any other event; `VG.handlerRaised`,
`VG.errorBranch`: `VG` alone).  `fireRaw` resets the Value of the fired event before it logs the `fire` entry: its proof
goes through `VGx`, and `fireTmplEv` is reduced to it.  The walk ends in `VN.keeps`, `VG.keeps` and `step_vg`; the lemmas
`VG.<helper>` and `NE.<helper>` are read off it.

The four arms that contain one of the two clauses respect `VN ve` unless they handle an exception for `ve` (`raiseFrame`);
`step_ne`: a step that is not a raise-handling step of `e` (`RaiseStep`) satisfies `NE e`.
-/
namespace CV.Core

@[st_pres ↓] theorem VN.addHandler {ve : Nat} {s t : St} (h : VN ve s t) (x : Nat) : VN ve s (t.addHandler x) :=
  St.addHandler_pres t x h (fun _ h => by st_pres) (fun _ _ h => by st_pres) (fun _ _ h => by st_pres)

@[st_pres ↓] theorem VN.removeHandler {ve : Nat} {s t : St} (h : VN ve s t) (x : Nat) (n : Option Name) :
    VN ve s ((t.removeHandler x n).2) := by
  st_pres_unfold St.removeHandler

@[st_pres ↓] theorem VN.fireContext {ve : Nat} {s t : St} (h : VN ve s t) (r e : Nat) :
    VN ve s (t.fireContext r e) :=
  St.fireContext_pres t r e h (fun _ _ h => by st_pres) (fun _ _ h => by st_pres) (fun _ _ h => by st_pres)

@[st_pres ↓] theorem VN.fireRaw {ve : Nat} {s t : St} (h : VN ve s t) (self e : Nat) (chans : List Chan) (prio : Int) :
    VN ve s (t.fireRaw self e chans prio) := by
  unfold St.fireRaw
  dsimp only
  have hc := VN.fireContext (ve := ve) (VN.refl (t.modEv e fun x => { x with chans := chans, val := {}, mgr := self }))
    ((t.modEv e fun x => { x with chans := chans, val := {}, mgr := self }).rootOf self) e
  constructor
  · -- the Value of `e` is reset and the `fire e` entry logged: nothing is claimed about `e` in between
    have h1 : VGx e ve s (t.modEv e fun x => { x with chans := chans, val := {}, mgr := self }) :=
      (h.1.toX e).reset _ (fun _ => rfl)
    exact ((h1.trans hc.1).trans (VG.modComp (VG.refl _) _ _)).close _ _ _
  · exact ((h.2.trans (NE.modEv_self _ _ _ fun _ h => Bool.noConfusion h)).trans hc.2).trans (NE.of_same _ _ rfl)

@[st_pres ↓] theorem VN.childEv {ve : Nat} {s t : St} (h : VN ve s t) (p sfx : Nat) :
    VN ve s (t.childEv p sfx) := by
  st_pres_unfold St.childEv

@[st_pres ↓] theorem VN.fireChild {ve : Nat} {s t : St} (h : VN ve s t) (self p sfx : Nat) (chans : List Chan) :
    VN ve s (t.fireChild self p sfx chans) := by
  st_pres_unfold St.fireChild

@[st_pres ↓] theorem VN.inform {ve : Nat} {s t : St} (h : VN ve s t) (e : Nat) (force : Bool) :
    VN ve s (t.inform e force) := by
  st_pres_unfold St.inform

@[st_pres ↓] theorem VN.setValue {ve : Nat} {s t : St} (h : VN ve s t) (e : Nat) (x : VItem) :
    VN ve s (t.setValue e x) := by
  st_pres_unfold St.setValue

@[st_pres ↓] theorem VN.fireTmplEv {ve : Nat} {s t : St} (h : VN ve s t) (self : Nat) (ev : Ev) (target : Option Chan) (prio : Int) :
    VN ve s (t.fireTmplEv self ev target prio) := by
  unfold St.fireTmplEv
  dsimp only
  rw [St.v4_fireRaw_addEv]
  st_pres

@[st_pres ↓] theorem VN.effectDone1 {ve : Nat} {s t : St} (h : VN ve s t) (r e : Nat) (announce : Bool) :
    VN ve s ((t.effectDone1 r e announce).2) :=
  St.effectDone1_pres t r e announce h (fun _ => by st_pres) (fun _ _ h => by st_pres) (fun _ h => by st_pres)

@[st_pres ↓] theorem VN.eventDonePre {ve : Nat} {s t : St} (h : VN ve s t) (r e : Nat) (err : Bool) :
    VN ve s ((t.eventDonePre r e err).2) := by
  st_pres_unfold St.eventDonePre

@[st_pres ↓] theorem VN.registerTask {ve : Nat} {s t : St} (h : VN ve s t) (c : Nat) (x : Task) :
    VN ve s (t.registerTask c x) := by
  st_pres_unfold St.registerTask

@[st_pres ↓] theorem VN.unregisterTask {ve : Nat} {s t : St} (h : VN ve s t) (c : Nat) (x : Task) :
    VN ve s (t.unregisterTask c x) := by
  st_pres_unfold St.unregisterTask

@[st_pres ↓] theorem VN.reduceTimeLeft {ve : Nat} {s t : St} (h : VN ve s t) (e : Nat) (d : Int) :
    VN ve s (t.reduceTimeLeft e d) := by
  st_pres_unfold St.reduceTimeLeft

@[st_pres ↓] theorem VN.registerPre {ve : Nat} {s t : St} (h : VN ve s t) (c p : Nat) :
    VN ve s ((t.registerPre c p).2) :=
  St.registerPre_pres h c p (fun _ => by st_pres) (fun _ _ h => by st_pres) (fun _ h => by st_pres)
    (fun _ _ _ _ h => by st_pres)

@[st_pres ↓] theorem VN.registerFin {ve : Nat} {s t : St} (h : VN ve s t) (c : Nat) :
    VN ve s (t.registerFin c) := by
  st_pres_unfold St.registerFin

@[st_pres ↓] theorem VN.unregister {ve : Nat} {s t : St} (h : VN ve s t) (c : Nat) :
    VN ve s (t.unregister c) := by
  st_pres_unfold St.unregister

@[st_pres ↓] theorem VN.prepUnregPre {ve : Nat} {s t : St} (h : VN ve s t) (c : Nat) :
    VN ve s (t.prepUnregPre c) := by
  st_pres_unfold St.prepUnregPre

@[st_pres ↓] theorem VN.prepUnregFin {ve : Nat} {s t : St} (h : VN ve s t) (c : Nat) :
    VN ve s (t.prepUnregFin c) := by
  st_pres_unfold St.prepUnregFin

@[st_pres ↓] theorem VN.actFire {ve : Nat} {s t : St} (h : VN ve s t) (self i : Nat) (target : Option Chan) (prio : Int) (cancel : Bool) :
    VN ve s (t.actFire self i target prio cancel) := by
  st_pres_unfold St.actFire

@[st_pres ↓] theorem VN.actStopEv {ve : Nat} {s t : St} (h : VN ve s t) (ev : Option Nat) :
    VN ve s (t.actStopEv ev) := by
  st_pres_unfold St.actStopEv

@[st_pres ↓] theorem VN.timerReset {ve : Nat} {s t : St} (h : VN ve s t) (i : Nat) :
    VN ve s (t.timerReset i) := by
  st_pres_unfold St.timerReset

@[st_pres ↓] theorem VN.timerCreate {ve : Nat} {s t : St} (h : VN ve s t) (i : Nat) :
    VN ve s (t.timerCreate i) := by
  st_pres_unfold St.timerCreate

@[st_pres ↓] theorem VN.timerTick {ve : Nat} {s t : St} (h : VN ve s t) (i e : Nat) :
    VN ve s (t.timerTick i e) :=
  St.timerTick_pres t i e h (fun _ _ h => by st_pres) (fun _ => by st_pres)
    (fun _ _ _ _ h => by st_pres) (fun _ _ h => by st_pres) (fun _ _ h => by st_pres)

@[st_pres ↓] theorem VN.startWait {ve : Nat} {s t : St} (h : VN ve s t) (w : Nat) :
    VN ve s (t.startWait w) :=
  St.startWait_pres t w h (fun _ _ => by st_pres) (fun _ _ _ _ _ h => by st_pres) (fun _ _ _ _ _ h => by st_pres)

@[st_pres ↓] theorem VN.stopBegin {ve : Nat} {s t : St} (h : VN ve s t) (c : Nat) :
    VN ve s (t.stopBegin c) := by
  st_pres_unfold St.stopBegin

@[st_pres ↓] theorem VN.stopSetCode {ve : Nat} {s t : St} (h : VN ve s t) (r : Nat) (code : Code) :
    VN ve s (t.stopSetCode r code) := by
  st_pres_unfold St.stopSetCode

@[st_pres ↓] theorem VN.genCall {ve : Nat} {s t : St} (h : VN ve s t) (owner i : Nat) (target : Option Chan) (timeout : Option Nat) :
    VN ve s (t.genCall owner i target timeout) := by
  st_pres_unfold St.genCall

@[st_pres ↓] theorem VN.genWait {ve : Nat} {s t : St} (h : VN ve s t) (owner : Nat) (name : Name) (target : Option Chan) (timeout : Option Nat) :
    VN ve s (t.genWait owner name target timeout) := by
  st_pres_unfold St.genWait

@[st_pres ↓] theorem VN.resumeGenPre {ve : Nat} {s t : St} (h : VN ve s t) (g : Nat) (silent : Bool) :
    VN ve s (t.resumeGenPre g silent) := by
  st_pres_unfold St.resumeGenPre

@[st_pres ↓] theorem VN.stopIteration {ve : Nat} {s t : St} (h : VN ve s t) (r : Nat) (x : Task) :
    VN ve s ((t.stopIteration r x).2) :=
  St.stopIteration_pres t r x (by st_pres) (fun _ _ h => by st_pres) (fun _ h => by st_pres)

@[st_pres ↓] theorem VN.fireException {ve : Nat} {s t : St} (h : VN ve s t) (r e : Nat) :
    VN ve s (t.fireException r e) := by
  st_pres_unfold St.fireException

@[st_pres ↓] theorem VN.ownSub {ve : Nat} {s t : St} (h : VN ve s t) (r : Nat) (x : Task) (w : Nat) :
    VN ve s (t.ownSub r x w) := by
  st_pres_unfold St.ownSub

@[st_pres ↓] theorem VN.setValueOpt {ve : Nat} {s t : St} (h : VN ve s t) (e : Nat) (v : Option Nat) :
    VN ve s (t.setValueOpt e v) := by
  st_pres_unfold St.setValueOpt

@[st_pres ↓] theorem VN.parentSub {ve : Nat} {s t : St} (h : VN ve s t) (r : Nat) (x : Task) (p w2 : Nat) (viaThrow : Bool) :
    VN ve s (t.parentSub r x p w2 viaThrow) := by
  st_pres_unfold St.parentSub

@[st_pres ↓] theorem VN.parentPlain {ve : Nat} {s t : St} (h : VN ve s t) (r : Nat) (x : Task) (p : Nat) (v : Option Nat) (viaThrow : Bool) :
    VN ve s (t.parentPlain r x p v viaThrow) := by
  st_pres_unfold St.parentPlain

@[st_pres ↓] theorem VN.onWaitEvent {ve : Nat} {s t : St} (h : VN ve s t) (w e : Nat) :
    VN ve s ((t.onWaitEvent w e).2) := by
  st_pres_unfold St.onWaitEvent

@[st_pres ↓] theorem VN.onWaitDone {ve : Nat} {s t : St} (h : VN ve s t) (w e : Nat) :
    VN ve s ((t.onWaitDone w e).2) :=
  St.onWaitDone_pres t w e h (fun _ _ _ h => by st_pres) (fun _ _ => by st_pres)

@[st_pres ↓] theorem VN.onWaitTick {ve : Nat} {s t : St} (h : VN ve s t) (w : Nat) :
    VN ve s ((t.onWaitTick w).2) :=
  St.onWaitTick_pres t w h (fun _ _ _ h => by st_pres) (fun _ _ _ => by st_pres) (by st_pres)

@[st_pres ↓] theorem VN.onFallbackGE {ve : Nat} {s t : St} (h : VN ve s t) (e : Nat) :
    VN ve s ((t.onFallbackGE e).2) := by
  st_pres_unfold St.onFallbackGE

@[st_pres ↓] theorem VN.computeHandlers {ve : Nat} {s t : St} (h : VN ve s t) (r : Nat) (name : Name) (chans : List Chan) :
    VN ve s ((t.computeHandlers r name chans).2) := by
  st_pres_unfold St.computeHandlers

@[st_pres ↓] theorem VN.dispComplete {ve : Nat} {s t : St} (h : VN ve s t) (e : Nat) (ev : Ev) :
    VN ve s (t.dispComplete e ev) := by
  st_pres_unfold St.dispComplete

@[st_pres ↓] theorem VN.cacheRefresh {ve : Nat} {s t : St} (h : VN ve s t) (r : Nat) :
    VN ve s (t.cacheRefresh r) := by
  st_pres_unfold St.cacheRefresh

@[st_pres ↓] theorem VN.lookupHandlers {ve : Nat} {s t : St} (h : VN ve s t) (r : Nat) (name : Name) (chans : List Chan) :
    VN ve s ((t.lookupHandlers r name chans).2) := by
  st_pres_unfold St.lookupHandlers

@[st_pres ↓] theorem VN.dispGE {ve : Nat} {s t : St} (h : VN ve s t) (r e remaining : Nat) (name : Name) :
    VN ve s (t.dispGE r e remaining name) := by
  st_pres_unfold St.dispGE

@[st_pres ↓] theorem VN.dispatchPre {ve : Nat} {s t : St} (h : VN ve s t) (r e remaining : Nat) :
    VN ve s ((t.dispatchPre r e remaining).2) := by
  st_pres_unfold St.dispatchPre

@[st_pres ↓] theorem VN.applyValue {ve : Nat} {s t : St} (h : VN ve s t) (r e : Nat) (value : Outcome) :
    VN ve s (t.applyValue r e value) := by
  st_pres_unfold St.applyValue

@[st_pres ↓] theorem VN.geTasksCheck {ve : Nat} {s t : St} (h : VN ve s t) (r e : Nat) :
    VN ve s (t.geTasksCheck r e) := by
  st_pres_unfold St.geTasksCheck

@[st_pres ↓] theorem VN.flushBegin {ve : Nat} {s t : St} (h : VN ve s t) (r : Nat) :
    VN ve s (t.flushBegin r) := by
  st_pres_unfold St.flushBegin

@[st_pres ↓] theorem VN.tickGenerate {ve : Nat} {s t : St} (h : VN ve s t) (c : Nat) :
    VN ve s (t.tickGenerate c) := by
  st_pres_unfold St.tickGenerate

@[st_pres ↓] theorem VN.runBegin {ve : Nat} {s t : St} (h : VN ve s t) (c : Nat) :
    VN ve s (t.runBegin c) := by
  st_pres_unfold St.runBegin

@[st_pres ↓] theorem VN.runEnd {ve : Nat} {s t : St} (h : VN ve s t) (c : Nat) :
    VN ve s ((t.runEnd c).2) := by
  st_pres_unfold St.runEnd

@[st_pres ↓] theorem VN.actStep {ve : Nat} {s t : St} (h : VN ve s t) (ctx : HCtx) (a : Act) : VN ve s (actStep t ctx a).st := by
  cases a <;> (unfold CV.Core.actStep; (try dsimp only); st_pres)

@[st_pres ↓] theorem VN.updateRootAll {ve : Nat} (s : St) : ∀ (fuel : Nat) (todo : List Nat) (root : Nat) (t : St),
    VN ve s t → VN ve s (St.updateRootAll fuel todo root t) :=
  fun fuel todo root t h => St.updateRootAll_pres root (fun _ _ h => by st_pres) fuel todo t h

@[st_pres ↓] theorem VN.handlerRaised_other {ve : Nat} {s t : St} (h : VN ve s t) (r e : Nat) (hne : e ≠ ve) :
    VN ve s (t.handlerRaised r e) := by
  st_pres_unfold St.handlerRaised

@[st_pres ↓] theorem VN.errorBranch_other {ve : Nat} {s t : St} (h : VN ve s t) (r : Nat) (x : Task) (resumed : Bool)
    (hne : x.e ≠ ve) : VN ve s ((t.errorBranch r x resumed).2) :=
  St.errorBranch_pres t r x resumed (by st_pres) (fun _ h => by st_pres) (fun _ h => by st_pres)
    (fun _ _ h => by st_pres) (fun _ _ h => by st_pres) (fun _ h => by st_pres) (fun _ _ h => by st_pres)

theorem VN.keeps (ve : Nat) (s : St) (o : Op) (ho : o ∉ [Op.handlerRaised, .errorBranch]) : o.Keeps (VN ve s) := by
  cases o
  case handlerRaised | errorBranch => exact absurd (by decide) ho
  all_goals (intro t h; intros; st_pres)

/- The helper lemmas of `VG` by name: the first component of the joint walk `VN.<helper>`. -/
theorem VG.addHandler {ve : Nat} {s t : St} (h : VG ve s t) (x : Nat) : VG ve s (t.addHandler x) :=
  h.trans (VN.addHandler (.refl t) x).1

theorem VG.removeHandler {ve : Nat} {s t : St} (h : VG ve s t) (x : Nat) (n : Option Name) :
    VG ve s ((t.removeHandler x n).2) :=
  h.trans (VN.removeHandler (.refl t) x n).1

theorem VG.fireRaw {ve : Nat} {s t : St} (h : VG ve s t) (self e : Nat) (chans : List Chan) (prio : Int) :
    VG ve s (t.fireRaw self e chans prio) :=
  h.trans (VN.fireRaw (.refl t) self e chans prio).1

theorem VG.inform {ve : Nat} {s t : St} (h : VG ve s t) (e : Nat) (force : Bool) :
    VG ve s (t.inform e force) :=
  h.trans (VN.inform (.refl t) e force).1

theorem VG.setValue {ve : Nat} {s t : St} (h : VG ve s t) (e : Nat) (x : VItem) :
    VG ve s (t.setValue e x) :=
  h.trans (VN.setValue (.refl t) e x).1

theorem VG.registerTask {ve : Nat} {s t : St} (h : VG ve s t) (c : Nat) (x : Task) :
    VG ve s (t.registerTask c x) :=
  h.trans (VN.registerTask (.refl t) c x).1

theorem VG.unregisterTask {ve : Nat} {s t : St} (h : VG ve s t) (c : Nat) (x : Task) :
    VG ve s (t.unregisterTask c x) :=
  h.trans (VN.unregisterTask (.refl t) c x).1

theorem VG.registerPre {ve : Nat} {s t : St} (h : VG ve s t) (c p : Nat) :
    VG ve s ((t.registerPre c p).2) :=
  h.trans (VN.registerPre (.refl t) c p).1

theorem VG.unregister {ve : Nat} {s t : St} (h : VG ve s t) (c : Nat) :
    VG ve s (t.unregister c) :=
  h.trans (VN.unregister (.refl t) c).1

theorem VG.prepUnregPre {ve : Nat} {s t : St} (h : VG ve s t) (c : Nat) :
    VG ve s (t.prepUnregPre c) :=
  h.trans (VN.prepUnregPre (.refl t) c).1

theorem VG.timerTick {ve : Nat} {s t : St} (h : VG ve s t) (i e : Nat) :
    VG ve s (t.timerTick i e) :=
  h.trans (VN.timerTick (.refl t) i e).1

theorem VG.startWait {ve : Nat} {s t : St} (h : VG ve s t) (w : Nat) :
    VG ve s (t.startWait w) :=
  h.trans (VN.startWait (.refl t) w).1

theorem VG.dispatchPre {ve : Nat} {s t : St} (h : VG ve s t) (r e remaining : Nat) :
    VG ve s ((t.dispatchPre r e remaining).2) :=
  h.trans (VN.dispatchPre (.refl t) r e remaining).1

theorem VG.flushBegin {ve : Nat} {s t : St} (h : VG ve s t) (r : Nat) :
    VG ve s (t.flushBegin r) :=
  h.trans (VN.flushBegin (.refl t) r).1

theorem VG.updateRootAll {ve : Nat} (s : St) : ∀ (fuel : Nat) (todo : List Nat) (root : Nat) (t : St),
    VG ve s t → VG ve s (St.updateRootAll fuel todo root t) :=
  fun fuel todo root t h => h.trans (VN.updateRootAll t fuel todo root t (.refl t)).1

@[st_pres ↓] theorem VG.fireChild {ve : Nat} {s t : St} (h : VG ve s t) (self p sfx : Nat) (chans : List Chan) :
    VG ve s (t.fireChild self p sfx chans) :=
  h.trans (VN.fireChild (.refl t) self p sfx chans).1

@[st_pres ↓] theorem VG.fireException {ve : Nat} {s t : St} (h : VG ve s t) (r e : Nat) :
    VG ve s (t.fireException r e) :=
  h.trans (VN.fireException (.refl t) r e).1

attribute [st_pres ↓] VG.inform VG.unregisterTask

theorem VG.handlerRaised {ve : Nat} {s t : St} (h : VG ve s t) (r e : Nat) :
    VG ve s (t.handlerRaised r e) := by
  st_pres_unfold St.handlerRaised

theorem VG.errorBranch {ve : Nat} {s t : St} (h : VG ve s t) (r : Nat) (x : Task) (resumed : Bool) :
    VG ve s ((t.errorBranch r x resumed).2) :=
  St.errorBranch_pres t r x resumed (by st_pres) (fun _ h => by st_pres) (fun _ h => by st_pres)
    (fun _ _ h => by st_pres) (fun _ _ h => by st_pres) (fun _ h => by st_pres) (fun _ _ h => by st_pres)

theorem VG.keeps (ve : Nat) (s : St) (o : Op) : o.Keeps (VG ve s) := by
  by_cases ho : o ∈ [Op.handlerRaised, .errorBranch]
  · simp only [List.mem_cons, List.not_mem_nil, or_false] at ho
    rcases ho with rfl | rfl
    · exact fun h r e => h.handlerRaised r e
    · exact fun h r x b => h.errorBranch r x b
  · exact Op.Keeps.of_trans VN.refl And.left VG.trans (fun t => VN.keeps ve t o ho) s

theorem step_vg (ve : Nat) (c : Cfg) : VG ve c.st (step c).st :=
  step_pres c (VG.keeps ve _) (VG.refl _)

theorem runN_vg (ve : Nat) (n : Nat) (c : Cfg) : VG ve c.st (runN n c).st := by
  induction n generalizing c with
  | zero => exact VG.refl _
  | succ n ih => rw [runN_succ]; exact (step_vg ve c).trans (ih _)

/-- the frames whose step handles an exception of a handler / task of event `ve` -/
def raiseFrame (ve : Nat) (c : Cfg) : Frame → Prop
  | .hAfter _ e _ _ _ => e = ve ∧ c.ret.outcome = .raised
  | .ptOwn _ t => t.e = ve ∧ c.ret.yield = .raised
  | .ptParent _ t _ _ => t.e = ve ∧ c.ret.yield = .raised
  | .ptBody _ t => t.e = ve ∧
      (match c.st.gen t.g with
       | .wait _ => True            -- KeyError out of the waitEvent generator
       | .exc _ fired => fired = false   -- the TimeoutError generator
       | _ => False)
  | _ => False

/-- `step c` is a raise-handling step for event `ve`: no exception is unwinding and the top
    frame is the `except BaseException` of the handler loop (`hAfter` reading `.raised`) or of
    `processTask` (`ptOwn`/`ptParent` reading `.raised`, `ptBody` of a framework generator)
    for that event -/
def RaiseStep (ve : Nat) (c : Cfg) : Prop :=
  c.exn = none ∧ ∃ f k, c.stack = f :: k ∧ raiseFrame ve c f

/- The helper lemmas of `NE` by name: the second component of the joint walk `VN.<helper>`. -/
theorem NE.addHandler {ve : Nat} {s t : St} (h : NE ve s t) (x : Nat) : NE ve s (t.addHandler x) :=
  h.trans (VN.addHandler (.refl t) x).2

theorem NE.dispatchPre {ve : Nat} {s t : St} (h : NE ve s t) (r e remaining : Nat) :
    NE ve s ((t.dispatchPre r e remaining).2) :=
  h.trans (VN.dispatchPre (.refl t) r e remaining).2

theorem NE.fireRaw {ve : Nat} {s t : St} (h : NE ve s t) (self e : Nat) (chans : List Chan) (prio : Int) :
    NE ve s (t.fireRaw self e chans prio) :=
  h.trans (VN.fireRaw (.refl t) self e chans prio).2

theorem NE.flushBegin {ve : Nat} {s t : St} (h : NE ve s t) (r : Nat) :
    NE ve s (t.flushBegin r) :=
  h.trans (VN.flushBegin (.refl t) r).2

theorem NE.inform {ve : Nat} {s t : St} (h : NE ve s t) (e : Nat) (force : Bool) :
    NE ve s (t.inform e force) :=
  h.trans (VN.inform (.refl t) e force).2

theorem NE.prepUnregPre {ve : Nat} {s t : St} (h : NE ve s t) (c : Nat) :
    NE ve s (t.prepUnregPre c) :=
  h.trans (VN.prepUnregPre (.refl t) c).2

theorem NE.registerPre {ve : Nat} {s t : St} (h : NE ve s t) (c p : Nat) :
    NE ve s ((t.registerPre c p).2) :=
  h.trans (VN.registerPre (.refl t) c p).2

theorem NE.registerTask {ve : Nat} {s t : St} (h : NE ve s t) (c : Nat) (x : Task) :
    NE ve s (t.registerTask c x) :=
  h.trans (VN.registerTask (.refl t) c x).2

theorem NE.removeHandler {ve : Nat} {s t : St} (h : NE ve s t) (x : Nat) (n : Option Name) :
    NE ve s ((t.removeHandler x n).2) :=
  h.trans (VN.removeHandler (.refl t) x n).2

theorem NE.setValue {ve : Nat} {s t : St} (h : NE ve s t) (e : Nat) (x : VItem) :
    NE ve s (t.setValue e x) :=
  h.trans (VN.setValue (.refl t) e x).2

theorem NE.startWait {ve : Nat} {s t : St} (h : NE ve s t) (w : Nat) :
    NE ve s (t.startWait w) :=
  h.trans (VN.startWait (.refl t) w).2

theorem NE.timerTick {ve : Nat} {s t : St} (h : NE ve s t) (i e : Nat) :
    NE ve s (t.timerTick i e) :=
  h.trans (VN.timerTick (.refl t) i e).2

theorem NE.unregister {ve : Nat} {s t : St} (h : NE ve s t) (c : Nat) :
    NE ve s (t.unregister c) :=
  h.trans (VN.unregister (.refl t) c).2

theorem NE.unregisterTask {ve : Nat} {s t : St} (h : NE ve s t) (c : Nat) (x : Task) :
    NE ve s (t.unregisterTask c x) :=
  h.trans (VN.unregisterTask (.refl t) c x).2

theorem NE.updateRootAll {ve : Nat} (s : St) : ∀ (fuel : Nat) (todo : List Nat) (root : Nat) (t : St),
    NE ve s t → NE ve s (St.updateRootAll fuel todo root t) :=
  fun fuel todo root t h => h.trans (VN.updateRootAll t fuel todo root t (.refl t)).2

@[st_pres ↓] theorem Cfg.contStop_vn {ve : Nat} {s0 : St} (c : Cfg) (k : List Frame) (s : St) (r : Nat) (x : Task)
    (hle : VN ve s0 s) : VN ve s0 (c.contStop k s r x).st := by
  rw [Cfg.contStop_st]; st_pres

@[st_pres ↓] theorem Cfg.contError_vn {ve : Nat} {s0 : St} (c : Cfg) (k : List Frame) (s : St) (r : Nat) (x : Task)
    (resumed : Bool) (hne : x.e ≠ ve) (hle : VN ve s0 s) : VN ve s0 (c.contError k s r x resumed).st := by
  rw [Cfg.contError_st]; st_pres

@[st_pres ↓] theorem Cfg.ptBodyWait_vn {ve : Nat} (c : Cfg) (k : List Frame) (r : Nat) (x : Task) (w : Nat) (hne : x.e ≠ ve) :
    VN ve c.st (c.ptBodyWait k r x w).st := by
  unfold Cfg.ptBodyWait; (try dsimp only); st_pres

@[st_pres ↓] theorem Cfg.ptBodyExc_vn_other {ve : Nat} (c : Cfg) (k : List Frame) (r : Nat) (x : Task) (w : Nat) (fired : Bool)
    (hne : x.e ≠ ve) : VN ve c.st (c.ptBodyExc k r x w fired).st := by
  unfold Cfg.ptBodyExc; (try dsimp only); st_pres

theorem Cfg.ptBodyExc_vn {ve : Nat} (c : Cfg) (k : List Frame) (r : Nat) (x : Task) (w : Nat) (fired : Bool)
    (hne : x.e ≠ ve ∨ fired = true) :
    VN ve c.st (c.ptBodyExc k r x w fired).st := by
  cases hne with
  | inl hne => exact Cfg.ptBodyExc_vn_other c k r x w fired hne
  | inr hf => subst hf; unfold Cfg.ptBodyExc; (try dsimp only); rw [if_pos rfl]; st_pres

theorem Cfg.ptBody_vn {ve : Nat} (c : Cfg) (k : List Frame) (r : Nat) (x : Task)
    (hne : ¬ raiseFrame ve c (.ptBody r x)) :
    VN ve c.st (c.ptBody k r x).st := by
  by_cases hx : x.e = ve
  · unfold Cfg.ptBody
    split
    · st_pres
    · rename_i w heq
      exact absurd (show raiseFrame ve c (.ptBody r x) from ⟨hx, by rw [heq]; trivial⟩) hne
    · rename_i w fired heq
      have hf : fired = true := by
        cases fired with
        | true => rfl
        | false => exact absurd (show raiseFrame ve c (.ptBody r x) from ⟨hx, by rw [heq]⟩) hne
      exact Cfg.ptBodyExc_vn c k r x w fired (Or.inr hf)
    · st_pres
    · st_pres
  · unfold Cfg.ptBody; (try dsimp only); st_pres

theorem Cfg.ptOwn_vn {ve : Nat} (c : Cfg) (k : List Frame) (r : Nat) (x : Task)
    (hne : ¬ raiseFrame ve c (.ptOwn r x)) :
    VN ve c.st (c.ptOwn k r x).st := by
  by_cases hx : x.e = ve
  · have hr : c.ret.yield ≠ .raised := fun h => hne ⟨hx, h⟩
    unfold Cfg.ptOwn
    split <;> first | (rename_i heq; exact absurd heq hr) | st_pres
  · unfold Cfg.ptOwn; (try dsimp only); st_pres

theorem Cfg.ptParent_vn {ve : Nat} (c : Cfg) (k : List Frame) (r : Nat) (x : Task) (p : Nat) (viaThrow : Bool)
    (hne : ¬ raiseFrame ve c (.ptParent r x p viaThrow)) :
    VN ve c.st (c.ptParent k r x p viaThrow).st := by
  by_cases hx : x.e = ve
  · have hr : c.ret.yield ≠ .raised := fun h => hne ⟨hx, h⟩
    unfold Cfg.ptParent
    split <;> first | (rename_i heq; exact absurd heq hr) | st_pres
  · unfold Cfg.ptParent; (try dsimp only); st_pres

theorem Cfg.hAfter_vn {ve : Nat} (c : Cfg) (k : List Frame) (r e : Nat) (rest : List Nat) (err : Bool) (stale : Outcome)
    (hne : ¬ raiseFrame ve c (.hAfter r e rest err stale)) :
    VN ve c.st (c.hAfter k r e rest err stale).st := by
  by_cases hx : e = ve
  · have hr : c.ret.outcome ≠ .raised := fun h => hne ⟨hx, h⟩
    unfold Cfg.hAfter
    split <;> first | (rename_i heq; exact absurd heq hr) | st_pres
  · unfold Cfg.hAfter; (try dsimp only); st_pres

theorem stepFrame_ne {ve : Nat} (c : Cfg) (k : List Frame) (f : Frame) (hne : ¬ raiseFrame ve c f) :
    NE ve c.st (stepFrame c k f).st := by
  refine And.right (?_ : VN ve c.st _)
  cases f
  -- the four arms with an `except BaseException`: not raising on `ve` here, by `hne`
  case hAfter => exact Cfg.hAfter_vn c k _ _ _ _ _ hne
  case ptBody => exact Cfg.ptBody_vn c k _ _ hne
  case ptOwn => exact Cfg.ptOwn_vn c k _ _ hne
  case ptParent => exact Cfg.ptParent_vn c k _ _ _ _ hne
  all_goals exact stepFrame_pres_avoiding c k (VN.keeps ve _) _ rfl (VN.refl _)

theorem unwind_ne {ve : Nat} (c : Cfg) (k : List Frame) (ex : Exn) (f : Frame) : NE ve c.st (unwind c k ex f).st :=
  (unwind_pres_avoiding c k (VN.keeps ve _) ex f rfl (VN.refl _)).2

theorem step_ne (ve : Nat) (c : Cfg) (h : ¬ RaiseStep ve c) : NE ve c.st (step c).st := by
  cases hs : c.stack with
  | nil => rw [step_nil c hs]; exact NE.refl _
  | cons f k =>
    cases hx : c.exn with
    | some ex => rw [step_cons_exn c f k ex hs hx]; exact unwind_ne ..
    | none =>
      rw [step_cons c f k hs hx]
      exact stepFrame_ne c k f (fun hr => h ⟨hx, f, k, hs, hr⟩)

end CV.Core
