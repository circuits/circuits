import CV.Proofs.CoreReach
import CV.Proofs.CoreStep
import CV.Proofs.CoreValue
/-
C04, machine level: the Value of every event is written only by
  * `St.setValue` / the task error branch (`Val.set`: append one item),
  * the `errors := true` / `promise := true` writes,
  * `St.fireRaw` (a fresh Value when the event is fired; logged as `Entry.fire e …`).

`VG e s s'` ("value of `e` grows from `s` to `s'`") is a preorder that every primitive of `Pure.lean`, every helper and
every arm of `step` respects: all Values stay well-formed (`VWF`), the log grew by `es`, and unless `es` contains a
`fire e` entry the Value of `e` was only extended (`Val.Ext`: items appended at the end, flags only raised).
`NE e s s'` ("no new error on `e`"): if `errors` of `e` is set in `s'` it was set in `s`; every primitive and helper
respects it except the two `except BaseException` clauses (`St.handlerRaised`, `St.errorBranch`), which respect it for
every other event.  The two are walked through the helpers together, as `VN e := VG e ∧ NE e`, by the pattern of
CV/Proofs/Pres.lean.  Helper lemmas of the family carry the prefix `v4` (Values, C04).
-/
namespace CV.Core

/- What the primitives that do not write the event table or the log leave alone, by name (the same facts as `St.w6_*_ev`,
`St.w6_*_log` of CV/Proofs/Tables.lean). -/
@[simp] theorem St.v4ev_modWait (t : St) (c : Nat) (f : WaitSt → WaitSt) (x : Nat) : (t.modWait c f).ev x = t.ev x := rfl
@[simp] theorem St.v4ev_modTimer (t : St) (c : Nat) (f : TimerSt → TimerSt) (x : Nat) : (t.modTimer c f).ev x = t.ev x := rfl
@[simp] theorem St.v4ev_setGen (t : St) (g : Nat) (y : GenRec) (x : Nat) : (t.setGen g y).ev x = t.ev x := rfl
@[simp] theorem St.v4ev_addH (t : St) (y : Handler) (x : Nat) : (t.addH y).ev x = t.ev x := rfl
@[simp] theorem St.v4ev_addGen (t : St) (y : GenRec) (x : Nat) : (t.addGen y).ev x = t.ev x := rfl
@[simp] theorem St.v4ev_addWait (t : St) (y : WaitSt) (x : Nat) : (t.addWait y).ev x = t.ev x := rfl
@[simp] theorem St.v4ev_tick1 (t : St) (d : Int) (x : Nat) : (t.tick1 d).ev x = t.ev x := rfl

@[simp] theorem St.v4log_modWait (t : St) (c : Nat) (f : WaitSt → WaitSt) : (t.modWait c f).log = t.log := rfl
@[simp] theorem St.v4log_modTimer (t : St) (c : Nat) (f : TimerSt → TimerSt) : (t.modTimer c f).log = t.log := rfl
@[simp] theorem St.v4log_setGen (t : St) (g : Nat) (y : GenRec) : (t.setGen g y).log = t.log := rfl
@[simp] theorem St.v4log_addEv (t : St) (y : Ev) : (t.addEv y).log = t.log := rfl
@[simp] theorem St.v4log_addH (t : St) (y : Handler) : (t.addH y).log = t.log := rfl
@[simp] theorem St.v4log_addGen (t : St) (y : GenRec) : (t.addGen y).log = t.log := rfl
@[simp] theorem St.v4log_addWait (t : St) (y : WaitSt) : (t.addWait y).log = t.log := rfl
@[simp] theorem St.v4log_tick1 (t : St) (d : Int) : (t.tick1 d).log = t.log := rfl

/-- every event's Value is in one of the three reachable shapes (unset / single / list ≥ 2) -/
def VWF (s : St) : Prop := ∀ e, (s.ev e).val.WF

/-- `v'` extends `v`: items were appended at the end (nothing dropped or reordered), the flags
    `errors`, `result`, `promise` were not lowered -/
structure Val.Ext (v v' : Val) : Prop where
  items : ∃ xs, v'.items = v.items ++ xs
  errors : v.errors = true → v'.errors = true
  result : v.result = true → v'.result = true
  promise : v.promise = true → v'.promise = true

theorem Val.Ext.refl (v : Val) : Val.Ext v v := ⟨⟨[], by simp⟩, id, id, id⟩

theorem Val.Ext.trans {a b c : Val} (h1 : Val.Ext a b) (h2 : Val.Ext b c) : Val.Ext a c := by
  obtain ⟨x1, e1⟩ := h1.items
  obtain ⟨x2, e2⟩ := h2.items
  exact ⟨⟨x1 ++ x2, by rw [e2, e1, List.append_assoc]⟩, fun h => h2.errors (h1.errors h),
    fun h => h2.result (h1.result h), fun h => h2.promise (h1.promise h)⟩

theorem Val.set_promise (v : Val) (x : VItem) : (v.set x).promise = v.promise := by
  unfold Val.set
  by_cases hr : v.result = true
  · by_cases hl : v.isList = true <;> simp [hr, hl]
  · have hr' : v.result = false := by simpa using hr
    simp [hr']

theorem Val.Ext.set (v : Val) (x : VItem) (h : v.WF) : Val.Ext v (v.set x) :=
  ⟨⟨[x], Val.set_items v x h⟩, fun he => by rw [Val.set_errors]; exact he,
   fun _ => Val.set_result v x, fun hp => by rw [Val.set_promise]; exact hp⟩

theorem Val.Ext.setErrors (v : Val) : Val.Ext v { v with errors := true } :=
  ⟨⟨[], by simp⟩, fun _ => rfl, id, id⟩

theorem Val.Ext.setPromise (v : Val) : Val.Ext v { v with promise := true } :=
  ⟨⟨[], by simp⟩, id, id, fun _ => rfl⟩

theorem Val.WF.setErrors {v : Val} (h : v.WF) : Val.WF { v with errors := true } := h
theorem Val.WF.setPromise {v : Val} (h : v.WF) : Val.WF { v with promise := true } := h

theorem dfltEv_val : dfltEv.val = {} := rfl

def nofire (e : Nat) (es : List Entry) : Prop := ∀ n ch p, Entry.fire e n ch p ∉ es

theorem nofire_append {e : Nat} {a b : List Entry} (h : nofire e (a ++ b)) : nofire e a ∧ nofire e b :=
  ⟨fun n ch p hm => h n ch p (List.mem_append_left _ hm), fun n ch p hm => h n ch p (List.mem_append_right _ hm)⟩

/-- as `VG`, but nothing is said about the Value of `e` when `e = x` (used inside `fireRaw`,
    between the reset of the Value and the log entry) -/
structure VGx (x e : Nat) (s s' : St) : Prop where
  wf : VWF s → VWF s'
  hist : ∃ es, s'.log = es ++ s.log ∧ (VWF s → nofire e es → e ≠ x → Val.Ext (s.ev e).val (s'.ev e).val)

/-- from `s` to `s'` the Value of event `e` was only extended, unless `e` was fired again -/
structure VG (e : Nat) (s s' : St) : Prop where
  wf : VWF s → VWF s'
  hist : ∃ es, s'.log = es ++ s.log ∧ (VWF s → nofire e es → Val.Ext (s.ev e).val (s'.ev e).val)

namespace VG
variable {e : Nat} {s t u : St}

@[st_pres ↓] theorem refl (s : St) : VG e s s := ⟨id, [], rfl, fun _ _ => Val.Ext.refl _⟩

theorem trans (h1 : VG e s t) (h2 : VG e t u) : VG e s u := by
  obtain ⟨es1, e1, x1⟩ := h1.hist
  obtain ⟨es2, e2, x2⟩ := h2.hist
  refine ⟨fun h => h2.wf (h1.wf h), es2 ++ es1, by rw [e2, e1, List.append_assoc], ?_⟩
  intro hw hn
  obtain ⟨n2, n1⟩ := nofire_append hn
  exact (x1 hw n1).trans (x2 (h1.wf hw) n2)

/-- `VG` as an observer sees it: unless `e` is fired again, what it reads is the collapsed longer list -/
theorem grows (h : VG e s t) (hw : VWF s) :
    ∃ es, t.log = es ++ s.log ∧ ((∀ n ch p, Entry.fire e n ch p ∉ es) →
      ∃ xs, (t.ev e).val.items = (s.ev e).val.items ++ xs ∧
        (t.ev e).val.view = collapse ((s.ev e).val.items ++ xs) ∧
        ((s.ev e).val.errors = true → (t.ev e).val.errors = true) ∧
        ((s.ev e).val.result = true → (t.ev e).val.result = true) ∧
        ((s.ev e).val.promise = true → (t.ev e).val.promise = true)) := by
  obtain ⟨es, hlog, hext⟩ := h.hist
  refine ⟨es, hlog, fun hn => ?_⟩
  have hx := hext hw hn
  obtain ⟨xs, hxs⟩ := hx.items
  exact ⟨xs, hxs, by rw [view_of_wf _ (h.wf hw e), hxs], hx.errors, hx.result, hx.promise⟩

theorem toX (x : Nat) (h : VG e s t) : VGx x e s t :=
  ⟨h.wf, let ⟨es, e1, x1⟩ := h.hist; ⟨es, e1, fun hw hn _ => x1 hw hn⟩⟩

theorem of_same (t t' : St) (h1 : t'.evs = t.evs) (h2 : t'.log = t.log) : VG e t t' := by
  have hev : ∀ x, t'.ev x = t.ev x := fun x => by unfold St.ev; rw [h1]
  refine ⟨fun hw x => by rw [hev]; exact hw x, [], by simpa using h2, fun _ _ => by rw [hev]; exact Val.Ext.refl _⟩

theorem modEv_self (t : St) (e' : Nat) (f : Ev → Ev)
    (hf : ∀ y : Ev, y.val.WF → (f y).val.WF ∧ Val.Ext y.val (f y).val) : VG e t (t.modEv e' f) := by
  refine ⟨fun hw x => ?_, [], rfl, fun hw _ => ?_⟩
  · rw [St.w6_modEv_ev_eq]; split
    · exact (hf _ (hw x)).1
    · exact hw x
  · rw [St.w6_modEv_ev_eq]; split
    · exact (hf _ (hw e)).2
    · exact Val.Ext.refl _

theorem logE_self (t : St) (x : Entry) : VG e t (t.logE x) :=
  ⟨fun hw => hw, [x], rfl, fun _ _ => Val.Ext.refl _⟩

theorem addEv_self (t : St) (a : Ev) (ha : a.val = {}) : VG e t (t.addEv a) := by
  have hv : ∀ x, ((t.addEv a).ev x).val = (t.ev x).val := by
    intro x; rw [St.w6_addEv_ev]; split
    · rename_i hx; rw [ha, St.w6_ev_ge t x (by omega)]; rfl
    · rfl
  exact ⟨fun hw x => by rw [hv]; exact hw x, [], rfl, fun _ _ => by rw [hv]; exact Val.Ext.refl _⟩

@[st_pres ↓] theorem modComp (h : VG e s t) (c : Nat) (f : Comp → Comp) : VG e s (t.modComp c f) := h.trans (of_same _ _ rfl rfl)
@[st_pres ↓] theorem modWait (h : VG e s t) (w : Nat) (f : WaitSt → WaitSt) : VG e s (t.modWait w f) := h.trans (of_same _ _ rfl rfl)
@[st_pres ↓] theorem modTimer (h : VG e s t) (i : Nat) (f : TimerSt → TimerSt) : VG e s (t.modTimer i f) := h.trans (of_same _ _ rfl rfl)
@[st_pres ↓] theorem setGen (h : VG e s t) (g : Nat) (x : GenRec) : VG e s (t.setGen g x) := h.trans (of_same _ _ rfl rfl)
@[st_pres ↓] theorem addH (h : VG e s t) (x : Handler) : VG e s (t.addH x) := h.trans (of_same _ _ rfl rfl)
@[st_pres ↓] theorem addGen (h : VG e s t) (g : GenRec) : VG e s (t.addGen g) := h.trans (of_same _ _ rfl rfl)
@[st_pres ↓] theorem addWait (h : VG e s t) (w : WaitSt) : VG e s (t.addWait w) := h.trans (of_same _ _ rfl rfl)
@[st_pres ↓] theorem tick1 (h : VG e s t) (d : Int) : VG e s (t.tick1 d) := h.trans (of_same _ _ rfl rfl)
@[st_pres ↓] theorem logE (h : VG e s t) (x : Entry) : VG e s (t.logE x) := h.trans (logE_self ..)

@[st_pres ↓] theorem modEv (h : VG e s t) (e' : Nat) (f : Ev → Ev)
    (hf : ∀ y : Ev, y.val.WF → (f y).val.WF ∧ Val.Ext y.val (f y).val) : VG e s (t.modEv e' f) :=
  h.trans (modEv_self _ _ _ hf)

@[st_pres ↓] theorem addEv (h : VG e s t) (a : Ev) (ha : a.val = {}) : VG e s (t.addEv a) := h.trans (addEv_self _ _ ha)

end VG

namespace VGx
variable {x e : Nat} {s t u : St}

theorem trans (h1 : VGx x e s t) (h2 : VG e t u) : VGx x e s u := by
  obtain ⟨es1, e1, x1⟩ := h1.hist
  obtain ⟨es2, e2, x2⟩ := h2.hist
  refine ⟨fun h => h2.wf (h1.wf h), es2 ++ es1, by rw [e2, e1, List.append_assoc], ?_⟩
  intro hw hn hx
  obtain ⟨n2, n1⟩ := nofire_append hn
  exact (x1 hw n1 hx).trans (x2 (h1.wf hw) n2)

theorem reset (h : VGx x e s t) (f : Ev → Ev) (hf : ∀ y : Ev, (f y).val = {}) : VGx x e s (t.modEv x f) := by
  obtain ⟨es1, e1, x1⟩ := h.hist
  refine ⟨fun hw y => ?_, es1, by simpa using e1, fun hw hn hx => ?_⟩
  · rw [St.w6_modEv_ev_eq]; split
    · rw [hf]; exact Val.wf_init
    · exact h.wf hw y
  · rw [St.w6_modEv_ev_ne _ _ _ _ hx]; exact x1 hw hn hx

theorem close (h : VGx x e s t) (n : Name) (ch : List Chan) (p : Int) : VG e s (t.logE (.fire x n ch p)) := by
  obtain ⟨es1, e1, x1⟩ := h.hist
  refine ⟨h.wf, .fire x n ch p :: es1, by simp [e1], fun hw hn => ?_⟩
  have hx : e ≠ x := by
    intro hex; subst hex
    exact hn n ch p (List.mem_cons_self)
  have hn1 : nofire e es1 := fun n ch p hm => hn n ch p (List.mem_cons_of_mem _ hm)
  exact x1 hw hn1 hx

end VGx

/-- The side condition of `VG.modEv`: the update keeps the Value well-formed and extends it.  The content of `VG` is
here: `Val.set` appends one item to a well-formed Value (`Val.Ext.set`, from `Val.set_items`), raising `errors` or
`promise` extends it (`Val.Ext.setErrors`, `Val.Ext.setPromise`), and no other update of the model touches the Value. -/
macro_rules | `(tactic| st_pres_side) => `(tactic| first
  | ((refine fun (y : Ev) (hy : y.val.WF) => ?_) <;> first
    | exact ⟨hy, Val.Ext.refl _⟩
    | exact ⟨Val.set_wf _ _ hy, Val.Ext.set _ _ hy⟩
    | exact ⟨Val.WF.setErrors hy, Val.Ext.setErrors _⟩
    | exact ⟨Val.WF.setPromise hy, Val.Ext.setPromise _⟩
    | ((try dsimp only); split <;> exact ⟨hy, Val.Ext.refl _⟩))
  | fail)

structure NE (e : Nat) (s s' : St) : Prop where
  imp : (s'.ev e).val.errors = true → (s.ev e).val.errors = true

namespace NE
variable {e : Nat} {s t u : St}

theorem refl (s : St) : NE e s s := ⟨id⟩
theorem trans (h1 : NE e s t) (h2 : NE e t u) : NE e s u := ⟨fun h => h1.imp (h2.imp h)⟩

theorem of_same (t t' : St) (h1 : t'.evs = t.evs) : NE e t t' := by
  have hev : ∀ x, t'.ev x = t.ev x := fun x => by unfold St.ev; rw [h1]
  exact ⟨fun h => by rw [hev] at h; exact h⟩

theorem modEv_self (t : St) (e' : Nat) (f : Ev → Ev)
    (hf : ∀ y : Ev, (f y).val.errors = true → y.val.errors = true) : NE e t (t.modEv e' f) := by
  refine ⟨fun h => ?_⟩
  rw [St.w6_modEv_ev_eq] at h
  split at h
  · exact hf _ h
  · exact h

theorem modEv_other_self (t : St) {e' : Nat} (f : Ev → Ev) (hne : e' ≠ e) : NE e t (t.modEv e' f) :=
  ⟨fun hh => by rw [St.w6_modEv_ev_ne _ _ _ _ (Ne.symm hne)] at hh; exact hh⟩

theorem addEv_self (t : St) (a : Ev) (ha : a.val = {}) : NE e t (t.addEv a) := by
  refine ⟨fun h => ?_⟩
  rw [St.w6_addEv_ev] at h
  split at h
  · rw [ha] at h; cases h
  · exact h

end NE

/-- The side condition of `NE.modEv_self`: the update does not raise `errors`.  In the model it leaves the flag alone,
resets the Value (`errors = false`: the premise is absurd), or stores an item (`Val.set_errors`: `Val.set` keeps the flag);
the two updates with `errors := true` (`handlerRaised`, `errorBranch`) fail here, which is why `NE` excepts them. -/
macro_rules | `(tactic| st_pres_side) => `(tactic| first
  | ((refine fun (y : Ev) => (?_ : _ → y.val.errors = true)) <;> first
    | exact id
    | exact fun h => Bool.noConfusion h
    | (intro h; rw [Val.set_errors] at h; exact h)
    | ((try dsimp only); split <;> exact id))
  | fail)

/-- What may happen to the Value of `e` between `s` and `s'`: all Values stay well-formed; unless `e` is fired again its
items only grow and its flags are only raised (`VG`); and `errors` is not raised at all (`NE`). -/
def VN (e : Nat) (s s' : St) : Prop := VG e s s' ∧ NE e s s'

namespace VN
variable {e : Nat} {s t u : St}

@[st_pres ↓] theorem refl (s : St) : VN e s s := ⟨.refl s, .refl s⟩
theorem trans (h1 : VN e s t) (h2 : VN e t u) : VN e s u := ⟨h1.1.trans h2.1, h1.2.trans h2.2⟩

theorem of_same (t t' : St) (h1 : t'.evs = t.evs) (h2 : t'.log = t.log) : VN e t t' := ⟨.of_same _ _ h1 h2, .of_same _ _ h1⟩

@[st_pres ↓] theorem modComp (h : VN e s t) (c : Nat) (f : Comp → Comp) : VN e s (t.modComp c f) := h.trans (of_same _ _ rfl rfl)
@[st_pres ↓] theorem modWait (h : VN e s t) (w : Nat) (f : WaitSt → WaitSt) : VN e s (t.modWait w f) := h.trans (of_same _ _ rfl rfl)
@[st_pres ↓] theorem modTimer (h : VN e s t) (i : Nat) (f : TimerSt → TimerSt) : VN e s (t.modTimer i f) := h.trans (of_same _ _ rfl rfl)
@[st_pres ↓] theorem setGen (h : VN e s t) (g : Nat) (x : GenRec) : VN e s (t.setGen g x) := h.trans (of_same _ _ rfl rfl)
@[st_pres ↓] theorem addH (h : VN e s t) (x : Handler) : VN e s (t.addH x) := h.trans (of_same _ _ rfl rfl)
@[st_pres ↓] theorem addGen (h : VN e s t) (g : GenRec) : VN e s (t.addGen g) := h.trans (of_same _ _ rfl rfl)
@[st_pres ↓] theorem addWait (h : VN e s t) (w : WaitSt) : VN e s (t.addWait w) := h.trans (of_same _ _ rfl rfl)
@[st_pres ↓] theorem tick1 (h : VN e s t) (d : Int) : VN e s (t.tick1 d) := h.trans (of_same _ _ rfl rfl)
@[st_pres ↓] theorem logE (h : VN e s t) (x : Entry) : VN e s (t.logE x) := h.trans ⟨.logE_self .., .of_same _ _ rfl⟩

@[st_pres ↓] theorem modEv (h : VN e s t) (e' : Nat) (f : Ev → Ev)
    (hf : ∀ y : Ev, y.val.WF → (f y).val.WF ∧ Val.Ext y.val (f y).val)
    (hn : ∀ y : Ev, (f y).val.errors = true → y.val.errors = true) : VN e s (t.modEv e' f) :=
  h.trans ⟨.modEv_self _ _ _ hf, .modEv_self _ _ _ hn⟩

@[st_pres ↓] theorem modEv_other (h : VN e s t) {e' : Nat} (f : Ev → Ev) (hne : e' ≠ e)
    (hf : ∀ y : Ev, y.val.WF → (f y).val.WF ∧ Val.Ext y.val (f y).val) : VN e s (t.modEv e' f) :=
  h.trans ⟨.modEv_self _ _ _ hf, .modEv_other_self _ _ hne⟩

@[st_pres ↓] theorem addEv (h : VN e s t) (a : Ev) (ha : a.val = {}) : VN e s (t.addEv a) :=
  h.trans ⟨.addEv_self _ _ ha, .addEv_self _ _ ha⟩

end VN

/-- the Value of the event handed to `fireTmplEv` is irrelevant: `fireRaw` replaces it -/
theorem St.v4_fireRaw_addEv (t : St) (a : Ev) (self : Nat) (chans : List Chan) (prio : Int) :
    (t.addEv a).fireRaw self t.evs.length chans prio
      = (t.addEv { a with val := {} }).fireRaw self t.evs.length chans prio := by
  have hm : ∀ f : Ev → Ev, (∀ y : Ev, f y = f { y with val := {} }) →
      (t.addEv a).modEv t.evs.length f = (t.addEv { a with val := {} }).modEv t.evs.length f := by
    intro f hf
    simp only [St.addEv, St.modEv, modify_append_length]
    rw [hf a]
  unfold St.fireRaw
  dsimp only
  rw [hm _ (fun _ => rfl)]

end CV.Core
