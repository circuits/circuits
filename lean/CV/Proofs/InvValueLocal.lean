import CV.Proofs.InvValueBase
import CV.Proofs.CoreFire
/-
C04, machine level: local facts about the pure pieces the property talks about
(`fireRaw`, `fireChild`, `fireTmplEv`, `inform`, `setValue`, `handlerRaised`, `errorBranch`,
`eventDonePre`): which log entries they append, which events they create, what they do to the
event they are about.  `St.feedback`: the common end of `handlerRaised` and `errorBranch`.
`EvSame a b`: the two event records agree on every field the property reads (everything except the completion
bookkeeping `cause/effects/selfDone`, `timeLeft`, `geHandler`, `cancelled`, `complete…`).
-/
namespace CV.Core

structure EvSame (a b : Ev) : Prop where
  name : a.name = b.name
  chans : a.chans = b.chans
  parentEv : a.parentEv = b.parentEv
  success : a.success = b.success
  failure : a.failure = b.failure
  notify : a.notify = b.notify
  successChans : a.successChans = b.successChans
  alertDone : a.alertDone = b.alertDone
  waiting : a.waiting = b.waiting
  stopped : a.stopped = b.stopped
  val : a.val = b.val
  mgr : a.mgr = b.mgr
  arg : a.arg = b.arg

theorem EvSame.refl (a : Ev) : EvSame a a := ⟨rfl, rfl, rfl, rfl, rfl, rfl, rfl, rfl, rfl, rfl, rfl, rfl, rfl⟩

theorem EvSame.of_eq {a b : Ev} (h : a = b) : EvSame a b := h ▸ EvSame.refl a

theorem EvSame.trans {a b c : Ev} (h1 : EvSame a b) (h2 : EvSame b c) : EvSame a c :=
  ⟨h1.name.trans h2.name, h1.chans.trans h2.chans, h1.parentEv.trans h2.parentEv, h1.success.trans h2.success,
   h1.failure.trans h2.failure, h1.notify.trans h2.notify, h1.successChans.trans h2.successChans,
   h1.alertDone.trans h2.alertDone, h1.waiting.trans h2.waiting, h1.stopped.trans h2.stopped,
   h1.val.trans h2.val, h1.mgr.trans h2.mgr, h1.arg.trans h2.arg⟩

theorem EvSame.upd (y : Ev) (c : Option Nat) (n : Int) (b : Bool) (tl : Int) :
    EvSame { y with cause := c, effects := n, selfDone := b, timeLeft := tl } y :=
  ⟨rfl, rfl, rfl, rfl, rfl, rfl, rfl, rfl, rfl, rfl, rfl, rfl, rfl⟩

theorem St.v4_modEv_same (t : St) (e : Nat) (f : Ev → Ev) (hf : ∀ y, EvSame (f y) y) (x : Nat) :
    EvSame ((t.modEv e f).ev x) (t.ev x) := by
  rw [St.w6_modEv_ev_eq]; split
  · exact hf _
  · exact EvSame.refl _

theorem St.v4_fireContext_same (s : St) (r x y : Nat) : EvSame ((s.fireContext r x).ev y) (s.ev y) :=
  St.fireContext_pres (P := fun t => EvSame (t.ev y) (s.ev y)) s r x (EvSame.refl _)
    (fun t _ h => (St.v4_modEv_same t _ _ (fun y => .upd y ..) _).trans h)
    (fun t _ h => (St.v4_modEv_same t _ _ (fun y => .upd y ..) _).trans h)
    (fun t _ h => (St.v4_modEv_same t _ _ (fun y => .upd y ..) _).trans h)

/-- the event table after `fireRaw`: that of `s` with the fired row reset, up to the completion bookkeeping -/
theorem St.v4_fireRaw_row (s : St) (self x : Nat) (ch : List Chan) (p : Int) (y : Nat) :
    EvSame ((s.fireRaw self x ch p).ev y) ((s.modEv x fun y => { y with chans := ch, val := {}, mgr := self }).ev y) := by
  unfold St.fireRaw
  dsimp only
  rw [St.w6_logE_ev, St.w6_modComp_ev]
  exact St.v4_fireContext_same _ _ _ _

theorem St.v4_fireRaw_same (s : St) (self x : Nat) (ch : List Chan) (p : Int) (y : Nat) (hy : y ≠ x) :
    EvSame ((s.fireRaw self x ch p).ev y) (s.ev y) := by
  have h := s.v4_fireRaw_row self x ch p y
  rwa [St.w6_modEv_ev_ne _ _ _ _ hy] at h

theorem St.v4_fireRaw_self (s : St) (self x : Nat) (ch : List Chan) (p : Int) (hx : x < s.evs.length) :
    ((s.fireRaw self x ch p).ev x).val = {} ∧ ((s.fireRaw self x ch p).ev x).chans = ch := by
  have h := s.v4_fireRaw_row self x ch p x
  rw [h.val, h.chans, St.w6_modEv_ev_lt _ _ _ hx]
  exact ⟨rfl, rfl⟩

theorem St.v4_fireChild_log (s : St) (self p sfx : Nat) (ch : List Chan) :
    (s.fireChild self p sfx ch).log = .fire s.evs.length ((s.ev p).name.child sfx) ch 0 :: s.log := by
  unfold St.fireChild St.childEv
  rw [St.fireRaw_log, St.w6_addEv_ev, if_pos rfl]
  rfl

theorem St.v4_fireChild_evs_length (s : St) (self p sfx : Nat) (ch : List Chan) :
    (s.fireChild self p sfx ch).evs.length = s.evs.length + 1 := by
  unfold St.fireChild St.childEv
  rw [St.fireRaw_evs_length, St.w6_addEv_evs_length]

theorem St.v4_fireChild_same (s : St) (self p sfx : Nat) (ch : List Chan) (y : Nat) (hy : y < s.evs.length) :
    EvSame ((s.fireChild self p sfx ch).ev y) (s.ev y) := by
  unfold St.fireChild St.childEv
  refine (St.v4_fireRaw_same _ _ _ _ _ _ (by omega)).trans ?_
  rw [St.w6_addEv_ev, if_neg (by omega)]
  exact EvSame.refl _

theorem St.v4_fireChild_new (s : St) (self p sfx : Nat) (ch : List Chan) :
    ((s.fireChild self p sfx ch).ev s.evs.length).name = (s.ev p).name.child sfx ∧
    ((s.fireChild self p sfx ch).ev s.evs.length).parentEv = some p := by
  unfold St.fireChild St.childEv
  have h := St.v4_fireRaw_row (s.addEv { name := (s.ev p).name.child sfx, parentEv := some p }) self s.evs.length ch 0
    s.evs.length
  rw [h.name, h.parentEv, St.w6_modEv_ev_lt _ _ _ (by simp), St.w6_addEv_ev, if_pos rfl]
  exact ⟨rfl, rfl⟩

theorem St.v4_fireTmplEv_log (s : St) (self : Nat) (a : Ev) (target : Option Chan) (p : Int) :
    ∃ ch, (s.fireTmplEv self a target p).log = .fire s.evs.length a.name ch p :: s.log :=
  ⟨_, s.fireTmplEv_log self a target p⟩

theorem St.v4_fireTmplEv_evs_length (s : St) (self : Nat) (a : Ev) (target : Option Chan) (p : Int) :
    (s.fireTmplEv self a target p).evs.length = s.evs.length + 1 := by
  unfold St.fireTmplEv
  dsimp only
  rw [St.fireRaw_evs_length, St.w6_addEv_evs_length]

theorem St.v4_fireTmplEv_same (s : St) (self : Nat) (a : Ev) (target : Option Chan) (p : Int) (y : Nat)
    (hy : y < s.evs.length) : EvSame ((s.fireTmplEv self a target p).ev y) (s.ev y) := by
  unfold St.fireTmplEv
  dsimp only
  refine (St.v4_fireRaw_same _ _ _ _ _ _ (by omega)).trans ?_
  rw [St.w6_addEv_ev, if_neg (by omega)]
  exact EvSame.refl _

theorem St.v4_alertDone_lt (s : St) (e : Nat) (h : (s.ev e).alertDone = true) : e < s.evs.length :=
  St.ev_lt_of_ne fun hd => by rw [hd] at h; cases h

theorem St.v4_eventDonePre_waiting (s : St) (r e : Nat) (err : Bool) (h : (s.ev e).waiting ≠ 0) :
    s.eventDonePre r e err = (false, s) := by
  unfold St.eventDonePre
  simp [h]

theorem St.v4_eventDonePre_fst (s : St) (r e : Nat) (err : Bool) :
    (s.eventDonePre r e err).1 = true ↔ (s.ev e).waiting = 0 := by
  unfold St.eventDonePre
  dsimp only
  by_cases h : (s.ev e).waiting = 0
  · simp [h]
  · simp [h]

/-- the success condition of `_eventDone`, read off the state before -/
def St.successCond (s : St) (e : Nat) (err : Bool) : Bool :=
  !err && !(s.ev e).val.errors && (s.ev e).success

/-- the feedback of `_eventDone` when no handler is waiting any more: `<name>_done` iff a
    `wait`/`call` asked for it, then `<name>_success` (on the success channels) iff the
    dispatcher saw no error, the Value has no error and the event requested it -/
theorem St.v4_eventDonePre_log (s : St) (r e : Nat) (err : Bool) (h : (s.ev e).waiting = 0) :
    (s.eventDonePre r e err).2.log =
      (if s.successCond e err then
        [Entry.fire (s.evs.length + (if (s.ev e).alertDone then 1 else 0)) ((s.ev e).name.child sfxSuccess)
          ((s.ev e).successChans.getD (s.ev e).chans) 0] else []) ++
      (if (s.ev e).alertDone then [Entry.fire s.evs.length ((s.ev e).name.child sfxDone) (s.ev e).chans 0] else []) ++
      s.log := by
  unfold St.eventDonePre St.successCond
  dsimp only
  have hw : ((s.ev e).waiting != 0) = false := by simp [h]
  rw [hw]
  simp only [Bool.false_eq_true, if_false, St.w6_modEv_log]
  by_cases ha : (s.ev e).alertDone = true
  · have he := St.v4_alertDone_lt s e ha
    have hs := St.v4_fireChild_same s r e sfxDone (s.ev e).chans e he
    simp only [ha, if_true, hs.val, hs.success, hs.successChans, hs.chans]
    split
    · rw [St.v4_fireChild_log, St.v4_fireChild_log, St.v4_fireChild_evs_length, hs.name]; rfl
    · rw [St.v4_fireChild_log]; rfl
  · simp only [ha, Bool.false_eq_true, if_false]
    split
    · rw [St.v4_fireChild_log]; rfl
    · rfl

def isFire (n : Name) : Entry → Bool
  | .fire _ m _ _ => m == n
  | _ => false

/-- number of `fire` entries with name `n` -/
def fires (n : Name) (es : List Entry) : Nat := es.countP (isFire n)

theorem fires_append (n : Name) (a b : List Entry) : fires n (a ++ b) = fires n a + fires n b := by
  simp [fires, List.countP_append]

/-- later states: the event table only grew and old events kept every field the property reads -/
def Grow (s s' : St) : Prop :=
  s.evs.length ≤ s'.evs.length ∧ ∀ y, y < s.evs.length → EvSame (s'.ev y) (s.ev y)

theorem Grow.refl (s : St) : Grow s s := ⟨Nat.le_refl _, fun _ _ => EvSame.refl _⟩

theorem Grow.trans {a b c : St} (h1 : Grow a b) (h2 : Grow b c) : Grow a c :=
  ⟨Nat.le_trans h1.1 h2.1, fun y hy => (h2.2 y (Nat.lt_of_lt_of_le hy h1.1)).trans (h1.2 y hy)⟩

theorem Grow.fireChild {a b : St} (h : Grow a b) (self p sfx : Nat) (ch : List Chan) :
    Grow a (b.fireChild self p sfx ch) :=
  h.trans ⟨by rw [St.v4_fireChild_evs_length]; omega, fun y hy => St.v4_fireChild_same _ _ _ _ _ y hy⟩

theorem Grow.fireTmplEv {a b : St} (h : Grow a b) (self : Nat) (x : Ev) (target : Option Chan) (p : Int) :
    Grow a (b.fireTmplEv self x target p) :=
  h.trans ⟨by rw [St.v4_fireTmplEv_evs_length]; omega, fun y hy => St.v4_fireTmplEv_same _ _ _ _ _ y hy⟩

theorem St.v4_inform_cases (s : St) (e : Nat) (force : Bool) :
    s.inform e force = s ∨
    s.inform e force = s.fireChild (s.ev e).mgr e sfxValueChanged [.inst (s.ev e).mgr] := by
  unfold St.inform
  dsimp only
  split
  · exact Or.inl rfl
  · split
    · exact Or.inr rfl
    · exact Or.inl rfl

theorem Grow.inform {a b : St} (h : Grow a b) (e : Nat) (force : Bool) : Grow a (b.inform e force) := by
  cases St.v4_inform_cases b e force with
  | inl h1 => rw [h1]; exact h
  | inr h1 => rw [h1]; exact h.fireChild ..

theorem St.v4_inform_log (s : St) (e : Nat) (force : Bool) :
    ∃ es, (s.inform e force).log = es ++ s.log ∧
      ∀ m, m ≠ (s.ev e).name.child sfxValueChanged → fires m es = 0 := by
  cases St.v4_inform_cases s e force with
  | inl h1 => exact ⟨[], by rw [h1]; rfl, fun _ _ => rfl⟩
  | inr h1 =>
    refine ⟨[.fire s.evs.length ((s.ev e).name.child sfxValueChanged) [.inst (s.ev e).mgr] 0], ?_, ?_⟩
    · rw [h1, St.v4_fireChild_log]; rfl
    · intro m hm
      have : ((s.ev e).name.child sfxValueChanged == m) = false := by
        simp only [beq_eq_false_iff_ne, ne_eq]; exact fun h => hm h.symm
      simp [fires, isFire, this]

theorem St.v4_setValue_val (s : St) (e : Nat) (x : VItem) (he : e < s.evs.length) :
    ((s.setValue e x).ev e).val = (s.ev e).val.set x := by
  unfold St.setValue
  have g : Grow (s.modEv e fun ev => { ev with val := ev.val.set x })
      ((s.modEv e fun ev => { ev with val := ev.val.set x }).inform e false) := (Grow.refl _).inform e false
  rw [(g.2 e (by simpa using he)).val, St.w6_modEv_ev_lt _ _ _ he]

theorem St.v4_setValue_other (s : St) (e : Nat) (x : VItem) (y : Nat) (hy : y < s.evs.length) (hne : y ≠ e) :
    EvSame ((s.setValue e x).ev y) (s.ev y) := by
  unfold St.setValue
  have g : Grow (s.modEv e fun ev => { ev with val := ev.val.set x })
      ((s.modEv e fun ev => { ev with val := ev.val.set x }).inform e false) := (Grow.refl _).inform e false
  refine (g.2 y (by simpa using hy)).trans ?_
  rw [St.w6_modEv_ev_ne _ _ _ _ hne]
  exact EvSame.refl _

/-- the part of `EvSame` that survives a write to the Value: same name, failure flag and channels (what decides which
    feedback events are fired, and where) -/
def EvNF (a b : Ev) : Prop := a.name = b.name ∧ a.failure = b.failure ∧ a.chans = b.chans

theorem EvNF.trans {a b c : Ev} (h1 : EvNF a b) (h2 : EvNF b c) : EvNF a c :=
  ⟨h1.1.trans h2.1, h1.2.1.trans h2.2.1, h1.2.2.trans h2.2.2⟩

theorem EvSame.toNF {a b : Ev} (h : EvSame a b) : EvNF a b := ⟨h.name, h.failure, h.chans⟩

theorem St.v4_modEv_nf (t : St) (e : Nat) (f : Ev → Ev) (hf : ∀ y, EvNF (f y) y) (x : Nat) :
    EvNF ((t.modEv e f).ev x) (t.ev x) := by
  rw [St.w6_modEv_ev_eq]; split
  · exact hf _
  · exact ⟨rfl, rfl, rfl⟩

/-- a write to `event.value` with its `inform()`: the event keeps its name, failure flag and channels, and nothing but
    `<name>_value_changed` is fired -/
theorem St.v4_valWrite (u : St) (e : Nat) (f : Ev → Ev) (force : Bool) (hf : ∀ y, EvNF (f y) y)
    (he : e < u.evs.length) :
    EvNF (((u.modEv e f).inform e force).ev e) (u.ev e) ∧ u.evs.length ≤ ((u.modEv e f).inform e force).evs.length ∧
    ∃ es, ((u.modEv e f).inform e force).log = es ++ u.log ∧
      ∀ m, m ≠ (u.ev e).name.child sfxValueChanged → fires m es = 0 := by
  have g : Grow (u.modEv e f) ((u.modEv e f).inform e force) := (Grow.refl _).inform e force
  have n := St.v4_modEv_nf u e f hf e
  obtain ⟨es, hl, hes⟩ := St.v4_inform_log (u.modEv e f) e force
  rw [n.1] at hes
  exact ⟨(g.2 e (by rw [St.w6_modEv_evs_length]; exact he)).toNF.trans n,
    by have := g.1; rwa [St.w6_modEv_evs_length] at this, es, hl, hes⟩

theorem Name.exception_ne_child (n : Name) (k : Nat) : Name.exception ≠ n.child k := by
  intro h
  have := congrArg Name.sfx h
  simp [Name.child, Name.exception] at this

theorem Name.child_ne_child (n m : Name) (j k : Nat) (hjk : j ≠ k) : n.child j ≠ m.child k := by
  intro h
  have h1 := congrArg (fun x => x.sfx.getLast?) h
  simp [Name.child] at h1
  exact hjk h1

theorem fires_cons_fire (n m : Name) (i : Nat) (ch : List Chan) (p : Int) (es : List Entry) :
    fires n (.fire i m ch p :: es) = (if m == n then 1 else 0) + fires n es := by
  by_cases hm : (m == n) = true <;> simp [fires, isFire, hm] <;> omega

theorem St.v4_feedback_log (u : St) (r e : Nat) : ∃ ch,
    (u.feedback r e).log =
      if (u.ev e).failure then
        .fire (u.evs.length + 1) Name.exception ch 0 ::
          .fire u.evs.length ((u.ev e).name.child sfxFailure) (u.ev e).chans 0 :: u.log
      else .fire u.evs.length Name.exception ch 0 :: u.log := by
  unfold St.feedback St.fireException
  by_cases hf : (u.ev e).failure = true
  · obtain ⟨ch, hlog⟩ := St.v4_fireTmplEv_log (u.fireChild r e sfxFailure (u.ev e).chans) r
      { name := Name.exception, arg := e } none 0
    exact ⟨ch, by rw [if_pos hf, if_pos hf, hlog, St.v4_fireChild_log, St.v4_fireChild_evs_length]⟩
  · obtain ⟨ch, hlog⟩ := St.v4_fireTmplEv_log u r { name := Name.exception, arg := e } none 0
    exact ⟨ch, by rw [if_neg hf, if_neg hf, hlog]⟩

theorem St.v4_feedback_evs_length (u : St) (r e : Nat) :
    (u.feedback r e).evs.length = u.evs.length + (if (u.ev e).failure then 2 else 1) := by
  unfold St.feedback St.fireException
  rw [St.v4_fireTmplEv_evs_length]
  split
  · rw [St.v4_fireChild_evs_length]
  · rfl

theorem St.feedback_grow (u : St) (r e : Nat) : Grow u (u.feedback r e) := by
  unfold St.feedback St.fireException
  apply Grow.fireTmplEv
  split
  · exact (Grow.refl u).fireChild ..
  · exact Grow.refl u

theorem St.v4_feedback_fires (u : St) (r e : Nat) : ∃ es, (u.feedback r e).log = es ++ u.log ∧
    fires Name.exception es = 1 ∧
    fires ((u.ev e).name.child sfxFailure) es = if (u.ev e).failure then 1 else 0 := by
  obtain ⟨ch, h⟩ := St.v4_feedback_log u r e
  have h1 : ((u.ev e).name.child sfxFailure == Name.exception) = false := by
    simp only [beq_eq_false_iff_ne, ne_eq]; exact fun h => Name.exception_ne_child _ _ h.symm
  have h2 : (Name.exception == (u.ev e).name.child sfxFailure) = false := by
    simp only [beq_eq_false_iff_ne, ne_eq]; exact Name.exception_ne_child _ _
  by_cases hf : (u.ev e).failure = true
  · rw [if_pos hf] at h
    exact ⟨[_, _], h, by rw [fires_cons_fire, fires_cons_fire, h1]; simp [fires],
      by rw [fires_cons_fire, fires_cons_fire, h2, if_pos hf]; simp [fires]⟩
  · rw [if_neg hf] at h
    exact ⟨[_], h, by rw [fires_cons_fire]; simp [fires], by rw [fires_cons_fire, h2, if_neg hf]; simp [fires]⟩

theorem St.v4_handlerRaised_eq (s : St) (r e : Nat) : s.handlerRaised r e = (s.modEv e errF).feedback r e := rfl

theorem St.v4_handlerRaised_log (s : St) (r e : Nat) : ∃ ch,
    (s.handlerRaised r e).log =
      if (s.ev e).failure then
        .fire (s.evs.length + 1) Name.exception ch 0 ::
          .fire s.evs.length ((s.ev e).name.child sfxFailure) (s.ev e).chans 0 :: s.log
      else .fire s.evs.length Name.exception ch 0 :: s.log := by
  obtain ⟨ch, h⟩ := St.v4_feedback_log (s.modEv e errF) r e
  have n := St.v4_modEv_nf s e errF (fun _ => ⟨rfl, rfl, rfl⟩) e
  rw [n.1, n.2.1, n.2.2, St.w6_modEv_evs_length, St.w6_modEv_log] at h
  exact ⟨ch, h⟩

theorem St.v4_handlerRaised_val (s : St) (r e : Nat) (he : e < s.evs.length) :
    ((s.handlerRaised r e).ev e).val = { (s.ev e).val with errors := true } := by
  rw [St.v4_handlerRaised_eq, ((St.feedback_grow _ r e).2 e (by rw [St.w6_modEv_evs_length]; exact he)).val,
    St.w6_modEv_ev_lt _ _ _ he]
  rfl

theorem St.v4_handlerRaised_errors (s : St) (r e : Nat) (he : e < s.evs.length) :
    ((s.handlerRaised r e).ev e).val.errors = true := by
  rw [St.v4_handlerRaised_val s r e he]

theorem St.v4_handlerRaised_evs_length (s : St) (r e : Nat) :
    (s.handlerRaised r e).evs.length = s.evs.length + (if (s.ev e).failure then 2 else 1) := by
  rw [St.v4_handlerRaised_eq, St.v4_feedback_evs_length,
    (St.v4_modEv_nf s e errF (fun _ => ⟨rfl, rfl, rfl⟩) e).2.1, St.w6_modEv_evs_length]

theorem St.v4_modEv_val_keep (t : St) (e : Nat) (f : Ev → Ev) (hf : ∀ y, (f y).val = y.val) (x : Nat) :
    ((t.modEv e f).ev x).val = (t.ev x).val := St.w6_modEv_ev_pres t (·.val) e f hf x

theorem St.errMid_grow (s : St) (r : Nat) (t : Task) :
    Grow ((s.unregisterTask r t).modEv t.e setErrF) (s.errMid r t) := (Grow.refl _).inform _ _

theorem St.errTail_grow (b : St) (r E : Nat) : Grow b (b.errTail r E) :=
  ((Grow.refl b).inform _ _).trans (St.feedback_grow _ r E)

theorem St.v4_errorBranch_val (s : St) (r : Nat) (t : Task) (resumed : Bool) (he : t.e < s.evs.length) :
    (((s.errorBranch r t resumed).2).ev t.e).val = { (s.ev t.e).val.set .err with errors := true } := by
  have heA : t.e < ((s.unregisterTask r t).modEv t.e setErrF).evs.length := by
    rw [St.w6_modEv_evs_length]; exact he
  have hA : (((s.unregisterTask r t).modEv t.e setErrF).ev t.e).val = (s.ev t.e).val.set .err := by
    rw [St.w6_modEv_ev_lt (s.unregisterTask r t) t.e setErrF he]; rfl
  have gM := St.errMid_grow s r t
  have hM : ((s.errMid r t).ev t.e).val = (s.ev t.e).val.set .err := (gM.2 _ heA).val.trans hA
  have heM : t.e < (s.errMid r t).evs.length := Nat.lt_of_lt_of_le heA gM.1
  have hB : (((s.errMid r t).modEv t.e errF).ev t.e).val = { (s.ev t.e).val.set .err with errors := true } := by
    rw [St.w6_modEv_ev_lt _ _ _ heM]; unfold errF; dsimp only; rw [hM]
  have gT := St.errTail_grow ((s.errMid r t).modEv t.e errF) r t.e
  have hT : ((((s.errMid r t).modEv t.e errF).errTail r t.e).ev t.e).val
      = { (s.ev t.e).val.set .err with errors := true } :=
    (gT.2 _ (by rw [St.w6_modEv_evs_length]; exact heM)).val.trans hB
  rw [St.v4_errorBranch_snd]
  split
  · refine (St.v4_modEv_val_keep _ _ _ ?_ _).trans hT
    intro y; rfl
  · exact hT

theorem St.v4_errorBranch_errors (s : St) (r : Nat) (t : Task) (resumed : Bool) (he : t.e < s.evs.length) :
    (((s.errorBranch r t resumed).2).ev t.e).val.errors = true := by
  rw [St.v4_errorBranch_val s r t resumed he]

theorem St.v4_errorBranch_log (s : St) (r : Nat) (t : Task) (resumed : Bool) (he : t.e < s.evs.length) :
    ∃ es, (s.errorBranch r t resumed).2.log = es ++ s.log ∧ fires Name.exception es = 1 ∧
      fires ((s.ev t.e).name.child sfxFailure) es = if (s.ev t.e).failure then 1 else 0 := by
  -- the two writes to `event.value` log at most a `value_changed` each and keep name, failure flag and channels
  obtain ⟨n1, l1, es1, hl1, hf1⟩ := St.v4_valWrite (s.unregisterTask r t) t.e setErrF false (fun _ => ⟨rfl, rfl, rfl⟩) he
  obtain ⟨n2, _, es2, hl2, hf2⟩ := St.v4_valWrite (s.errMid r t) t.e errF true (fun _ => ⟨rfl, rfl, rfl⟩)
    (Nat.lt_of_lt_of_le he l1)
  -- then comes the feedback
  obtain ⟨es3, hl3, hx3, hf3⟩ := St.v4_feedback_fires (((s.errMid r t).modEv t.e errF).inform t.e true) r t.e
  have n : EvNF ((((s.errMid r t).modEv t.e errF).inform t.e true).ev t.e) (s.ev t.e) := n2.trans n1
  rw [n.1, n.2.1] at hf3
  rw [show ((s.errMid r t).ev t.e).name = (s.ev t.e).name from n1.1] at hf2
  have hvc1 : Name.exception ≠ (s.ev t.e).name.child sfxValueChanged := Name.exception_ne_child _ _
  have hvc2 : (s.ev t.e).name.child sfxFailure ≠ (s.ev t.e).name.child sfxValueChanged :=
    Name.child_ne_child _ _ _ _ (by decide)
  have hlog : (((s.errMid r t).modEv t.e errF).errTail r t.e).log = (es3 ++ (es2 ++ es1)) ++ s.log := by
    show (St.feedback _ r t.e).log = _
    rw [hl3, hl2, show (s.errMid r t).log = es1 ++ s.log from hl1, List.append_assoc, List.append_assoc]
  refine ⟨es3 ++ (es2 ++ es1), ?_, by rw [fires_append, fires_append, hx3, hf2 _ hvc1, hf1 _ hvc1],
    by rw [fires_append, fires_append, hf3, hf2 _ hvc2, hf1 _ hvc2]; rfl⟩
  rw [St.v4_errorBranch_snd]
  split
  · rw [St.w6_modEv_log]; exact hlog
  · exact hlog

/-- the error branch of `processTask`, reached from `.ptOwn` (`resumed = false`) or from `.ptParent` (`true`):
    `h` is what `step_ptOwn_raised` / `step_ptParent_raised` say of the step -/
theorem raise_isolated_errorBranch (c : Cfg) (r : Nat) (t : Task) (resumed : Bool) (k : List Frame)
    (h : (step c).st = (c.st.errorBranch r t resumed).2 ∧ (step c).exn = none ∧
      (step c).stack = (if (c.st.errorBranch r t resumed).1 then [Frame.eventDone r t.e true] else []) ++ k)
    (he : t.e < c.st.evs.length) :
    (step c).exn = none ∧ ((step c).stack = k ∨ (step c).stack = .eventDone r t.e true :: k) ∧
    ∃ es, (step c).st.log = es ++ c.st.log ∧ fires Name.exception es = 1 ∧
      fires ((c.st.ev t.e).name.child sfxFailure) es = if (c.st.ev t.e).failure then 1 else 0 := by
  obtain ⟨h1, h2, h3⟩ := h
  refine ⟨h2, ?_, ?_⟩
  · rw [h3]; split
    · exact Or.inr rfl
    · exact Or.inl rfl
  · rw [h1]; exact St.v4_errorBranch_log c.st r t resumed he

end CV.Core
