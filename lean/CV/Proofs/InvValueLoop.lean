import CV.Proofs.CoreStep
import CV.Proofs.CoreStack
/-
C04, machine level: control flow of the handler loop and of the task error branch.  A step never touches the frames below
the top frame (`step_stack_suffix`, read off `Frame.Pushes`); each round of the loop removes exactly the chosen handler
(`St.chooseHandler_mem`, `step_hLoop_cons`), and after a handler that raised the loop goes on with the remaining ones
(`step_hAfter_raised`).  `loop_top_step` / `loop_step`: what one step does to the loop of one dispatch.
-/
namespace CV.Core

theorem stepFrame_suffix (c : Cfg) (k : List Frame) (f : Frame) : ∃ fs, (stepFrame c k f).stack = fs ++ k :=
  let ⟨fs, h, _⟩ := (stepFrame_pushes c k f).stack
  ⟨fs, h⟩

theorem unwind_suffix (c : Cfg) (k : List Frame) (ex : Exn) (f : Frame) : ∃ fs, (unwind c k ex f).stack = fs ++ k :=
  (unwind_stack c k ex f).elim (fun h => ⟨[], h⟩) fun ⟨_, _, h⟩ => ⟨_, h⟩

theorem step_stack_suffix (c : Cfg) (f : Frame) (k : List Frame) (h : c.stack = f :: k) :
    ∃ fs, (step c).stack = fs ++ k := by
  cases hx : c.exn with
  | some ex => rw [step_cons_exn c f k ex h hx]; exact unwind_suffix ..
  | none => rw [step_cons c f k h hx]; exact stepFrame_suffix ..

theorem step_keeps_below (c : Cfg) (fs k : List Frame) (h : c.stack = fs ++ k) (hne : fs ≠ []) :
    ∃ fs', (step c).stack = fs' ++ k := by
  cases fs with
  | nil => exact absurd rfl hne
  | cons f rest =>
    obtain ⟨gs, hg⟩ := step_stack_suffix c f (rest ++ k) (by simpa using h)
    exact ⟨gs ++ rest, by rw [hg, List.append_assoc]⟩

theorem step_hLoop_cons (c : Cfg) (r e h0 : Nat) (rest0 : List Nat) (err : Bool) (stale : Outcome) (k : List Frame)
    (h : c.stack = .hLoop r e (h0 :: rest0) err stale :: k) (hx : c.exn = none) :
    (step c).stack = .invoke r (c.st.chooseHandler e h0 rest0) e ::
        .hAfter r e ((h0 :: rest0).erase (c.st.chooseHandler e h0 rest0)) err stale :: k ∧
    (step c).exn = none ∧
    c.st.chooseHandler e h0 rest0 ∈ h0 :: rest0 ∧
    (h0 :: rest0).Perm (c.st.chooseHandler e h0 rest0 :: (h0 :: rest0).erase (c.st.chooseHandler e h0 rest0)) ∧
    ((h0 :: rest0).erase (c.st.chooseHandler e h0 rest0)).length = rest0.length := by
  have hm := St.chooseHandler_mem c.st e h0 rest0
  rw [step_cons c _ _ h hx]
  refine ⟨rfl, hx, hm, List.perm_cons_erase hm, ?_⟩
  rw [List.length_erase_of_mem hm]; rfl

theorem step_hLoop_nil (c : Cfg) (r e : Nat) (err : Bool) (stale : Outcome) (k : List Frame)
    (h : c.stack = .hLoop r e [] err stale :: k) (hx : c.exn = none) :
    step c = { c with stack := .dispFin r e err :: k } := by
  rw [step_cons c _ _ h hx]; rfl

theorem step_hAfter_raised (c : Cfg) (r e : Nat) (rest : List Nat) (err : Bool) (stale : Outcome) (k : List Frame)
    (h : c.stack = .hAfter r e rest err stale :: k) (hx : c.exn = none) (hr : c.ret.outcome = .raised) :
    step c = { c with st := c.st.handlerRaised r e, stack := .hApply r e rest true .raised :: k } := by
  rw [step_cons c _ _ h hx]
  simp only [stepFrame, Cfg.hAfter, hr]
  rfl

/-- whatever the handler did (returned, raised, SystemExit, KeyboardInterrupt): after `.hAfter`
    the stack is `[.hApply … rest …] ++ k` (below a `stop()` call in the two exit cases) -/
theorem step_hAfter_stack (c : Cfg) (r e : Nat) (rest : List Nat) (err : Bool) (stale : Outcome) (k : List Frame)
    (h : c.stack = .hAfter r e rest err stale :: k) (hx : c.exn = none) :
    (step c).exn = none ∧
    ∃ err' v, (step c).stack = .hApply r e rest err' v :: k ∨
      ∃ code, (step c).stack = .stopMgr r code :: .hApply r e rest err' v :: k := by
  rw [step_cons c _ _ h hx]
  simp only [stepFrame, Cfg.hAfter]
  split
  · exact ⟨hx, err, stale, Or.inr ⟨_, rfl⟩⟩
  · exact ⟨hx, err, stale, Or.inr ⟨_, rfl⟩⟩
  · exact ⟨hx, true, .raised, Or.inl rfl⟩
  · exact ⟨hx, err, .none, Or.inl rfl⟩
  · exact ⟨hx, err, .value _, Or.inl rfl⟩
  · exact ⟨hx, err, .gen _, Or.inl rfl⟩

theorem step_hApply (c : Cfg) (r e : Nat) (rest : List Nat) (err : Bool) (v : Outcome) (k : List Frame)
    (h : c.stack = .hApply r e rest err v :: k) (hx : c.exn = none) :
    (step c).st = (c.st.applyValue r e v).geTasksCheck r e ∧ (step c).exn = none ∧
    (step c).stack = (if ((c.st.applyValue r e v).ev e).stopped then Frame.dispFin r e err
                      else Frame.hLoop r e rest err v) :: k := by
  rw [step_cons c _ _ h hx]
  simp only [stepFrame, Cfg.hApply]
  split <;> exact ⟨rfl, hx, rfl⟩

theorem step_ptOwn_raised (c : Cfg) (r : Nat) (t : Task) (k : List Frame)
    (h : c.stack = .ptOwn r t :: k) (hx : c.exn = none) (hr : c.ret.yield = .raised) :
    (step c).st = (c.st.errorBranch r t false).2 ∧ (step c).exn = none ∧
    (step c).stack = (if (c.st.errorBranch r t false).1 then [Frame.eventDone r t.e true] else []) ++ k := by
  rw [step_cons c _ _ h hx]
  simp only [stepFrame, Cfg.ptOwn, hr, Cfg.contError]
  split <;> exact ⟨rfl, hx, rfl⟩

theorem step_ptParent_raised (c : Cfg) (r : Nat) (t : Task) (p : Nat) (viaThrow : Bool) (k : List Frame)
    (h : c.stack = .ptParent r t p viaThrow :: k) (hx : c.exn = none) (hr : c.ret.yield = .raised) :
    (step c).st = (c.st.errorBranch r t true).2 ∧ (step c).exn = none ∧
    (step c).stack = (if (c.st.errorBranch r t true).1 then [Frame.eventDone r t.e true] else []) ++ k := by
  rw [step_cons c _ _ h hx]
  simp only [stepFrame, Cfg.ptParent, hr, Cfg.contError]
  split <;> exact ⟨rfl, hx, rfl⟩

theorem step_eventDone (c : Cfg) (r e : Nat) (err : Bool) (k : List Frame)
    (h : c.stack = .eventDone r e err :: k) (hx : c.exn = none) :
    (step c).st = (c.st.eventDonePre r e err).2 ∧
    (step c).stack = (if (c.st.eventDonePre r e err).1 then [Frame.effectDone r e true] else []) ++ k := by
  rw [step_cons c _ _ h hx]
  simp only [stepFrame, Cfg.eventDone]
  split <;> exact ⟨rfl, rfl⟩

def loopFrame (r e : Nat) (hs : List Nat) : Frame → Prop
  | .hLoop r' e' hs' _ _ => r' = r ∧ e' = e ∧ hs' = hs
  | .hAfter r' e' hs' _ _ => r' = r ∧ e' = e ∧ hs' = hs
  | .hApply r' e' hs' _ _ => r' = r ∧ e' = e ∧ hs' = hs
  | _ => False

/-- somewhere in the stack of `c`, directly above the frames `k`, sits the handler loop of event `e` (dispatched by `r`)
    with the handlers `hs` still to be invoked - at its head (`.hLoop`), waiting for the running handler to return
    (`.hAfter`, anything above it), or applying a result (`.hApply`) -/
def InLoop (r e : Nat) (k : List Frame) (hs : List Nat) (c : Cfg) : Prop :=
  ∃ fs X, c.stack = fs ++ X :: k ∧ loopFrame r e hs X

/-- The loop frame of `e` with `hs` pending is on top.  Its step keeps the pending handlers and leaves a loop frame on
    top, or under a `stop()` call (a handler raised `SystemExit` / `KeyboardInterrupt`); or it starts the next handler;
    or it ends the loop; or an exception pops the frame. -/
theorem loop_top_step (r e : Nat) (k : List Frame) (hs : List Nat) (c : Cfg) (X : Frame) (hst : c.stack = X :: k)
    (hX : loopFrame r e hs X) :
    (∃ X', loopFrame r e hs X' ∧ ((step c).stack = X' :: k ∨ ∃ code, (step c).stack = .stopMgr r code :: X' :: k))
    ∨ (∃ x, x ∈ hs ∧ hs.Perm (x :: hs.erase x) ∧ (hs.erase x).length + 1 = hs.length ∧
        ∃ err stale, (step c).stack = .invoke r x e :: .hAfter r e (hs.erase x) err stale :: k ∧ (step c).exn = none)
    ∨ (∃ err, (step c).stack = .dispFin r e err :: k ∧ c.exn = none ∧
        (hs = [] ∨ ∃ v, c.stack = .hApply r e hs err v :: k ∧ ((c.st.applyValue r e v).ev e).stopped = true))
    ∨ (c.exn ≠ none ∧ (step c).stack = k) := by
  cases hx : c.exn with
  | some ex =>
    refine Or.inr (Or.inr (Or.inr ⟨by simp, ?_⟩))
    rw [step_cons_exn c X k ex hst hx]
    cases X <;> first | rfl | exact False.elim hX
  | none =>
    cases X with
    | hLoop r' e' hs' err stale =>
      obtain ⟨rfl, rfl, rfl⟩ := hX
      cases hs' with
      | nil =>
        refine Or.inr (Or.inr (Or.inl ⟨err, ?_, rfl, Or.inl rfl⟩))
        rw [step_hLoop_nil c _ _ err stale k hst hx]
      | cons h0 rest0 =>
        obtain ⟨h1, h2, h3, h4, h5⟩ := step_hLoop_cons c _ _ h0 rest0 err stale k hst hx
        exact Or.inr (Or.inl ⟨_, h3, h4, by rw [h5]; rfl, err, stale, h1, h2⟩)
    | hAfter r' e' hs' err stale =>
      obtain ⟨rfl, rfl, rfl⟩ := hX
      obtain ⟨_, err', v, h1⟩ := step_hAfter_stack c _ _ hs' err stale k hst hx
      exact Or.inl ⟨.hApply r' e' hs' err' v, ⟨rfl, rfl, rfl⟩, h1⟩
    | hApply r' e' hs' err v =>
      obtain ⟨rfl, rfl, rfl⟩ := hX
      obtain ⟨_, _, h1⟩ := step_hApply c _ _ hs' err v k hst hx
      by_cases hstop : ((c.st.applyValue r' e' v).ev e').stopped = true
      · rw [if_pos hstop] at h1
        exact Or.inr (Or.inr (Or.inl ⟨err, h1, rfl, Or.inr ⟨v, hst, hstop⟩⟩))
      · rw [if_neg hstop] at h1
        exact Or.inl ⟨.hLoop r' e' hs' err v, ⟨rfl, rfl, rfl⟩, .inl h1⟩
    | _ => exact False.elim hX

/-- One step of a configuration inside the loop of `e` with `hs` pending does one of four things:
    1. stays in the loop with the same pending handlers (the running handler, anything it calls,
       the bookkeeping between two handlers);
    2. starts the next handler: some `h ∈ hs` is invoked and exactly `h` leaves the pending list;
    3. ends the loop normally (`.dispFin`): only when nothing is pending or the event was stopped;
    4. is dropped by an exception that unwinds through the loop frame.
    Whatever a handler does - return, raise, `SystemExit` - it cannot make the loop skip or
    repeat a handler. -/
theorem loop_step (r e : Nat) (k : List Frame) (hs : List Nat) (c : Cfg) (h : InLoop r e k hs c) :
    InLoop r e k hs (step c)
    ∨ (∃ x, x ∈ hs ∧ hs.Perm (x :: hs.erase x) ∧ (hs.erase x).length + 1 = hs.length ∧
        ∃ err stale, (step c).stack = .invoke r x e :: .hAfter r e (hs.erase x) err stale :: k ∧ (step c).exn = none)
    ∨ (∃ err, (step c).stack = .dispFin r e err :: k ∧ c.exn = none ∧
        (hs = [] ∨ ∃ v, c.stack = .hApply r e hs err v :: k ∧ ((c.st.applyValue r e v).ev e).stopped = true))
    ∨ (c.exn ≠ none ∧ (step c).stack = k) := by
  obtain ⟨fs, X, hst, hX⟩ := h
  cases fs with
  | cons f rest =>
    -- something runs above the loop frame: it stays
    obtain ⟨gs, hg⟩ := step_keeps_below c (f :: rest) (X :: k) hst (by simp)
    exact Or.inl ⟨gs, X, hg, hX⟩
  | nil =>
    refine (loop_top_step r e k hs c X hst hX).imp_left ?_
    rintro ⟨X', hX', h1 | ⟨code, h1⟩⟩
    · exact ⟨[], X', h1, hX'⟩
    · exact ⟨[_], X', h1, hX'⟩

end CV.Core
