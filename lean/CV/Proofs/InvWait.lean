import CV.Proofs.InvWaitProto
import CV.Proofs.InvWaitMono
import CV.Proofs.InvWaitView
import CV.Proofs.CoreStack
/-
C06, global layer: `W6WInv` through the composite helpers of `Step.lean`; the configuration invariant `W6CInv` (state
invariant + facts about the frames on the stack + the return register) and its preservation by `step`.

Each part of `W6CInv` survives the arm of a frame for a reason of its own.  The state invariant `W6WInv`: most arms keep
the view (`w6_stepFrame_v`), the others change it (`w6_stepFrame_winv`, where the protocol is).  The facts about the frames
further down and about the return register: nothing they say is undone by a step (`St.W6S`, CV/Proofs/InvWaitMono.lean).
The facts about the frames an arm pushes follow from those about the frame it replaces (`Frame.Pushes.w6_ok`).  The register
is written with a generator by `invoke` only, and then with a new user generator (`Frame.Returns`).  The shape of the stack:
no arm but that of `stepGen` leaves a `ptOwn` / `ptParent` on top (`Frame.Pushes.w6_flat`).
-/
namespace CV.Core

namespace W6View
theorem NonWait.ofS {s s' : St} (hS : St.W6S s s') {g : Nat} (h : s.w6_view.NonWait g) : s'.w6_view.NonWait g :=
  h.mono hS.gensLen (hS.genBack g h.1)

theorem TaskOk.ofS {s s' : St} (hS : St.W6S s s') {t : Task} (h : s.w6_view.TaskOk t) : s'.w6_view.TaskOk t :=
  h.mono hS.gensLen hS.genBack fun w _ => (hS.bits w).2.2
end W6View

namespace W6WInv
variable {n0 : Nat} {s : St}

theorem genCall (h : W6WInv n0 s) (owner t : Nat) (target : Option Chan) (timeout : Option Nat) :
    W6WInv n0 (s.genCall owner t target timeout) := by
  unfold St.genCall; exact h.newWait _ rfl rfl rfl rfl rfl

theorem genWait (h : W6WInv n0 s) (owner : Nat) (name : Name) (target : Option Chan) (timeout : Option Nat) :
    W6WInv n0 (s.genWait owner name target timeout) := by
  unfold St.genWait; exact h.newWait _ rfl rfl rfl rfl rfl

theorem logE (h : W6WInv n0 s) (x : Entry) : W6WInv n0 (s.logE x) := h
theorem modEv (h : W6WInv n0 s) (e : Nat) (f : Ev → Ev) : W6WInv n0 (s.modEv e f) := h

theorem resumeGenPre (h : W6WInv n0 s) (g : Nat) (silent : Bool) : W6WInv n0 (s.resumeGenPre g silent) := by
  unfold St.resumeGenPre
  split
  · rename_i e hh o rest st pc sd hg
    have hold : (s.gen g).w6_isWait = false := by rw [hg]; rfl
    have hacts := h.2.gacts g e hh o rest st pc sd hg
    have hset : ∀ st' pc' sd', W6WInv n0 (s.setGen g (.user e hh o rest st' pc' sd')) := fun _ _ _ =>
      h.setGen g _ hold rfl (fun _ _ _ _ _ _ _ he => by injection he with _ _ _ he; subst he; exact hacts)
    split
    · exact hset _ _ _
    · split
      · exact (hset _ _ _).logE _
      · exact hset _ _ _
  · exact h

theorem setValueOpt (h : W6WInv n0 s) (e : Nat) (v : Option Nat) : W6WInv n0 (s.setValueOpt e v) :=
  h.ofV (St.W6V.setValueOpt (St.W6V.refl _) _ _)

theorem stopIteration (h : W6WInv n0 s) (r : Nat) (t : Task) (hp : ∀ p, t.parent = some p → s.w6_view.NonWait p) :
    W6WInv n0 (s.stopIteration r t).2 := by
  unfold St.stopIteration
  dsimp only
  split
  · rename_i p hpar
    exact ((h.modEv _ _).unregisterTask r t).registerTask r _ ((hp p hpar).taskOk _)
  · split
    · exact ((h.modEv _ _).unregisterTask r t).ofV (St.W6V.inform (St.W6V.refl _) _ _)
    · exact (h.modEv _ _).unregisterTask r t

theorem errorBranch (h : W6WInv n0 s) (r : Nat) (t : Task) (resumed : Bool) : W6WInv n0 (s.errorBranch r t resumed).2 :=
  St.errorBranch_pres (P := W6WInv n0) s r t resumed (h.unregisterTask r t) (fun _ h => h.modEv _ _)
    (fun _ h => h.modEv _ _) (fun _ _ h => h.ofV (St.W6V.inform (St.W6V.refl _) _ _))
    (fun _ _ h => h.ofV (St.W6V.fireChild (St.W6V.refl _) _ _ _ _))
    (fun _ h => h.ofV (St.W6V.fireException (St.W6V.refl _) _ _)) (fun _ _ h => h.modEv _ _)

/-- `next(value)` on a fresh waitEvent generator, then `task_state.task_event / .parent = …` -/
theorem startWaitParent (h : W6WInv n0 s) (w : Nat) (hw : w < s.waits.length) (hns : (s.wait w).started = false)
    (te pg : Nat) (hp : s.w6_view.NonWait pg) :
    W6WInv n0 ((s.startWait w).modWait w fun x => { x with taskEvent := te, parentGen := pg }) := by
  rw [St.w6_startWait_eq]
  cases hc : (s.wait w).isCall with
  | none =>
    simp only []
    exact h.w6_startTail (s.wait w) _ _ w hw rfl hns te pg hp
  | some ct =>
    obtain ⟨ct1, ct2⟩ := ct
    simp only []
    have hv : St.W6V s (s.fireTmplEv (s.wait w).owner (mkEvOfTmpl s ct1) ct2 0) :=
      St.W6V.fireTmplEv (St.W6V.refl _) _ _ _ _
    have hwh : ((s.fireTmplEv (s.wait w).owner (mkEvOfTmpl s ct1) ct2 0).wait w).w6h = (s.wait w).w6h :=
      congrFun (congrArg W6View.wh hv) w
    have hnw : (s.fireTmplEv (s.wait w).owner (mkEvOfTmpl s ct1) ct2 0).waits.length = s.waits.length :=
      congrArg W6View.nw hv
    refine (h.ofV hv).w6_startTail (s.wait w) _ _ w (by rw [hnw]; exact hw) hwh hns te pg ?_
    rw [show (s.fireTmplEv (s.wait w).owner (mkEvOfTmpl s ct1) ct2 0).w6_view = s.w6_view from hv]; exact hp

theorem ownSub (h : W6WInv n0 s) (r : Nat) (t : Task) (w : Nat) (hw : w < s.waits.length)
    (hns : (s.wait w).started = false) (hg : s.w6_view.NonWait t.g) : W6WInv n0 (s.ownSub r t w) := by
  unfold St.ownSub
  dsimp only
  exact ((h.modEv t.e fun x => { x with waiting := x.waiting + 1 }).unregisterTask r ⟨t.e, t.g, none⟩).startWaitParent
    w hw hns t.e t.g hg

/-- a value thrown into the parent `p` travels as the task of a new one-shot generator -/
theorem throwTask (h : W6WInv n0 s) (r e : Nat) (v : Option Nat) {p : Nat} (hp : s.w6_view.NonWait p) :
    W6WInv n0 ((s.addGen (.one v false)).registerTask r ⟨e, s.gens.length, some p⟩) := by
  refine (h.addGen (.one v false) rfl (fun _ _ _ _ _ _ _ hh => by cases hh)).registerTask r _ ?_
  refine ⟨by simp, fun w hg => ?_, fun p' hp' => ?_⟩
  · simp [St.w6_addGen_gen] at hg
  · injection hp' with hp'; subst hp'
    exact W6View.NonWait.ofS (St.W6S.addGen_self _ _) hp

theorem parentSub (h : W6WInv n0 s) (r : Nat) (t : Task) (p w2 : Nat) (viaThrow : Bool) (hw : w2 < s.waits.length)
    (hns : (s.wait w2).started = false) (hp : s.w6_view.NonWait p) : W6WInv n0 (s.parentSub r t p w2 viaThrow) := by
  unfold St.parentSub
  split
  · exact h.throwTask r t.e none hp
  · exact h.startWaitParent w2 hw hns t.e p hp

theorem parentPlain (h : W6WInv n0 s) (r : Nat) (t : Task) (p : Nat) (v : Option Nat) (viaThrow : Bool)
    (hp : s.w6_view.NonWait p) : W6WInv n0 (s.parentPlain r t p v viaThrow) := by
  unfold St.parentPlain
  split
  · exact h.throwTask r t.e v hp
  · exact ((h.modEv _ _).setValueOpt t.e v).registerTask r _
      ((W6View.NonWait.ofS (St.W6SA.setValueOpt (St.W6SA.modEv (St.W6SA.refl _) _ _) _ _).1 hp).taskOk _)

theorem applyValue (h : W6WInv n0 s) (r e : Nat) (value : Outcome) (hv : ∀ g, value = .gen g → s.w6_view.NonWait g) :
    W6WInv n0 (s.applyValue r e value) := by
  unfold St.applyValue
  split
  · exact h.ofV (St.W6V.setValue (St.W6V.refl _) _ _)
  · rename_i g
    exact (h.modEv _ _).registerTask r _ ((hv g rfl).taskOk _)
  · exact h.ofV (St.W6V.setValue (St.W6V.refl _) _ _)
  · exact h

theorem computeHandlers (h : W6WInv n0 s) (r : Nat) (name : Name) (chans : List Chan) :
    W6WInv n0 (s.computeHandlers r name chans).2 := by
  unfold St.computeHandlers
  dsimp only
  have hA := h.addH { owner := r, names := [Name.generateEvents], chan := none, prio := -100, kind := .fallbackGE } rfl
  have hB := h.addH { owner := r, names := [Name.exception], chan := some .star, kind := .fallbackExc } rfl
  split
  · apply hA.ofV; st_pres
  · split
    · apply hB.ofV; st_pres
    · apply h.ofV; st_pres

theorem lookupHandlers (h : W6WInv n0 s) (r : Nat) (name : Name) (chans : List Chan) :
    W6WInv n0 (s.lookupHandlers r name chans).2 := by
  unfold St.lookupHandlers
  split
  · exact h
  · exact h.computeHandlers _ _ _

theorem dispatchPre (h : W6WInv n0 s) (r e remaining : Nat) : W6WInv n0 (s.dispatchPre r e remaining).2 := by
  unfold St.dispatchPre
  dsimp only
  split
  · exact h
  · have h1 : W6WInv n0 (((s.logE (.disp e)).dispComplete e ((s.logE (.disp e)).ev e)).cacheRefresh r) :=
      h.ofV (St.W6V.cacheRefresh (St.W6V.dispComplete (St.W6V.logE (St.W6V.refl _) _) _ _) _)
    have h2 := h1.lookupHandlers r ((s.logE (.disp e)).ev e).name ((s.logE (.disp e)).ev e).chans
    generalize ((s.logE (.disp e)).dispComplete e ((s.logE (.disp e)).ev e)).cacheRefresh r = s1 at h2
    generalize hL : (s1.lookupHandlers r ((s.logE (.disp e)).ev e).name ((s.logE (.disp e)).ev e).chans) = L at h2
    apply h2.ofV; st_pres

theorem actStep (h : W6WInv n0 s) (ctx : HCtx) (a : Act) (ha : Act.w6_hOk n0 a) : W6WInv n0 (actStep s ctx a).st := by
  cases a <;> (unfold CV.Core.actStep; (try dsimp only))
  case fire t target prio cancel => exact h.ofV (St.W6V.actFire (St.W6V.refl _) _ _ _ _ _)
  case stopEv => exact h.ofV (St.W6V.actStopEv (St.W6V.refl _) _)
  case addH x =>
    split
    · rename_i hk
      have hnw := HKind.w6_code0_not_wait hk
      exact h.addHandler x (handler_lt_of_kind fun hd => by rw [hd] at hk; cases hk) hnw
    · exact h
  case rmH x n => exact h.removeHandler x n ha
  case unreg x => exact h.ofV (St.W6V.unregister (St.W6V.refl _) _)
  case timerReset x => exact h.ofV (St.W6V.timerReset (St.W6V.refl _) _)
  all_goals exact h

end W6WInv

def Frame.w6_isPt : Frame → Bool
  | .ptOwn .. => true
  | .ptParent .. => true
  | _ => false

def Frame.w6_isStepGen : Frame → Bool
  | .stepGen _ => true
  | _ => false

def w6_headPt : List Frame → Bool
  | f :: _ => f.w6_isPt
  | [] => false

/-- a `ptOwn` / `ptParent` frame (which reads the `GenYield` in the return register) is only ever covered by the
    `stepGen` frame that will write it -/
def w6_sandwich : List Frame → Bool
  | [] => true
  | f :: k => (!w6_headPt k || f.w6_isStepGen) && w6_sandwich k

@[simp] theorem w6_headPt_cons (f : Frame) (k : List Frame) : w6_headPt (f :: k) = f.w6_isPt := rfl
@[simp] theorem w6_headPt_nil : w6_headPt [] = false := rfl

@[simp] theorem w6_sandwich_cons (f : Frame) (k : List Frame) :
    w6_sandwich (f :: k) = ((!w6_headPt k || f.w6_isStepGen) && w6_sandwich k) := rfl

@[simp] theorem w6_sandwich_nil : w6_sandwich [] = true := rfl

theorem w6_headPt_append {k : List Frame} (hk : w6_headPt k = false) : ∀ fs, w6_headPt (fs ++ k) = w6_headPt fs
  | [] => hk
  | _ :: _ => rfl

theorem w6_sandwich_append {k : List Frame} (hk : w6_headPt k = false) (hs : w6_sandwich k = true) :
    ∀ fs, w6_sandwich (fs ++ k) = w6_sandwich fs
  | [] => hs
  | f :: fs => by
    rw [List.cons_append, w6_sandwich_cons, w6_sandwich_cons, w6_headPt_append hk, w6_sandwich_append hk hs fs]

def W6OutOk (s : St) (o : Outcome) : Prop := ∀ g, o = .gen g → s.w6_view.NonWait g

def W6FrameOk (n0 : Nat) (s : St) : Frame → Prop
  | .acts _ rest => ∀ a ∈ rest, Act.w6_hOk n0 a
  | .stepGen g => s.w6_view.NonWait g
  | .processTask _ t => s.w6_view.TaskOk t
  | .ptBody _ t => s.w6_view.TaskOk t
  | .ptOwn _ t => s.w6_view.TaskOk t ∧ s.w6_view.NonWait t.g
  | .ptParent _ t p _ => s.w6_view.TaskOk t ∧ s.w6_view.NonWait p
  | .taskLoop _ ts => ∀ t ∈ ts, s.w6_view.TaskOk t
  | .hLoop _ _ _ _ stale => W6OutOk s stale
  | .hAfter _ _ _ _ stale => W6OutOk s stale
  | .hApply _ _ _ _ value => W6OutOk s value
  | _ => True

def W6AllOk (n0 : Nat) (s : St) : List Frame → Prop
  | [] => True
  | f :: k => W6FrameOk n0 s f ∧ W6AllOk n0 s k

@[simp] theorem w6_AllOk_nil (n0 : Nat) (s : St) : W6AllOk n0 s [] = True := rfl

@[simp] theorem w6_AllOk_cons (n0 : Nat) (s : St) (f : Frame) (k : List Frame) :
    W6AllOk n0 s (f :: k) = (W6FrameOk n0 s f ∧ W6AllOk n0 s k) := rfl

theorem W6OutOk.ofS {s s' : St} (hS : St.W6S s s') {o : Outcome} (h : W6OutOk s o) : W6OutOk s' o :=
  fun g hg => W6View.NonWait.ofS hS (h g hg)

theorem W6FrameOk.ofS {n0 : Nat} {s s' : St} (hS : St.W6S s s') {f : Frame} (h : W6FrameOk n0 s f) : W6FrameOk n0 s' f := by
  cases f <;> simp only [W6FrameOk] at h ⊢ <;> try exact h
  case stepGen g => exact W6View.NonWait.ofS hS h
  case processTask r t => exact W6View.TaskOk.ofS hS h
  case ptBody r t => exact W6View.TaskOk.ofS hS h
  case ptOwn r t => exact ⟨W6View.TaskOk.ofS hS h.1, W6View.NonWait.ofS hS h.2⟩
  case ptParent r t p v => exact ⟨W6View.TaskOk.ofS hS h.1, W6View.NonWait.ofS hS h.2⟩
  case taskLoop x ts => exact fun t ht => W6View.TaskOk.ofS hS (h t ht)
  case hLoop r e hs err stale => exact W6OutOk.ofS hS h
  case hAfter r e rest err stale => exact W6OutOk.ofS hS h
  case hApply r e rest err value => exact W6OutOk.ofS hS h

theorem W6AllOk.ofS {n0 : Nat} {s s' : St} (hS : St.W6S s s') : ∀ {k : List Frame}, W6AllOk n0 s k → W6AllOk n0 s' k
  | [], _ => trivial
  | _ :: _, h => ⟨W6FrameOk.ofS hS h.1, W6AllOk.ofS hS h.2⟩

theorem W6AllOk.append {n0 : Nat} {s : St} : ∀ {fs k : List Frame}, W6AllOk n0 s fs → W6AllOk n0 s k → W6AllOk n0 s (fs ++ k)
  | [], _, _, h => h
  | _ :: _, _, h1, h2 => ⟨h1.1, W6AllOk.append h1.2 h2⟩

structure W6CInv (n0 : Nat) (c : Cfg) : Prop where
  w : W6WInv n0 c.st
  frames : W6AllOk n0 c.st c.stack
  ret : W6OutOk c.st c.ret.outcome
  sand : w6_sandwich c.stack = true
  top : c.exn = none → w6_headPt c.stack = true → ∀ w, c.ret.yield = .sub w →
    w < c.st.waits.length ∧ (c.st.wait w).started = false

namespace W6CInv
variable {n0 : Nat} {c : Cfg} {f : Frame} {k : List Frame}

theorem tailSand (h : W6CInv n0 c) (hs : c.stack = f :: k) : w6_sandwich k = true := by
  have := h.sand; rw [hs] at this; simp only [w6_sandwich_cons, Bool.and_eq_true] at this; exact this.2

theorem tailHead (h : W6CInv n0 c) (hs : c.stack = f :: k) (hf : f.w6_isStepGen = false) : w6_headPt k = false := by
  have := h.sand; rw [hs] at this
  simp only [w6_sandwich_cons, Bool.and_eq_true, Bool.or_eq_true, Bool.not_eq_true', hf, Bool.false_eq_true, or_false] at this
  exact this.1

theorem tailFrames (h : W6CInv n0 c) (hs : c.stack = f :: k) : W6AllOk n0 c.st k := by
  have := h.frames; rw [hs] at this; exact this.2

theorem headFrame (h : W6CInv n0 c) (hs : c.stack = f :: k) : W6FrameOk n0 c.st f := by
  have := h.frames; rw [hs] at this; exact this.1

theorem unwound (h : W6CInv n0 c) (hs : c.stack = f :: k) {ex : Exn} (hx : c.exn = some ex) (s' : St)
    (hv : St.W6V c.st s') : W6CInv n0 (c.pop k s') :=
  ⟨h.w.ofV hv, W6AllOk.ofS (.ofV hv) (h.tailFrames hs), W6OutOk.ofS (.ofV hv) h.ret, h.tailSand hs,
   fun hn => by rw [show (c.pop k s').exn = c.exn from rfl, hx] at hn; cases hn⟩

end W6CInv

variable {n0 : Nat}

theorem Frame.Pushes.w6_flat {c : Cfg} {f : Frame} {fs : List Frame} (hp : f.Pushes c fs) (hf : f.w6_isStepGen = false) :
    (!w6_headPt fs && w6_sandwich fs) = true := by
  cases hp
  case actsCall hg => cases hg <;> rfl
  case stepGenNext | stepGenCall => cases hf
  all_goals rfl

/-- the stack after an arm is a sandwich again, and a `ptOwn` / `ptParent` on top of it was uncovered by `stepGen` -/
theorem Frame.Pushes.w6_sand {c : Cfg} {f : Frame} {fs k : List Frame} (hp : f.Pushes c fs)
    (h : w6_sandwich (f :: k) = true) :
    w6_sandwich (fs ++ k) = true ∧ (w6_headPt (fs ++ k) = true → f.w6_isStepGen = true) := by
  simp only [w6_sandwich_cons, Bool.and_eq_true, Bool.or_eq_true, Bool.not_eq_true'] at h
  cases hf : f.w6_isStepGen
  · have hk : w6_headPt k = false := by simpa [hf] using h.1
    have := hp.w6_flat hf
    simp only [Bool.and_eq_true, Bool.not_eq_true'] at this
    rw [w6_sandwich_append hk h.2, w6_headPt_append hk, this.1, this.2]
    exact ⟨rfl, nofun⟩
  · refine ⟨?_, fun _ => rfl⟩
    cases hp
    case pop => exact h.2
    case stepGenNext g => simp [h.2, Frame.w6_isStepGen]
    case stepGenCall g f' hg => cases hg <;> simp [h.2, Frame.w6_isPt, Frame.w6_isStepGen]
    all_goals cases hf

theorem w6_getD_nil_mem {α} (l : List (List α)) (i : Nat) : l.getD i [] = [] ∨ l.getD i [] ∈ l := by
  rw [List.getD_eq_getElem?_getD]
  cases h : l[i]? with
  | none => left; rfl
  | some x => right; simpa using List.mem_of_getElem? h

/-- the program a user handler runs obeys `Act.w6_hOk`; an index out of range yields the empty program -/
theorem W6WInv.progOk {n0 : Nat} {s : St} (h : W6WInv n0 s) (p : Nat) : ∀ a ∈ s.progs.getD p [], Act.w6_hOk n0 a := by
  intro a ha
  rcases w6_getD_nil_mem s.progs p with e1 | e1
  · rw [e1] at ha; cases ha
  · exact h.2.progsOk _ e1 a ha

/-- frames of which `W6FrameOk` asks nothing -/
def Frame.w6_free : Frame → Bool
  | .acts .. | .stepGen _ | .processTask .. | .ptBody .. | .ptOwn .. | .ptParent .. | .taskLoop .. | .hLoop ..
  | .hAfter .. | .hApply .. => false
  | _ => true

theorem W6AllOk.of_free {s : St} : ∀ {fs : List Frame}, fs.all Frame.w6_free = true → W6AllOk n0 s fs
  | [], _ => trivial
  | f :: fs, h => by
    rw [List.all_cons, Bool.and_eq_true] at h
    obtain ⟨h1, h2⟩ := h
    have hf : W6FrameOk n0 s f := by cases f <;> first | trivial | cases h1
    exact ⟨hf, W6AllOk.of_free h2⟩

theorem Frame.Pushes.w6_ok {c : Cfg} {f : Frame} {fs k : List Frame} (hp : f.Pushes c fs) (h : W6CInv n0 c)
    (hs : c.stack = f :: k) : W6AllOk n0 c.st fs := by
  have hf : W6FrameOk n0 c.st f := h.headFrame hs
  cases hp
  case actsNext ctx a rest => exact ⟨fun a' ha' => hf a' (List.mem_cons_of_mem _ ha'), trivial⟩
  case actsCall ctx a rest g hg =>
    exact ⟨by cases hg <;> trivial, fun a' ha' => hf a' (List.mem_cons_of_mem _ ha'), trivial⟩
  case stepGenNext g => exact ⟨hf, trivial⟩
  case stepGenCall g f' hg => exact ⟨by cases hg <;> trivial, hf, trivial⟩
  case processTask r t hd => exact ⟨hf, trivial, trivial⟩
  case ptBodyOwn r t e hh o rest st pc sd hg =>
    have hG : c.st.w6_view.NonWait t.g := ⟨hf.1, by rw [show c.st.w6_view.gen t.g = c.st.gen t.g from rfl, hg]; rfl⟩
    exact ⟨hG, ⟨hf, hG⟩, trivial⟩
  case ptBodyParent r t p v hpar => exact ⟨hf.2.2 p hpar, ⟨hf, hf.2.2 p hpar⟩, trivial⟩
  case dispatcher r e rem hs' hd => exact ⟨fun g hg => (nomatch hg), trivial⟩
  case hLoop r e h0 rest0 err st => exact ⟨trivial, hf, trivial⟩
  case invokeUser r hh e p hk =>
    exact ⟨h.w.progOk p, trivial, trivial⟩
  case hAfterStop r e rest err st code => exact ⟨trivial, hf, trivial⟩
  case hAfter r e rest err st err' o ho => subst ho; exact ⟨h.ret, trivial⟩
  case hApply r e rest err v => exact ⟨hf, trivial⟩
  case tickTasks x old => exact ⟨fun t ht => h.w.2.tasks x t ht, trivial, trivial, trivial⟩
  case taskLoop x t0 rest0 =>
    exact ⟨hf _ (St.chooseTask_mem _ _ _), fun t ht => hf t (List.mem_of_mem_erase ht), trivial⟩
  all_goals exact .of_free rfl

namespace W6WInv
variable {s : St}

theorem contStop (hw : W6WInv n0 s) (c : Cfg) (k : List Frame) (r : Nat) (t : Task)
    (hp : ∀ p, t.parent = some p → s.w6_view.NonWait p) : W6WInv n0 (c.contStop k s r t).st :=
  pred_ite_st (hw.stopIteration r t hp) (hw.stopIteration r t hp)

theorem contError (hw : W6WInv n0 s) (c : Cfg) (k : List Frame) (r : Nat) (t : Task) (resumed : Bool) :
    W6WInv n0 (c.contError k s r t resumed).st :=
  pred_ite_st (hw.errorBranch r t resumed) (hw.errorBranch r t resumed)

end W6WInv

theorem Cfg.w6_acts_winv (c : Cfg) (k : List Frame) (ctx : HCtx) (prog : Prog) (h : W6CInv n0 c)
    (hs : c.stack = .acts ctx prog :: k) : W6WInv n0 (c.acts k ctx prog).st := by
  have hp : ∀ a ∈ prog, Act.w6_hOk n0 a := h.headFrame hs
  cases prog with
  | nil => exact h.w
  | cons a rest =>
    have hw1 := h.w.actStep ctx a (hp a List.mem_cons_self)
    unfold Cfg.acts; dsimp only; split <;> exact hw1

theorem Cfg.w6_ptOwn_winv (c : Cfg) (k : List Frame) (r : Nat) (t : Task) (h : W6CInv n0 c)
    (hs : c.stack = .ptOwn r t :: k) (hx : c.exn = none) : W6WInv n0 (c.ptOwn k r t).st := by
  obtain ⟨hT, hG⟩ : c.st.w6_view.TaskOk t ∧ c.st.w6_view.NonWait t.g := h.headFrame hs
  unfold Cfg.ptOwn; split
  · exact h.w.setValueOpt _ _
  · rename_i w heq
    have fresh := h.top hx (by rw [hs]; rfl) w heq
    exact h.w.ownSub r t w fresh.1 fresh.2 hG
  · exact h.w.contStop c k r t hT.2.2
  · exact h.w.contError c k r t false
  · exact h.w
  · exact h.w

theorem Cfg.w6_ptParent_winv (c : Cfg) (k : List Frame) (r : Nat) (t : Task) (p : Nat) (viaThrow : Bool) (h : W6CInv n0 c)
    (hs : c.stack = .ptParent r t p viaThrow :: k) (hx : c.exn = none) : W6WInv n0 (c.ptParent k r t p viaThrow).st := by
  obtain ⟨hT, hG⟩ : c.st.w6_view.TaskOk t ∧ c.st.w6_view.NonWait p := h.headFrame hs
  unfold Cfg.ptParent; split
  · rename_i w heq
    have fresh := h.top hx (by rw [hs]; rfl) w heq
    exact h.w.parentSub r t p w viaThrow fresh.1 fresh.2 hG
  · exact h.w.parentPlain r t p _ viaThrow hG
  · exact h.w.contStop c k r t hT.2.2
  · exact h.w.contError c k r t true
  · exact h.w
  · exact h.w

/-- the resumption step: the task of a waitEvent generator is registered only once `flag` is set, so the `_done` handler
    can go -/
theorem Cfg.w6_ptBodyWait_winv (c : Cfg) (k : List Frame) (r : Nat) (t : Task) (w : Nat) (h : W6CInv n0 c)
    (hs : c.stack = .ptBody r t :: k) (hg : c.st.gen t.g = .wait w) : W6WInv n0 (c.ptBodyWait k r t w).st := by
  have hT : c.st.w6_view.TaskOk t := h.headFrame hs
  have hfl : (c.st.wait w).flag = true := hT.2.1 w hg
  have hrm := h.w.removeDone w hfl
  unfold Cfg.ptBodyWait; dsimp only; split
  · exact hrm.contError c k r t false
  · split
    · split
      · exact ((hrm.unregisterTask r t).logE _).resumeGenPre _ true
      · exact hrm.unregisterTask r t
    · exact hrm.contStop c k r t fun p hp => W6View.NonWait.ofS (by st_pres) (hT.2.2 p hp)

theorem Cfg.w6_ptBodyExc_winv (c : Cfg) (k : List Frame) (r : Nat) (t : Task) (w : Nat) (fired : Bool) (h : W6CInv n0 c)
    (hs : c.stack = .ptBody r t :: k) (hg : c.st.gen t.g = .exc w fired) : W6WInv n0 (c.ptBodyExc k r t w fired).st := by
  have hT : c.st.w6_view.TaskOk t := h.headFrame hs
  unfold Cfg.ptBodyExc; dsimp only; split
  · exact h.w.contStop c k r t hT.2.2
  · have hw1 : W6WInv n0 ((c.st.setGen t.g (.exc w true)).unregisterTask r t) :=
      (h.w.setGen t.g (.exc w true) (by rw [hg]; rfl) rfl (fun _ _ _ _ _ _ _ hh => by cases hh)).unregisterTask r t
    split
    · split
      · rename_i pe ph o rest st pc sd hgp
        split
        · exact (hw1.logE _).resumeGenPre _ true
        · refine W6WInv.contError ?_ c k r t true
          refine (hw1.logE _).setGen _ .dead ?_ rfl (fun _ _ _ _ _ _ _ hh => by cases hh)
          show (((c.st.setGen t.g (.exc w true)).unregisterTask r t).gen _).w6_isWait = false
          rw [hgp]; rfl
      · exact hw1
    · exact hw1.contError c k r t false

theorem Cfg.w6_ptBody_winv (c : Cfg) (k : List Frame) (r : Nat) (t : Task) (h : W6CInv n0 c)
    (hs : c.stack = .ptBody r t :: k) : W6WInv n0 (c.ptBody k r t).st := by
  have hT : c.st.w6_view.TaskOk t := h.headFrame hs
  unfold Cfg.ptBody; split
  · exact h.w.resumeGenPre t.g false
  · rename_i w heq; exact Cfg.w6_ptBodyWait_winv c k r t w h hs heq
  · rename_i w fired heq; exact Cfg.w6_ptBodyExc_winv c k r t w fired h hs heq
  · exact h.w.contStop c k r t hT.2.2
  · rename_i v consumed heq
    split
    · exact h.w.contStop c k r t hT.2.2
    · exact (h.w.setGen t.g (.one v true) (by rw [heq]; rfl) rfl (fun _ _ _ _ _ _ _ hh => by cases hh)).setValueOpt _ _

/-- a temporary handler belongs to a started wait state, whose closure it runs -/
theorem Cfg.w6_invoke_winv (c : Cfg) (k : List Frame) (r hh e : Nat) (h : W6CInv n0 c) :
    W6WInv n0 (c.invoke k r hh e).st := by
  -- the arm's own log entry is outside the view: what the invariant says of `c.st` it says of the state the body runs in
  have hv : (c.w6_invokeSt hh e).w6_view = c.st.w6_view := by unfold Cfg.w6_invokeSt; split <;> rfl
  have hs : W6WInv n0 (c.w6_invokeSt hh e) := h.w.ofV hv
  rw [Cfg.invoke_eq]
  generalize c.w6_invokeSt hh e = s at hv hs ⊢
  split
  · rename_i p _
    refine pred_ite_st (((hs.logE _).addGen _ rfl (fun _ _ _ _ _ _ _ he => ?_)).logE _) (hs.logE _)
    injection he with _ _ _ he; subst he; exact hs.progOk p
  · exact hs.ofV (by st_pres)
  · rename_i w heq
    obtain ⟨k1, k2, _⟩ := h.w.1.kindEv hh w (handler_lt_of_kind (by rw [heq]; nofun)) heq
    rw [← hv] at k1 k2
    exact hs.onWaitEvent w e k1 k2
  · rename_i w heq
    obtain ⟨k1, k2, _⟩ := h.w.1.kindDone hh w (handler_lt_of_kind (by rw [heq]; nofun)) heq
    rw [← hv] at k1 k2
    exact hs.onWaitDone w e k1 k2
  · rename_i w heq
    obtain ⟨k1, k2, _⟩ := h.w.1.kindTick hh w (handler_lt_of_kind (by rw [heq]; nofun)) heq
    rw [← hv] at k1 k2
    exact hs.onWaitTick w k1 k2
  · exact hs.ofV (by st_pres)
  · have hw1 := hs.ofV (St.W6V.onFallbackGE (St.W6V.refl _) e)
    exact pred_ite_st hw1 hw1
  · exact hs

theorem Cfg.w6_stepGen_winv (c : Cfg) (k : List Frame) (g : Nat) (h : W6CInv n0 c) (hs : c.stack = .stepGen g :: k) :
    W6WInv n0 (c.stepGen k g).st := by
  have hG : c.st.w6_view.NonWait g := h.headFrame hs
  unfold Cfg.stepGen; dsimp only; split
  · rename_i e hh owner rest step pc sd heq
    have hacts := h.w.2.gacts g e hh owner rest step pc sd heq
    have hold : (c.st.gen g).w6_isWait = false := by rw [heq]; rfl
    have hdead : W6WInv n0 (c.st.setGen g .dead) := h.w.setGen g .dead hold rfl (fun _ _ _ _ _ _ _ hh' => by cases hh')
    split
    · exact hdead
    · rename_i a rest'
      have hrest : ∀ {e' hh' o' st' p' x}, GenRec.user e' hh' o' rest' st' p' x = .user e' hh' o' rest' st' p' x →
          ∀ e1 h1 o1 r1 s1 p1 d1, GenRec.user e' hh' o' rest' st' p' x = .user e1 h1 o1 r1 s1 p1 d1 →
            ∀ a' ∈ r1, Act.w6_hOk n0 a' := fun _ _ _ _ _ _ _ _ he => by
        injection he with _ _ _ he; subst he; exact fun a' ha' => hacts a' (List.mem_cons_of_mem _ ha')
      split
      · exact h.w.setGen g _ hold rfl (hrest rfl)
      · refine (h.w.genCall _ _ _ _).setGen g _ ?_ rfl (hrest rfl)
        exact (W6View.NonWait.ofS (St.W6SA.genCall (.refl _) _ _ _ _).1 hG).2
      · refine (h.w.genWait _ _ _ _).setGen g _ ?_ rfl (hrest rfl)
        exact (W6View.NonWait.ofS (St.W6SA.genWait (.refl _) _ _ _ _).1 hG).2
      · exact hdead
      · have hw1 := (h.w.setGen g (.user e hh owner rest' step none sd) hold rfl (hrest rfl)).actStep ⟨owner, some e⟩ a
          (hacts a List.mem_cons_self)
        split
        · exact hw1
        · refine hw1.setGen g .dead ?_ rfl (fun _ _ _ _ _ _ _ hh' => by cases hh')
          exact (W6View.NonWait.ofS (St.W6SA.actStep (St.W6SA.setGen (St.W6SA.refl _) _ _ rfl) _ _).1 hG).2
        · exact hw1
  · exact h.w

theorem Outcome.w6_toYield_not_sub (o : Outcome) (w : Nat) : o.toYield ≠ .sub w := by
  cases o <;> (intro hh; cases hh)

/-- when `stepGen` uncovers the `ptOwn` / `ptParent` frame below with a `call` / `wait` generator in the register, that
    generator's wait state is the one just created -/
theorem Cfg.w6_stepGen_top (c : Cfg) (k : List Frame) (g w : Nat) (hp : w6_headPt (c.stepGen k g).stack = true)
    (hy : (c.stepGen k g).ret.yield = .sub w) :
    w < (c.stepGen k g).st.waits.length ∧ ((c.stepGen k g).st.wait w).started = false := by
  revert hp hy
  unfold Cfg.stepGen; dsimp only
  split
  · split
    · exact fun _ hy => nomatch hy
    · split
      · exact fun _ hy => nomatch hy
      · intro _ hy; cases hy
        simp [St.genCall, St.w6_addWait_wait]
      · intro _ hy; cases hy
        simp [St.genWait, St.w6_addWait_wait]
      · exact fun _ hy => nomatch hy
      · split
        · exact fun hp _ => nomatch hp
        · exact fun _ hy => absurd hy (Outcome.w6_toYield_not_sub _ w)
        · rename_i f heq
          intro hp
          rw [Cfg.goto_stack, List.cons_append, w6_headPt_cons] at hp
          cases actStep_callee heq <;> cases hp
  · exact fun _ hy => nomatch hy

theorem w6_stepFrame_winv {c : Cfg} {f : Frame} {k : List Frame} (h : W6CInv n0 c) (hs : c.stack = f :: k)
    (hx : c.exn = none) : W6WInv n0 (stepFrame c k f).st := by
  cases f
  case stepGen g => exact Cfg.w6_stepGen_winv c k g h hs
  case acts ctx prog => exact Cfg.w6_acts_winv c k ctx prog h hs
  case ptBody r t => exact Cfg.w6_ptBody_winv c k r t h hs
  case ptOwn r t => exact Cfg.w6_ptOwn_winv c k r t h hs hx
  case ptParent r t p v => exact Cfg.w6_ptParent_winv c k r t p v h hs hx
  case dispatcher r e rem => dsimp only [stepFrame]; rw [Cfg.dispatcher_st]; exact h.w.dispatchPre r e rem
  case invoke r hh e => exact Cfg.w6_invoke_winv c k r hh e h
  case hApply r e rest err value =>
    have hw1 := (h.w.applyValue r e value (h.headFrame hs)).ofV (St.W6V.geTasksCheck (St.W6V.refl _) r e)
    exact pred_ite_st hw1 hw1
  all_goals exact h.w.ofV (w6_stepFrame_v c k _ rfl)

theorem Cfg.w6_runCatchExn_cinv (c : Cfg) (k : List Frame) (x : Nat) (ex : Exn) (h : W6CInv n0 c)
    (hs : c.stack = .runCatch x :: k) (hx : c.exn = some ex) : W6CInv n0 (c.runCatchExn k x ex) := by
  unfold Cfg.runCatchExn; split
  · refine ⟨h.w, ?_, h.ret, ?_, ?_⟩
    · show W6AllOk n0 c.st (.tick x :: .drainQ x :: .runRethrow _ :: k)
      simp only [w6_AllOk_cons, W6FrameOk, true_and]; exact h.tailFrames hs
    · show w6_sandwich (.tick x :: .drainQ x :: .runRethrow _ :: k) = true
      simp [W6CInv.tailSand h hs, W6CInv.tailHead h hs rfl, Frame.w6_isPt, Frame.w6_isStepGen]
    · intro _ hp; cases hp
  · exact h.unwound hs hx _ (St.W6V.refl _)

theorem w6_stepFrame_cinv (c : Cfg) (k : List Frame) (f : Frame) (h : W6CInv n0 c) (hs : c.stack = f :: k)
    (hx : c.exn = none) : W6CInv n0 (stepFrame c k f) := by
  obtain ⟨⟨fs, hst, hp⟩, hret⟩ := stepFrame_pushes c k f
  have hS := w6_stepFrame_s c k f
  have hsand : w6_sandwich (f :: k) = true := hs ▸ h.sand
  refine ⟨w6_stepFrame_winv h hs hx, ?_, ?_, ?_, ?_⟩
  · rw [hst]; exact W6AllOk.append (W6AllOk.ofS hS (hp.w6_ok h hs)) (W6AllOk.ofS hS (h.tailFrames hs))
  · exact hret.outcome (fun g hg => W6View.NonWait.ofS hS (h.ret g hg)) fun g _ _ _ _ hg =>
      ⟨St.w6_gen_lt_of_user _ g hg, congrArg GenRec.w6_isWait hg⟩
  · rw [hst]; exact (hp.w6_sand hsand).1
  · intro _ hh w hy
    have hf := (hp.w6_sand hsand).2 (hst ▸ hh)
    cases f <;> first | (cases hf; done) | exact Cfg.w6_stepGen_top c k _ w hh hy

theorem w6_unwind_cinv (c : Cfg) (k : List Frame) (ex : Exn) (f : Frame) (h : W6CInv n0 c) (hs : c.stack = f :: k)
    (hx : c.exn = some ex) : W6CInv n0 (unwind c k ex f) := by
  cases f <;> dsimp only [unwind]
  case runCatch x => exact Cfg.w6_runCatchExn_cinv c k x ex h hs hx
  case runRethrow ex0 =>
    exact ⟨h.w, h.tailFrames hs, h.ret, h.tailSand hs, fun hn => by cases hn⟩
  case ptFin | invokeFin | flushFin | tickFin => exact h.unwound hs hx _ (by st_pres)
  all_goals exact h.unwound hs hx _ (St.W6V.refl _)

theorem w6_step_cinv (c : Cfg) (h : W6CInv n0 c) : W6CInv n0 (step c) := by
  unfold step
  split
  · exact h
  · rename_i f k hs
    split
    · rename_i ex hx; exact w6_unwind_cinv c k ex f h hs hx
    · rename_i hx; exact w6_stepFrame_cinv c k f h hs hx

end CV.Core
