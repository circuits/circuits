import CV.Proofs.InvWaitMain
/-
C06, clause "timeout_not_early" COUNTED ACROSS STEPS.

A wait/call with timeout `n` throws `TimeoutError` into its caller no earlier than after `n + 1`
invocations of ITS OWN `_on_tick` closure.  The model logs every framework-handler invocation
(`Cfg.invoke` prepends `Entry.hinv e code key`; for `_on_tick` of wait state `w` the code is 3 and
the key is `(wait w).task`, the id of `w`'s waitEvent generator, unique per `w`).  The number of
such entries in the log is `w6b_tickCount s w`, so the count needs no ghost field.

`St.W6BL s s'` ("the log grows by entries none of which is an `.hinv`, and a `GenRec.exc w _` record stays a
`GenRec.exc w _` record"; lemmas tagged `st_pres`, see `CV/Proofs/Pres.lean`) holds across every arm of `step` but `invoke`,
and there from the state after the arm's own `.hinv` entry (`c.w6_invokeSt h e`): so only the invocation of `w`'s own
`_on_tick` changes the count of `w`, by one.  The potentials `w6b_psi = tickCount + timeout` and `w6b_phi = psi - [an exc
generator of w exists]` never decrease; `phi` is `n` when the wait state is born (`W6BLogInv`: its generator id is not in
the log yet), and a carrier exists only at countdown 0 (`W6BExcInv`): hence the bound.
-/
namespace CV.Core

def Entry.w6b_isHinv : Entry → Bool
  | .hinv .. => true
  | _ => false

structure St.W6BL (s s' : St) : Prop where
  log : ∃ es, s'.log = es ++ s.log ∧ ∀ x ∈ es, Entry.w6b_isHinv x = false
  exc : ∀ g w b, s.gen g = .exc w b → ∃ b', s'.gen g = .exc w b'

namespace St.W6BL

@[st_pres ↓] theorem refl (s : St) : St.W6BL s s := ⟨⟨[], rfl, by simp⟩, fun _ _ b h => ⟨b, h⟩⟩

theorem trans {a b c : St} (h1 : St.W6BL a b) (h2 : St.W6BL b c) : St.W6BL a c := by
  refine ⟨?_, ?_⟩
  · obtain ⟨es1, e1, p1⟩ := h1.log
    obtain ⟨es2, e2, p2⟩ := h2.log
    refine ⟨es2 ++ es1, by rw [e2, e1, List.append_assoc], ?_⟩
    intro x hx
    rcases List.mem_append.1 hx with hx | hx
    · exact p2 x hx
    · exact p1 x hx
  · intro g w b hg
    obtain ⟨b1, hb1⟩ := h1.exc g w b hg
    exact h2.exc g w b1 hb1

theorem of_eq {s t t' : St} (h : St.W6BL s t) (hl : t'.log = t.log) (hg : t'.gens = t.gens) : St.W6BL s t' := by
  refine ⟨?_, ?_⟩
  · rw [hl]; exact h.log
  · intro g w b hgw
    have : t'.gen g = t.gen g := by simp only [St.gen, hg]
    rw [this]; exact h.exc g w b hgw

variable {s t : St}

@[st_pres ↓] theorem modComp (h : St.W6BL s t) (c : Nat) (f : Comp → Comp) : St.W6BL s (t.modComp c f) := h.of_eq rfl rfl
@[st_pres ↓] theorem modTimer (h : St.W6BL s t) (c : Nat) (f : TimerSt → TimerSt) : St.W6BL s (t.modTimer c f) := h.of_eq rfl rfl
@[st_pres ↓] theorem tick1 (h : St.W6BL s t) (d : Int) : St.W6BL s (t.tick1 d) := h.of_eq rfl rfl
@[st_pres ↓] theorem addH (h : St.W6BL s t) (x : Handler) : St.W6BL s (t.addH x) := h.of_eq rfl rfl
@[st_pres ↓] theorem modEv (h : St.W6BL s t) (e : Nat) (f : Ev → Ev) : St.W6BL s (t.modEv e f) := h.of_eq rfl rfl
@[st_pres ↓] theorem modWait (h : St.W6BL s t) (w : Nat) (f : WaitSt → WaitSt) : St.W6BL s (t.modWait w f) := h.of_eq rfl rfl
@[st_pres ↓] theorem addEv (h : St.W6BL s t) (x : Ev) : St.W6BL s (t.addEv x) := h.of_eq rfl rfl
@[st_pres ↓] theorem addWait (h : St.W6BL s t) (x : WaitSt) : St.W6BL s (t.addWait x) := h.of_eq rfl rfl

@[st_pres ↓] theorem logE (h : St.W6BL s t) (x : Entry) (hx : x.w6b_isHinv = false) : St.W6BL s (t.logE x) := by
  refine h.trans ⟨⟨[x], rfl, ?_⟩, fun _ _ b hg => ⟨b, hg⟩⟩
  intro y hy
  simp only [List.mem_singleton] at hy
  rw [hy]; exact hx

@[st_pres ↓] theorem addGen (h : St.W6BL s t) (x : GenRec) : St.W6BL s (t.addGen x) := by
  refine h.trans ⟨⟨[], rfl, by simp⟩, ?_⟩
  intro g w b hg
  refine ⟨b, ?_⟩
  rw [St.w6_addGen_gen]
  split
  · rename_i hlen
    rw [hlen, St.w6_gen_ge _ _ (Nat.le_refl _)] at hg; cases hg
  · exact hg

theorem setGen (h : St.W6BL s t) (g : Nat) (x : GenRec) (hx : (t.gen g).w6_isExc = false) :
    St.W6BL s (t.setGen g x) := by
  refine h.trans ⟨⟨[], rfl, by simp⟩, ?_⟩
  intro g' w b hg
  refine ⟨b, ?_⟩
  rcases St.w6_setGen_gen_cases t g x g' with h1 | ⟨h1, _, _⟩
  · rw [h1]; exact hg
  · subst h1; rw [hg] at hx; cases hx

theorem setGenExc (h : St.W6BL s t) (g w : Nat) (b b' : Bool) (hx : t.gen g = .exc w b) :
    St.W6BL s (t.setGen g (.exc w b')) := by
  refine h.trans ⟨⟨[], rfl, by simp⟩, ?_⟩
  intro g' w0 b0 hg
  rcases St.w6_setGen_gen_cases t g (.exc w b') g' with h1 | ⟨h1, _, h2⟩
  · exact ⟨b0, by rw [h1]; exact hg⟩
  · subst h1
    rw [hx] at hg
    injection hg with a1 a2
    subst a1
    exact ⟨b', h2⟩

end St.W6BL

theorem St.W6Q.w6b_notExc {t0 t : St} (hq : St.W6Q W6Mask.all t0 t) {g : Nat} (hx : (t0.gen g).w6_isExc = false) :
    (t.gen g).w6_isExc = false := by
  cases hh : (t.gen g).w6_isExc
  · rfl
  · have := hq.exc rfl g hh
    rw [this, hx] at hh; cases hh

@[st_pres ↓] theorem St.W6BL.addHandler {s t : St} (h : St.W6BL s t) (x : Nat) : St.W6BL s (t.addHandler x) :=
  St.addHandler_pres t x h (fun _ h => by st_pres) (fun _ _ h => by st_pres) (fun _ _ h => by st_pres)

@[st_pres ↓] theorem St.W6BL.removeHandler {s t : St} (h : St.W6BL s t) (x : Nat) (n : Option Name) :
    St.W6BL s ((t.removeHandler x n).2) := by
  st_pres_unfold St.removeHandler

@[st_pres ↓] theorem St.W6BL.fireContext {s t : St} (h : St.W6BL s t) (r e : Nat) :
    St.W6BL s (t.fireContext r e) :=
  St.fireContext_pres t r e h (fun _ _ h => by st_pres) (fun _ _ h => by st_pres) (fun _ _ h => by st_pres)

@[st_pres ↓] theorem St.W6BL.fireRaw {s t : St} (h : St.W6BL s t) (self e : Nat) (chans : List Chan) (prio : Int) :
    St.W6BL s (t.fireRaw self e chans prio) := by
  st_pres_unfold St.fireRaw

@[st_pres ↓] theorem St.W6BL.childEv {s t : St} (h : St.W6BL s t) (p sfx : Nat) :
    St.W6BL s (t.childEv p sfx) := by
  st_pres_unfold St.childEv

@[st_pres ↓] theorem St.W6BL.fireChild {s t : St} (h : St.W6BL s t) (self p sfx : Nat) (chans : List Chan) :
    St.W6BL s (t.fireChild self p sfx chans) := by
  st_pres_unfold St.fireChild

@[st_pres ↓] theorem St.W6BL.inform {s t : St} (h : St.W6BL s t) (e : Nat) (force : Bool) :
    St.W6BL s (t.inform e force) := by
  st_pres_unfold St.inform

@[st_pres ↓] theorem St.W6BL.setValue {s t : St} (h : St.W6BL s t) (e : Nat) (x : VItem) :
    St.W6BL s (t.setValue e x) := by
  st_pres_unfold St.setValue

@[st_pres ↓] theorem St.W6BL.fireTmplEv {s t : St} (h : St.W6BL s t) (self : Nat) (ev : Ev) (target : Option Chan) (prio : Int) :
    St.W6BL s (t.fireTmplEv self ev target prio) := by
  st_pres_unfold St.fireTmplEv

@[st_pres ↓] theorem St.W6BL.effectDone1 {s t : St} (h : St.W6BL s t) (r e : Nat) (announce : Bool) :
    St.W6BL s ((t.effectDone1 r e announce).2) :=
  St.effectDone1_pres t r e announce h (fun _ => by st_pres) (fun _ _ h => by st_pres) (fun _ h => by st_pres)

@[st_pres ↓] theorem St.W6BL.eventDonePre {s t : St} (h : St.W6BL s t) (r e : Nat) (err : Bool) :
    St.W6BL s ((t.eventDonePre r e err).2) := by
  st_pres_unfold St.eventDonePre

@[st_pres ↓] theorem St.W6BL.registerTask {s t : St} (h : St.W6BL s t) (c : Nat) (x : Task) :
    St.W6BL s (t.registerTask c x) := by
  st_pres_unfold St.registerTask

@[st_pres ↓] theorem St.W6BL.unregisterTask {s t : St} (h : St.W6BL s t) (c : Nat) (x : Task) :
    St.W6BL s (t.unregisterTask c x) := by
  st_pres_unfold St.unregisterTask

@[st_pres ↓] theorem St.W6BL.reduceTimeLeft {s t : St} (h : St.W6BL s t) (e : Nat) (d : Int) :
    St.W6BL s (t.reduceTimeLeft e d) := by
  st_pres_unfold St.reduceTimeLeft

@[st_pres ↓] theorem St.W6BL.registerPre {s t : St} (h : St.W6BL s t) (c p : Nat) :
    St.W6BL s ((t.registerPre c p).2) :=
  St.registerPre_pres h c p (fun _ => by st_pres) (fun _ _ h => by st_pres) (fun _ h => by st_pres)
    (fun _ _ _ _ h => by st_pres)

@[st_pres ↓] theorem St.W6BL.registerFin {s t : St} (h : St.W6BL s t) (c : Nat) :
    St.W6BL s (t.registerFin c) := by
  st_pres_unfold St.registerFin

@[st_pres ↓] theorem St.W6BL.unregister {s t : St} (h : St.W6BL s t) (c : Nat) :
    St.W6BL s (t.unregister c) := by
  st_pres_unfold St.unregister

@[st_pres ↓] theorem St.W6BL.prepUnregPre {s t : St} (h : St.W6BL s t) (c : Nat) :
    St.W6BL s (t.prepUnregPre c) := by
  st_pres_unfold St.prepUnregPre

@[st_pres ↓] theorem St.W6BL.prepUnregFin {s t : St} (h : St.W6BL s t) (c : Nat) :
    St.W6BL s (t.prepUnregFin c) := by
  st_pres_unfold St.prepUnregFin

@[st_pres ↓] theorem St.W6BL.actFire {s t : St} (h : St.W6BL s t) (self i : Nat) (target : Option Chan) (prio : Int) (cancel : Bool) :
    St.W6BL s (t.actFire self i target prio cancel) := by
  st_pres_unfold St.actFire

@[st_pres ↓] theorem St.W6BL.actStopEv {s t : St} (h : St.W6BL s t) (ev : Option Nat) :
    St.W6BL s (t.actStopEv ev) := by
  st_pres_unfold St.actStopEv

@[st_pres ↓] theorem St.W6BL.timerReset {s t : St} (h : St.W6BL s t) (i : Nat) :
    St.W6BL s (t.timerReset i) := by
  st_pres_unfold St.timerReset

@[st_pres ↓] theorem St.W6BL.timerCreate {s t : St} (h : St.W6BL s t) (i : Nat) :
    St.W6BL s (t.timerCreate i) := by
  st_pres_unfold St.timerCreate

@[st_pres ↓] theorem St.W6BL.timerTick {s t : St} (h : St.W6BL s t) (i e : Nat) :
    St.W6BL s (t.timerTick i e) :=
  St.timerTick_pres t i e h (fun _ _ h => by st_pres) (fun _ => by st_pres) (fun _ _ _ _ h => by st_pres)
    (fun _ _ h => by st_pres) (fun _ _ h => by st_pres)

@[st_pres ↓] theorem St.W6BL.startWait {s t : St} (h : St.W6BL s t) (w : Nat) :
    St.W6BL s (t.startWait w) :=
  St.startWait_pres t w h (fun _ _ => by st_pres) (fun _ _ _ _ _ h => by st_pres) (fun _ _ _ _ _ h => by st_pres)

@[st_pres ↓] theorem St.W6BL.stopBegin {s t : St} (h : St.W6BL s t) (c : Nat) :
    St.W6BL s (t.stopBegin c) := by
  st_pres_unfold St.stopBegin

@[st_pres ↓] theorem St.W6BL.stopSetCode {s t : St} (h : St.W6BL s t) (r : Nat) (code : Code) :
    St.W6BL s (t.stopSetCode r code) := by
  st_pres_unfold St.stopSetCode

@[st_pres ↓] theorem St.W6BL.genCall {s t : St} (h : St.W6BL s t) (owner i : Nat) (target : Option Chan) (timeout : Option Nat) :
    St.W6BL s (t.genCall owner i target timeout) := by
  st_pres_unfold St.genCall

@[st_pres ↓] theorem St.W6BL.genWait {s t : St} (h : St.W6BL s t) (owner : Nat) (name : Name) (target : Option Chan) (timeout : Option Nat) :
    St.W6BL s (t.genWait owner name target timeout) := by
  st_pres_unfold St.genWait

@[st_pres ↓] theorem St.W6BL.resumeGenPre {s t : St} (h : St.W6BL s t) (g : Nat) (silent : Bool) :
    St.W6BL s (t.resumeGenPre g silent) := by
  unfold St.resumeGenPre
  split
  · rename_i e hh owner rest step pc sd heq
    have hx : (t.gen g).w6_isExc = false := by rw [heq]; rfl
    split
    · exact h.setGen _ _ hx
    · split
      · exact (h.setGen _ _ hx).logE _ rfl
      · exact h.setGen _ _ hx
  · exact h

@[st_pres ↓] theorem St.W6BL.stopIteration {s t : St} (h : St.W6BL s t) (r : Nat) (x : Task) :
    St.W6BL s ((t.stopIteration r x).2) :=
  St.stopIteration_pres t r x (by st_pres) (fun _ _ h => by st_pres) (fun _ h => by st_pres)

@[st_pres ↓] theorem St.W6BL.fireException {s t : St} (h : St.W6BL s t) (r e : Nat) :
    St.W6BL s (t.fireException r e) := by
  st_pres_unfold St.fireException

@[st_pres ↓] theorem St.W6BL.errorBranch {s t : St} (h : St.W6BL s t) (r : Nat) (x : Task) (resumed : Bool) :
    St.W6BL s ((t.errorBranch r x resumed).2) :=
  St.errorBranch_pres t r x resumed (by st_pres) (fun _ h => by st_pres) (fun _ h => by st_pres)
    (fun _ _ h => by st_pres) (fun _ _ h => by st_pres) (fun _ h => by st_pres) (fun _ _ h => by st_pres)

@[st_pres ↓] theorem St.W6BL.ownSub {s t : St} (h : St.W6BL s t) (r : Nat) (x : Task) (w : Nat) :
    St.W6BL s (t.ownSub r x w) := by
  st_pres_unfold St.ownSub

@[st_pres ↓] theorem St.W6BL.setValueOpt {s t : St} (h : St.W6BL s t) (e : Nat) (v : Option Nat) :
    St.W6BL s (t.setValueOpt e v) := by
  st_pres_unfold St.setValueOpt

@[st_pres ↓] theorem St.W6BL.parentSub {s t : St} (h : St.W6BL s t) (r : Nat) (x : Task) (p w2 : Nat) (viaThrow : Bool) :
    St.W6BL s (t.parentSub r x p w2 viaThrow) := by
  st_pres_unfold St.parentSub

@[st_pres ↓] theorem St.W6BL.parentPlain {s t : St} (h : St.W6BL s t) (r : Nat) (x : Task) (p : Nat) (v : Option Nat) (viaThrow : Bool) :
    St.W6BL s (t.parentPlain r x p v viaThrow) := by
  st_pres_unfold St.parentPlain

@[st_pres ↓] theorem St.W6BL.onWaitEvent {s t : St} (h : St.W6BL s t) (w e : Nat) :
    St.W6BL s ((t.onWaitEvent w e).2) := by
  st_pres_unfold St.onWaitEvent

@[st_pres ↓] theorem St.W6BL.onWaitDone {s t : St} (h : St.W6BL s t) (w e : Nat) :
    St.W6BL s ((t.onWaitDone w e).2) :=
  St.onWaitDone_pres t w e h (fun _ _ _ h => by st_pres) (fun _ _ => by st_pres)

@[st_pres ↓] theorem St.W6BL.onWaitTick {s t : St} (h : St.W6BL s t) (w : Nat) :
    St.W6BL s ((t.onWaitTick w).2) :=
  St.onWaitTick_pres t w h (fun _ _ _ h => by st_pres) (fun _ _ _ => by st_pres) (by st_pres)

@[st_pres ↓] theorem St.W6BL.onFallbackGE {s t : St} (h : St.W6BL s t) (e : Nat) :
    St.W6BL s ((t.onFallbackGE e).2) := by
  st_pres_unfold St.onFallbackGE

@[st_pres ↓] theorem St.W6BL.computeHandlers {s t : St} (h : St.W6BL s t) (r : Nat) (name : Name) (chans : List Chan) :
    St.W6BL s ((t.computeHandlers r name chans).2) := by
  st_pres_unfold St.computeHandlers

@[st_pres ↓] theorem St.W6BL.dispComplete {s t : St} (h : St.W6BL s t) (e : Nat) (ev : Ev) :
    St.W6BL s (t.dispComplete e ev) := by
  st_pres_unfold St.dispComplete

@[st_pres ↓] theorem St.W6BL.cacheRefresh {s t : St} (h : St.W6BL s t) (r : Nat) :
    St.W6BL s (t.cacheRefresh r) := by
  st_pres_unfold St.cacheRefresh

@[st_pres ↓] theorem St.W6BL.lookupHandlers {s t : St} (h : St.W6BL s t) (r : Nat) (name : Name) (chans : List Chan) :
    St.W6BL s ((t.lookupHandlers r name chans).2) := by
  st_pres_unfold St.lookupHandlers

@[st_pres ↓] theorem St.W6BL.dispGE {s t : St} (h : St.W6BL s t) (r e remaining : Nat) (name : Name) :
    St.W6BL s (t.dispGE r e remaining name) := by
  st_pres_unfold St.dispGE

@[st_pres ↓] theorem St.W6BL.dispatchPre {s t : St} (h : St.W6BL s t) (r e remaining : Nat) :
    St.W6BL s ((t.dispatchPre r e remaining).2) := by
  st_pres_unfold St.dispatchPre

@[st_pres ↓] theorem St.W6BL.handlerRaised {s t : St} (h : St.W6BL s t) (r e : Nat) :
    St.W6BL s (t.handlerRaised r e) := by
  st_pres_unfold St.handlerRaised

@[st_pres ↓] theorem St.W6BL.applyValue {s t : St} (h : St.W6BL s t) (r e : Nat) (value : Outcome) :
    St.W6BL s (t.applyValue r e value) := by
  st_pres_unfold St.applyValue

@[st_pres ↓] theorem St.W6BL.geTasksCheck {s t : St} (h : St.W6BL s t) (r e : Nat) :
    St.W6BL s (t.geTasksCheck r e) := by
  st_pres_unfold St.geTasksCheck

@[st_pres ↓] theorem St.W6BL.flushBegin {s t : St} (h : St.W6BL s t) (r : Nat) :
    St.W6BL s (t.flushBegin r) := by
  st_pres_unfold St.flushBegin

@[st_pres ↓] theorem St.W6BL.tickGenerate {s t : St} (h : St.W6BL s t) (c : Nat) :
    St.W6BL s (t.tickGenerate c) := by
  st_pres_unfold St.tickGenerate

@[st_pres ↓] theorem St.W6BL.runBegin {s t : St} (h : St.W6BL s t) (c : Nat) :
    St.W6BL s (t.runBegin c) := by
  st_pres_unfold St.runBegin

@[st_pres ↓] theorem St.W6BL.runEnd {s t : St} (h : St.W6BL s t) (c : Nat) :
    St.W6BL s ((t.runEnd c).2) := by
  st_pres_unfold St.runEnd

@[st_pres ↓] theorem St.W6BL.actStep {s t : St} (h : St.W6BL s t) (ctx : HCtx) (a : Act) : St.W6BL s (actStep t ctx a).st := by
  cases a <;> st_pres_unfold CV.Core.actStep

@[st_pres ↓] theorem St.W6BL.updateRootAll (s : St) : ∀ (fuel : Nat) (todo : List Nat) (root : Nat) (t : St),
    St.W6BL s t → St.W6BL s (St.updateRootAll fuel todo root t) :=
  fun fuel todo root t h => St.updateRootAll_pres root (fun _ _ h => by st_pres) fuel todo t h

theorem Cfg.w6b_stepGen_l (c : Cfg) (k : List Frame) (g : Nat) :
    St.W6BL c.st (c.stepGen k g).st := by
  unfold Cfg.stepGen; dsimp only
  split
  · rename_i e hh owner rest step pc sd heq
    have hx : (c.st.gen g).w6_isExc = false := by rw [heq]; rfl
    split
    · exact (St.W6BL.refl _).setGen _ _ hx
    · split
      · exact (St.W6BL.refl _).setGen _ _ hx
      · exact (St.W6BL.genCall (St.W6BL.refl _) _ _ _ _).setGen _ _
          ((St.W6Q.genCall (St.W6Q.refl _) _ _ _ _).w6b_notExc hx)
      · exact (St.W6BL.genWait (St.W6BL.refl _) _ _ _ _).setGen _ _
          ((St.W6Q.genWait (St.W6Q.refl _) _ _ _ _).w6b_notExc hx)
      · exact (St.W6BL.refl _).setGen _ _ hx
      · have h1 : ∀ x ctx a, St.W6BL c.st (actStep (c.st.setGen g x) ctx a).st :=
          fun x ctx a => St.W6BL.actStep ((St.W6BL.refl _).setGen g x hx) ctx a
        split
        · exact h1 ..
        · exact (h1 ..).setGen _ _ ((St.W6Q.actStep (St.W6Q.setGen (St.W6Q.refl _) _ _ (fun _ => rfl)) _ _).w6b_notExc hx)
        · exact h1 ..
  · exact St.W6BL.refl _

@[st_pres ↓] theorem Cfg.w6b_contStop_l {s0 : St} (c : Cfg) (k : List Frame) (s : St) (r : Nat) (x : Task) (hle : St.W6BL s0 s) :
    St.W6BL s0 (c.contStop k s r x).st :=
  Cfg.contStop_pres c k (fun h => h.stopIteration) hle r x

@[st_pres ↓] theorem Cfg.w6b_contError_l {s0 : St} (c : Cfg) (k : List Frame) (s : St) (r : Nat) (x : Task) (resumed : Bool) (hle : St.W6BL s0 s) :
    St.W6BL s0 (c.contError k s r x resumed).st :=
  Cfg.contError_pres c k (fun h => h.errorBranch) hle r x resumed

theorem Cfg.w6b_ptBodyExc_l (c : Cfg) (k : List Frame) (r : Nat) (x : Task) (w : Nat) (fired : Bool)
    (hg : c.st.gen x.g = .exc w fired) :
    St.W6BL c.st (c.ptBodyExc k r x w fired).st := by
  have hs1 : St.W6BL c.st ((c.st.setGen x.g (.exc w true)).unregisterTask r x) :=
    St.W6BL.unregisterTask (St.W6BL.setGenExc (St.W6BL.refl _) _ _ _ _ hg) _ _
  unfold Cfg.ptBodyExc; dsimp only
  split
  · st_pres
  · split
    · rename_i p hpar
      split
      · rename_i pe ph o rest st pc sd hgen
        split
        · simp only [Cfg.goto_st]; exact St.W6BL.resumeGenPre (hs1.logE _ rfl) _ _
        · apply Cfg.w6b_contError_l
          exact (hs1.logE _ rfl).setGen _ _ (by rw [St.w6_logE_gen, hgen]; rfl)
      · exact hs1
    · exact Cfg.w6b_contError_l _ _ _ _ _ _ hs1

theorem Cfg.w6b_ptBody_l (c : Cfg) (k : List Frame) (r : Nat) (x : Task) :
    St.W6BL c.st (c.ptBody k r x).st := by
  unfold Cfg.ptBody; (try dsimp only)
  split
  · st_pres
  · st_pres_unfold Cfg.ptBodyWait
  · rename_i w b heq; exact Cfg.w6b_ptBodyExc_l c k r x w b heq
  · st_pres
  · rename_i v consumed heq
    split
    · st_pres
    · simp only [Cfg.pop_st]
      exact St.W6BL.setValueOpt ((St.W6BL.refl _).setGen _ _ (by rw [heq]; rfl)) _ _

@[st_pres ↓] theorem Cfg.w6b_invokeUser_l {s0 : St} (c : Cfg) (k : List Frame) (s : St) (h e owner p : Nat) (hle : St.W6BL s0 s) :
    St.W6BL s0 (c.invokeUser k s h e owner p).st := by
  st_pres_unfold Cfg.invokeUser

/-- `invoke` after its own `.hinv` log entry (`Cfg.w6_invokeSt`) logs no further `.hinv` entry -/
theorem Cfg.w6b_invoke_l (c : Cfg) (k : List Frame) (r h e : Nat) :
    St.W6BL (c.w6_invokeSt h e) (c.invoke k r h e).st := by
  rw [Cfg.invoke_eq]
  split <;> st_pres

/-- the operations that log an `.hinv` entry or overwrite a generator record -/
def w6b_hinvOps : List Op := [.logHinv, .setGenDead, .setGenUser, .setGenExc, .setGenOne]

theorem St.W6BL.keeps (s : St) (o : Op) (ho : o ∉ w6b_hinvOps) : o.Keeps (St.W6BL s) := by
  cases o
  case logHinv | setGenDead | setGenUser | setGenExc | setGenOne => exact absurd (by decide) ho
  all_goals (intro t h; intros; st_pres)

theorem w6b_stepFrame_l (c : Cfg) (k : List Frame) (f : Frame) (hf : ∀ r h e, f ≠ .invoke r h e) :
    St.W6BL c.st (stepFrame c k f).st := by
  cases f
  case invoke r h e => exact absurd rfl (hf r h e)
  case ptBody r x => exact Cfg.w6b_ptBody_l c k r x
  case stepGen g => exact Cfg.w6b_stepGen_l c k g
  all_goals exact stepFrame_pres_avoiding c k (St.W6BL.keeps _) _ rfl (St.W6BL.refl _)

theorem w6b_unwind_l (c : Cfg) (k : List Frame) (ex : Exn) (f : Frame) : St.W6BL c.st (unwind c k ex f).st :=
  unwind_pres_avoiding c k (St.W6BL.keeps _) ex f rfl (St.W6BL.refl _)

theorem w6b_step_l (c : Cfg) (hno : ¬ ∃ r h e k, c.stack = .invoke r h e :: k ∧ c.exn = none) :
    St.W6BL c.st (step c).st := by
  unfold step
  split
  · exact St.W6BL.refl _
  · rename_i f k hs
    split
    · exact w6b_unwind_l ..
    · rename_i hx
      apply w6b_stepFrame_l
      intro r h e hf
      subst hf
      exact hno ⟨r, h, e, k, hs, hx⟩

theorem w6b_step_invoke_l (c : Cfg) (r h e : Nat) (k : List Frame) (hs : c.stack = .invoke r h e :: k)
    (hx : c.exn = none) : St.W6BL (c.w6_invokeSt h e) (step c).st := by
  rw [w6_step_invoke c r h e k hs hx]; exact Cfg.w6b_invoke_l c k r h e

/-- the log entry of an invocation of the `_on_tick` closure (kind code 3) of the wait state whose
    waitEvent generator has id `key` -/
def Entry.w6b_isTick (key : Nat) : Entry → Bool
  | .hinv _ k o => k == 3 && o == key
  | _ => false

/-- how often the `_on_tick` closure of wait state `w` has been invoked so far (read off the log) -/
def w6b_tickCount (s : St) (w : Nat) : Nat := s.log.countP (Entry.w6b_isTick (s.wait w).task)

theorem Entry.w6b_isTick_of_not_hinv {x : Entry} (key : Nat) (h : x.w6b_isHinv = false) : x.w6b_isTick key = false := by
  cases x <;> first | rfl | cases h

theorem St.W6BL.w6b_countP {s s' : St} (h : St.W6BL s s') (key : Nat) :
    s'.log.countP (Entry.w6b_isTick key) = s.log.countP (Entry.w6b_isTick key) := by
  obtain ⟨es, e1, p1⟩ := h.log
  have : es.countP (Entry.w6b_isTick key) = 0 := by
    rw [List.countP_eq_zero]
    intro x hx
    rw [Entry.w6b_isTick_of_not_hinv key (p1 x hx)]; exact Bool.false_ne_true
  rw [e1, List.countP_append, this, Nat.zero_add]

theorem St.W6BL.w6b_hinv_mem {s s' : St} (h : St.W6BL s s') {e k o : Nat} (hm : Entry.hinv e k o ∈ s'.log) :
    Entry.hinv e k o ∈ s.log := by
  obtain ⟨es, e1, p1⟩ := h.log
  rw [e1] at hm
  rcases List.mem_append.1 hm with hm | hm
  · have := p1 _ hm; cases this
  · exact hm

theorem W6CInv.w6b_task_inj {n0 : Nat} {c : Cfg} (h : W6CInv n0 c) {w w' : Nat} (hw : w < c.st.waits.length)
    (hw' : w' < c.st.waits.length) (e : (c.st.wait w).task = (c.st.wait w').task) : w = w' := by
  have h1 := (h.w.2.taskGen w hw).2
  have h2 := (h.w.2.taskGen w' hw').2
  simp only [St.w6_view_wg, St.w6_view_gen, WaitSt.w6g] at h1 h2
  rw [e, h2] at h1
  injection h1 with h1
  exact h1.symm

theorem W6CInv.w6b_tick_lt {n0 : Nat} {c : Cfg} (h : W6CInv n0 c) {hh w : Nat} (hk : (c.st.handler hh).kind = .waitTick w) :
    w < c.st.waits.length :=
  (h.w.1.kindTick hh w (handler_lt_of_kind (by rw [hk]; nofun)) hk).1

theorem Cfg.w6b_invokeSt_log_tick (c : Cfg) (hh e w : Nat) (hk : (c.st.handler hh).kind = .waitTick w) :
    (c.w6_invokeSt hh e).log = .hinv e 3 (c.st.wait w).task :: c.st.log := by
  unfold Cfg.w6_invokeSt hkey; rw [hk]; rfl

theorem w6b_code_three (s : St) (hd : Handler) (h3 : hd.kind.code = 3) :
    ∃ w, hd.kind = .waitTick w ∧ hkey s hd = (s.wait w).task := by
  unfold hkey
  cases hk : hd.kind <;> rw [hk] at h3 <;> cases h3
  exact ⟨_, rfl, rfl⟩

theorem Cfg.w6b_invokeSt_count {n0 : Nat} {c : Cfg} (h : W6CInv n0 c) (hh e w : Nat) (hw : w < c.st.waits.length)
    (hno : (c.st.handler hh).kind ≠ .waitTick w) :
    (c.w6_invokeSt hh e).log.countP (Entry.w6b_isTick (c.st.wait w).task) =
      c.st.log.countP (Entry.w6b_isTick (c.st.wait w).task) := by
  rcases Cfg.w6_invokeSt_log c hh e with hl | hl <;> rw [hl]
  rw [List.countP_cons_of_neg]
  intro ht
  simp only [Entry.w6b_isTick, Bool.and_eq_true, beq_iff_eq] at ht
  obtain ⟨w', hk, hkey⟩ := w6b_code_three c.st _ ht.1
  rw [hkey] at ht
  exact hno (h.w6b_task_inj hw (h.w6b_tick_lt hk) ht.2.symm ▸ hk)

/-- the step that invokes `w`'s own `_on_tick` closure -/
def W6BTicks (c : Cfg) (w : Nat) : Prop :=
  ∃ r hh e k, c.stack = .invoke r hh e :: k ∧ c.exn = none ∧ (c.st.handler hh).kind = .waitTick w

theorem w6b_tickCount_tick {n0 : Nat} {c : Cfg} (h : W6CInv n0 c) (w : Nat) (ht : W6BTicks c w) :
    w6b_tickCount (step c).st w = w6b_tickCount c.st w + 1 := by
  obtain ⟨r, hh, e, k, hs, hx, hk⟩ := ht
  have hw := h.w6b_tick_lt hk
  have htask := ((w6_step_s c).ident w hw).2.2
  unfold w6b_tickCount
  rw [htask, (w6b_step_invoke_l c r hh e k hs hx).w6b_countP, Cfg.w6b_invokeSt_log_tick c hh e w hk,
    List.countP_cons_of_pos]
  simp [Entry.w6b_isTick]

theorem w6b_tickCount_other {n0 : Nat} {c : Cfg} (h : W6CInv n0 c) (w : Nat) (hw : w < c.st.waits.length)
    (hno : ¬ W6BTicks c w) : w6b_tickCount (step c).st w = w6b_tickCount c.st w := by
  have htask := ((w6_step_s c).ident w hw).2.2
  unfold w6b_tickCount
  rw [htask]
  by_cases hinv : ∃ r hh e k, c.stack = .invoke r hh e :: k ∧ c.exn = none
  · obtain ⟨r, hh, e, k, hs, hx⟩ := hinv
    rw [(w6b_step_invoke_l c r hh e k hs hx).w6b_countP]
    exact Cfg.w6b_invokeSt_count h hh e w hw (fun hk => hno ⟨r, hh, e, k, hs, hx, hk⟩)
  · exact (w6b_step_l c hinv).w6b_countP _

theorem w6b_tickCount_le {n0 : Nat} {c : Cfg} (h : W6CInv n0 c) (w : Nat) (hw : w < c.st.waits.length) :
    w6b_tickCount c.st w ≤ w6b_tickCount (step c).st w := by
  by_cases ht : W6BTicks c w
  · rw [w6b_tickCount_tick h w ht]; exact Nat.le_succ _
  · rw [w6b_tickCount_other h w hw ht]; exact Nat.le_refl _

/-- invocations so far + invocations still to come before the countdown reaches 0 -/
def w6b_psi (s : St) (w : Nat) : Int := (w6b_tickCount s w : Int) + (s.wait w).timeout

def St.w6b_hasExc (s : St) (w : Nat) : Prop := ∃ g b, s.gen g = .exc w b

open Classical in
noncomputable def w6b_phi (s : St) (w : Nat) : Int := w6b_psi s w - (if s.w6b_hasExc w then 1 else 0)

theorem w6b_timeout_step {c : Cfg} (w : Nat) (hw : w < c.st.waits.length) :
    (¬ W6BTicks c w ∨ (c.st.wait w).timeout ≤ 0 → ((step c).st.wait w).timeout = (c.st.wait w).timeout) ∧
    (((step c).st.wait w).timeout = (c.st.wait w).timeout ∨
      ((c.st.wait w).timeout > 0 ∧ ((step c).st.wait w).timeout = (c.st.wait w).timeout - 1)) := by
  by_cases hne : ((step c).st.wait w).timeout = (c.st.wait w).timeout
  · exact ⟨fun _ => hne, Or.inl hne⟩
  · obtain ⟨r, hh, e, k, hs, hx, hk, hpos, hdec⟩ := w6_timeout_counts_down c w hw hne
    refine ⟨fun hor => ?_, Or.inr ⟨hpos, hdec⟩⟩
    rcases hor with hor | hor
    · exact absurd ⟨r, hh, e, k, hs, hx, hk⟩ hor
    · omega

theorem w6b_psi_mono {n0 : Nat} {c : Cfg} (h : W6CInv n0 c) (w : Nat) (hw : w < c.st.waits.length) :
    w6b_psi c.st w ≤ w6b_psi (step c).st w := by
  obtain ⟨t1, t2⟩ := w6b_timeout_step (c := c) w hw
  unfold w6b_psi
  by_cases ht : W6BTicks c w
  · rw [w6b_tickCount_tick h w ht]
    rcases t2 with t2 | ⟨_, t2⟩ <;> rw [t2] <;> omega
  · rw [w6b_tickCount_other h w hw ht, t1 (Or.inl ht)]
    exact Int.le_refl _

theorem w6b_step_exc_keep (c : Cfg) (g w : Nat) (b : Bool) (hg : c.st.gen g = .exc w b) :
    ∃ b', (step c).st.gen g = .exc w b' := by
  by_cases hinv : ∃ r hh e k, c.stack = .invoke r hh e :: k ∧ c.exn = none
  · obtain ⟨r, hh, e, k, hs, hx⟩ := hinv
    exact (w6b_step_invoke_l c r hh e k hs hx).exc g w b (by rw [Cfg.w6_invokeSt_gen]; exact hg)
  · exact (w6b_step_l c hinv).exc g w b hg

theorem w6b_step_exc_back (c : Cfg) (g w : Nat) (b : Bool) (hg : (step c).st.gen g = .exc w b) :
    (∃ b0, c.st.gen g = .exc w b0) ∨ (W6BTicks c w ∧ (c.st.wait w).timeout = 0) := by
  rcases w6_exc_step c g w b hg with h1 | ⟨r, h, e, k, hs, hx, hk, h0, _⟩ | ⟨r, t, k, b0, _, _, hgen, rfl⟩
  · exact Or.inl ⟨b, h1⟩
  · exact Or.inr ⟨⟨r, h, e, k, hs, hx, hk⟩, h0⟩
  · exact Or.inl ⟨b0, hgen⟩

theorem w6b_phi_mono {n0 : Nat} {c : Cfg} (h : W6CInv n0 c) (w : Nat) (hw : w < c.st.waits.length) :
    w6b_phi c.st w ≤ w6b_phi (step c).st w := by
  have hpsi := w6b_psi_mono h w hw
  unfold w6b_phi
  by_cases h1 : c.st.w6b_hasExc w
  · have h2 : (step c).st.w6b_hasExc w := by
      obtain ⟨g, b, hg⟩ := h1
      obtain ⟨b', hb'⟩ := w6b_step_exc_keep c g w b hg
      exact ⟨g, b', hb'⟩
    rw [if_pos h1, if_pos h2]; omega
  · by_cases h2 : (step c).st.w6b_hasExc w
    · rw [if_neg h1, if_pos h2]
      obtain ⟨g, b, hg⟩ := h2
      rcases w6b_step_exc_back c g w b hg with ⟨b0, hb0⟩ | ⟨ht, h0⟩
      · exact absurd ⟨g, b0, hb0⟩ h1
      · have hc := w6b_tickCount_tick h w ht
        have htm := (w6b_timeout_step (c := c) w hw).1 (Or.inr (by omega))
        unfold w6b_psi
        rw [hc, htm]; omega
    · rw [if_neg h1, if_neg h2]; omega

theorem w6b_tickCount_start (s : St) (d : Nat) (tape : List Entry) (op : ExtOp) (w : Nat) :
    w6b_tickCount (startOf (envChange s d tape) op).st w = w6b_tickCount s w := by
  rw [startOf_st]; rfl

theorem w6b_psi_start (s : St) (d : Nat) (tape : List Entry) (op : ExtOp) (w : Nat) :
    w6b_psi (startOf (envChange s d tape) op).st w = w6b_psi s w := by
  rw [startOf_st]; rfl

open Classical in
theorem w6b_phi_start (s : St) (d : Nat) (tape : List Entry) (op : ExtOp) (w : Nat) :
    w6b_phi (startOf (envChange s d tape) op).st w = w6b_phi s w := by
  rw [startOf_st]; rfl

theorem W6Later.w6b_waitsLen {n0 : Nat} {c c' : Cfg} (hl : W6Later n0 c c') :
    c.st.waits.length ≤ c'.st.waits.length := by
  induction hl with
  | refl => exact Nat.le_refl _
  | step _ ih => exact Nat.le_trans ih (w6_step_s _).waitsLen
  | next d tape op hop _ _ ih => rw [startOf_st]; exact ih

theorem W6Later.w6b_mono {n0 : Nat} {c c' : Cfg} (h : W6CInv n0 c) (hl : W6Later n0 c c') (w : Nat)
    (hw : w < c.st.waits.length) :
    w6b_tickCount c.st w ≤ w6b_tickCount c'.st w ∧ w6b_psi c.st w ≤ w6b_psi c'.st w ∧
      w6b_phi c.st w ≤ w6b_phi c'.st w := by
  induction hl with
  | refl => exact ⟨Nat.le_refl _, Int.le_refl _, Int.le_refl _⟩
  | step hl' ih =>
    have hc := W6Later.cinv h hl'
    have hw' := Nat.lt_of_lt_of_le hw hl'.w6b_waitsLen
    exact ⟨Nat.le_trans ih.1 (w6b_tickCount_le hc w hw'), Int.le_trans ih.2.1 (w6b_psi_mono hc w hw'),
      Int.le_trans ih.2.2 (w6b_phi_mono hc w hw')⟩
  | next d tape op hop _ _ ih => rw [w6b_tickCount_start, w6b_psi_start, w6b_phi_start]; exact ih

def W6BLogInv (s : St) : Prop := ∀ e key, Entry.hinv e 3 key ∈ s.log → key < s.gens.length

theorem Cfg.w6b_invokeSt_logInv {n0 : Nat} {c : Cfg} (h : W6CInv n0 c) (hi : W6BLogInv c.st) (hh e : Nat) :
    ∀ e' key, Entry.hinv e' 3 key ∈ (c.w6_invokeSt hh e).log → key < c.st.gens.length := by
  intro e' key hm
  rcases Cfg.w6_invokeSt_log c hh e with hl | hl <;> rw [hl] at hm
  · exact hi e' key hm
  · rcases List.mem_cons.1 hm with hm | hm
    · injection hm with _ hcode hkeq
      obtain ⟨w', hk, hkey⟩ := w6b_code_three c.st _ hcode.symm
      have h1 := (h.w.2.taskGen w' (h.w6b_tick_lt hk)).1
      simp only [St.w6_view_wg, St.w6_view_ng, WaitSt.w6g] at h1
      rw [hkeq, hkey]; exact h1
    · exact hi e' key hm

theorem w6b_step_logInv {n0 : Nat} {c : Cfg} (h : W6CInv n0 c) (hi : W6BLogInv c.st) : W6BLogInv (step c).st := by
  intro e' key hm
  have hlen := (w6_step_s c).gensLen
  by_cases hinv : ∃ r hh e k, c.stack = .invoke r hh e :: k ∧ c.exn = none
  · obtain ⟨r, hh, e, k, hs, hx⟩ := hinv
    have hm1 := (w6b_step_invoke_l c r hh e k hs hx).w6b_hinv_mem hm
    exact Nat.lt_of_lt_of_le (Cfg.w6b_invokeSt_logInv h hi hh e e' key hm1) hlen
  · exact Nat.lt_of_lt_of_le (hi e' key ((w6b_step_l c hinv).w6b_hinv_mem hm)) hlen

def W6BExcInv (s : St) : Prop := ∀ g w b, s.gen g = .exc w b → w < s.waits.length ∧ (s.wait w).timeout = 0

theorem w6b_step_excInv {n0 : Nat} {c : Cfg} (h : W6CInv n0 c) (hi : W6BExcInv c.st) : W6BExcInv (step c).st := by
  intro g w b hg
  have hwl := (w6_step_s c).waitsLen
  have key : w < c.st.waits.length ∧ (c.st.wait w).timeout = 0 := by
    rcases w6b_step_exc_back c g w b hg with ⟨b0, hb0⟩ | ⟨ht, h0⟩
    · exact hi g w b0 hb0
    · obtain ⟨r, hh, e, k, hs, hx, hk⟩ := ht
      exact ⟨h.w6b_tick_lt hk, h0⟩
  obtain ⟨hw, h0⟩ := key
  refine ⟨Nat.lt_of_lt_of_le hw hwl, ?_⟩
  rw [(w6b_timeout_step (c := c) w hw).1 (Or.inr (by omega))]; exact h0

def W6BInitLog (s0 : St) : Prop := s0.log = []

theorem W6ReachW.w6b_logInv {s0 : St} (hi : W6InitWait s0) (hl0 : W6BInitLog s0) {c : Cfg}
    (h : W6ReachW s0.hs.length s0 c) : W6BLogInv c.st :=
  h.inv_st hi W6BLogInv (fun e key hm => by rw [show s0.log = [] from hl0] at hm; cases hm) (fun _ _ _ h => h)
    fun _ => w6b_step_logInv

theorem W6ReachW.w6b_excInv {s0 : St} (hi : W6InitWait s0) {c : Cfg}
    (h : W6ReachW s0.hs.length s0 c) : W6BExcInv c.st :=
  h.inv_st hi W6BExcInv (fun g w b hg => by rw [hi.gen] at hg; cases hg) (fun _ _ _ h => h) fun _ => w6b_step_excInv

theorem W6Later.w6b_reachW {n0 : Nat} {s0 : St} {c c' : Cfg} (h : W6ReachW n0 s0 c) (hl : W6Later n0 c c') :
    W6ReachW n0 s0 c' := by
  induction hl with
  | refl => exact h
  | step _ ih => exact W6ReachW.step ih
  | next d tape op hop _ hd ih => exact W6ReachW.next d tape op hop ih hd

/-- `c` is about to execute `yield self.call(…, timeout=n)` / `yield self.wait(…, timeout=n)` in a user
    generator; the wait state this step creates is `c.st.waits.length` -/
def W6BBirth (c : Cfg) (n : Nat) : Prop :=
  ∃ g k e h owner a rest st pc sd, c.exn = none ∧ c.stack = .stepGen g :: k ∧
    c.st.gen g = .user e h owner (a :: rest) st pc sd ∧
    ((∃ t target catch_, a = .call t target (some n) catch_) ∨
     (∃ name target catch_, a = .wait name target (some n) catch_))

theorem w6b_birth_state {c : Cfg} {n : Nat} (hb : W6BBirth c n) :
    (step c).st.waits.length = c.st.waits.length + 1 ∧
    ((step c).st.wait c.st.waits.length).timeout = n ∧
    ((step c).st.wait c.st.waits.length).task = c.st.gens.length ∧
    (step c).st.log = c.st.log := by
  obtain ⟨g, k, e, h, owner, a, rest, st, pc, sd, hx, hs, hg, ha⟩ := hb
  have hst : (step c).st = (c.stepGen k g).st := by rw [step_cons c _ k hs hx]; rfl
  rw [hst]
  unfold Cfg.stepGen
  rcases ha with ⟨t, target, catch_, rfl⟩ | ⟨name, target, catch_, rfl⟩
  all_goals
    simp only [hg, Cfg.popRet_st, St.w6_setGen_wait, St.genCall, St.genWait, St.w6_addWait_wait]
    simp [St.setGen, St.addWait, St.addGen]

theorem w6b_birth_phi {s0 : St} (hi : W6InitWait s0) (hl0 : W6BInitLog s0) {c : Cfg}
    (hr : W6ReachW s0.hs.length s0 c) {n : Nat} (hb : W6BBirth c n) :
    w6b_psi (step c).st c.st.waits.length = n ∧ w6b_phi (step c).st c.st.waits.length = n := by
  obtain ⟨b1, b2, b3, b4⟩ := w6b_birth_state hb
  have hlog := hr.w6b_logInv hi hl0
  have hexc := hr.w6b_excInv hi
  have count0 : w6b_tickCount (step c).st c.st.waits.length = 0 := by
    unfold w6b_tickCount
    rw [b4, b3, List.countP_eq_zero]
    intro x hx ht
    cases x <;> simp only [Entry.w6b_isTick, Bool.and_eq_true, beq_iff_eq, Bool.false_eq_true] at ht
    obtain ⟨h1, h2⟩ := ht
    subst h1; subst h2
    exact Nat.lt_irrefl _ (hlog _ _ hx)
  have noexc : ¬ (step c).st.w6b_hasExc c.st.waits.length := by
    intro ⟨g, b, hg⟩
    rcases w6b_step_exc_back c g _ b hg with ⟨b0, hb0⟩ | ⟨ht, _⟩
    · exact Nat.lt_irrefl _ (hexc g _ b0 hb0).1
    · obtain ⟨r, hh, e, k, hs, _, _⟩ := ht
      obtain ⟨g1, k1, _, _, _, _, _, _, _, _, _, hs1, _⟩ := hb
      rw [hs1] at hs; cases hs
  have psi0 : w6b_psi (step c).st c.st.waits.length = n := by
    unfold w6b_psi; rw [count0, b2]; simp
  refine ⟨psi0, ?_⟩
  unfold w6b_phi; rw [psi0, if_neg noexc]; simp

theorem w6b_timeout_not_early {s0 : St} (hi : W6InitWait s0) (hl0 : W6BInitLog s0) {c : Cfg}
    (hr : W6ReachW s0.hs.length s0 c) {n : Nat} (hb : W6BBirth c n) {c' : Cfg}
    (hl : W6Later s0.hs.length (step c) c') {g' : Nat} {b : Bool}
    (hexc : c'.st.gen g' = .exc c.st.waits.length b) :
    n + 1 ≤ w6b_tickCount c'.st c.st.waits.length := by
  obtain ⟨_, phi0⟩ := w6b_birth_phi hi hl0 hr hb
  obtain ⟨b1, _, _, _⟩ := w6b_birth_state hb
  have hc1 := w6_step_cinv c (hr.cinv hi)
  have mono := (W6Later.w6b_mono hc1 hl c.st.waits.length (by omega)).2.2
  have hex' := (W6Later.w6b_reachW (W6ReachW.step hr) hl).w6b_excInv hi g' _ b hexc
  have hhas : c'.st.w6b_hasExc c.st.waits.length := ⟨g', b, hexc⟩
  rw [phi0] at mono
  unfold w6b_phi w6b_psi at mono
  rw [if_pos hhas, hex'.2] at mono
  omega

theorem w6b_timeout_entry_not_early {s0 : St} (hi : W6InitWait s0) (hl0 : W6BInitLog s0) {c : Cfg}
    (hr : W6ReachW s0.hs.length s0 c) {n : Nat} (hb : W6BBirth c n) {c' : Cfg}
    (hl : W6Later s0.hs.length (step c) c') {es : List Entry} (hes : (step c').st.log = es ++ c'.st.log)
    {pe ph : Nat} {caught : Bool} (hx : Entry.timeout pe ph caught ∈ es) :
    ∃ r t k w', c'.stack = .ptBody r t :: k ∧ c'.exn = none ∧ c'.st.gen t.g = .exc w' false ∧
      (w' = c.st.waits.length → n + 1 ≤ w6b_tickCount c'.st w') := by
  obtain ⟨r, t, k, w', hs, hxn, hg⟩ := w6_timeout_needs_exc c' hes hx
  refine ⟨r, t, k, w', hs, hxn, hg, ?_⟩
  intro hw
  subst hw
  exact w6b_timeout_not_early hi hl0 hr hb hl hg

/-- the step-side reading: when `w`'s `_on_tick` closure is invoked and finds the countdown
    at 0 (the invocation that creates the `TimeoutError` carrier), at least `n` earlier invocations have been
    logged: this one is at least the `(n+1)`-th -/
theorem w6b_tick_at_zero {s0 : St} (hi : W6InitWait s0) (hl0 : W6BInitLog s0) {c : Cfg}
    (hr : W6ReachW s0.hs.length s0 c) {n : Nat} (hb : W6BBirth c n) {c' : Cfg}
    (hl : W6Later s0.hs.length (step c) c')
    (h0 : (c'.st.wait c.st.waits.length).timeout = 0) :
    n ≤ w6b_tickCount c'.st c.st.waits.length ∧
    (W6BTicks c' c.st.waits.length → n + 1 ≤ w6b_tickCount (step c').st c.st.waits.length) := by
  obtain ⟨psi0, _⟩ := w6b_birth_phi hi hl0 hr hb
  obtain ⟨b1, _, _, _⟩ := w6b_birth_state hb
  have hc1 := w6_step_cinv c (hr.cinv hi)
  have mono := (W6Later.w6b_mono hc1 hl c.st.waits.length (by omega)).2.1
  rw [psi0] at mono
  unfold w6b_psi at mono
  rw [h0] at mono
  refine ⟨by omega, fun ht => ?_⟩
  rw [w6b_tickCount_tick (W6Later.cinv hc1 hl) _ ht]
  omega

end CV.Core
