import CV.Proofs.InvWaitMain
/-
C06: `no_timeout_after_resume` - the other direction of "never both" - without a hypothesis on the handler lists in flight.

The closures of `waitEvent` are guarded (`_on_tick` and `_on_done` return at once when `state.flag or state.timed_out`,
`_on_event` acts only while `not state.run and not state.timed_out`; the model mirrors /repo commits 3ae7f53, "stale
waitEvent closures do nothing once the outcome of call()/wait() is decided", and f1fda66, "waitEvent's _on_done does nothing
once the awaited event is known to be done"), so a stale invocation of
`_on_tick` - from a handler list computed before `_on_done` removed the tick handler - is a no-op.  So: after the
resumption step of wait state `w` (which needs `flag`), `flag` stays set, hence no later configuration creates a
`TimeoutError` carrier (`GenRec.exc w`), none contains one, none logs `.timeout` through one; and a (stale)
invocation of `w`'s `_on_tick` changes nothing but the log entry of the invocation.

Stale invocations do occur (a `generate_events` handler that runs the task loop - `tick()`, or `stop()` outside the
executing thread - lets the caller be resumed while the enclosing `_dispatcher` still holds the tick handler, and the
stale `_on_tick` finds the countdown at 0): CV/Proofs/InvWait2Wit.lean evaluates such a run.  A repeated or stale `_on_done` /
`_on_event` is a no-op in the same way, so `flag` is set only while the outcome is open.
-/
namespace CV.Core

def W6BExcFin (s : St) : Prop := ∀ g w b, s.gen g = .exc w b → w6_phase s w = 4

theorem w6b_step_excFin {n0 : Nat} {c : Cfg} (h : W6CInv n0 c) (hE : W6BExcFin c.st) : W6BExcFin (step c).st := by
  intro g w b hg
  have hmono := w6_phase_mono h w
  have hle := w6_phase_le_four (step c).st w
  rcases w6_exc_step c g w b hg with h1 | ⟨r, hh, e, k, hs, hx, hk, h0, hfl, hto, _, _⟩ | ⟨r, t, k, b0, hs, hx, hgen, _⟩
  · have := hE g w b h1; omega
  · exact w6_timeout_finishes h w r hh e k hs hx hk h0 hfl hto
  · have := hE t.g w b0 hgen; omega

theorem W6ReachW.excFin {s0 : St} (hi : W6InitWait s0) {c : Cfg} (h : W6ReachW s0.hs.length s0 c) : W6BExcFin c.st :=
  h.inv_st hi W6BExcFin (fun g w b hg => by rw [hi.gen] at hg; cases hg) (fun _ _ _ h => h) fun _ => w6b_step_excFin

theorem w6b_no_exc_at_resume {n0 : Nat} {c : Cfg} (h : W6CInv n0 c) (hE : W6BExcFin c.st) (w : Nat)
    (hr : W6ResumesW c w) : ∀ g b, c.st.gen g ≠ .exc w b := by
  intro g b hg
  have := hE g w b hg
  have := (w6_resume_phase h w hr).1
  omega

/-- the state of affairs after `w` was resumed: `flag` is set (so `_on_tick` does nothing any more) and no
    `TimeoutError` carrier of `w` exists -/
structure W6BAfter (c : Cfg) (w : Nat) : Prop where
  flag : (c.st.wait w).flag = true
  noExc : ∀ g b, c.st.gen g ≠ .exc w b

theorem w6b_step_after (c : Cfg) (w : Nat) (hA : W6BAfter c w) : W6BAfter (step c) w := by
  refine ⟨((w6_step_s c).bits w).2.2 hA.flag, ?_⟩
  intro g b hg
  rcases w6_exc_step c g w b hg with h1 | ⟨r, hh, e, k, hs, hx, hk, _, hfl, _, _, _⟩ | ⟨r, t, k, b0, hs, hx, hgen, _⟩
  · exact hA.noExc g b h1
  · rw [hA.flag] at hfl; cases hfl
  · exact hA.noExc t.g b0 hgen

theorem w6b_start_after {s : St} {w : Nat} (d : Nat) (tape : List Entry) (op : ExtOp)
    (hfl : (s.wait w).flag = true) (hno : ∀ g b, s.gen g ≠ .exc w b) : W6BAfter (startOf (envChange s d tape) op) w := by
  refine ⟨?_, ?_⟩ <;> rw [startOf_st]
  · exact hfl
  · exact hno

theorem w6b_resume_after {n0 : Nat} {c : Cfg} (h : W6CInv n0 c) (hE : W6BExcFin c.st) (w : Nat)
    (hr : W6ResumesW c w) : W6BAfter (step c) w :=
  w6b_step_after c w ⟨w6_resume_flag h w hr, w6b_no_exc_at_resume h hE w hr⟩

theorem W6Later.w6b_after {n0 : Nat} {c c' : Cfg} {w : Nat} (hA : W6BAfter c w)
    (hl : W6Later n0 c c') : W6BAfter c' w := by
  induction hl with
  | refl => exact hA
  | step _ ih => exact w6b_step_after _ w ih
  | next d tape op hop _ _ ih => exact w6b_start_after d tape op ih.flag ih.noExc

theorem St.w6b_onWaitTick_stale (t : St) (w : Nat) (h : (t.wait w).flag = true ∨ (t.wait w).timedOut = true) :
    t.onWaitTick w = (.none, t) := by
  rw [St.onWaitTick_eq, if_pos (by simpa using h)]

theorem w6b_stale_tick_noop (c : Cfg) (w r hh e : Nat) (k : List Frame) (hs : c.stack = .invoke r hh e :: k)
    (hx : c.exn = none) (hk : (c.st.handler hh).kind = .waitTick w)
    (hst : (c.st.wait w).flag = true ∨ (c.st.wait w).timedOut = true) : (step c).st = c.w6_invokeSt hh e := by
  rw [w6_step_invoke c r hh e k hs hx, Cfg.w6_invoke_waitTick c k r hh e w hk,
    St.w6b_onWaitTick_stale _ w (by rw [Cfg.w6_invokeSt_wait]; exact hst)]

theorem w6b_no_timeout_after_resume {n0 : Nat} {c c' : Cfg} (h : W6CInv n0 c) (hE : W6BExcFin c.st) (w : Nat)
    (hr : W6ResumesW c w) (hl : W6Later n0 (step c) c') :
    (c'.st.wait w).flag = true ∧
    (∀ g b, c'.st.gen g ≠ .exc w b) ∧
    (∀ r t k b, c'.stack = .ptBody r t :: k → c'.st.gen t.g ≠ .exc w b) ∧
    (∀ r hh e k, c'.stack = .invoke r hh e :: k → c'.exn = none → (c'.st.handler hh).kind = .waitTick w →
      (step c').st = c'.w6_invokeSt hh e) := by
  have hA := W6Later.w6b_after (w6b_resume_after h hE w hr) hl
  exact ⟨hA.flag, hA.noExc, fun r t k b _ => hA.noExc t.g b,
    fun r hh e k hs hx hk => w6b_stale_tick_noop c' w r hh e k hs hx hk (Or.inl hA.flag)⟩

theorem St.w6b_onWaitDone_stale (t : St) (w e : Nat) (h : (t.wait w).flag = true ∨ (t.wait w).timedOut = true) :
    t.onWaitDone w e = (.none, t) := by
  unfold St.onWaitDone
  dsimp only
  rw [if_neg]
  rcases h with h | h <;> simp [h]

theorem St.w6b_onWaitEvent_stale (t : St) (w e : Nat) (h : (t.wait w).run = true ∨ (t.wait w).timedOut = true) :
    t.onWaitEvent w e = (.none, t) := by
  unfold St.onWaitEvent
  dsimp only
  rw [if_neg]
  rcases h with h | h <;> simp [h]

theorem w6b_stale_done_noop (c : Cfg) (w r hh e : Nat) (k : List Frame) (hs : c.stack = .invoke r hh e :: k)
    (hx : c.exn = none) (hk : (c.st.handler hh).kind = .waitDone w)
    (hst : (c.st.wait w).flag = true ∨ (c.st.wait w).timedOut = true) : (step c).st = c.w6_invokeSt hh e := by
  rw [w6_step_invoke c r hh e k hs hx, Cfg.w6_invoke_waitDone c k r hh e w hk,
    St.w6b_onWaitDone_stale _ w e (by rw [Cfg.w6_invokeSt_wait]; exact hst)]

theorem w6b_stale_event_noop (c : Cfg) (w r hh e : Nat) (k : List Frame) (hs : c.stack = .invoke r hh e :: k)
    (hx : c.exn = none) (hk : (c.st.handler hh).kind = .waitEvent w)
    (hst : (c.st.wait w).run = true ∨ (c.st.wait w).timedOut = true) : (step c).st = c.w6_invokeSt hh e := by
  rw [w6_step_invoke c r hh e k hs hx, Cfg.w6_invoke_waitEvent c k r hh e w hk,
    St.w6b_onWaitEvent_stale _ w e (by rw [Cfg.w6_invokeSt_wait]; exact hst)]

theorem w6b_flag_set_when_open (c : Cfg) (w : Nat) (hne : ((step c).st.wait w).flag ≠ (c.st.wait w).flag) :
    (c.st.wait w).flag = false ∧ (c.st.wait w).timedOut = false ∧ ((step c).st.wait w).flag = true := by
  obtain ⟨r, h, e, k, src, hs, hx, hk, _, _, h6⟩ := w6_flag_needs_done c w hne
  refine ⟨?_, ?_, h6⟩
  · cases hf : (c.st.wait w).flag
    · rfl
    · rw [hf, h6] at hne; exact absurd rfl hne
  · cases ht : (c.st.wait w).timedOut
    · rfl
    · exfalso
      rw [w6b_stale_done_noop c w r h e k hs hx hk (Or.inr ht), Cfg.w6_invokeSt_wait] at hne
      exact hne rfl

end CV.Core
