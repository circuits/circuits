import CV.Proofs.InvWaitMain
/-
C06: what happens to TASKS around the resumption of a `call()` / `wait()`: the caller is not lost
(`caller_completes_partial`, `caller_registered_again` of CV/Props/C06.lean), and the tasks of waitEvent generators and
`TimeoutError` carriers are transient (`transient_task_consumed`, `wait_exc_tasks_only_from_handlers_partial`,
`transient_tasks_by_phase` there).

The relation `St.W6BT P s s'` ("tasks added satisfy `P`; duplicate-free lists stay duplicate-free") is pushed
through the helpers and the arms of `step` (lemmas tagged `st_pres`, see `CV/Proofs/Pres.lean`); arms that keep the view
(`St.W6V`, CV/Proofs/InvWaitView.lean) keep the task sets.  Which step registers which task (`w6b_new_task_cases`) needs no
invariant; that the tasks of waitEvent generators and carriers come from `_on_done` / `_on_tick`
(`w6b_wait_exc_tasks_only_from_handlers`) needs `W6CInv`.
-/
namespace CV.Core

theorem St.w6b_unregisterTask_tasks (s : St) (r : Nat) (t : Task) (x : Nat) :
    ((s.unregisterTask r t).comp x).tasks = if x = s.rootOf r then (s.comp x).tasks.erase t else (s.comp x).tasks := by
  -- out of range the row is the default one, whose task list is empty
  rw [St.unregisterTask_tasks]
  by_cases hl : x < s.comps.length
  · simp only [hl, and_true]
  · rw [if_neg fun h => hl h.2, St.w6_comp_ge _ _ (Nat.le_of_not_lt hl)]; split <;> rfl

theorem w6b_mem_addUniq {α} [BEq α] [LawfulBEq α] (l : List α) (x y : α) : y ∈ addUniq l x ↔ y ∈ l ∨ y = x :=
  mem_addUniq l x y

theorem w6b_resume_event {n0 : Nat} {c : Cfg} (h : W6CInv n0 c) (w : Nat) (hr : W6ResumesW c w) :
    ∃ src, (c.st.wait w).event = some src :=
  Option.isSome_iff_exists.1 (h.w.1.flag_event (w6_resume_flag h w hr))

theorem St.w6b_resumeGenPre_silent (s : St) (p pe ph o : Nat) (rest : Prog) (st : Nat) (pc : Option Bool) (sd : Bool)
    (hp : s.gen p = .user pe ph o rest st pc sd) :
    s.resumeGenPre p true = s.setGen p (.user pe ph o rest (st + 1) pc true) := by
  unfold St.resumeGenPre; rw [hp]; rfl

/-- PARTIAL because of the two hypotheses `t.parent = some p` and `gen p = .user …`:
    * `W6View.TaskOk` (CV/Proofs/InvWaitG.lean) says only "IF `t.parent = some p` THEN `p` is not a waitEvent generator";
      that every task with a `.wait` generator has a parent is true of the model (`onWaitDone` is the only
      producer, see `w6b_wait_exc_tasks_only_from_handlers`) but is not part of `W6CInv` for the task held in a
      `ptBody` frame;
    * "`p` is a live `.user` record" is not part of `W6CInv` either (it gives only `NonWait p`); it needs an ownership
      invariant ("the `parentGen` of a pending wait state is a suspended live user generator that no other task or frame
      refers to").  What it excludes: the uncaught task step of a `TimeoutError` carrier with parent `p`
      (`Cfg.ptBodyExc`) does `setGen p .dead`; were `p` suspended in `w` at that time, `Cfg.ptBodyWait` would take the
      arm `| _ => c.pop k s1`, drop the resumption task and never resume the caller. -/
theorem w6b_caller_completes_partial {n0 : Nat} {c : Cfg} (h : W6CInv n0 c) (w r : Nat) (t : Task) (k : List Frame)
    (hs : c.stack = .ptBody r t :: k) (hx : c.exn = none) (hg : c.st.gen t.g = .wait w)
    (hok : (c.st.removeHandler (c.st.wait w).hDone (some ((c.st.wait w).evName.child sfxDone))).1 = true) :
    ∃ src, (c.st.wait w).event = some src ∧
      ∀ p, t.parent = some p → ∀ pe ph o rest st pc sd, c.st.gen p = .user pe ph o rest st pc sd →
        (step c).stack = .stepGen p :: .ptParent r t p false :: k ∧ (step c).exn = none ∧
        (step c).st.gen p = .user pe ph o rest (st + 1) pc true ∧
        (∀ x, ((step c).st.comp x).tasks =
          if x = c.st.rootOf r then (c.st.comp x).tasks.erase t else (c.st.comp x).tasks) ∧
        (step c).st.log = .resumed pe ph src (c.st.ev src).val.view (c.st.ev src).val.errors :: c.st.log := by
  obtain ⟨src, hsrc⟩ := w6b_resume_event h w ⟨r, t, k, hs, hx, hg, hok⟩
  refine ⟨src, hsrc, ?_⟩
  intro p hp pe ph o rest st pc sd hgp
  have hplt := c.st.w6_gen_lt_of_user p hgp
  have hstep : step c = c.ptBodyWait k r t w := by
    rw [w6_step_ptBody c r t k hs hx, Cfg.w6_ptBody_wait c k r t hg]
  have hgp1 : (((c.st.removeHandler (c.st.wait w).hDone (some ((c.st.wait w).evName.child sfxDone))).2.unregisterTask r t).gen p)
      = .user pe ph o rest st pc sd := by simpa using hgp
  rw [hstep]
  unfold Cfg.ptBodyWait
  simp only [hok, hsrc, hp, Bool.not_true, Bool.false_eq_true, if_false]
  rw [hgp1]
  dsimp only
  rw [St.w6b_resumeGenPre_silent _ p pe ph o rest st pc sd (by simpa using hgp)]
  refine ⟨rfl, hx, ?_, ?_, ?_⟩
  · simp only [Cfg.goto_st]
    rw [St.w6_setGen_gen_lt _ _ _ (by simpa using hplt)]
  · intro x
    simp only [Cfg.goto_st, St.w6_setGen_comp, St.w6_logE_comp]
    rw [St.w6b_unregisterTask_tasks, St.removeHandler_rootOf, St.w6_removeHandler_tasks]
  · simp [Cfg.goto_st, St.logE]

structure St.W6BT (P : Task → Prop) (s s' : St) : Prop where
  add : ∀ x t, t ∈ (s'.comp x).tasks → t ∈ (s.comp x).tasks ∨ P t
  nodup : ∀ x, (s.comp x).tasks.Nodup → (s'.comp x).tasks.Nodup

namespace St.W6BT
variable {P : Task → Prop}

@[st_pres ↓] theorem refl (s : St) : St.W6BT P s s := ⟨fun _ _ h => Or.inl h, fun _ h => h⟩

theorem trans {a b c : St} (h1 : St.W6BT P a b) (h2 : St.W6BT P b c) : St.W6BT P a c :=
  ⟨fun x t ht => (h2.add x t ht).elim (h1.add x t) Or.inr, fun x h => h2.nodup x (h1.nodup x h)⟩

theorem mono {Q : Task → Prop} {a b : St} (h : St.W6BT P a b) (hpq : ∀ t, P t → Q t) : St.W6BT Q a b :=
  ⟨fun x t ht => (h.add x t ht).elim Or.inl (fun hp => Or.inr (hpq t hp)), h.nodup⟩

variable {s t : St}

theorem same (h : St.W6BT P s t) (u : St) (hu : ∀ x, (u.comp x).tasks = (t.comp x).tasks) : St.W6BT P s u :=
  ⟨fun x y hy => h.add x y (by rwa [hu x] at hy), fun x hn => by rw [hu x]; exact h.nodup x hn⟩

theorem thenV (h : St.W6BT P s t) {u : St} (hv : St.W6V t u) : St.W6BT P s u :=
  h.same u (fun x => congrFun (congrArg W6View.tasks hv) x)

@[st_pres ↓] theorem modComp (h : St.W6BT P s t) (c : Nat) (f : Comp → Comp) (hf : ∀ x, (f x).tasks = x.tasks) :
    St.W6BT P s (t.modComp c f) := h.same _ (fun x => St.w6_modComp_comp_tasks t c f hf x)

@[st_pres ↓] theorem modEv (h : St.W6BT P s t) (c : Nat) (f : Ev → Ev) : St.W6BT P s (t.modEv c f) := h.same _ (fun _ => rfl)
@[st_pres ↓] theorem modTimer (h : St.W6BT P s t) (c : Nat) (f : TimerSt → TimerSt) : St.W6BT P s (t.modTimer c f) := h.same _ (fun _ => rfl)
@[st_pres ↓] theorem modWait (h : St.W6BT P s t) (c : Nat) (f : WaitSt → WaitSt) : St.W6BT P s (t.modWait c f) := h.same _ (fun _ => rfl)
@[st_pres ↓] theorem tick1 (h : St.W6BT P s t) (d : Int) : St.W6BT P s (t.tick1 d) := h.same _ (fun _ => rfl)
@[st_pres ↓] theorem logE (h : St.W6BT P s t) (x : Entry) : St.W6BT P s (t.logE x) := h.same _ (fun _ => rfl)
@[st_pres ↓] theorem addEv (h : St.W6BT P s t) (x : Ev) : St.W6BT P s (t.addEv x) := h.same _ (fun _ => rfl)
@[st_pres ↓] theorem setGen (h : St.W6BT P s t) (g : Nat) (x : GenRec) : St.W6BT P s (t.setGen g x) := h.same _ (fun _ => rfl)
@[st_pres ↓] theorem addGen (h : St.W6BT P s t) (x : GenRec) : St.W6BT P s (t.addGen x) := h.same _ (fun _ => rfl)
@[st_pres ↓] theorem addWait (h : St.W6BT P s t) (x : WaitSt) : St.W6BT P s (t.addWait x) := h.same _ (fun _ => rfl)
@[st_pres ↓] theorem addH (h : St.W6BT P s t) (x : Handler) : St.W6BT P s (t.addH x) := h.same _ (fun _ => rfl)

@[st_pres ↓] theorem addHandler (h : St.W6BT P s t) (x : Nat) : St.W6BT P s (t.addHandler x) :=
  h.same _ (fun c => (t.w6_addHandler_htab x c).1)

@[st_pres ↓] theorem removeHandler (h : St.W6BT P s t) (x : Nat) (n : Option Name) : St.W6BT P s (t.removeHandler x n).2 :=
  h.same _ (fun c => t.w6_removeHandler_tasks x n c)

@[st_pres ↓] theorem unregisterTask (h : St.W6BT P s t) (c : Nat) (x : Task) : St.W6BT P s (t.unregisterTask c x) := by
  refine ⟨fun y z hz => ?_, fun y hn => ?_⟩
  · rw [St.w6b_unregisterTask_tasks] at hz
    split at hz
    · exact h.add y z (List.mem_of_mem_erase hz)
    · exact h.add y z hz
  · rw [St.w6b_unregisterTask_tasks]
    split
    · exact (h.nodup y hn).erase _
    · exact h.nodup y hn

theorem registerTask (h : St.W6BT P s t) (c : Nat) (x : Task) (hx : P x) : St.W6BT P s (t.registerTask c x) := by
  refine ⟨fun y z hz => ?_, fun y hn => ?_⟩
  · rw [St.registerTask_tasks] at hz
    split at hz
    · rcases (mem_addUniq _ _ _).1 hz with hz | hz
      · exact h.add y z hz
      · subst hz; exact Or.inr hx
    · exact h.add y z hz
  · rw [St.registerTask_tasks]
    split
    · exact addUniq_nodup _ _ (h.nodup y hn)
    · exact h.nodup y hn

end St.W6BT

@[st_pres ↓] theorem St.W6BT.fireTmplEv {P : Task → Prop} {s t : St} (h : St.W6BT P s t) (self : Nat) (ev : Ev) (target : Option Chan) (prio : Int) :
    St.W6BT P s (t.fireTmplEv self ev target prio) := h.thenV (St.W6V.fireTmplEv (St.W6V.refl _) self ev target prio)

@[st_pres ↓] theorem St.W6BT.fireChild {P : Task → Prop} {s t : St} (h : St.W6BT P s t) (self p sfx : Nat) (chans : List Chan) :
    St.W6BT P s (t.fireChild self p sfx chans) := h.thenV (St.W6V.fireChild (St.W6V.refl _) self p sfx chans)

@[st_pres ↓] theorem St.W6BT.inform {P : Task → Prop} {s t : St} (h : St.W6BT P s t) (e : Nat) (force : Bool) :
    St.W6BT P s (t.inform e force) := h.thenV (St.W6V.inform (St.W6V.refl _) e force)

@[st_pres ↓] theorem St.W6BT.setValue {P : Task → Prop} {s t : St} (h : St.W6BT P s t) (e : Nat) (x : VItem) :
    St.W6BT P s (t.setValue e x) := h.thenV (St.W6V.setValue (St.W6V.refl _) e x)

@[st_pres ↓] theorem St.W6BT.setValueOpt {P : Task → Prop} {s t : St} (h : St.W6BT P s t) (e : Nat) (v : Option Nat) :
    St.W6BT P s (t.setValueOpt e v) := h.thenV (St.W6V.setValueOpt (St.W6V.refl _) e v)

@[st_pres ↓] theorem St.W6BT.fireException {P : Task → Prop} {s t : St} (h : St.W6BT P s t) (r e : Nat) :
    St.W6BT P s (t.fireException r e) := h.thenV (St.W6V.fireException (St.W6V.refl _) r e)

@[st_pres ↓] theorem St.W6BT.actFire {P : Task → Prop} {s t : St} (h : St.W6BT P s t) (self i : Nat) (target : Option Chan) (prio : Int) (cancel : Bool) :
    St.W6BT P s (t.actFire self i target prio cancel) := h.thenV (St.W6V.actFire (St.W6V.refl _) self i target prio cancel)

@[st_pres ↓] theorem St.W6BT.actStopEv {P : Task → Prop} {s t : St} (h : St.W6BT P s t) (ev : Option Nat) :
    St.W6BT P s (t.actStopEv ev) := h.thenV (St.W6V.actStopEv (St.W6V.refl _) ev)

@[st_pres ↓] theorem St.W6BT.unregister {P : Task → Prop} {s t : St} (h : St.W6BT P s t) (c : Nat) :
    St.W6BT P s (t.unregister c) := h.thenV (St.W6V.unregister (St.W6V.refl _) c)

@[st_pres ↓] theorem St.W6BT.timerReset {P : Task → Prop} {s t : St} (h : St.W6BT P s t) (i : Nat) :
    St.W6BT P s (t.timerReset i) := h.thenV (St.W6V.timerReset (St.W6V.refl _) i)

@[st_pres ↓] theorem St.W6BT.timerTick {P : Task → Prop} {s t : St} (h : St.W6BT P s t) (i e : Nat) :
    St.W6BT P s (t.timerTick i e) := h.thenV (St.W6V.timerTick (St.W6V.refl _) i e)

@[st_pres ↓] theorem St.W6BT.prepUnregPre {P : Task → Prop} {s t : St} (h : St.W6BT P s t) (c : Nat) :
    St.W6BT P s (t.prepUnregPre c) := h.thenV (St.W6V.prepUnregPre (St.W6V.refl _) c)

@[st_pres ↓] theorem St.W6BT.dispComplete {P : Task → Prop} {s t : St} (h : St.W6BT P s t) (e : Nat) (ev : Ev) :
    St.W6BT P s (t.dispComplete e ev) := h.thenV (St.W6V.dispComplete (St.W6V.refl _) e ev)

@[st_pres ↓] theorem St.W6BT.cacheRefresh {P : Task → Prop} {s t : St} (h : St.W6BT P s t) (r : Nat) :
    St.W6BT P s (t.cacheRefresh r) := h.thenV (St.W6V.cacheRefresh (St.W6V.refl _) r)

@[st_pres ↓] theorem St.W6BT.dispGE {P : Task → Prop} {s t : St} (h : St.W6BT P s t) (r e remaining : Nat) (name : Name) :
    St.W6BT P s (t.dispGE r e remaining name) := h.thenV (St.W6V.dispGE (St.W6V.refl _) r e remaining name)

@[st_pres ↓] theorem St.W6BT.geTasksCheck {P : Task → Prop} {s t : St} (h : St.W6BT P s t) (r e : Nat) :
    St.W6BT P s (t.geTasksCheck r e) := h.thenV (St.W6V.geTasksCheck (St.W6V.refl _) r e)

@[st_pres ↓] theorem St.W6BT.onFallbackGE {P : Task → Prop} {s t : St} (h : St.W6BT P s t) (e : Nat) :
    St.W6BT P s ((t.onFallbackGE e).2) := h.thenV (St.W6V.onFallbackGE (St.W6V.refl _) e)

@[st_pres ↓] theorem St.W6BT.updateRootAll {P : Task → Prop} {s t : St} (h : St.W6BT P s t) (fuel : Nat) (todo : List Nat) (root : Nat) :
    St.W6BT P s (St.updateRootAll fuel todo root t) := h.thenV (St.W6V.updateRootAll _ _ _ _ _ (St.W6V.refl _))

@[st_pres ↓] theorem St.W6BT.resumeGenPre {P : Task → Prop} {s t : St} (h : St.W6BT P s t) (g : Nat) (silent : Bool) :
    St.W6BT P s (t.resumeGenPre g silent) := by
  st_pres_unfold St.resumeGenPre

@[st_pres ↓] theorem St.W6BT.genCall {P : Task → Prop} {s t : St} (h : St.W6BT P s t) (owner i : Nat) (target : Option Chan)
    (timeout : Option Nat) : St.W6BT P s (t.genCall owner i target timeout) := by
  st_pres_unfold St.genCall

@[st_pres ↓] theorem St.W6BT.genWait {P : Task → Prop} {s t : St} (h : St.W6BT P s t) (owner : Nat) (name : Name) (target : Option Chan)
    (timeout : Option Nat) : St.W6BT P s (t.genWait owner name target timeout) := by
  st_pres_unfold St.genWait

@[st_pres ↓] theorem St.W6BT.startWait {P : Task → Prop} {s t : St} (h : St.W6BT P s t) (w : Nat) :
    St.W6BT P s (t.startWait w) :=
  St.startWait_pres t w h (fun _ _ => by st_pres) (fun _ _ _ _ _ h => by st_pres) (fun _ _ _ _ _ h => by st_pres)

/-- `errorBranch` registers no task after its `unregisterTask` -/
theorem St.W6BT.errorBranch_from {P : Task → Prop} {s t : St} (r : Nat) (x : Task) (h : St.W6BT P s (t.unregisterTask r x)) (resumed : Bool) :
    St.W6BT P s (t.errorBranch r x resumed).2 :=
  St.errorBranch_pres t r x resumed h (fun _ h => by st_pres) (fun _ h => by st_pres)
    (fun _ _ h => by st_pres) (fun _ _ h => by st_pres) (fun _ h => by st_pres) (fun _ _ h => by st_pres)

@[st_pres ↓] theorem St.W6BT.errorBranch {P : Task → Prop} {s t : St} (h : St.W6BT P s t) (r : Nat) (x : Task) (resumed : Bool) :
    St.W6BT P s (t.errorBranch r x resumed).2 :=
  St.W6BT.errorBranch_from r x (h.unregisterTask r x) resumed

@[st_pres ↓] theorem St.W6BT.ownSub {P : Task → Prop} {s t : St} (h : St.W6BT P s t) (r : Nat) (x : Task) (w : Nat) :
    St.W6BT P s (t.ownSub r x w) := by
  st_pres_unfold St.ownSub

@[st_pres ↓] theorem St.W6BT.onWaitEvent {P : Task → Prop} {s t : St} (h : St.W6BT P s t) (w e : Nat) :
    St.W6BT P s (t.onWaitEvent w e).2 := by
  st_pres_unfold St.onWaitEvent

@[st_pres ↓] theorem St.W6BT.computeHandlers {P : Task → Prop} {s t : St} (h : St.W6BT P s t) (r : Nat) (name : Name) (chans : List Chan) :
    St.W6BT P s (t.computeHandlers r name chans).2 := by
  st_pres_unfold St.computeHandlers

@[st_pres ↓] theorem St.W6BT.lookupHandlers {P : Task → Prop} {s t : St} (h : St.W6BT P s t) (r : Nat) (name : Name) (chans : List Chan) :
    St.W6BT P s (t.lookupHandlers r name chans).2 := by
  st_pres_unfold St.lookupHandlers

@[st_pres ↓] theorem St.W6BT.dispatchPre {P : Task → Prop} {s t : St} (h : St.W6BT P s t) (r e remaining : Nat) :
    St.W6BT P s (t.dispatchPre r e remaining).2 := by
  st_pres_unfold St.dispatchPre

@[st_pres ↓] theorem St.W6BT.actStep {P : Task → Prop} {s t : St} (h : St.W6BT P s t) (ctx : HCtx) (a : Act) :
    St.W6BT P s (actStep t ctx a).st := by
  cases a <;> st_pres_unfold CV.Core.actStep

/-- `except StopIteration`: the only task registered is the bare parent `⟨e, p, none⟩` -/
theorem St.W6BT.stopIteration_from {P : Task → Prop} {s t : St} (r : Nat) (x : Task)
    (h : St.W6BT P s ((t.modEv x.e fun y => { y with waiting := y.waiting - 1 }).unregisterTask r x))
    (hp : ∀ p, x.parent = some p → P ⟨x.e, p, none⟩) : St.W6BT P s (t.stopIteration r x).2 := by
  unfold St.stopIteration
  dsimp only
  split
  · rename_i p hpp
    exact St.W6BT.registerTask h _ _ (hp p hpp)
  · st_pres

theorem St.W6BT.stopIteration {P : Task → Prop} {s t : St} (h : St.W6BT P s t) (r : Nat) (x : Task)
    (hp : ∀ p, x.parent = some p → P ⟨x.e, p, none⟩) : St.W6BT P s (t.stopIteration r x).2 :=
  St.W6BT.stopIteration_from r x (by st_pres) hp

theorem St.W6BT.parentSub {P : Task → Prop} {s t : St} (h : St.W6BT P s t) (r : Nat) (x : Task) (p w2 : Nat) (viaThrow : Bool)
    (hp : viaThrow = true → P ⟨x.e, t.gens.length, some p⟩) : St.W6BT P s (t.parentSub r x p w2 viaThrow) := by
  unfold St.parentSub
  split
  · rename_i hv
    exact St.W6BT.registerTask (by st_pres) _ _ (hp hv)
  · st_pres

theorem St.W6BT.parentPlain {P : Task → Prop} {s t : St} (h : St.W6BT P s t) (r : Nat) (x : Task) (p : Nat) (v : Option Nat)
    (viaThrow : Bool) (hp1 : viaThrow = true → P ⟨x.e, t.gens.length, some p⟩) (hp2 : viaThrow = false → P ⟨x.e, p, none⟩) :
    St.W6BT P s (t.parentPlain r x p v viaThrow) := by
  unfold St.parentPlain
  split
  · rename_i hv
    exact St.W6BT.registerTask (by st_pres) _ _ (hp1 hv)
  · rename_i hv
    exact St.W6BT.registerTask (by st_pres) _ _ (hp2 (by simpa using hv))

theorem St.W6BT.applyValue {P : Task → Prop} {s t : St} (h : St.W6BT P s t) (r e : Nat) (value : Outcome)
    (hp : ∀ g, value = .gen g → P ⟨e, g, none⟩) : St.W6BT P s (t.applyValue r e value) := by
  unfold St.applyValue
  split
  · st_pres
  · rename_i g
    exact St.W6BT.registerTask (by st_pres) _ _ (hp g rfl)
  · st_pres
  · st_pres

theorem St.W6BT.onWaitDone {P : Task → Prop} {s t : St} (h : St.W6BT P s t) (w e : Nat)
    (hp : P ⟨(t.wait w).taskEvent, (t.wait w).task, some (t.wait w).parentGen⟩) : St.W6BT P s (t.onWaitDone w e).2 :=
  St.onWaitDone_pres t w e h (fun _ _ _ h => by st_pres) (fun _ _ => St.W6BT.registerTask (h.modWait _ _) _ _ hp)

theorem St.W6BT.onWaitTick {P : Task → Prop} {s t : St} (h : St.W6BT P s t) (w : Nat)
    (hp : (t.wait w).timeout = 0 → P ⟨(t.wait w).taskEvent, t.gens.length, some (t.wait w).parentGen⟩) :
    St.W6BT P s (t.onWaitTick w).2 :=
  St.onWaitTick_pres t w h (fun _ _ _ h => by st_pres)
    (fun _ _ h0 => St.W6BT.registerTask ((h.modWait _ _).addGen _) _ _ (hp h0)) (by st_pres)

/-- the operations of the arms `acts`, `stepGen`, `dispatcher`, which change the view but register no task -/
theorem St.W6BT.keeps (P : Task → Prop) (s : St) (o : Op)
    (ho : o ∈ [Op.actStep, .setGenDead, .setGenUser, .genCall, .genWait, .dispatchPre]) : o.Keeps (St.W6BT P s) := by
  simp only [List.mem_cons, List.not_mem_nil, or_false] at ho
  rcases ho with rfl | rfl | rfl | rfl | rfl | rfl <;> (intro t h; intros; st_pres)

/-- the bare parent task `⟨e, p, none⟩` that `except StopIteration` re-registers -/
def w6b_PStop (t : Task) : Task → Prop := fun t' => ∃ p, t.parent = some p ∧ t' = ⟨t.e, p, none⟩

theorem w6b_PStop.intro (t : Task) : ∀ p, t.parent = some p → w6b_PStop t ⟨t.e, p, none⟩ := fun p hp => ⟨p, hp, rfl⟩

@[st_pres ↓] theorem Cfg.w6b_contStop_t {P : Task → Prop} {s0 : St} (c : Cfg) (k : List Frame) (s : St) (r : Nat) (x : Task)
    (hle : St.W6BT P s0 s) (hp : ∀ p, x.parent = some p → P ⟨x.e, p, none⟩) : St.W6BT P s0 (c.contStop k s r x).st :=
  pred_ite_st (hle.stopIteration r x hp) (hle.stopIteration r x hp)

@[st_pres ↓] theorem Cfg.w6b_contError_t {P : Task → Prop} {s0 : St} (c : Cfg) (k : List Frame) (s : St) (r : Nat) (x : Task) (resumed : Bool)
    (hle : St.W6BT P s0 s) : St.W6BT P s0 (c.contError k s r x resumed).st :=
  Cfg.contError_pres c k (fun h => h.errorBranch) hle r x resumed

theorem Cfg.w6b_ptBody_t (c : Cfg) (k : List Frame) (r : Nat) (t : Task) :
    St.W6BT (w6b_PStop t) c.st (c.ptBody k r t).st := by
  have hp := w6b_PStop.intro t
  st_pres_unfold Cfg.ptBody Cfg.ptBodyWait Cfg.ptBodyExc

theorem Cfg.w6b_ptOwn_t (c : Cfg) (k : List Frame) (r : Nat) (t : Task) :
    St.W6BT (w6b_PStop t) c.st (c.ptOwn k r t).st := by
  have hp := w6b_PStop.intro t
  st_pres_unfold Cfg.ptOwn

/-- the tasks `ptParent r t p viaThrow` can register -/
def w6b_PPar (c : Cfg) (k : List Frame) (r : Nat) (t : Task) (p : Nat) (v : Bool) : Task → Prop := fun t' =>
  w6b_PStop t t' ∨ (v = false ∧ t' = ⟨t.e, p, none⟩) ∨
  (v = true ∧ t' = ⟨t.e, c.st.gens.length, some p⟩ ∧ ∃ y, (c.ptParent k r t p v).st.gen c.st.gens.length = .one y false)

theorem Cfg.w6b_ptParent_t (c : Cfg) (k : List Frame) (r : Nat) (t : Task) (p : Nat) (v : Bool) :
    St.W6BT (w6b_PPar c k r t p v) c.st (c.ptParent k r t p v).st := by
  have hp : ∀ p', t.parent = some p' → w6b_PPar c k r t p v ⟨t.e, p', none⟩ := fun p' hp => Or.inl ⟨p', hp, rfl⟩
  generalize hP : w6b_PPar c k r t p v = P at hp ⊢
  unfold Cfg.ptParent
  split
  · rename_i w2 heq
    simp only [Cfg.pop_st]
    refine (St.W6BT.refl _).parentSub r t p w2 v ?_
    intro hv; subst hP
    refine Or.inr (Or.inr ⟨hv, rfl, none, ?_⟩)
    unfold Cfg.ptParent; rw [heq]
    simp only [Cfg.pop_st, St.parentSub, hv, if_true, St.w6_registerTask_gen, St.w6_addGen_gen]
  · rename_i y heq
    simp only [Cfg.pop_st]
    refine (St.W6BT.refl _).parentPlain r t p y v ?_ ?_
    · intro hv; subst hP
      refine Or.inr (Or.inr ⟨hv, rfl, y, ?_⟩)
      unfold Cfg.ptParent; rw [heq]
      simp only [Cfg.pop_st, St.parentPlain, hv, if_true, St.w6_registerTask_gen, St.w6_addGen_gen]
    · intro hv; subst hP; exact Or.inr (Or.inl ⟨hv, rfl⟩)
  · st_pres
  · st_pres
  · st_pres
  · st_pres

@[st_pres ↓] theorem Cfg.w6b_invokeUser_t {P : Task → Prop} {s0 : St} (c : Cfg) (k : List Frame) (s : St) (h e owner p : Nat)
    (hle : St.W6BT P s0 s) : St.W6BT P s0 (c.invokeUser k s h e owner p).st := by
  st_pres_unfold Cfg.invokeUser

@[st_pres ↓] theorem Cfg.w6b_invokeSt_t {P : Task → Prop} (c : Cfg) (h e : Nat) : St.W6BT P c.st (c.w6_invokeSt h e) := by
  unfold Cfg.w6_invokeSt; st_pres

/-- the tasks `invoke r h e` can register: the resumption task of `_on_done`, the `TimeoutError` task of `_on_tick` -/
def w6b_PInv (c : Cfg) (h : Nat) : Task → Prop := fun t' =>
  (∃ w, (c.st.handler h).kind = .waitDone w ∧
    t' = ⟨(c.st.wait w).taskEvent, (c.st.wait w).task, some (c.st.wait w).parentGen⟩) ∨
  (∃ w, (c.st.handler h).kind = .waitTick w ∧ (c.st.wait w).timeout = 0 ∧
    t' = ⟨(c.st.wait w).taskEvent, c.st.gens.length, some (c.st.wait w).parentGen⟩)

theorem Cfg.w6b_invoke_t (c : Cfg) (k : List Frame) (r h e : Nat) :
    St.W6BT (w6b_PInv c h) c.st (c.invoke k r h e).st := by
  cases hk : (c.st.handler h).kind with
  | waitEvent w =>
    rw [Cfg.w6_invoke_waitEvent c k r h e w hk]
    exact (Cfg.w6b_invokeSt_t c h e).onWaitEvent w e
  | waitDone w =>
    rw [Cfg.w6_invoke_waitDone c k r h e w hk]
    refine (Cfg.w6b_invokeSt_t c h e).onWaitDone w e ?_
    rw [Cfg.w6_invokeSt_wait]
    exact Or.inl ⟨w, hk, rfl⟩
  | waitTick w =>
    rw [Cfg.w6_invoke_waitTick c k r h e w hk]
    refine (Cfg.w6b_invokeSt_t c h e).onWaitTick w ?_
    rw [Cfg.w6_invokeSt_wait, Cfg.w6_invokeSt_gens]
    intro h0
    exact Or.inr ⟨w, hk, h0, rfl⟩
  | _ => rw [Cfg.invoke_eq, hk]; dsimp only; st_pres

theorem Cfg.w6b_hApply_t (c : Cfg) (k : List Frame) (r e : Nat) (rest : List Nat) (err : Bool) (value : Outcome) :
    St.W6BT (fun t' => ∃ g, value = .gen g ∧ t' = ⟨e, g, none⟩) c.st (c.hApply k r e rest err value).st := by
  unfold Cfg.hApply
  dsimp only
  split <;>
    (simp only [Cfg.goto_st]
     exact ((St.W6BT.refl _).applyValue r e value (fun g hg => ⟨g, hg, rfl⟩)).geTasksCheck r e)

/-- the steps that can put a new task `t'` into a task set, with the task they register -/
def W6BNewTask (c : Cfg) (t' : Task) : Prop :=
  (∃ r e rest err g k, c.stack = .hApply r e rest err (.gen g) :: k ∧ t' = ⟨e, g, none⟩) ∨
  (∃ r t k p, (c.stack = .ptBody r t :: k ∨ c.stack = .ptOwn r t :: k ∨ ∃ p' v, c.stack = .ptParent r t p' v :: k) ∧
    t.parent = some p ∧ t' = ⟨t.e, p, none⟩) ∨
  (∃ r t p k, c.stack = .ptParent r t p false :: k ∧ t' = ⟨t.e, p, none⟩) ∨
  (∃ r t p k, c.stack = .ptParent r t p true :: k ∧ t' = ⟨t.e, c.st.gens.length, some p⟩ ∧
    ∃ y, (step c).st.gen c.st.gens.length = .one y false) ∨
  (∃ r h e k w, c.stack = .invoke r h e :: k ∧ (c.st.handler h).kind = .waitDone w ∧
    t' = ⟨(c.st.wait w).taskEvent, (c.st.wait w).task, some (c.st.wait w).parentGen⟩) ∨
  (∃ r h e k w, c.stack = .invoke r h e :: k ∧ (c.st.handler h).kind = .waitTick w ∧ (c.st.wait w).timeout = 0 ∧
    t' = ⟨(c.st.wait w).taskEvent, c.st.gens.length, some (c.st.wait w).parentGen⟩)

theorem w6b_step_tasks (c : Cfg) :
    ∃ P : Task → Prop, St.W6BT P c.st (step c).st ∧ ∀ t', P t' → c.exn = none ∧ W6BNewTask c t' := by
  cases hst : c.stack with
  | nil =>
    rw [step_nil c hst]
    exact ⟨fun _ => False, St.W6BT.refl _, fun _ h => h.elim⟩
  | cons f k =>
    cases hx : c.exn with
    | some ex =>
      rw [step_cons_exn c f k ex hst hx]
      exact ⟨fun _ => False, (St.W6BT.refl _).thenV (w6_unwind_v c k ex f), fun _ h => h.elim⟩
    | none =>
      have hstep := step_cons c f k hst hx
      rw [hstep]
      cases f
      case ptBody r t =>
        refine ⟨_, Cfg.w6b_ptBody_t c k r t, ?_⟩
        rintro t' ⟨p, hp, rfl⟩
        exact ⟨rfl, Or.inr (Or.inl ⟨r, t, k, p, Or.inl hst, hp, rfl⟩)⟩
      case ptOwn r t =>
        refine ⟨_, Cfg.w6b_ptOwn_t c k r t, ?_⟩
        rintro t' ⟨p, hp, rfl⟩
        exact ⟨rfl, Or.inr (Or.inl ⟨r, t, k, p, Or.inr (Or.inl hst), hp, rfl⟩)⟩
      case ptParent r t p v =>
        refine ⟨_, Cfg.w6b_ptParent_t c k r t p v, ?_⟩
        rintro t' (⟨p', hp', rfl⟩ | ⟨hv, rfl⟩ | ⟨hv, rfl, y, hy⟩)
        · exact ⟨rfl, Or.inr (Or.inl ⟨r, t, k, p', Or.inr (Or.inr ⟨p, v, hst⟩), hp', rfl⟩)⟩
        · subst hv
          exact ⟨rfl, Or.inr (Or.inr (Or.inl ⟨r, t, p, k, hst, rfl⟩))⟩
        · subst hv
          exact ⟨rfl, Or.inr (Or.inr (Or.inr (Or.inl ⟨r, t, p, k, hst, rfl, y, by rw [hstep]; exact hy⟩)))⟩
      case invoke r h e =>
        refine ⟨_, Cfg.w6b_invoke_t c k r h e, ?_⟩
        rintro t' (⟨w, hk, rfl⟩ | ⟨w, hk, h0, rfl⟩)
        · exact ⟨rfl, Or.inr (Or.inr (Or.inr (Or.inr (Or.inl ⟨r, h, e, k, w, hst, hk, rfl⟩))))⟩
        · exact ⟨rfl, Or.inr (Or.inr (Or.inr (Or.inr (Or.inr ⟨r, h, e, k, w, hst, hk, h0, rfl⟩))))⟩
      case hApply r e rest err value =>
        refine ⟨_, Cfg.w6b_hApply_t c k r e rest err value, ?_⟩
        rintro t' ⟨g, rfl, rfl⟩
        exact ⟨rfl, Or.inl ⟨r, e, rest, err, g, k, hst, rfl⟩⟩
      case acts | stepGen | dispatcher =>
        exact ⟨fun _ => False, stepFrame_pres c k _ (fun o ho => St.W6BT.keeps _ _ o (by revert o; dsimp only [Frame.ops]; decide)) (St.W6BT.refl _),
          fun _ h => h.elim⟩
      -- an arm that keeps the view keeps the task sets
      all_goals exact ⟨fun _ => False, (St.W6BT.refl _).thenV (w6_stepFrame_v c k _ rfl), fun _ h => h.elim⟩

theorem w6b_new_task_cases (c : Cfg) (x : Nat) (t' : Task) (hnew : t' ∈ ((step c).st.comp x).tasks)
    (hold : t' ∉ (c.st.comp x).tasks) : c.exn = none ∧ W6BNewTask c t' := by
  obtain ⟨P, hT, hP⟩ := w6b_step_tasks c
  rcases hT.add x t' hnew with h | h
  · exact absurd h hold
  · exact hP t' h

/-- `addUniq` / `erase` are the only operations on task lists -/
theorem w6b_step_nodup (c : Cfg) (x : Nat) (h : (c.st.comp x).tasks.Nodup) : ((step c).st.comp x).tasks.Nodup := by
  obtain ⟨P, hT, _⟩ := w6b_step_tasks c
  exact hT.nodup x h

theorem w6b_tasks_nodup {s0 : St} (hi : ∀ x, (s0.comp x).tasks = []) {c : Cfg} (h : Reach s0 c) :
    ∀ x, (c.st.comp x).tasks.Nodup :=
  Reach.inv_st (fun s => ∀ x, (s.comp x).tasks.Nodup) (fun x => by rw [hi x]; exact List.nodup_nil) (fun _ _ _ h => h)
    (fun c h x => w6b_step_nodup c x (h x)) c h

theorem w6b_nonwait_step {c : Cfg} {g : Nat} (hn : c.st.w6_view.NonWait g) (w : Nat) (hg : (step c).st.gen g = .wait w) :
    False := by
  have := (W6View.NonWait.ofS (w6_step_s c) hn).2
  rw [show (step c).st.w6_view.gen g = (step c).st.gen g from rfl, hg] at this
  cases this

/-- PARTIAL in the side condition `t'.parent ≠ none` of the second clause.  Without it the structural theorem
    (`w6b_new_task_cases`) leaves the cases "`hApply` registers `⟨e, g, none⟩`" / "`StopIteration` registers `⟨e, p, none⟩`"
    with `g` / `p` an already existing `.exc` generator; the invariant `W6CInv` only says that such `g`, `p` are not
    waitEvent generators (`NonWait`), it does not say they are not `.exc` generators.  In the model they never are: `.exc`
    ids are only ever used as the `g` of the task `_on_tick` registers. -/
theorem w6b_wait_exc_tasks_only_from_handlers {n0 : Nat} {c : Cfg} (h : W6CInv n0 c) (x : Nat) (t' : Task)
    (hnew : t' ∈ ((step c).st.comp x).tasks) (hold : t' ∉ (c.st.comp x).tasks) :
    (∀ w, (step c).st.gen t'.g = .wait w →
      ∃ r hh e k, c.stack = .invoke r hh e :: k ∧ c.exn = none ∧ (c.st.handler hh).kind = .waitDone w ∧
        t' = ⟨(c.st.wait w).taskEvent, (c.st.wait w).task, some (c.st.wait w).parentGen⟩) ∧
    (∀ w b, (step c).st.gen t'.g = .exc w b → t'.parent ≠ none →
      ∃ r hh e k, c.stack = .invoke r hh e :: k ∧ c.exn = none ∧ (c.st.handler hh).kind = .waitTick w ∧
        (c.st.wait w).timeout = 0 ∧ b = false ∧
        t' = ⟨(c.st.wait w).taskEvent, c.st.gens.length, some (c.st.wait w).parentGen⟩) := by
  obtain ⟨hx, hc⟩ := w6b_new_task_cases c x t' hnew hold
  unfold W6BNewTask at hc
  rcases hc with ⟨r, e, rest, err, g, k, hs, rfl⟩ | ⟨r, t, k, p, hs, hp, rfl⟩ | ⟨r, t, p, k, hs, rfl⟩ |
    ⟨r, t, p, k, hs, rfl, y, hy⟩ | ⟨r, hh, e, k, w0, hs, hk, rfl⟩ | ⟨r, hh, e, k, w0, hs, hk, h0, rfl⟩
  -- in the first three cases the task has no parent and its generator is not a waitEvent generator
  · exact ⟨fun w hg => (w6b_nonwait_step ((show W6OutOk c.st (.gen g) from h.headFrame hs) g rfl) w hg).elim,
      fun _ _ _ hpar => absurd rfl hpar⟩
  · have hT : c.st.w6_view.TaskOk t := by
      rcases hs with hs | hs | ⟨p', v, hs⟩
      · exact h.headFrame hs
      · exact (show c.st.w6_view.TaskOk t ∧ c.st.w6_view.NonWait t.g from h.headFrame hs).1
      · exact (show c.st.w6_view.TaskOk t ∧ c.st.w6_view.NonWait p' from h.headFrame hs).1
    exact ⟨fun w hg => (w6b_nonwait_step (hT.2.2 p hp) w hg).elim, fun _ _ _ hpar => absurd rfl hpar⟩
  · exact ⟨fun w hg => (w6b_nonwait_step (show c.st.w6_view.TaskOk t ∧ c.st.w6_view.NonWait p from h.headFrame hs).2 w hg).elim,
      fun _ _ _ hpar => absurd rfl hpar⟩
  · -- the task of a value thrown back: its generator is a fresh `.one` record
    exact ⟨fun w hg => by (rw [show (step c).st.gen c.st.gens.length = _ from hy] at hg; cases hg),
      fun w b hg _ => by (rw [show (step c).st.gen c.st.gens.length = _ from hy] at hg; cases hg)⟩
  · -- the task `_on_done` of `w0` registers: its generator is, and stays, the waitEvent generator of `w0`
    obtain ⟨k1, _, _⟩ := h.w.1.kindDone hh w0 (handler_lt_of_kind (by rw [hk]; nofun)) hk
    have k1' : w0 < c.st.waits.length := k1
    have e1 : (step c).st.gen (c.st.wait w0).task = .wait w0 := by
      have := ((w6_step_cinv c h).w.2.taskGen w0 (Nat.lt_of_lt_of_le k1' (w6_step_s c).waitsLen)).2
      rw [← ((w6_step_s c).ident w0 k1').2.2]
      exact this
    refine ⟨fun w hg => ?_, fun w b hg _ => ?_⟩
    · rw [show (step c).st.gen (c.st.wait w0).task = _ from e1] at hg
      injection hg with hg; subst hg
      exact ⟨r, hh, e, k, hs, hx, hk, rfl⟩
    · rw [show (step c).st.gen (c.st.wait w0).task = _ from e1] at hg; cases hg
  · -- the task `_on_tick` of `w0` registers at countdown 0: its generator is the last one, the carrier if it exists at all
    have hg0 : (step c).st.gen c.st.gens.length = dfltGen ∨ (step c).st.gen c.st.gens.length = .exc w0 false := by
      rw [w6_step_invoke c r hh e k hs hx, Cfg.w6_invoke_waitTick c k r hh e w0 hk,
        ((c.w6_invokeSt hh e).onWaitTick_compsOnly w0).gen]
      have hd : ∀ u : St, u.gens = c.st.gens → u.gen c.st.gens.length = dfltGen := fun u hu => by
        rw [← hu]; exact St.w6_gen_ge _ _ (Nat.le_refl _)
      split
      · exact Or.inl (hd _ (Cfg.w6_invokeSt_gens ..))
      · split
        · right; rw [St.w6_addGen_gen, if_pos (by rw [St.w6_modWait_gens, Cfg.w6_invokeSt_gens])]
        · split <;> exact Or.inl (hd _ (Cfg.w6_invokeSt_gens ..))
    refine ⟨fun w hg => ?_, fun w b hg _ => ?_⟩
    · rcases hg0 with h1 | h1 <;> (rw [show (step c).st.gen c.st.gens.length = _ from h1] at hg; cases hg)
    · rcases hg0 with h1 | h1 <;> rw [show (step c).st.gen c.st.gens.length = _ from h1] at hg
      · cases hg
      · injection hg with a1 a2
        subst a1
        exact ⟨r, hh, e, k, hs, hx, hk, h0, a2.symm, rfl⟩

theorem w6b_PStop_self (t : Task) : ¬ w6b_PStop t t := by
  rintro ⟨p, hp, heq⟩
  have := congrArg Task.parent heq
  rw [hp] at this; cases this

theorem w6b_gone {P : Task → Prop} {s1 s' : St} (hT : St.W6BT P s1 s') (x : Nat) (t : Task)
    (h1 : t ∉ (s1.comp x).tasks) (hP : ¬ P t) : t ∉ (s'.comp x).tasks :=
  fun hm => (hT.add x t hm).elim h1 hP

theorem St.w6b_erase_gone (s : St) (r : Nat) (t : Task) (hn : (s.comp (s.rootOf r)).tasks.Nodup) :
    t ∉ ((s.unregisterTask r t).comp (s.rootOf r)).tasks := by
  rw [St.w6b_unregisterTask_tasks, if_pos rfl]
  exact fun hm => ((List.Nodup.mem_erase_iff hn).1 hm).1 rfl

theorem Cfg.w6b_contStop_gone (c : Cfg) (k : List Frame) (s : St) (r : Nat) (t : Task)
    (hn : (s.comp (s.rootOf r)).tasks.Nodup) : t ∉ ((c.contStop k s r t).st.comp (s.rootOf r)).tasks := by
  have h1 : t ∉ (((s.modEv t.e fun x => { x with waiting := x.waiting - 1 }).unregisterTask r t).comp (s.rootOf r)).tasks :=
    St.w6b_erase_gone (s.modEv t.e fun x => { x with waiting := x.waiting - 1 }) r t hn
  have hT : St.W6BT (w6b_PStop t) ((s.modEv t.e fun x => { x with waiting := x.waiting - 1 }).unregisterTask r t)
      (s.stopIteration r t).2 := St.W6BT.stopIteration_from r t (St.W6BT.refl _) (w6b_PStop.intro t)
  rw [Cfg.contStop_st]
  exact w6b_gone hT _ _ h1 (w6b_PStop_self t)

theorem Cfg.w6b_contError_gone (c : Cfg) (k : List Frame) (s : St) (r : Nat) (t : Task) (resumed : Bool)
    (hn : (s.comp (s.rootOf r)).tasks.Nodup) : t ∉ ((c.contError k s r t resumed).st.comp (s.rootOf r)).tasks := by
  have h1 : t ∉ ((s.unregisterTask r t).comp (s.rootOf r)).tasks := St.w6b_erase_gone s r t hn
  have hT : St.W6BT (fun _ => False) (s.unregisterTask r t) (s.errorBranch r t resumed).2 :=
    St.W6BT.errorBranch_from r t (St.W6BT.refl _) resumed
  rw [Cfg.contError_st]
  exact w6b_gone hT _ _ h1 id

theorem Cfg.w6b_ptBodyExc_gone (c : Cfg) (k : List Frame) (r : Nat) (t : Task) (w : Nat) (fired : Bool)
    (hn : (c.st.comp (c.st.rootOf r)).tasks.Nodup) : t ∉ ((c.ptBodyExc k r t w fired).st.comp (c.st.rootOf r)).tasks := by
  unfold Cfg.ptBodyExc
  dsimp only
  split
  · exact Cfg.w6b_contStop_gone c k c.st r t hn
  · have h1 : t ∉ (((c.st.setGen t.g (.exc w true)).unregisterTask r t).comp (c.st.rootOf r)).tasks :=
      St.w6b_erase_gone (c.st.setGen t.g (.exc w true)) r t hn
    generalize (c.st.setGen t.g (.exc w true)).unregisterTask r t = s1 at h1 ⊢
    refine w6b_gone (P := fun _ => False) ?_ _ _ h1 id
    st_pres

theorem Cfg.w6b_ptBodyWait_gone (c : Cfg) (k : List Frame) (r : Nat) (t : Task) (w : Nat)
    (hn : (c.st.comp (c.st.rootOf r)).tasks.Nodup) : t ∉ ((c.ptBodyWait k r t w).st.comp (c.st.rootOf r)).tasks := by
  unfold Cfg.ptBodyWait
  dsimp only
  generalize hrm : c.st.removeHandler (c.st.wait w).hDone (some ((c.st.wait w).evName.child sfxDone)) = rm
  have hroot : rm.2.rootOf r = c.st.rootOf r := by rw [← hrm]; exact St.removeHandler_rootOf ..
  have hn' : (rm.2.comp (rm.2.rootOf r)).tasks.Nodup := by rw [hroot, ← hrm, St.w6_removeHandler_tasks]; exact hn
  split
  · have := Cfg.w6b_contError_gone c k rm.2 r t false hn'
    rwa [hroot] at this
  · split
    · have h1 : t ∉ ((rm.2.unregisterTask r t).comp (c.st.rootOf r)).tasks := by
        have := St.w6b_erase_gone rm.2 r t hn'
        rwa [hroot] at this
      generalize rm.2.unregisterTask r t = s1 at h1 ⊢
      refine w6b_gone (P := fun _ => False) ?_ _ _ h1 id
      st_pres
    · have := Cfg.w6b_contStop_gone c k rm.2 r t hn'
      rwa [hroot] at this

theorem w6b_task_consumed (c : Cfg) (r : Nat) (t : Task) (k : List Frame) (hs : c.stack = .ptBody r t :: k) (hx : c.exn = none)
    (hgen : (∃ w, c.st.gen t.g = .wait w) ∨ (∃ w b, c.st.gen t.g = .exc w b)) :
    (∀ x t', t' ∈ ((step c).st.comp x).tasks →
      t' ∈ (c.st.comp x).tasks ∨ ∃ p, t.parent = some p ∧ t' = ⟨t.e, p, none⟩) ∧
    ((c.st.comp (c.st.rootOf r)).tasks.Nodup → t ∉ ((step c).st.comp (c.st.rootOf r)).tasks) := by
  rw [w6_step_ptBody c r t k hs hx]
  refine ⟨fun x t' ht' => (Cfg.w6b_ptBody_t c k r t).add x t' ht', fun hn => ?_⟩
  rcases hgen with ⟨w, hg⟩ | ⟨w, b, hg⟩
  · rw [Cfg.w6_ptBody_wait c k r t hg]; exact Cfg.w6b_ptBodyWait_gone c k r t w hn
  · rw [Cfg.w6_ptBody_exc c k r t hg]; exact Cfg.w6b_ptBodyExc_gone c k r t w b hn

theorem w6b_step_ptParent (c : Cfg) (r : Nat) (t : Task) (p : Nat) (v : Bool) (k : List Frame)
    (hs : c.stack = .ptParent r t p v :: k) (hx : c.exn = none) : step c = c.ptParent k r t p v := by
  rw [step_cons c _ k hs hx]; rfl

/-- the caller yielded a plain value: it becomes an ordinary task `⟨t.e, p, none⟩` again (`St.parentPlain`);
    `s1` is the state in which `registerTask` runs -/
theorem w6b_ptParent_plain (c : Cfg) (r : Nat) (t : Task) (p : Nat) (k : List Frame) (v : Option Nat)
    (hs : c.stack = .ptParent r t p false :: k) (hx : c.exn = none) (hy : c.ret.yield = .plain v) :
    (step c).stack = k ∧ (step c).exn = none ∧ (step c).st = c.st.parentPlain r t p v false ∧
    ∀ s1, s1 = (c.st.modEv t.e fun x => { x with waiting := x.waiting - 1 }).setValueOpt t.e v →
      s1.rootOf r < s1.comps.length → (⟨t.e, p, none⟩ : Task) ∈ ((step c).st.comp (s1.rootOf r)).tasks := by
  rw [w6b_step_ptParent c r t p false k hs hx]
  unfold Cfg.ptParent; rw [hy]
  refine ⟨rfl, hx, rfl, ?_⟩
  intro s1 hs1 hlt
  simp only [Cfg.pop_st, St.parentPlain, Bool.false_eq_true, if_false]
  rw [← hs1, St.registerTask_tasks, if_pos ⟨rfl, hlt⟩]
  exact (mem_addUniq _ _ _).2 (Or.inr rfl)

theorem w6b_ptParent_sub (c : Cfg) (r : Nat) (t : Task) (p : Nat) (k : List Frame) (w2 : Nat)
    (hs : c.stack = .ptParent r t p false :: k) (hx : c.exn = none) (hy : c.ret.yield = .sub w2)
    (hw2 : w2 < c.st.waits.length) :
    (step c).stack = k ∧ (step c).exn = none ∧ (step c).st = c.st.parentSub r t p w2 false ∧
    ((step c).st.wait w2).parentGen = p ∧ ((step c).st.wait w2).taskEvent = t.e := by
  rw [w6b_step_ptParent c r t p false k hs hx]
  unfold Cfg.ptParent; rw [hy]
  refine ⟨rfl, hx, rfl, ?_⟩
  have hlt : w2 < (c.st.startWait w2).waits.length :=
    Nat.lt_of_lt_of_le hw2 (St.W6SA.startWait (St.W6SA.refl _) w2).1.waitsLen
  simp only [Cfg.pop_st, St.parentSub, Bool.false_eq_true, if_false]
  rw [St.w6_modWait_wait_lt _ _ _ hlt]
  exact ⟨rfl, rfl⟩

/-- the caller finished (`StopIteration`): `processTask` goes through `contStop`: the next frame is `eventDone r t.e false`
    (the caller's event completes) or the frame is popped (other handlers of the event are still waiting, or the caller
    itself has a parent, which is re-registered) -/
theorem w6b_ptParent_stop (c : Cfg) (r : Nat) (t : Task) (p : Nat) (k : List Frame)
    (hs : c.stack = .ptParent r t p false :: k) (hx : c.exn = none) (hy : c.ret.yield = .stop) :
    step c = c.contStop k c.st r t ∧ (step c).st = (c.st.stopIteration r t).2 ∧
    ((step c).stack = .eventDone r t.e false :: k ∨ (step c).stack = k) := by
  rw [w6b_step_ptParent c r t p false k hs hx]
  unfold Cfg.ptParent; rw [hy]
  refine ⟨rfl, ?_, ?_⟩
  · exact Cfg.contStop_st ..
  · dsimp only; unfold Cfg.contStop; split
    · left; rfl
    · right; rfl

theorem w6b_ptParent_raised (c : Cfg) (r : Nat) (t : Task) (p : Nat) (k : List Frame)
    (hs : c.stack = .ptParent r t p false :: k) (hx : c.exn = none) (hy : c.ret.yield = .raised) :
    step c = c.contError k c.st r t true ∧ (step c).st = (c.st.errorBranch r t true).2 ∧
    ((step c).stack = .eventDone r t.e true :: k ∨ (step c).stack = k) := by
  rw [w6b_step_ptParent c r t p false k hs hx]
  unfold Cfg.ptParent; rw [hy]
  refine ⟨rfl, ?_, ?_⟩
  · exact Cfg.contError_st ..
  · dsimp only; unfold Cfg.contError; split
    · left; rfl
    · right; rfl

theorem w6b_step_wait_task_parent {n0 : Nat} {c : Cfg} (h : W6CInv n0 c)
    (ih : ∀ x t, t ∈ (c.st.comp x).tasks → ∀ w, c.st.gen t.g = .wait w → t.parent.isSome = true) :
    ∀ x t, t ∈ ((step c).st.comp x).tasks → ∀ w, (step c).st.gen t.g = .wait w → t.parent.isSome = true := by
  intro x t ht w hg
  by_cases hold : t ∈ (c.st.comp x).tasks
  · have hT := h.w.2.tasks x t hold
    exact ih x t hold w ((w6_step_s c).genBack t.g hT.1 w hg)
  · obtain ⟨_, _, _, _, _, _, _, heq⟩ := (w6b_wait_exc_tasks_only_from_handlers h x t ht hold).1 w hg
    rw [heq]; rfl

/-- a task of a waitEvent generator in a task set has a parent: it is the resumption task `_on_done` registered -/
theorem w6b_wait_task_has_parent {s0 : St} (hi : W6InitWait s0) {c : Cfg} (h : W6ReachW s0.hs.length s0 c) :
    ∀ x t, t ∈ (c.st.comp x).tasks → ∀ w, c.st.gen t.g = .wait w → t.parent.isSome = true :=
  h.inv_st hi (fun s => ∀ x t, t ∈ (s.comp x).tasks → ∀ w, s.gen t.g = .wait w → t.parent.isSome = true)
    (fun x t ht => by rw [hi.tasks x] at ht; cases ht) (fun _ _ _ h => h) fun _ => w6b_step_wait_task_parent

end CV.Core
