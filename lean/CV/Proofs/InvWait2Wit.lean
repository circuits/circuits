import CV.Proofs.InvWaitMain
import CV.Proofs.CoreStack
/-
C06: a concrete run of the model in which a STALE `_on_tick` closure is invoked with the countdown at 0 after its
caller was resumed, and does nothing (`stale_tick_regression` in CV/Props/C06.lean is assembled from the facts here).
It shows that the hypothesis-free `no_timeout_after_resume` rests on the guards of `_on_tick` / `_on_done` /
`_on_event` (`state.flag`, `state.timed_out`; /repo commit 3ae7f53, "stale waitEvent closures do nothing once the outcome
of call()/wait() is decided"): without them the caller of `yield call(bar(), timeout=0)`
in this run gets the result AND, later, `TimeoutError`.

  One root component that is `running` but not `executing` (a manager driven by hand with `tick()`), handlers
  `foo` = generator `x = yield call(bar(), timeout=0); yield; yield; yield`, `bar` = `return 7`, and a handler of
  `generate_events` with priority 10 that calls `stop()`.  `stop()` outside the executing thread runs three inline
  ticks: they dispatch `bar_done` (`_on_done` sets the flag, registers the resumption task and removes the tick
  handler) and run the task loop (the caller is resumed with 7) while the enclosing `_dispatcher` of the
  `generate_events` event still holds `[stop-handler, _on_tick, fallback]`.  Back in that loop the STALE `_on_tick`
  finds the countdown at 0; unguarded it would register the TimeoutError task, and the next tick would throw it into
  the caller.  (Real code: a `generate_events` handler that calls `self.tick()`; harness/c06.py `stale_tick_cases`.)

The run (evaluated by the kernel) reaches the stale invocation with the countdown at 0 - but `flag` is set, `_on_tick`
returns at once, and the run ends with exactly one outcome: one `.resumed` entry, no `.timeout` entry, no
`TimeoutError` carrier.

`List.mergeSort` (well-founded recursion) does not reduce in the kernel, so the run is evaluated with `step2`,
which is `step` with `computeHandlers` skipping the sort when the collected list is already sorted
(`w6b_step2_eq : step2 = step`).

Before the run: where the handler ids that a handler loop is still going to invoke come from.  `w6b_pending stack` is
the list of all handler ids held by the frames of the stack: the pending list of every `hLoop` / `hAfter` / `hApply`
frame and the handler of every `invoke` frame; `w6b_hasStale` says of the run that a frame still holds the `_on_tick`
handler at the resumption step.  The flow lemma `w6b_flow` (stated for its own sake; pure stack reasoning, no
invariant): a handler id pending after a step was pending before it, or the step is a `_dispatcher` step and the id is
in the list that `dispatchPre` (cache lookup / `getHandlers`) hands to the handler loop.
-/
namespace CV.Core

/-- handler ids a frame is still going to invoke -/
def Frame.w6b_pend : Frame → List Nat
  | .hLoop _ _ hs _ _ => hs
  | .invoke _ h _ => [h]
  | .hAfter _ _ rest _ _ => rest
  | .hApply _ _ rest _ _ => rest
  | _ => []

def w6b_pending : List Frame → List Nat
  | [] => []
  | f :: k => f.w6b_pend ++ w6b_pending k

@[simp] theorem w6b_pending_nil : w6b_pending [] = [] := rfl
@[simp] theorem w6b_pending_cons (f : Frame) (k : List Frame) : w6b_pending (f :: k) = f.w6b_pend ++ w6b_pending k := rfl

theorem w6b_pending_append (a b : List Frame) : w6b_pending (a ++ b) = w6b_pending a ++ w6b_pending b := by
  induction a with
  | nil => rfl
  | cons f a ih => simp [ih]

theorem Frame.Pushes.w6b_pend {c : Cfg} {f : Frame} {fs : List Frame} (h : f.Pushes c fs) (x : Nat)
    (hx : x ∈ w6b_pending fs) :
    x ∈ f.w6b_pend ∨ ∃ r e rem hs, f = .dispatcher r e rem ∧ (c.st.dispatchPre r e rem).1 = some hs ∧ x ∈ hs := by
  cases h
  case dispatcher r e rem hs hd => exact Or.inr ⟨r, e, rem, hs, rfl, hd, by simpa [Frame.w6b_pend] using hx⟩
  case hLoop r e h0 rest0 err st =>
    simp only [w6b_pending_cons, w6b_pending_nil, Frame.w6b_pend, List.append_nil, List.mem_append,
      List.mem_singleton] at hx
    rcases hx with rfl | hx
    · exact Or.inl (St.chooseHandler_mem ..)
    · exact Or.inl (List.mem_of_mem_erase hx)
  case hAfterStop | hAfter | hApply => exact Or.inl (by simpa [Frame.w6b_pend] using hx)
  case actsCall hg | stepGenCall hg => cases hg <;> cases hx
  all_goals cases hx

theorem w6b_flow (c : Cfg) (h : Nat) (hh : h ∈ w6b_pending (step c).stack) :
    h ∈ w6b_pending c.stack ∨
    ∃ r e rem k hs, c.stack = .dispatcher r e rem :: k ∧ c.exn = none ∧ (c.st.dispatchPre r e rem).1 = some hs ∧ h ∈ hs := by
  unfold step at hh
  split at hh
  · exact Or.inl hh
  · rename_i f k hs
    have hk : h ∈ w6b_pending k → h ∈ w6b_pending c.stack := fun hm => by
      rw [hs]; exact List.mem_append_right _ hm
    split at hh
    · -- the frames `run()` pushes for its `finally` hold no handler id
      rcases unwind_stack c k _ f with hu | ⟨x, rfl, hu⟩ <;> rw [hu] at hh <;> exact Or.inl (hk hh)
    · rename_i hx
      obtain ⟨fs, hst, hp⟩ := (stepFrame_pushes c k f).stack
      rw [hst, w6b_pending_append] at hh
      rcases List.mem_append.1 hh with hh | hh
      · rcases hp.w6b_pend h hh with hf | ⟨r, e, rem, hs', rfl, hd, hm⟩
        · exact Or.inl (by rw [hs]; exact List.mem_append_left _ hf)
        · exact Or.inr ⟨r, e, rem, k, hs', hs, hx, hd, hm⟩
      · exact Or.inl (hk hh)

def w6b_leP (s : St) (a b : Nat) : Bool := (s.hs.getD a dfltHandler).prio ≥ (s.hs.getD b dfltHandler).prio

def w6b_sortedDesc (s : St) : List Nat → Bool
  | [] => true
  | a :: l => l.all (fun b => w6b_leP s a b) && w6b_sortedDesc s l

theorem w6b_sortedDesc_pairwise (s : St) : ∀ l, w6b_sortedDesc s l = true → l.Pairwise (fun a b => w6b_leP s a b = true)
  | [], _ => List.Pairwise.nil
  | a :: l, h => by
    simp only [w6b_sortedDesc, Bool.and_eq_true, List.all_eq_true] at h
    exact List.Pairwise.cons h.1 (w6b_sortedDesc_pairwise s l h.2)

def St.computeHandlers2 (s : St) (r : Nat) (name : Name) (chans : List Chan) : List Nat × St :=
  let all := chans.flatMap (fun ch => collect s (s.comps.length + 1) r name ch)
  let sorted := if w6b_sortedDesc s all then all else all.mergeSort (fun a b => w6b_leP s a b)
  let res : List Nat × St :=
    if name == Name.generateEvents then
      (sorted ++ [s.hs.length],
       s.addH { owner := r, names := [Name.generateEvents], chan := none, prio := -100, kind := .fallbackGE })
    else if name == Name.exception && sorted.isEmpty then
      (sorted ++ [s.hs.length],
       s.addH { owner := r, names := [Name.exception], chan := some .star, kind := .fallbackExc })
    else (sorted, s)
  (res.1, res.2.modComp r fun x => { x with cache := ((name, chans), res.1) :: x.cache })

theorem St.computeHandlers2_eq (s : St) (r : Nat) (name : Name) (chans : List Chan) :
    s.computeHandlers2 r name chans = s.computeHandlers r name chans := by
  unfold St.computeHandlers2 St.computeHandlers
  have : (if w6b_sortedDesc s (chans.flatMap (fun ch => collect s (s.comps.length + 1) r name ch)) then
            chans.flatMap (fun ch => collect s (s.comps.length + 1) r name ch)
          else (chans.flatMap (fun ch => collect s (s.comps.length + 1) r name ch)).mergeSort (fun a b => w6b_leP s a b)) =
      (chans.flatMap (fun ch => collect s (s.comps.length + 1) r name ch)).mergeSort (fun a b => w6b_leP s a b) := by
    split
    · rename_i h
      exact (List.mergeSort_of_pairwise (w6b_sortedDesc_pairwise s _ h)).symm
    · rfl
  dsimp only
  rw [this]
  rfl

def St.lookupHandlers2 (s : St) (r : Nat) (name : Name) (chans : List Chan) : List Nat × St :=
  match (s.comp r).cache.lookup (name, chans) with
  | some hs => (hs, s)
  | none => s.computeHandlers2 r name chans

theorem St.lookupHandlers2_eq (s : St) (r : Nat) (name : Name) (chans : List Chan) :
    s.lookupHandlers2 r name chans = s.lookupHandlers r name chans := by
  unfold St.lookupHandlers2 St.lookupHandlers
  simp only [St.computeHandlers2_eq]
  generalize List.lookup (name, chans) (s.comp r).cache = o
  cases o <;> rfl

def St.dispatchPre2 (s : St) (r e remaining : Nat) : Option (List Nat) × St :=
  let s0 := s.logE (.disp e)
  let ev := s0.ev e
  if ev.cancelled then (none, s0.modEv e fun x => { x with selfDone := true })
  else
    let s1 := (s0.dispComplete e ev).cacheRefresh r
    let res := s1.lookupHandlers2 r ev.name ev.chans
    let s2 := res.2.modComp r fun x => { x with currently := some e }
    (some res.1, s2.dispGE r e remaining ev.name)

theorem St.dispatchPre2_eq (s : St) (r e remaining : Nat) : s.dispatchPre2 r e remaining = s.dispatchPre r e remaining := by
  unfold St.dispatchPre2 St.dispatchPre
  simp only [St.lookupHandlers2_eq]

def Cfg.dispatcher2 (c : Cfg) (k : List Frame) (r e remaining : Nat) : Cfg :=
  match (c.st.dispatchPre2 r e remaining).1 with
  | none => c.goto k (c.st.dispatchPre2 r e remaining).2 [.effectDone r e false]
  | some hs => c.goto k (c.st.dispatchPre2 r e remaining).2 [.hLoop r e hs false .none]

theorem Cfg.dispatcher2_eq (c : Cfg) (k : List Frame) (r e remaining : Nat) :
    c.dispatcher2 k r e remaining = c.dispatcher k r e remaining := by
  unfold Cfg.dispatcher2 Cfg.dispatcher
  rw [St.dispatchPre2_eq]
  generalize (c.st.dispatchPre r e remaining).1 = o
  cases o <;> rfl

def stepFrame2 (c : Cfg) (k : List Frame) : Frame → Cfg
  | .dispatcher r e remaining => c.dispatcher2 k r e remaining
  | f => stepFrame c k f

theorem stepFrame2_eq (c : Cfg) (k : List Frame) (f : Frame) : stepFrame2 c k f = stepFrame c k f := by
  unfold stepFrame2
  split
  · exact Cfg.dispatcher2_eq ..
  · rfl

def step2 (c : Cfg) : Cfg :=
  match c.stack with
  | [] => c
  | f :: k =>
    match c.exn with
    | some ex => unwind c k ex f
    | none => stepFrame2 c k f

theorem w6b_step2_eq : step2 = step := by
  have h : stepFrame2 = stepFrame := by funext c k f; exact stepFrame2_eq c k f
  funext c
  unfold step2 step
  rw [h]
  generalize c.stack = stk
  cases stk with
  | nil => rfl
  | cons f k =>
    dsimp only
    generalize c.exn = ox
    cases ox <;> rfl

def runN2 : Nat → Cfg → Cfg
  | 0, c => c
  | n + 1, c => if done c then c else runN2 n (step2 c)

theorem w6b_runN2_eq : runN2 = runN := by
  funext n
  induction n with
  | zero => rfl
  | succ n ih =>
    funext c
    unfold runN2 runN
    rw [ih, w6b_step2_eq]

def w6b_nFoo : Name := ⟨1, []⟩
def w6b_nBar : Name := ⟨2, []⟩

def w6b_s0 : St :=
  { comps := [{ parent := 0, root := 0, running := true,
                htab := [(some w6b_nFoo, 0), (some w6b_nBar, 1), (some Name.generateEvents, 2)] }],
    hs := [{ owner := 0, names := [w6b_nFoo], chan := none, prio := 0, kind := .user 0 },
           { owner := 0, names := [w6b_nBar], chan := none, prio := 0, kind := .user 1 },
           { owner := 0, names := [Name.generateEvents], chan := none, prio := 10, kind := .user 2 }],
    progs := [[.call 1 none (some 0) false, .yld none, .yld none, .yld none], [.ret 7], [.stopMgr 0 none]],
    tmpls := [{ name := w6b_nFoo }, { name := w6b_nBar }] }

theorem w6b_s0_init : W6InitWait w6b_s0 := by
  refine ⟨rfl, rfl, ?_, ?_, ?_, ?_, ?_⟩
  · intro h hh
    have : h = 0 ∨ h = 1 ∨ h = 2 := by simp [w6b_s0] at hh; omega
    rcases this with h | h | h <;> subst h <;> rfl
  · intro c k h hm
    rcases c with _ | c
    · simp [w6b_s0, St.comp] at hm
      rcases hm with hm | hm | hm <;> (rw [hm.2]; simp [w6b_s0])
    · simp [w6b_s0, St.comp, dfltComp] at hm
  · intro c
    rcases c with _ | c
    · simp [w6b_s0, St.comp, w6b_nFoo, w6b_nBar, Name.generateEvents]
    · simp [w6b_s0, St.comp, dfltComp]
  · intro c
    rcases c with _ | c <;> simp [w6b_s0, St.comp, dfltComp]
  · intro p hp a ha
    cases a <;> first | trivial | skip
    simp [w6b_s0] at hp
    rcases hp with hp | hp | hp <;> subst hp <;> simp at ha

/-- `fire(foo())` from outside (3 steps), `flush()` (12 steps), then `tick()` -/
def w6b_c1 : Cfg := runN 3 (startOf (envChange w6b_s0 0 []) (.doAct 0 (.fire 0 none 0 false)))
def w6b_c2 : Cfg := runN 12 (startOf (envChange w6b_c1.st 0 []) (.flush 0))
def w6b_c3 (n : Nat) : Cfg := runN n (startOf (envChange w6b_c2.st 0 []) (.tick 0))
/-- the configuration of the resumption step (step 59 of the tick) -/
def w6b_cR : Cfg := w6b_c3 59
/-- 24 steps later: the stale `_on_tick` is about to be invoked with the countdown at 0 -/
def w6b_cT : Cfg := runN 24 (step w6b_cR)
/-- the tick runs to its end (12 more steps); the next `tick()` (10 steps) steps the caller again -/
def w6b_cE : Cfg := runN 12 w6b_cT
def w6b_cX : Cfg := runN 10 (startOf (envChange w6b_cE.st 0 []) (.tick 0))

/-- decidable form of `W6ResumesW c w` -/
def w6b_isResume (c : Cfg) (w : Nat) : Bool :=
  match c.exn, c.stack with
  | none, .ptBody _ t :: _ =>
    match c.st.gen t.g with
    | .wait w' => w' == w && (c.st.removeHandler (c.st.wait w).hDone (some ((c.st.wait w).evName.child sfxDone))).1
    | _ => false
  | _, _ => false

theorem w6b_isResume_spec (c : Cfg) (w : Nat) (h : w6b_isResume c w = true) : W6ResumesW c w := by
  unfold w6b_isResume at h
  split at h
  · rename_i r t k hx hs
    split at h
    · rename_i w' hg
      simp only [Bool.and_eq_true, beq_iff_eq] at h
      obtain ⟨h1, h2⟩ := h
      subst h1
      exact ⟨r, t, k, hs, hx, hg, h2⟩
    · cases h
  · cases h

def w6b_isTick0 (c : Cfg) (w : Nat) : Bool :=
  match c.exn, c.stack with
  | none, .invoke _ h _ :: _ => (c.st.handler h).kind == .waitTick w && (c.st.wait w).timeout == 0
  | _, _ => false

def w6b_isExcStep (c : Cfg) (w : Nat) : Bool :=
  match c.exn, c.stack with
  | none, .ptBody _ t :: _ =>
    match c.st.gen t.g with
    | .exc w' false => w' == w
    | _ => false
  | _, _ => false

/-- some frame still holds a `_on_tick` handler of `w` -/
def w6b_hasStale (c : Cfg) (w : Nat) : Bool :=
  (w6b_pending c.stack).any (fun h => (c.st.handler h).kind == .waitTick w)

theorem w6b_isTick0_spec (c : Cfg) (w : Nat) (h : w6b_isTick0 c w = true) :
    ∃ r hh e k, c.stack = .invoke r hh e :: k ∧ c.exn = none ∧ (c.st.handler hh).kind = .waitTick w ∧
      (c.st.wait w).timeout = 0 := by
  unfold w6b_isTick0 at h
  split at h
  · rename_i r hh e k hx hs
    simp only [Bool.and_eq_true, beq_iff_eq] at h
    exact ⟨r, hh, e, k, hs, hx, h.1, h.2⟩
  · cases h

theorem w6b_isExcStep_spec (c : Cfg) (w : Nat) (h : w6b_isExcStep c w = true) :
    ∃ r t k, c.stack = .ptBody r t :: k ∧ c.exn = none ∧ c.st.gen t.g = .exc w false := by
  unfold w6b_isExcStep at h
  split at h
  · rename_i r t k hx hs
    split at h
    · rename_i w' hg
      simp only [beq_iff_eq] at h
      subst h
      exact ⟨r, t, k, hs, hx, hg⟩
    · cases h
  · cases h

theorem w6b_runN_closed {P : Cfg → Prop} (hstep : ∀ c, P c → P (step c)) : ∀ n c, P c → P (runN n c)
  | 0, _, h => h
  | n + 1, c, h => by rw [runN_succ]; exact w6b_runN_closed hstep n _ (hstep c h)

theorem w6b_later_runN {n0 : Nat} {c0 : Cfg} : ∀ n c, W6Later n0 c0 c → W6Later n0 c0 (runN n c) :=
  w6b_runN_closed fun _ => W6Later.step

theorem w6b_reachW_runN {n0 : Nat} {s0 : St} : ∀ n c, W6ReachW n0 s0 c → W6ReachW n0 s0 (runN n c) :=
  w6b_runN_closed fun _ => W6ReachW.step

theorem w6b_c1_done : done w6b_c1 = true := by
  unfold w6b_c1; rw [← w6b_runN2_eq]; decide +kernel

theorem w6b_c2_done : done w6b_c2 = true := by
  unfold w6b_c2 w6b_c1; rw [← w6b_runN2_eq]; decide +kernel

theorem w6b_cR_resume : w6b_isResume w6b_cR 0 = true := by
  unfold w6b_cR w6b_c3 w6b_c2 w6b_c1; rw [← w6b_runN2_eq]; decide +kernel

theorem w6b_cR_stale : w6b_hasStale w6b_cR 0 = true := by
  unfold w6b_cR w6b_c3 w6b_c2 w6b_c1; rw [← w6b_runN2_eq]; decide +kernel

theorem w6b_cT_tick0 : w6b_isTick0 w6b_cT 0 = true := by
  unfold w6b_cT w6b_cR w6b_c3 w6b_c2 w6b_c1; rw [← w6b_runN2_eq, ← w6b_step2_eq]; decide +kernel

theorem w6b_cT_flag : (w6b_cT.st.wait 0).flag = true := by
  unfold w6b_cT w6b_cR w6b_c3 w6b_c2 w6b_c1; rw [← w6b_runN2_eq, ← w6b_step2_eq]; decide +kernel

theorem w6b_cE_done : done w6b_cE = true := by
  unfold w6b_cE w6b_cT w6b_cR w6b_c3 w6b_c2 w6b_c1; rw [← w6b_runN2_eq, ← w6b_step2_eq]; decide +kernel

theorem w6b_cX_done : done w6b_cX = true := by
  unfold w6b_cX w6b_cE w6b_cT w6b_cR w6b_c3 w6b_c2 w6b_c1; rw [← w6b_runN2_eq, ← w6b_step2_eq]; decide +kernel

/-- the resumption step hands the result 7 of `bar` (event 1) to the caller (event 0, handler 0) -/
theorem w6b_cR_logs : Entry.resumed 0 0 1 (.single (.val 7)) false ∈ (step w6b_cR).st.log := by
  unfold w6b_cR w6b_c3 w6b_c2 w6b_c1; rw [← w6b_runN2_eq, ← w6b_step2_eq]; decide +kernel

/-- exactly one outcome: one `.resumed` / `.timeout` entry in the whole log, and it is the `.resumed` one; no
    `TimeoutError` carrier was ever created -/
def w6b_oneOutcome (c : Cfg) : Bool :=
  (c.st.log.filter Entry.w6_isResume == [Entry.resumed 0 0 1 (.single (.val 7)) false]) &&
    c.st.gens.all (fun g => !g.w6_isExc)

theorem w6b_cX_one : w6b_oneOutcome w6b_cX = true := by
  unfold w6b_cX w6b_cE w6b_cT w6b_cR w6b_c3 w6b_c2 w6b_c1; rw [← w6b_runN2_eq, ← w6b_step2_eq]; decide +kernel

theorem w6b_cR_reach : W6ReachW w6b_s0.hs.length w6b_s0 w6b_cR := by
  unfold w6b_cR w6b_c3
  apply w6b_reachW_runN
  refine W6ReachW.next 0 [] (.tick 0) trivial ?_ w6b_c2_done
  unfold w6b_c2
  apply w6b_reachW_runN
  refine W6ReachW.next 0 [] (.flush 0) trivial ?_ w6b_c1_done
  unfold w6b_c1
  apply w6b_reachW_runN
  exact W6ReachW.init 0 [] _ trivial

theorem w6b_cT_later : W6Later w6b_s0.hs.length (step w6b_cR) w6b_cT :=
  w6b_later_runN _ _ (W6Later.refl _)

theorem w6b_cX_later : W6Later w6b_s0.hs.length (step w6b_cR) w6b_cX := by
  unfold w6b_cX
  apply w6b_later_runN
  refine W6Later.next 0 [] (.tick 0) trivial ?_ w6b_cE_done
  unfold w6b_cE
  exact w6b_later_runN _ _ w6b_cT_later

end CV.Core
