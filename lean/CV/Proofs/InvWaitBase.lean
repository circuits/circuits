import CV.Proofs.Pres
import CV.Proofs.Tables
/-
C06: helpers that only touch the component table (`addHandler`, `removeHandler`, `registerTask`, `unregisterTask`): what the
other tables read after them; and the three closures of `waitEvent` up to the component table.
-/
namespace CV.Core

structure St.W6CompsOnly (s s' : St) : Prop where
  evs : s'.evs = s.evs
  waits : s'.waits = s.waits
  gens : s'.gens = s.gens
  hs : s'.hs = s.hs
  log : s'.log = s.log
  progs : s'.progs = s.progs
  tmpls : s'.tmpls = s.tmpls
  compsLen : s'.comps.length = s.comps.length

namespace St.W6CompsOnly
theorem refl (s : St) : St.W6CompsOnly s s := ⟨rfl, rfl, rfl, rfl, rfl, rfl, rfl, rfl⟩

theorem modComp {s t : St} (h : St.W6CompsOnly s t) (c : Nat) (f : Comp → Comp) : St.W6CompsOnly s (t.modComp c f) :=
  ⟨h.evs, h.waits, h.gens, h.hs, h.log, h.progs, h.tmpls, by rw [St.w6_modComp_comps_length, h.compsLen]⟩

theorem ev {s t : St} (h : St.W6CompsOnly s t) (e : Nat) : t.ev e = s.ev e := by simp [St.ev, h.evs]
theorem wait {s t : St} (h : St.W6CompsOnly s t) (w : Nat) : t.wait w = s.wait w := by simp [St.wait, h.waits]
theorem gen {s t : St} (h : St.W6CompsOnly s t) (g : Nat) : t.gen g = s.gen g := by simp [St.gen, h.gens]
theorem handler {s t : St} (h : St.W6CompsOnly s t) (x : Nat) : t.handler x = s.handler x := by simp [St.handler, h.hs]

theorem trans {a b c : St} (h1 : St.W6CompsOnly a b) (h2 : St.W6CompsOnly b c) : St.W6CompsOnly a c :=
  ⟨h2.evs.trans h1.evs, h2.waits.trans h1.waits, h2.gens.trans h1.gens, h2.hs.trans h1.hs, h2.log.trans h1.log,
    h2.progs.trans h1.progs, h2.tmpls.trans h1.tmpls, h2.compsLen.trans h1.compsLen⟩

theorem modEv {s t : St} (h : St.W6CompsOnly s t) (e : Nat) (f : Ev → Ev) : St.W6CompsOnly (s.modEv e f) (t.modEv e f) :=
  ⟨by simp only [St.modEv, h.evs], h.waits, h.gens, h.hs, h.log, h.progs, h.tmpls, h.compsLen⟩

theorem modWait {s t : St} (h : St.W6CompsOnly s t) (w : Nat) (f : WaitSt → WaitSt) :
    St.W6CompsOnly (s.modWait w f) (t.modWait w f) :=
  ⟨h.evs, by simp only [St.modWait, h.waits], h.gens, h.hs, h.log, h.progs, h.tmpls, h.compsLen⟩
end St.W6CompsOnly

theorem St.w6_addHandler_compsOnly (t : St) (x : Nat) : St.W6CompsOnly t (t.addHandler x) :=
  t.addHandler_pres x (.refl t) (fun _ h => h.modComp _ _) (fun _ _ h => h.modComp _ _) (fun _ _ h => h.modComp _ _)

theorem St.w6_removeHandler_compsOnly (t : St) (x : Nat) (n : Option Name) : St.W6CompsOnly t (t.removeHandler x n).2 :=
  t.removeHandler_phases (P := St.W6CompsOnly t) x n (.refl t) (fun _ h => h.modComp _ _) (fun _ _ h _ => h.modComp _ _)
    (fun _ h => h.modComp _ _)

theorem St.w6_registerTask_compsOnly (t : St) (c : Nat) (x : Task) : St.W6CompsOnly t (t.registerTask c x) :=
  (St.W6CompsOnly.refl _).modComp _ _

theorem St.w6_unregisterTask_compsOnly (t : St) (c : Nat) (x : Task) : St.W6CompsOnly t (t.unregisterTask c x) :=
  (St.W6CompsOnly.refl _).modComp _ _

theorem St.W6CompsOnly.removeHandler {s t : St} (h : St.W6CompsOnly s t) (x : Nat) (n : Option Name) :
    St.W6CompsOnly s (t.removeHandler x n).2 := h.trans (t.w6_removeHandler_compsOnly x n)

theorem St.W6CompsOnly.registerTask {s t : St} (h : St.W6CompsOnly s t) (c : Nat) (x : Task) :
    St.W6CompsOnly s (t.registerTask c x) := h.modComp _ _

theorem St.w6_modWait_wait_changed {β} {t : St} {w w' : Nat} {f : WaitSt → WaitSt} {p : WaitSt → β}
    (hne : p ((t.modWait w f).wait w') ≠ p (t.wait w')) :
    w' = w ∧ w' < t.waits.length ∧ (t.modWait w f).wait w' = f (t.wait w') := by
  rw [St.w6_modWait_wait_eq] at hne ⊢
  split
  · rename_i h; exact ⟨h.1, h.2, rfl⟩
  · rename_i h; rw [if_neg h] at hne; exact absurd rfl hne

/-! ### the closures of `waitEvent` outside the component table

Each of them changes one wait state (and `_on_event` the event, `_on_tick` the generator table), registers a task and removes
handlers; the latter two touch the component table only.  So the other tables after a closure are those after its one
`modWait`. -/

theorem St.onWaitEvent_compsOnly (t : St) (w e : Nat) :
    St.W6CompsOnly
      (if ((t.wait w).run = false ∧ (t.wait w).timedOut = false ∧ ((t.wait w).evObj = none ∨ (t.wait w).evObj = some e)) ∧
          (t.removeHandler (t.wait w).hEvent (some (t.wait w).evName)).1 = true
        then (t.modWait w fun x => { x with run := true, event := some e }).modEv e fun x => { x with alertDone := true }
        else t)
      (t.onWaitEvent w e).2 := by
  have hb : (!(t.wait w).run && !(t.wait w).timedOut && ((t.wait w).evObj.isNone || (t.wait w).evObj == some e)) = true ↔
      (t.wait w).run = false ∧ (t.wait w).timedOut = false ∧ ((t.wait w).evObj = none ∨ (t.wait w).evObj = some e) := by
    simp [and_assoc]
  unfold St.onWaitEvent
  dsimp only
  by_cases hg : (t.wait w).run = false ∧ (t.wait w).timedOut = false ∧ ((t.wait w).evObj = none ∨ (t.wait w).evObj = some e)
  · by_cases hr : (t.removeHandler (t.wait w).hEvent (some (t.wait w).evName)).1 = true
    · have hr' : ¬ (!(t.removeHandler (t.wait w).hEvent (some (t.wait w).evName)).1) = true := by simp [hr]
      rw [if_pos ⟨hg, hr⟩, if_pos (hb.2 hg), if_neg hr']
      -- the two updates touch different tables
      have hsw : St.W6CompsOnly
          ((t.modWait w fun x => { x with run := true, event := some e }).modEv e fun x => { x with alertDone := true })
          ((t.modEv e fun x => { x with alertDone := true }).modWait w fun x => { x with run := true, event := some e }) :=
        ⟨rfl, rfl, rfl, rfl, rfl, rfl, rfl, rfl⟩
      exact hsw.trans (((t.w6_removeHandler_compsOnly _ _).modEv _ _).modWait _ _)
    · have hr' : (!(t.removeHandler (t.wait w).hEvent (some (t.wait w).evName)).1) = true := by simpa using hr
      rw [if_neg (fun h => hr h.2), if_pos (hb.2 hg), if_pos hr']
      exact t.w6_removeHandler_compsOnly _ _
  · rw [if_neg (fun h => hg h.1), if_neg (fun h => hg (hb.1 h))]
    exact .refl _

theorem St.onWaitDone_compsOnly (t : St) (w e : Nat) :
    St.W6CompsOnly
      (if (t.wait w).flag = false ∧ (t.wait w).timedOut = false ∧ (t.wait w).event.isSome = true ∧
          (t.wait w).event = (t.ev e).parentEv
        then t.modWait w fun x => { x with flag := true } else t)
      (t.onWaitDone w e).2 := by
  have hb : (!(t.wait w).flag && !(t.wait w).timedOut && ((t.wait w).event.isSome && (t.wait w).event == (t.ev e).parentEv)) = true ↔
      (t.wait w).flag = false ∧ (t.wait w).timedOut = false ∧ (t.wait w).event.isSome = true ∧
        (t.wait w).event = (t.ev e).parentEv := by
    simp [and_assoc]
  unfold St.onWaitDone
  dsimp only
  simp only [hb]
  split
  · have h1 := (St.W6CompsOnly.refl (t.modWait w fun x => { x with flag := true })).modComp
    refine pred_ite_snd ?_ (h1 _ _)
    split
    · exact pred_ite_snd ((h1 _ _).removeHandler _ _) ((h1 _ _).removeHandler _ _)
    · exact h1 _ _
  · exact .refl _

theorem St.onWaitTick_compsOnly (t : St) (w : Nat) :
    St.W6CompsOnly
      (if (t.wait w).flag || (t.wait w).timedOut then t
        else if (t.wait w).timeout == 0 then (t.modWait w fun x => { x with timedOut := true }).addGen (.exc w false)
        else if (t.wait w).timeout > 0 then t.modWait w fun x => { x with timeout := x.timeout - 1 } else t)
      (t.onWaitTick w).2 := by
  rw [St.onWaitTick_eq]
  split
  · exact .refl _
  split
  · exact St.tickDrop_pres _ _ (fun _ _ _ h => h.removeHandler _ _) (((St.W6CompsOnly.refl _).registerTask _ _).removeHandler _ _)
  split <;> exact .refl _

namespace St
variable (t : St)
@[simp] theorem w6_addHandler_ev (x e : Nat) : (t.addHandler x).ev e = t.ev e := (t.w6_addHandler_compsOnly x).ev e
@[simp] theorem w6_addHandler_wait (x w : Nat) : (t.addHandler x).wait w = t.wait w := (t.w6_addHandler_compsOnly x).wait w
@[simp] theorem w6_addHandler_gen (x g : Nat) : (t.addHandler x).gen g = t.gen g := (t.w6_addHandler_compsOnly x).gen g
@[simp] theorem w6_addHandler_handler (x h : Nat) : (t.addHandler x).handler h = t.handler h := (t.w6_addHandler_compsOnly x).handler h
@[simp] theorem w6_addHandler_evs (x : Nat) : (t.addHandler x).evs = t.evs := (t.w6_addHandler_compsOnly x).evs
@[simp] theorem w6_addHandler_waits (x : Nat) : (t.addHandler x).waits = t.waits := (t.w6_addHandler_compsOnly x).waits
@[simp] theorem w6_addHandler_gens (x : Nat) : (t.addHandler x).gens = t.gens := (t.w6_addHandler_compsOnly x).gens
@[simp] theorem w6_addHandler_hs (x : Nat) : (t.addHandler x).hs = t.hs := (t.w6_addHandler_compsOnly x).hs
@[simp] theorem w6_addHandler_log (x : Nat) : (t.addHandler x).log = t.log := (t.w6_addHandler_compsOnly x).log
@[simp] theorem w6_removeHandler_ev (x : Nat) (n : Option Name) (e : Nat) : (t.removeHandler x n).2.ev e = t.ev e := (t.w6_removeHandler_compsOnly x n).ev e
@[simp] theorem w6_removeHandler_wait (x : Nat) (n : Option Name) (w : Nat) : (t.removeHandler x n).2.wait w = t.wait w := (t.w6_removeHandler_compsOnly x n).wait w
@[simp] theorem w6_removeHandler_gen (x : Nat) (n : Option Name) (g : Nat) : (t.removeHandler x n).2.gen g = t.gen g := (t.w6_removeHandler_compsOnly x n).gen g
@[simp] theorem w6_removeHandler_handler (x : Nat) (n : Option Name) (h : Nat) : (t.removeHandler x n).2.handler h = t.handler h := (t.w6_removeHandler_compsOnly x n).handler h
@[simp] theorem w6_removeHandler_evs (x : Nat) (n : Option Name) : (t.removeHandler x n).2.evs = t.evs := (t.w6_removeHandler_compsOnly x n).evs
@[simp] theorem w6_removeHandler_waits (x : Nat) (n : Option Name) : (t.removeHandler x n).2.waits = t.waits := (t.w6_removeHandler_compsOnly x n).waits
@[simp] theorem w6_removeHandler_gens (x : Nat) (n : Option Name) : (t.removeHandler x n).2.gens = t.gens := (t.w6_removeHandler_compsOnly x n).gens
@[simp] theorem w6_removeHandler_hs (x : Nat) (n : Option Name) : (t.removeHandler x n).2.hs = t.hs := (t.w6_removeHandler_compsOnly x n).hs
@[simp] theorem w6_removeHandler_log (x : Nat) (n : Option Name) : (t.removeHandler x n).2.log = t.log := (t.w6_removeHandler_compsOnly x n).log
@[simp] theorem w6_registerTask_ev (c : Nat) (x : Task) (e : Nat) : (t.registerTask c x).ev e = t.ev e := rfl
@[simp] theorem w6_registerTask_wait (c : Nat) (x : Task) (w : Nat) : (t.registerTask c x).wait w = t.wait w := rfl
@[simp] theorem w6_registerTask_gen (c : Nat) (x : Task) (g : Nat) : (t.registerTask c x).gen g = t.gen g := rfl
@[simp] theorem w6_registerTask_handler (c : Nat) (x : Task) (h : Nat) : (t.registerTask c x).handler h = t.handler h := rfl
@[simp] theorem w6_registerTask_evs (c : Nat) (x : Task) : (t.registerTask c x).evs = t.evs := rfl
@[simp] theorem w6_registerTask_waits (c : Nat) (x : Task) : (t.registerTask c x).waits = t.waits := rfl
@[simp] theorem w6_registerTask_gens (c : Nat) (x : Task) : (t.registerTask c x).gens = t.gens := rfl
@[simp] theorem w6_registerTask_hs (c : Nat) (x : Task) : (t.registerTask c x).hs = t.hs := rfl
@[simp] theorem w6_registerTask_log (c : Nat) (x : Task) : (t.registerTask c x).log = t.log := rfl
@[simp] theorem w6_registerTask_htab (c : Nat) (x : Task) (c' : Nat) : ((t.registerTask c x).comp c').htab = (t.comp c').htab :=
  St.w6_modComp_mk_htab ..
@[simp] theorem w6_unregisterTask_ev (c : Nat) (x : Task) (e : Nat) : (t.unregisterTask c x).ev e = t.ev e := rfl
@[simp] theorem w6_unregisterTask_wait (c : Nat) (x : Task) (w : Nat) : (t.unregisterTask c x).wait w = t.wait w := rfl
@[simp] theorem w6_unregisterTask_gen (c : Nat) (x : Task) (g : Nat) : (t.unregisterTask c x).gen g = t.gen g := rfl
@[simp] theorem w6_unregisterTask_handler (c : Nat) (x : Task) (h : Nat) : (t.unregisterTask c x).handler h = t.handler h := rfl
@[simp] theorem w6_unregisterTask_evs (c : Nat) (x : Task) : (t.unregisterTask c x).evs = t.evs := rfl
@[simp] theorem w6_unregisterTask_waits (c : Nat) (x : Task) : (t.unregisterTask c x).waits = t.waits := rfl
@[simp] theorem w6_unregisterTask_gens (c : Nat) (x : Task) : (t.unregisterTask c x).gens = t.gens := rfl
@[simp] theorem w6_unregisterTask_hs (c : Nat) (x : Task) : (t.unregisterTask c x).hs = t.hs := rfl
@[simp] theorem w6_unregisterTask_log (c : Nat) (x : Task) : (t.unregisterTask c x).log = t.log := rfl
@[simp] theorem w6_unregisterTask_htab (c : Nat) (x : Task) (c' : Nat) : ((t.unregisterTask c x).comp c').htab = (t.comp c').htab :=
  St.w6_modComp_mk_htab ..
end St

end CV.Core
