import CV.Proofs.InvWaitLocal
import CV.Proofs.InvWaitBase
/-
C06, local facts read off from `w6_step_q_unless`: for each protocol action, the only step that can
perform it and the guard under which it does.  Part 1 of CV/Props/C06.lean states them again, each under its name without
`w6_` and with what it says of circuits.
-/
namespace CV.Core

def W6Mask.onlyLg : W6Mask := ⟨true, false, false, false, false, false⟩
def W6Mask.onlyFl : W6Mask := ⟨false, true, false, false, false, false⟩
def W6Mask.onlyRn : W6Mask := ⟨false, false, true, false, false, false⟩
def W6Mask.onlyTm : W6Mask := ⟨false, false, false, true, false, false⟩
def W6Mask.onlyEx : W6Mask := ⟨false, false, false, false, true, false⟩
def W6Mask.onlyDn : W6Mask := ⟨false, false, false, false, false, true⟩

theorem w6_step_ptBody (c : Cfg) (r : Nat) (t : Task) (k : List Frame) (hs : c.stack = .ptBody r t :: k)
    (hx : c.exn = none) : step c = c.ptBody k r t := by
  rw [step_cons c _ k hs hx]; rfl

theorem Cfg.w6_ptBody_wait (c : Cfg) (k : List Frame) (r : Nat) (t : Task) {w : Nat} (hg : c.st.gen t.g = .wait w) :
    c.ptBody k r t = c.ptBodyWait k r t w := by
  unfold Cfg.ptBody; rw [hg]

theorem Cfg.w6_ptBody_exc (c : Cfg) (k : List Frame) (r : Nat) (t : Task) {w : Nat} {b : Bool}
    (hg : c.st.gen t.g = .exc w b) : c.ptBody k r t = c.ptBodyExc k r t w b := by
  unfold Cfg.ptBody; rw [hg]

theorem w6_step_invoke (c : Cfg) (r h e : Nat) (k : List Frame) (hs : c.stack = .invoke r h e :: k)
    (hx : c.exn = none) : step c = c.invoke k r h e := by
  rw [step_cons c _ k hs hx]; rfl

/-- A step does none of the things `m` selects, unless its top frame is one of the six that may do one of them.  The "only"
    lemmas call it with a one-bit mask, so that all hypotheses but the one or two for that bit are vacuous. -/
theorem w6_step_q_unless {m : W6Mask} (c : Cfg)
    (hdn : m.dn = true → ∀ r e err k, c.stack = .eventDone r e err :: k → c.exn = none → False)
    (hrn : m.rn = true → ∀ r h e k w, c.stack = .invoke r h e :: k → c.exn = none →
      (c.st.handler h).kind = .waitEvent w → False)
    (hfl : m.fl = true → ∀ r h e k w, c.stack = .invoke r h e :: k → c.exn = none →
      (c.st.handler h).kind = .waitDone w → False)
    (htk : (m.tm || m.ex) = true → ∀ r h e k w, c.stack = .invoke r h e :: k → c.exn = none →
      (c.st.handler h).kind = .waitTick w → False)
    (hwt : m.lg = true → ∀ r t k w, c.stack = .ptBody r t :: k → c.exn = none → c.st.gen t.g = .wait w → False)
    (hxc : (m.lg || m.ex) = true → ∀ r t k w b, c.stack = .ptBody r t :: k → c.exn = none →
      c.st.gen t.g = .exc w b → False) : St.W6Q m c.st (step c).st := by
  unfold step
  split
  · exact St.W6Q.refl _
  rename_i f k hs
  split
  · exact unwind_pres_avoiding c k (St.W6Q.keeps _) _ f rfl (St.W6Q.refl _)
  rename_i hxn
  cases f
  case eventDone r e err =>
    exact Cfg.w6_eventDone_q c k r e err (Bool.eq_false_iff.2 fun hm => hdn hm r e err k hs hxn)
  case invoke r h e =>
    exact Cfg.w6_invoke_q c k r h e (fun w hk => Bool.eq_false_iff.2 fun hm => hrn hm r h e k w hs hxn hk)
      (fun w hk => Bool.eq_false_iff.2 fun hm => hfl hm r h e k w hs hxn hk)
      fun w hk => by simpa using fun hm => htk hm r h e k w hs hxn hk
  case ptBody r t =>
    exact Cfg.w6_ptBody_q c k r t (fun w hg => Bool.eq_false_iff.2 fun hm => hwt hm r t k w hs hxn hg)
      fun w b hg => by simpa using fun hm => hxc hm r t k w b hs hxn hg
  all_goals exact stepFrame_pres_avoiding c k (St.W6Q.keeps _) _ rfl (St.W6Q.refl _)

theorem St.W6Q.noResume {m : W6Mask} {s s' : St} (h : St.W6Q m s s') (hm : m.lg = true) {es : List Entry}
    (hes : s'.log = es ++ s.log) : ∀ x ∈ es, Entry.w6_isResume x = false := by
  obtain ⟨es', e', p'⟩ := h.log hm
  have : es = es' := List.append_cancel_right (hes.symm.trans e')
  subst this; exact p'

theorem w6_resume_only_ptBody (c : Cfg) {es : List Entry} (hes : (step c).st.log = es ++ c.st.log)
    {x : Entry} (hx : x ∈ es) (hr : x.w6_isResume = true) :
    ∃ r t k, c.stack = .ptBody r t :: k ∧ c.exn = none := by
  refine Classical.byContradiction fun hno => ?_
  have hq : St.W6Q W6Mask.onlyLg c.st (step c).st :=
    w6_step_q_unless c nofun nofun nofun nofun (fun _ r t k _ hs hxn _ => hno ⟨r, t, k, hs, hxn⟩)
      fun _ r t k _ _ hs hxn _ => hno ⟨r, t, k, hs, hxn⟩
  have := hq.noResume rfl hes x hx
  rw [hr] at this; cases this

theorem St.W6Q.quietLog {s s' : St} (hq : St.W6Q W6Mask.onlyLg s s') {P : Entry → Prop} :
    ∃ es, s'.log = es ++ s.log ∧ ∀ x ∈ es, Entry.w6_isResume x = true → P x := by
  obtain ⟨es, e1, p1⟩ := hq.log rfl
  exact ⟨es, e1, fun x hx hr => by rw [p1 x hx] at hr; cases hr⟩

theorem St.W6Q.logAfter {s0 s1 s' : St} (X : Entry) (h0 : s1.log = s0.log) (hq : St.W6Q W6Mask.onlyLg (s1.logE X) s')
    {P : Entry → Prop} (hX : P X) : ∃ es, s'.log = es ++ s0.log ∧ ∀ x ∈ es, Entry.w6_isResume x = true → P x := by
  obtain ⟨es, e1, p1⟩ := hq.log rfl
  refine ⟨es ++ [X], by rw [e1, ← h0]; simp, fun x hx hr => ?_⟩
  rcases List.mem_append.1 hx with hx | hx
  · rw [p1 x hx] at hr; cases hr
  · rw [List.mem_singleton.1 hx]; exact hX

/-- the `.resumed` / `.timeout` entry the arm `ptBody` may log: one exit of a `waitEvent` generator, two of an unfired carrier -/
theorem Cfg.w6_ptBody_log (c : Cfg) (k : List Frame) (r : Nat) (t : Task) :
    ∃ es, (c.ptBody k r t).st.log = es ++ c.st.log ∧ ∀ x ∈ es, Entry.w6_isResume x = true →
      (∃ w src p pe ph o rest st pc sd, c.st.gen t.g = .wait w ∧ (c.st.wait w).event = some src ∧ t.parent = some p ∧
        (c.st.removeHandler (c.st.wait w).hDone (some ((c.st.wait w).evName.child sfxDone))).1 = true ∧
        c.st.gen p = .user pe ph o rest st pc sd ∧
        x = .resumed pe ph src (c.st.ev src).val.view (c.st.ev src).val.errors) ∨
      (∃ w pe ph caught, c.st.gen t.g = .exc w false ∧ x = .timeout pe ph caught) := by
  have h := Cfg.ptBody_cases c k r t
  generalize c.ptBody k r t = c' at h ⊢
  cases h with
  | waitResumed hg hrm hev hpar hgen =>
    exact St.W6Q.logAfter _ (by simp) (St.W6Q.resumeGenPre (St.W6Q.refl _) _ _)
      (Or.inl ⟨_, _, _, _, _, _, _, _, _, _, hg, hev, hpar, hrm, by simpa using hgen, by simp⟩)
  | excCaught hg _ _ _ =>
    exact St.W6Q.logAfter _ rfl (St.W6Q.resumeGenPre (St.W6Q.refl _) _ _) (Or.inr ⟨_, _, _, _, hg, rfl⟩)
  | excUncaught hg _ _ _ =>
    exact St.W6Q.logAfter _ rfl (Cfg.w6_contError_q c k _ r t true (St.W6Q.setGen (St.W6Q.refl _) _ _ (fun _ => rfl)))
      (Or.inr ⟨_, _, _, _, hg, rfl⟩)
  | _ => exact St.W6Q.quietLog (by st_pres)

theorem w6_resumed_needs_event (c : Cfg) {es : List Entry} (hes : (step c).st.log = es ++ c.st.log)
    {pe ph src : Nat} {v : Collapsed} {er : Bool} (hx : Entry.resumed pe ph src v er ∈ es) :
    ∃ r t k w p o rest st pc sd, c.stack = .ptBody r t :: k ∧ c.exn = none ∧ c.st.gen t.g = .wait w ∧
      (c.st.wait w).event = some src ∧ t.parent = some p ∧ c.st.gen p = .user pe ph o rest st pc sd ∧
      (c.st.removeHandler (c.st.wait w).hDone (some ((c.st.wait w).evName.child sfxDone))).1 = true ∧
      v = (c.st.ev src).val.view ∧ er = (c.st.ev src).val.errors := by
  obtain ⟨r, t, k, hs, hxn⟩ := w6_resume_only_ptBody c hes hx rfl
  obtain ⟨es', e', p'⟩ := Cfg.w6_ptBody_log c k r t
  rw [← w6_step_ptBody c r t k hs hxn] at e'
  obtain rfl : es = es' := List.append_cancel_right (hes.symm.trans e')
  rcases p' _ hx rfl with ⟨w, src', p, pe', ph', o, rest, st, pc, sd, hg, h1, h3, h4, h5, h6⟩ | ⟨_, _, _, _, _, h6⟩
  · injection h6 with a1 a2 a3 a4 a5
    subst a1 a2 a3
    exact ⟨r, t, k, w, p, o, rest, st, pc, sd, hs, hxn, hg, h1, h3, h5, h4, a4, a5⟩
  · cases h6

theorem w6_timeout_needs_exc (c : Cfg) {es : List Entry} (hes : (step c).st.log = es ++ c.st.log)
    {pe ph : Nat} {caught : Bool} (hx : Entry.timeout pe ph caught ∈ es) :
    ∃ r t k w, c.stack = .ptBody r t :: k ∧ c.exn = none ∧ c.st.gen t.g = .exc w false := by
  obtain ⟨r, t, k, hs, hxn⟩ := w6_resume_only_ptBody c hes hx rfl
  obtain ⟨es', e', p'⟩ := Cfg.w6_ptBody_log c k r t
  rw [← w6_step_ptBody c r t k hs hxn] at e'
  obtain rfl : es = es' := List.append_cancel_right (hes.symm.trans e')
  rcases p' _ hx rfl with ⟨_, _, _, _, _, _, _, _, _, _, _, _, _, _, _, h6⟩ | ⟨w, _, _, _, hg, _⟩
  · cases h6
  · exact ⟨r, t, k, w, hs, hxn, hg⟩

theorem w6_flag_only_waitDone (c : Cfg) (w : Nat) (hne : ((step c).st.wait w).flag ≠ (c.st.wait w).flag) :
    ∃ r h e k w0, c.stack = .invoke r h e :: k ∧ c.exn = none ∧ (c.st.handler h).kind = .waitDone w0 := by
  refine Classical.byContradiction fun hno => ?_
  have hq : St.W6Q W6Mask.onlyFl c.st (step c).st :=
    w6_step_q_unless c nofun nofun (fun _ r h e k w0 hs hxn hk => hno ⟨r, h, e, k, w0, hs, hxn, hk⟩) nofun nofun nofun
  exact hne (hq.flag rfl w)

theorem w6_flag_needs_done (c : Cfg) (w : Nat) (hne : ((step c).st.wait w).flag ≠ (c.st.wait w).flag) :
    ∃ r h e k src, c.stack = .invoke r h e :: k ∧ c.exn = none ∧ (c.st.handler h).kind = .waitDone w ∧
      (c.st.wait w).event = some src ∧ (c.st.ev e).parentEv = some src ∧ ((step c).st.wait w).flag = true := by
  obtain ⟨r, h, e, k, w0, hs, hxn, hk⟩ := w6_flag_only_waitDone c w hne
  rw [w6_step_invoke c r h e k hs hxn, Cfg.w6_invoke_waitDone c k r h e w0 hk,
    ((c.w6_invokeSt h e).onWaitDone_compsOnly w0 e).wait w] at hne ⊢
  simp only [Cfg.w6_invokeSt_wait, Cfg.w6_invokeSt_ev] at hne ⊢
  split at hne
  · rename_i hg
    rw [if_pos hg]
    obtain ⟨rfl, _, hf⟩ := St.w6_modWait_wait_changed (p := (·.flag)) (by rwa [Cfg.w6_invokeSt_wait])
    obtain ⟨src, hsrc⟩ := Option.isSome_iff_exists.1 hg.2.2.1
    exact ⟨r, h, e, k, src, hs, hxn, hk, hsrc, by rw [← hg.2.2.2, hsrc], by rw [hf]⟩
  · rw [Cfg.w6_invokeSt_wait] at hne; exact absurd rfl hne

theorem w6_run_only_waitEvent (c : Cfg) (w : Nat)
    (hne : ((step c).st.wait w).run ≠ (c.st.wait w).run ∨ ((step c).st.wait w).event ≠ (c.st.wait w).event) :
    ∃ r h e k w0, c.stack = .invoke r h e :: k ∧ c.exn = none ∧ (c.st.handler h).kind = .waitEvent w0 := by
  refine Classical.byContradiction fun hno => ?_
  have hq : St.W6Q W6Mask.onlyRn c.st (step c).st :=
    w6_step_q_unless c nofun (fun _ r h e k w0 hs hxn hk => hno ⟨r, h, e, k, w0, hs, hxn, hk⟩) nofun nofun nofun nofun
  rcases hne with hne | hne
  · exact hne (hq.run rfl w).1
  · exact hne (hq.run rfl w).2

theorem w6_event_needs_on_event (c : Cfg) (w : Nat)
    (hne : ((step c).st.wait w).run ≠ (c.st.wait w).run ∨ ((step c).st.wait w).event ≠ (c.st.wait w).event) :
    ∃ r h e k, c.stack = .invoke r h e :: k ∧ c.exn = none ∧ (c.st.handler h).kind = .waitEvent w ∧
      (c.st.wait w).run = false ∧ ((c.st.wait w).evObj = none ∨ (c.st.wait w).evObj = some e) ∧
      ((step c).st.wait w).run = true ∧ ((step c).st.wait w).event = some e := by
  obtain ⟨r, h, e, k, w0, hs, hxn, hk⟩ := w6_run_only_waitEvent c w hne
  rw [w6_step_invoke c r h e k hs hxn, Cfg.w6_invoke_waitEvent c k r h e w0 hk,
    ((c.w6_invokeSt h e).onWaitEvent_compsOnly w0 e).wait w] at hne ⊢
  simp only [Cfg.w6_invokeSt_wait] at hne ⊢
  split at hne
  · rename_i hg
    rw [if_pos hg]
    rw [St.w6_modEv_wait] at hne ⊢
    obtain ⟨rfl, _, hf⟩ : w = w0 ∧ _ ∧ _ := by
      rcases hne with hne | hne
      · exact St.w6_modWait_wait_changed (p := (·.run)) (by rwa [Cfg.w6_invokeSt_wait])
      · exact St.w6_modWait_wait_changed (p := (·.event)) (by rwa [Cfg.w6_invokeSt_wait])
    exact ⟨r, h, e, k, hs, hxn, hk, hg.1.1, hg.1.2.2, by rw [hf], by rw [hf]⟩
  · rw [Cfg.w6_invokeSt_wait] at hne; rcases hne with hne | hne <;> exact absurd rfl hne

theorem w6_timeout_only_waitTick (c : Cfg) (w : Nat) (hw : w < c.st.waits.length)
    (hne : ((step c).st.wait w).timeout ≠ (c.st.wait w).timeout) :
    ∃ r h e k w0, c.stack = .invoke r h e :: k ∧ c.exn = none ∧ (c.st.handler h).kind = .waitTick w0 := by
  refine Classical.byContradiction fun hno => ?_
  have hq : St.W6Q W6Mask.onlyTm c.st (step c).st :=
    w6_step_q_unless c nofun nofun nofun (fun _ r h e k w0 hs hxn hk => hno ⟨r, h, e, k, w0, hs, hxn, hk⟩) nofun nofun
  exact hne (hq.timeout rfl w hw)

theorem w6_timeout_counts_down (c : Cfg) (w : Nat) (hw : w < c.st.waits.length)
    (hne : ((step c).st.wait w).timeout ≠ (c.st.wait w).timeout) :
    ∃ r h e k, c.stack = .invoke r h e :: k ∧ c.exn = none ∧ (c.st.handler h).kind = .waitTick w ∧
      (c.st.wait w).timeout > 0 ∧ ((step c).st.wait w).timeout = (c.st.wait w).timeout - 1 := by
  obtain ⟨r, h, e, k, w0, hs, hxn, hk⟩ := w6_timeout_only_waitTick c w hw hne
  rw [w6_step_invoke c r h e k hs hxn, Cfg.w6_invoke_waitTick c k r h e w0 hk,
    ((c.w6_invokeSt h e).onWaitTick_compsOnly w0).wait w] at hne ⊢
  simp only [Cfg.w6_invokeSt_wait] at hne ⊢
  -- of the four ways `_on_tick` can go only the countdown changes a `timeout`
  split at hne
  · rw [Cfg.w6_invokeSt_wait] at hne; exact absurd rfl hne
  rename_i hg
  rw [if_neg hg]
  split at hne
  · rw [St.w6_addGen_wait, St.w6_modWait_wait_pres _ (·.timeout) _ _ (by intro x; rfl), Cfg.w6_invokeSt_wait] at hne
    exact absurd rfl hne
  rename_i h0
  rw [if_neg h0]
  split at hne
  · rename_i hp
    rw [if_pos hp]
    obtain ⟨rfl, _, hf⟩ := St.w6_modWait_wait_changed (p := (·.timeout)) (by rwa [Cfg.w6_invokeSt_wait])
    exact ⟨r, h, e, k, hs, hxn, hk, hp, by rw [hf, Cfg.w6_invokeSt_wait]⟩
  · rw [Cfg.w6_invokeSt_wait] at hne; exact absurd rfl hne

/-- The task step of an `exc` carrier changes no `exc` record but possibly its own: if the carrier has fired already the
    step changes none (left), otherwise none after it has marked its own record as fired and left the task set (right). -/
theorem Cfg.w6_ptBodyExc_ex (c : Cfg) (k : List Frame) (r : Nat) (t : Task) (w : Nat) (fired : Bool) :
    St.W6Q W6Mask.onlyEx c.st (c.ptBodyExc k r t w fired).st ∨
      St.W6Q W6Mask.onlyEx ((c.st.setGen t.g (.exc w true)).unregisterTask r t) (c.ptBodyExc k r t w fired).st := by
  unfold Cfg.ptBodyExc
  dsimp only
  split
  · left; st_pres
  · right
    generalize (c.st.setGen t.g (.exc w true)).unregisterTask r t = s1
    st_pres

theorem w6_exc_only (c : Cfg) (g : Nat) (hg : ((step c).st.gen g).w6_isExc = true) (hne : (step c).st.gen g ≠ c.st.gen g) :
    (∃ r h e k w0, c.stack = .invoke r h e :: k ∧ c.exn = none ∧ (c.st.handler h).kind = .waitTick w0) ∨
    (∃ r t k w b, c.stack = .ptBody r t :: k ∧ c.exn = none ∧ c.st.gen t.g = .exc w b) := by
  refine Classical.byContradiction fun hno => ?_
  have hq : St.W6Q W6Mask.onlyEx c.st (step c).st :=
    w6_step_q_unless c nofun nofun nofun (fun _ r h e k w0 hs hxn hk => hno (Or.inl ⟨r, h, e, k, w0, hs, hxn, hk⟩)) nofun
      fun _ r t k w b hs hxn hgen => hno (Or.inr ⟨r, t, k, w, b, hs, hxn, hgen⟩)
  exact hne (hq.exc rfl g hg)

/-- Where an `.exc w b` record of the next state comes from: it was there; or `w`'s own `_on_tick` closure, finding the
    countdown at 0 with the outcome open (neither `flag` nor `timedOut` set), has just created it, as the last generator and not
    fired; or it is the record of the carrier whose task step this is. -/
theorem w6_exc_step (c : Cfg) (g w : Nat) (b : Bool) (hg : (step c).st.gen g = .exc w b) :
    c.st.gen g = .exc w b ∨
    (∃ r h e k, c.stack = .invoke r h e :: k ∧ c.exn = none ∧ (c.st.handler h).kind = .waitTick w ∧
      (c.st.wait w).timeout = 0 ∧ (c.st.wait w).flag = false ∧ (c.st.wait w).timedOut = false ∧ b = false ∧
      g = c.st.gens.length) ∨
    (∃ r t k b0, c.stack = .ptBody r t :: k ∧ c.exn = none ∧ c.st.gen t.g = .exc w b0 ∧ g = t.g) := by
  by_cases hne : (step c).st.gen g = c.st.gen g
  · left; rw [← hne]; exact hg
  right
  rcases w6_exc_only c g (by rw [hg]; rfl) hne with ⟨r, h, e, k, w0, hs, hxn, hk⟩ | ⟨r, t, k, w0, b0, hs, hxn, hgen⟩
  · left
    rw [w6_step_invoke c r h e k hs hxn, Cfg.w6_invoke_waitTick c k r h e w0 hk,
      ((c.w6_invokeSt h e).onWaitTick_compsOnly w0).gen g] at hg hne
    simp only [Cfg.w6_invokeSt_wait] at hg hne
    -- of the four ways `_on_tick` can go only the time-out changes a generator record
    split at hne
    · rw [Cfg.w6_invokeSt_gen] at hne; exact absurd rfl hne
    rename_i hopen
    rw [if_neg hopen] at hg
    rw [Bool.or_eq_true, not_or, Bool.not_eq_true, Bool.not_eq_true] at hopen
    split at hne
    · rename_i h0
      rw [if_pos h0, St.w6_addGen_gen, St.w6_modWait_gens] at hg
      rw [St.w6_addGen_gen, St.w6_modWait_gens] at hne
      split at hg
      · rename_i hgl
        injection hg with a1 a2
        subst a1
        exact ⟨r, h, e, k, hs, hxn, hk, beq_iff_eq.1 h0, hopen.1, hopen.2, a2.symm, by rw [hgl, Cfg.w6_invokeSt_gens]⟩
      · rename_i hgl; rw [if_neg hgl, St.w6_modWait_gen, Cfg.w6_invokeSt_gen] at hne; exact absurd rfl hne
    · split at hne <;> (first | rw [St.w6_modWait_gen, Cfg.w6_invokeSt_gen] at hne | rw [Cfg.w6_invokeSt_gen] at hne) <;>
        exact absurd rfl hne
  · right
    rw [w6_step_ptBody c r t k hs hxn, Cfg.w6_ptBody_exc c k r t hgen] at hg hne
    -- the carrier's own task step marks its record as fired and touches no other `exc` record
    rcases Cfg.w6_ptBodyExc_ex c k r t w0 b0 with hq | hq
    · exact absurd (hq.exc rfl g (by rw [hg]; rfl)) hne
    · have h3 := hq.exc rfl g (by rw [hg]; rfl)
      simp only [St.w6_unregisterTask_gen] at h3
      rcases St.w6_setGen_gen_cases c.st t.g (.exc w0 true) g with h4 | ⟨h4, _, h5⟩
      · rw [h4] at h3; exact absurd h3 hne
      · subst h4
        rw [h5, hg] at h3
        injection h3 with a1 _
        subst a1
        exact ⟨r, t, k, b0, hs, hxn, hgen, rfl⟩

theorem w6_exc_needs_timeout0 (c : Cfg) (g w : Nat) (b : Bool) (hg : (step c).st.gen g = .exc w b)
    (hnew : (c.st.gen g).w6_isExc = false) :
    ∃ r h e k, c.stack = .invoke r h e :: k ∧ c.exn = none ∧ (c.st.handler h).kind = .waitTick w ∧
      (c.st.wait w).timeout = 0 ∧ b = false ∧ g = c.st.gens.length := by
  rcases w6_exc_step c g w b hg with h1 | ⟨r, h, e, k, hs, hxn, hk, h0, _, _, hb, hgl⟩ | ⟨r, t, k, b0, _, _, hgen, rfl⟩
  · rw [h1] at hnew; cases hnew
  · exact ⟨r, h, e, k, hs, hxn, hk, h0, hb, hgl⟩
  · rw [hgen] at hnew; cases hnew

theorem St.W6Q.doneChild_back {m : W6Mask} {s s' : St} (hq : St.W6Q m s s') (hm : m.dn = true) {e' : Nat}
    (hd : (s'.ev e').w6_isDoneChild = true) :
    e' < s.evs.length ∧ (s'.ev e').parentEv = (s.ev e').parentEv ∧ (s'.ev e').name = (s.ev e').name := by
  have hlt : e' < s.evs.length := by
    refine Classical.byContradiction fun hn => ?_
    rw [hq.newEv hm e' (by omega)] at hd; cases hd
  exact ⟨hlt, hq.evKeep e' hlt⟩

theorem St.w6_eventDonePre_done (t : St) (r e : Nat) (err : Bool) (e' : Nat) (hge : t.evs.length ≤ e')
    (hd : ((t.eventDonePre r e err).2.ev e').w6_isDoneChild = true) :
    (t.ev e).waiting = 0 ∧ (t.ev e).alertDone = true ∧
      ((t.eventDonePre r e err).2.ev e').parentEv = some e ∧
      ((t.eventDonePre r e err).2.ev e').name = (t.ev e).name.child sfxDone := by
  -- `eventDonePre` fires the `_done` child, if at all, first; nothing it does afterwards creates a `_done` child
  have rest : ∀ s1 : St, St.W6Q W6Mask.all s1
      ((if (!err && !(s1.ev e).val.errors && (s1.ev e).success) = true
        then s1.fireChild r e sfxSuccess ((s1.ev e).successChans.getD (s1.ev e).chans) else s1).modEv e
          fun x => { x with selfDone := true }) := fun s1 => by st_pres
  unfold St.eventDonePre at hd ⊢
  dsimp only at hd ⊢
  by_cases hw : ((t.ev e).waiting != 0) = true
  · rw [if_pos hw, St.w6_ev_ge _ _ hge] at hd; cases hd
  rw [if_neg hw] at hd ⊢
  by_cases ha : (t.ev e).alertDone = true
  · simp only [ha, if_true] at hd ⊢
    obtain ⟨_, p2, n2⟩ := (rest _).doneChild_back rfl hd
    -- so `e'` is a `_done` child after `fireChild`, which is `fireRaw` after `childEv`: it is the child just created
    have h1 : St.W6Q W6Mask.all (t.childEv e sfxDone) (t.fireChild r e sfxDone (t.ev e).chans) := by
      unfold St.fireChild; exact St.W6Q.fireRaw (St.W6Q.refl _) _ _ _ _
    obtain ⟨l1, p1, n1⟩ := h1.doneChild_back rfl (by unfold Ev.w6_isDoneChild at hd ⊢; rwa [← p2, ← n2])
    have he' : e' = t.evs.length := by simp [St.childEv] at l1; omega
    subst he'
    refine ⟨by simpa using hw, trivial, ?_, ?_⟩
    · rw [p2, p1]; simp [St.childEv, St.w6_addEv_ev]
    · rw [n2, n1]; simp [St.childEv, St.w6_addEv_ev]
  · simp only [ha, Bool.false_eq_true, if_false] at hd
    exact absurd ((rest t).doneChild_back rfl hd).1 (Nat.not_lt.2 hge)

theorem w6_done_only_eventDone (c : Cfg) (e' : Nat) (hge : c.st.evs.length ≤ e')
    (hd : ((step c).st.ev e').w6_isDoneChild = true) :
    ∃ r e err k, c.stack = .eventDone r e err :: k ∧ c.exn = none := by
  refine Classical.byContradiction fun hno => ?_
  have hq : St.W6Q W6Mask.onlyDn c.st (step c).st :=
    w6_step_q_unless c (fun _ r e err k hs hxn => hno ⟨r, e, err, k, hs, hxn⟩) nofun nofun nofun nofun nofun
  rw [hq.newEv rfl e' hge] at hd; cases hd

theorem w6_done_needs_all_finished (c : Cfg) (e' : Nat) (hge : c.st.evs.length ≤ e')
    (hd : ((step c).st.ev e').w6_isDoneChild = true) :
    ∃ r p err k, c.stack = .eventDone r p err :: k ∧ c.exn = none ∧ (c.st.ev p).waiting = 0 ∧
      (c.st.ev p).alertDone = true ∧ ((step c).st.ev e').parentEv = some p ∧
      ((step c).st.ev e').name = (c.st.ev p).name.child sfxDone := by
  obtain ⟨r, p, err, k, hs, hxn⟩ := w6_done_only_eventDone c e' hge hd
  have hst : (step c).st = (c.st.eventDonePre r p err).2 := by
    rw [step_cons c _ k hs hxn]; exact Cfg.eventDone_st ..
  rw [hst] at hd ⊢
  obtain ⟨h1, h2, h4, h5⟩ := St.w6_eventDonePre_done c.st r p err e' hge hd
  exact ⟨r, p, err, k, hs, hxn, h1, h2, h4, h5⟩

/-- existing events never change their name or parent (so "is the `_done` child of `p`" is a stable identity) -/
theorem w6_step_ev_identity (c : Cfg) (e : Nat) (he : e < c.st.evs.length) :
    ((step c).st.ev e).parentEv = (c.st.ev e).parentEv ∧ ((step c).st.ev e).name = (c.st.ev e).name := by
  have hq : St.W6Q ⟨false, false, false, false, false, false⟩ c.st (step c).st :=
    w6_step_q_unless c nofun nofun nofun nofun nofun nofun
  exact hq.evKeep e he

end CV.Core
