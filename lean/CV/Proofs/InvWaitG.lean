import CV.Proofs.InvWaitViewDef
/-
C06, global layer: the generator / task invariant `W6GInv` with its transfer lemmas (on views).
-/
namespace CV.Core

/-- user code may only `removeHandler` pre-declared handlers (ids `< n0`); `addHandler` is restricted
    by the model itself to declared user handlers -/
def Act.w6_hOk (n0 : Nat) : Act → Prop
  | .rmH h _ => h < n0
  | _ => True

namespace W6View
/-- `g` is a generator that is not (and so never will be) a waitEvent generator -/
def NonWait (v : W6View) (g : Nat) : Prop := g < v.ng ∧ (v.gen g).w6_isWait = false

/-- a task entry: a waitEvent generator is registered only once its `flag` is set; parents are not waitEvent generators -/
def TaskOk (v : W6View) (t : Task) : Prop :=
  t.g < v.ng ∧ (∀ w, v.gen t.g = .wait w → (v.wg w).flag = true) ∧ (∀ p, t.parent = some p → v.NonWait p)

theorem NonWait.mono {v v' : W6View} {p : Nat} (hp : v.NonWait p) (hng : v.ng ≤ v'.ng)
    (hback : ∀ w, v'.gen p = .wait w → v.gen p = .wait w) : v'.NonWait p := by
  refine ⟨Nat.lt_of_lt_of_le hp.1 hng, ?_⟩
  cases hg : v'.gen p with
  | wait w => have := hp.2; rw [hback w hg] at this; cases this
  | _ => rfl

theorem NonWait.taskOk {v : W6View} {g : Nat} (hg : v.NonWait g) (e : Nat) : v.TaskOk ⟨e, g, none⟩ :=
  ⟨hg.1, fun w (hw : v.gen g = .wait w) => (by have := hg.2; rw [hw] at this; cases this), nofun⟩

theorem TaskOk.mono {v v' : W6View} {t : Task} (ht : v.TaskOk t) (hng : v.ng ≤ v'.ng)
    (hback : ∀ g, g < v.ng → ∀ w, v'.gen g = .wait w → v.gen g = .wait w)
    (hfl : ∀ w, v.gen t.g = .wait w → (v.wg w).flag = true → (v'.wg w).flag = true) : v'.TaskOk t :=
  ⟨Nat.lt_of_lt_of_le ht.1 hng, fun w hg => hfl w (hback _ ht.1 w hg) (ht.2.1 w (hback _ ht.1 w hg)),
    fun p hp => (ht.2.2 p hp).mono hng (hback p (ht.2.2 p hp).1)⟩
end W6View

structure W6GInv (n0 : Nat) (v : W6View) : Prop where
  taskGen : ∀ w, w < v.nw → (v.wg w).task < v.ng ∧ v.gen (v.wg w).task = .wait w
  genLt : ∀ g w, v.gen g = .wait w → w < v.nw
  pgen : ∀ w, w < v.nw → (v.wg w).started = true → v.NonWait (v.wg w).parentGen
  tasks : ∀ c t, t ∈ v.tasks c → v.TaskOk t
  gacts : ∀ g e h o rest st pc sd, v.gen g = .user e h o rest st pc sd → ∀ a ∈ rest, Act.w6_hOk n0 a
  progsOk : ∀ p ∈ v.progs, ∀ a ∈ p, Act.w6_hOk n0 a

namespace W6GInv
variable {n0 : Nat} {v v' : W6View}

/-- one generator record, old or new, is written; neither the old nor the new one is a waitEvent generator -/
theorem oneGen (h : W6GInv n0 v) (g0 : Nat) (hng : v.ng ≤ v'.ng) (e2 : ∀ g, g ≠ g0 → v'.gen g = v.gen g)
    (hold : ∀ w, v.gen g0 ≠ .wait w) (hnew : (v'.gen g0).w6_isWait = false)
    (hacts : ∀ e h o rest st pc sd, v'.gen g0 = .user e h o rest st pc sd → ∀ a ∈ rest, Act.w6_hOk n0 a)
    (e3 : v'.nw = v.nw) (e4 : v'.wg = v.wg) (e5 : v'.tasks = v.tasks) (e6 : v'.progs = v.progs) : W6GInv n0 v' := by
  have hw : ∀ g w, v'.gen g = .wait w → v.gen g = .wait w := by
    intro g w hg
    by_cases e : g = g0
    · subst e; rw [hg] at hnew; cases hnew
    · rwa [e2 g e] at hg
  have hw' : ∀ g w, v.gen g = .wait w → v'.gen g = .wait w := by
    intro g w hg
    by_cases e : g = g0
    · subst e; exact absurd hg (hold w)
    · rwa [e2 g e]
  have hnw : ∀ p, v.NonWait p → v'.NonWait p := fun p hp => hp.mono hng (hw p)
  refine ⟨?_, ?_, ?_, ?_, ?_, by rw [e6]; exact h.progsOk⟩
  · intro w hw0; rw [e3] at hw0; rw [e4]
    exact ⟨Nat.lt_of_lt_of_le (h.taskGen w hw0).1 hng, hw' _ _ (h.taskGen w hw0).2⟩
  · intro g w hg; rw [e3]; exact h.genLt g w (hw g w hg)
  · intro w hw0 hs; rw [e3] at hw0; rw [e4] at hs ⊢; exact hnw _ (h.pgen w hw0 hs)
  · intro c t ht; rw [e5] at ht
    exact (h.tasks c t ht).mono hng (fun g _ => hw g) (fun w _ hf => by rw [e4]; exact hf)
  · intro g e hh o rest st pc sd hg
    by_cases eg : g = g0
    · subst eg; exact hacts e hh o rest st pc sd hg
    · rw [e2 g eg] at hg; exact h.gacts g e hh o rest st pc sd hg

theorem setGen (h : W6GInv n0 v) (g0 : Nat) (e1 : v'.ng = v.ng) (e2 : ∀ g, g ≠ g0 → v'.gen g = v.gen g)
    (hold : (v.gen g0).w6_isWait = false) (hnew : (v'.gen g0).w6_isWait = false)
    (hacts : ∀ e h o rest st pc sd, v'.gen g0 = .user e h o rest st pc sd → ∀ a ∈ rest, Act.w6_hOk n0 a)
    (e3 : v'.nw = v.nw) (e4 : v'.wg = v.wg) (e5 : v'.tasks = v.tasks) (e6 : v'.progs = v.progs) : W6GInv n0 v' :=
  h.oneGen g0 (Nat.le_of_eq e1.symm) e2 (fun w hg => by rw [hg] at hold; cases hold) hnew hacts e3 e4 e5 e6

theorem addGen (h : W6GInv n0 v) (e1 : v'.ng = v.ng + 1) (e2 : ∀ g, g ≠ v.ng → v'.gen g = v.gen g)
    (hnew : (v'.gen v.ng).w6_isWait = false)
    (hacts : ∀ e h o rest st pc sd, v'.gen v.ng = .user e h o rest st pc sd → ∀ a ∈ rest, Act.w6_hOk n0 a)
    (hdf : ∀ w, v.gen v.ng ≠ .wait w)
    (e3 : v'.nw = v.nw) (e4 : v'.wg = v.wg) (e5 : v'.tasks = v.tasks) (e6 : v'.progs = v.progs) : W6GInv n0 v' :=
  h.oneGen v.ng (by rw [e1]; exact Nat.le_succ _) e2 hdf hnew hacts e3 e4 e5 e6

theorem tasksChange (h : W6GInv n0 v) (e1 : v'.ng = v.ng) (e2 : v'.gen = v.gen) (e3 : v'.nw = v.nw)
    (e4 : v'.wg = v.wg) (e6 : v'.progs = v.progs)
    (e5 : ∀ c t, t ∈ v'.tasks c → t ∈ v.tasks c ∨ v.TaskOk t) : W6GInv n0 v' := by
  refine ⟨by rw [e1, e2, e3, e4]; exact h.taskGen, by rw [e2, e3]; exact h.genLt, ?_, ?_,
    by rw [e2]; exact h.gacts, by rw [e6]; exact h.progsOk⟩
  · intro w hw hs; rw [e3] at hw; rw [e4] at hs ⊢
    exact (h.pgen w hw hs).mono (Nat.le_of_eq e1.symm) fun w hg => by rwa [e2] at hg
  · intro c t ht
    have : v.TaskOk t := (e5 c t ht).elim (h.tasks c t) id
    exact this.mono (Nat.le_of_eq e1.symm) (fun g _ w hg => by rwa [e2] at hg) (fun w _ hf => by rw [e4]; exact hf)

theorem congr (h : W6GInv n0 v) (e1 : v'.ng = v.ng) (e2 : v'.gen = v.gen) (e3 : v'.nw = v.nw)
    (e4 : v'.wg = v.wg) (e5 : v'.tasks = v.tasks) (e6 : v'.progs = v.progs) : W6GInv n0 v' :=
  h.tasksChange e1 e2 e3 e4 e6 fun _ _ ht => .inl (e5 ▸ ht)

/-- a new waitEvent generator together with its (unstarted, unflagged) wait state (`genCall` / `genWait`) -/
theorem newWait (h : W6GInv n0 v) (e1 : v'.ng = v.ng + 1) (e2 : ∀ g, g ≠ v.ng → v'.gen g = v.gen g)
    (hnew : v'.gen v.ng = .wait v.nw) (hdf : ∀ w, v.gen v.ng ≠ .wait w)
    (e3 : v'.nw = v.nw + 1) (e4 : ∀ w, w ≠ v.nw → v'.wg w = v.wg w)
    (hw1 : (v'.wg v.nw).task = v.ng) (hw2 : (v'.wg v.nw).started = false)
    (e5 : v'.tasks = v.tasks) (e6 : v'.progs = v.progs) : W6GInv n0 v' := by
  have hw : ∀ g w, g ≠ v.ng → v'.gen g = .wait w → v.gen g = .wait w := by
    intro g w e hg; rwa [e2 g e] at hg
  have hw' : ∀ g w, v.gen g = .wait w → v'.gen g = .wait w := by
    intro g w hg
    by_cases e : g = v.ng
    · subst e; exact absurd hg (hdf w)
    · rwa [e2 g e]
  have hng : v.ng ≤ v'.ng := by rw [e1]; exact Nat.le_succ _
  have hnw : ∀ p, v.NonWait p → v'.NonWait p := fun p hp =>
    hp.mono hng fun w hg => by rwa [e2 p (Nat.ne_of_lt hp.1)] at hg
  refine ⟨?_, ?_, ?_, ?_, ?_, by rw [e6]; exact h.progsOk⟩
  · intro w hw0; rw [e3] at hw0; rw [e1]
    by_cases e : w = v.nw
    · subst e; rw [hw1]; exact ⟨Nat.lt_succ_self _, hnew⟩
    · rw [e4 w e]
      have := h.taskGen w (by omega)
      exact ⟨Nat.lt_succ_of_lt this.1, hw' _ _ this.2⟩
  · intro g w hg; rw [e3]
    by_cases e : g = v.ng
    · subst e; rw [hnew] at hg; injection hg with hg; omega
    · exact Nat.lt_succ_of_lt (h.genLt g w (hw g w e hg))
  · intro w hw0 hs; rw [e3] at hw0
    by_cases e : w = v.nw
    · subst e; rw [hw2] at hs; cases hs
    · rw [e4 w e] at hs ⊢; exact hnw _ (h.pgen w (by omega) hs)
  · intro c t ht; rw [e5] at ht
    exact (h.tasks c t ht).mono hng (fun g hlt w => hw g w (Nat.ne_of_lt hlt))
      (fun w hg hf => by rw [e4 w (Nat.ne_of_lt (h.genLt _ _ hg))]; exact hf)
  · intro g e hh o rest st pc sd hg
    by_cases eg : g = v.ng
    · subst eg; rw [hnew] at hg; cases hg
    · rw [e2 g eg] at hg; exact h.gacts g e hh o rest st pc sd hg

theorem wgUpdate (h : W6GInv n0 v) (w0 : Nat) (e1 : v'.ng = v.ng) (e2 : v'.gen = v.gen) (e3 : v'.nw = v.nw)
    (e4 : ∀ w, w ≠ w0 → v'.wg w = v.wg w) (f1 : (v'.wg w0).task = (v.wg w0).task)
    (f2 : (v.wg w0).flag = true → (v'.wg w0).flag = true)
    (f3 : w0 < v.nw → (v'.wg w0).started = true → v.NonWait (v'.wg w0).parentGen)
    (e5 : v'.tasks = v.tasks) (e6 : v'.progs = v.progs) : W6GInv n0 v' := by
  have hnw : ∀ p, v.NonWait p → v'.NonWait p := fun p hp =>
    hp.mono (Nat.le_of_eq e1.symm) fun w hg => by rwa [e2] at hg
  refine ⟨?_, by rw [e2, e3]; exact h.genLt, ?_, ?_, by rw [e2]; exact h.gacts, by rw [e6]; exact h.progsOk⟩
  · intro w hw; rw [e3] at hw; rw [e1, e2]
    by_cases e : w = w0
    · subst e; rw [f1]; exact h.taskGen w hw
    · rw [e4 w e]; exact h.taskGen w hw
  · intro w hw hs; rw [e3] at hw
    by_cases e : w = w0
    · subst e; exact hnw _ (f3 hw hs)
    · rw [e4 w e] at hs ⊢; exact hnw _ (h.pgen w hw hs)
  · intro c t ht; rw [e5] at ht
    refine (h.tasks c t ht).mono (Nat.le_of_eq e1.symm) (fun g _ w hg => by rwa [e2] at hg) fun w _ hf => ?_
    by_cases e : w = w0
    · subst e; exact f2 hf
    · rw [e4 w e]; exact hf

end W6GInv
end CV.Core
