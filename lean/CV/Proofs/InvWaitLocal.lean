import CV.Proofs.CoreStep
/-
C06, local layer: WHICH step can do WHAT to the wait protocol.

`St.W6Q m s s'` ("`s'` is reached from `s` without doing any of the things selected by the mask
`m`") has one clause per protocol action:

  lg  no `.resumed` / `.timeout` entry is logged
  fl  no wait state's `flag` changes                  (only `_on_done` may)
  rn  no wait state's `run` / `event` changes         (only `_on_event` may)
  tm  no existing wait state's `timeout` changes      (only `_on_tick` may)
  ex  no `GenRec.exc` generator appears or changes    (only `_on_tick` / its own task step may)
  dn  no `_done` child event is created               (only `_eventDone` may)

plus, unconditionally: tables only grow, existing events keep `name` and `parentEv`.
Every helper of the machine respects `Q m` for every `m`, except those that perform one of the protocol actions
(`w6_protoOps`), which respect it for the masks with "their" bits cleared.  `w6_step_q_unless` of `InvWaitFacts` lifts this
to `step`; the local theorems of `CV.Props.C06` are read off from it.  The lemmas carry `st_pres` (`CV/Proofs/Pres.lean`).
-/
namespace CV.Core

def Entry.w6_isResume : Entry → Bool
  | .resumed .. => true
  | .timeout .. => true
  | _ => false

def GenRec.w6_isExc : GenRec → Bool
  | .exc .. => true
  | _ => false

def Ev.w6_isDoneChild (x : Ev) : Bool := x.parentEv.isSome && (x.name.sfx.getLast? == some sfxDone)

structure W6Mask where
  lg : Bool := true
  fl : Bool := true
  rn : Bool := true
  tm : Bool := true
  ex : Bool := true
  dn : Bool := true

def W6Mask.all : W6Mask := {}
def W6Mask.noLg : W6Mask := { lg := false, ex := false }   -- the task step of a wait / exc generator
def W6Mask.noFl : W6Mask := { fl := false }
def W6Mask.noRn : W6Mask := { rn := false }
def W6Mask.noTm : W6Mask := { tm := false, ex := false }
def W6Mask.noDn : W6Mask := { dn := false }

structure St.W6Q (m : W6Mask) (s s' : St) : Prop where
  log : m.lg = true → ∃ es, s'.log = es ++ s.log ∧ ∀ x ∈ es, Entry.w6_isResume x = false
  waitsLen : s.waits.length ≤ s'.waits.length
  flag : m.fl = true → ∀ w, (s'.wait w).flag = (s.wait w).flag
  run : m.rn = true → ∀ w, (s'.wait w).run = (s.wait w).run ∧ (s'.wait w).event = (s.wait w).event
  timeout : m.tm = true → ∀ w, w < s.waits.length → (s'.wait w).timeout = (s.wait w).timeout
  exc : m.ex = true → ∀ g, (s'.gen g).w6_isExc = true → s'.gen g = s.gen g
  evsLen : s.evs.length ≤ s'.evs.length
  evKeep : ∀ e, e < s.evs.length → (s'.ev e).parentEv = (s.ev e).parentEv ∧ (s'.ev e).name = (s.ev e).name
  newEv : m.dn = true → ∀ e, s.evs.length ≤ e → (s'.ev e).w6_isDoneChild = false

namespace St.W6Q
variable {m : W6Mask}

theorem refl (s : St) : St.W6Q m s s :=
  ⟨fun _ => ⟨[], rfl, by simp⟩, Nat.le_refl _, fun _ _ => rfl, fun _ _ => ⟨rfl, rfl⟩, fun _ _ _ => rfl,
   fun _ _ _ => rfl, Nat.le_refl _, fun _ _ => ⟨rfl, rfl⟩,
   fun _ e he => by rw [St.w6_ev_ge _ _ he]; rfl⟩

theorem trans {a b c : St} (h1 : St.W6Q m a b) (h2 : St.W6Q m b c) : St.W6Q m a c := by
  refine ⟨?_, Nat.le_trans h1.waitsLen h2.waitsLen, ?_, ?_, ?_, ?_, Nat.le_trans h1.evsLen h2.evsLen, ?_, ?_⟩
  · intro hm
    obtain ⟨es1, e1, p1⟩ := h1.log hm
    obtain ⟨es2, e2, p2⟩ := h2.log hm
    refine ⟨es2 ++ es1, by rw [e2, e1, List.append_assoc], ?_⟩
    intro x hx
    rcases List.mem_append.1 hx with hx | hx
    · exact p2 x hx
    · exact p1 x hx
  · intro hm w; rw [h2.flag hm, h1.flag hm]
  · intro hm w; rw [(h2.run hm w).1, (h1.run hm w).1, (h2.run hm w).2, (h1.run hm w).2]; exact ⟨rfl, rfl⟩
  · intro hm w hw; rw [h2.timeout hm w (Nat.lt_of_lt_of_le hw h1.waitsLen), h1.timeout hm w hw]
  · intro hm g hg
    have e2 := h2.exc hm g hg
    rw [e2] at hg
    rw [e2, h1.exc hm g hg]
  · intro e he
    have k2 := h2.evKeep e (Nat.lt_of_lt_of_le he h1.evsLen)
    have k1 := h1.evKeep e he
    exact ⟨k2.1.trans k1.1, k2.2.trans k1.2⟩
  · intro hm e he
    by_cases hb : b.evs.length ≤ e
    · exact h2.newEv hm e hb
    · have k2 := h2.evKeep e (by omega)
      have n1 := h1.newEv hm e he
      unfold Ev.w6_isDoneChild at n1 ⊢
      rw [k2.1, k2.2]; exact n1

-- `St.W6Q` reads the log, the wait states, the generators and the events only: a primitive that writes another table keeps
-- every clause of `refl` as it stands, and each of the others replaces the clauses about the table it writes
theorem modComp_self (t : St) (c : Nat) (f : Comp → Comp) : St.W6Q m t (t.modComp c f) := { refl t with }
theorem modTimer_self (t : St) (c : Nat) (f : TimerSt → TimerSt) : St.W6Q m t (t.modTimer c f) := { refl t with }
theorem tick1_self (t : St) (d : Int) : St.W6Q m t (t.tick1 d) := { refl t with }
theorem addH_self (t : St) (x : Handler) : St.W6Q m t (t.addH x) := { refl t with }

theorem logE_self (t : St) (x : Entry) (hx : m.lg = true → x.w6_isResume = false) : St.W6Q m t (t.logE x) :=
  { refl t with log := fun hm => ⟨[x], rfl, by simpa using hx hm⟩ }

theorem modEv_self (t : St) (e : Nat) (f : Ev → Ev) (h1 : ∀ x, (f x).parentEv = x.parentEv)
    (h2 : ∀ x, (f x).name = x.name) : St.W6Q m t (t.modEv e f) :=
  { refl t with
    evsLen := by simp
    evKeep := fun e' _ => ⟨St.w6_modEv_ev_pres t (·.parentEv) e f h1 e', St.w6_modEv_ev_pres t (·.name) e f h2 e'⟩
    newEv := fun _ e' he => by
      have : ((t.modEv e f).ev e').w6_isDoneChild = (t.ev e').w6_isDoneChild := by
        unfold Ev.w6_isDoneChild
        rw [St.w6_modEv_ev_pres t (·.parentEv) e f h1 e', St.w6_modEv_ev_pres t (·.name) e f h2 e']
      rw [this, St.w6_ev_ge _ _ he]; rfl }

theorem modWait_self (t : St) (w : Nat) (f : WaitSt → WaitSt)
    (h1 : m.fl = true → ∀ x, (f x).flag = x.flag)
    (h2 : m.rn = true → ∀ x, (f x).run = x.run ∧ (f x).event = x.event)
    (h3 : m.tm = true → ∀ x, (f x).timeout = x.timeout) : St.W6Q m t (t.modWait w f) :=
  { refl t with
    waitsLen := by simp
    flag := fun hm w' => St.w6_modWait_wait_pres t (·.flag) w f (h1 hm) w'
    run := fun hm w' => ⟨St.w6_modWait_wait_pres t (·.run) w f (fun x => (h2 hm x).1) w',
                         St.w6_modWait_wait_pres t (·.event) w f (fun x => (h2 hm x).2) w'⟩
    timeout := fun hm w' _ => St.w6_modWait_wait_pres t (·.timeout) w f (h3 hm) w' }

theorem setGen_self (t : St) (g : Nat) (x : GenRec) (hx : m.ex = true → x.w6_isExc = false) :
    St.W6Q m t (t.setGen g x) :=
  { refl t with
    exc := fun hm g' hg' => by
      rcases St.w6_setGen_gen_cases t g x g' with h | ⟨_, _, h⟩
      · exact h
      · rw [h, hx hm] at hg'; cases hg' }

theorem addGen_self (t : St) (x : GenRec) (hx : m.ex = true → x.w6_isExc = false) : St.W6Q m t (t.addGen x) :=
  { refl t with
    exc := fun hm g' hg' => by
      rw [St.w6_addGen_gen] at hg' ⊢
      split at hg'
      · rw [hx hm] at hg'; cases hg'
      · rename_i hne; simp [hne] }

theorem addEv_self (t : St) (x : Ev) (hx : m.dn = true → x.w6_isDoneChild = false) : St.W6Q m t (t.addEv x) :=
  { refl t with
    evsLen := by simp
    evKeep := fun e he => by rw [St.w6_addEv_ev]; simp [Nat.ne_of_lt he]
    newEv := fun hm e he => by
      rw [St.w6_addEv_ev]
      split
      · exact hx hm
      · rw [St.w6_ev_ge _ _ he]; rfl }

theorem addWait_self (t : St) (x : WaitSt) (h1 : x.flag = false) (h2 : x.run = false) (h3 : x.event = none) :
    St.W6Q m t (t.addWait x) :=
  { refl t with
    waitsLen := by simp
    flag := fun _ w => by
      rw [St.w6_addWait_wait]; split
      · rename_i hw; rw [hw, St.w6_wait_ge _ _ (Nat.le_refl _), h1]; rfl
      · rfl
    run := fun _ w => by
      rw [St.w6_addWait_wait]; split
      · rename_i hw; rw [hw, St.w6_wait_ge _ _ (Nat.le_refl _), h2, h3]; exact ⟨rfl, rfl⟩
      · exact ⟨rfl, rfl⟩
    timeout := fun _ w hw => by rw [St.w6_addWait_wait]; simp [Nat.ne_of_lt hw] }

variable {s t : St}

@[st_pres ↓] theorem modComp (h : St.W6Q m s t) (c : Nat) (f : Comp → Comp) : St.W6Q m s (t.modComp c f) := h.trans (modComp_self ..)
@[st_pres ↓] theorem modTimer (h : St.W6Q m s t) (c : Nat) (f : TimerSt → TimerSt) : St.W6Q m s (t.modTimer c f) := h.trans (modTimer_self ..)
@[st_pres ↓] theorem tick1 (h : St.W6Q m s t) (d : Int) : St.W6Q m s (t.tick1 d) := h.trans (tick1_self ..)
@[st_pres ↓] theorem addH (h : St.W6Q m s t) (x : Handler) : St.W6Q m s (t.addH x) := h.trans (addH_self ..)

@[st_pres ↓] theorem logE (h : St.W6Q m s t) (x : Entry) (hx : m.lg = true → x.w6_isResume = false) : St.W6Q m s (t.logE x) :=
  h.trans (logE_self _ _ hx)

@[st_pres ↓] theorem modEv (h : St.W6Q m s t) (e : Nat) (f : Ev → Ev) (h1 : ∀ x, (f x).parentEv = x.parentEv)
    (h2 : ∀ x, (f x).name = x.name) : St.W6Q m s (t.modEv e f) := h.trans (modEv_self _ _ _ h1 h2)

@[st_pres ↓] theorem modWait (h : St.W6Q m s t) (w : Nat) (f : WaitSt → WaitSt)
    (h1 : m.fl = true → ∀ x, (f x).flag = x.flag)
    (h2 : m.rn = true → ∀ x, (f x).run = x.run ∧ (f x).event = x.event)
    (h3 : m.tm = true → ∀ x, (f x).timeout = x.timeout) : St.W6Q m s (t.modWait w f) :=
  h.trans (modWait_self _ _ _ h1 h2 h3)

@[st_pres ↓] theorem setGen (h : St.W6Q m s t) (g : Nat) (x : GenRec) (hx : m.ex = true → x.w6_isExc = false) :
    St.W6Q m s (t.setGen g x) := h.trans (setGen_self _ _ _ hx)

@[st_pres ↓] theorem addGen (h : St.W6Q m s t) (x : GenRec) (hx : m.ex = true → x.w6_isExc = false) : St.W6Q m s (t.addGen x) :=
  h.trans (addGen_self _ _ hx)

@[st_pres ↓] theorem addEv (h : St.W6Q m s t) (x : Ev) (hx : m.dn = true → x.w6_isDoneChild = false) : St.W6Q m s (t.addEv x) :=
  h.trans (addEv_self _ _ hx)

@[st_pres ↓] theorem addWait (h : St.W6Q m s t) (x : WaitSt) (h1 : x.flag = false) (h2 : x.run = false) (h3 : x.event = none) :
    St.W6Q m s (t.addWait x) := h.trans (addWait_self _ _ h1 h2 h3)

end St.W6Q

attribute [st_pres] St.W6Q.refl

-- the two side conditions of `St.W6Q` lemmas that are not equations: `m.dn = true → sfx ≠ sfxDone` for a literal
-- suffix, and a clause `m.x = true → _` under a mask whose bit `x` is cleared.  The second is vacuous, but only visibly so
-- when the mask is given by its six components: a lemma that assumes `m.x = false` (those of the protocol helpers)
-- takes `m` apart and substitutes the bit before it calls `st_pres`
macro_rules | `(tactic| st_pres_side) => `(tactic| first
  | (intro _; show _ ≠ _; decide)
  | with_unfolding_all (intro h; exact absurd h Bool.false_ne_true)
  | fail)

@[st_pres ↓] theorem St.W6Q.addHandler {m : W6Mask} {s t : St} (h : St.W6Q m s t) (x : Nat) : St.W6Q m s (t.addHandler x) :=
  St.addHandler_pres t x h (fun _ h => by st_pres) (fun _ _ h => by st_pres) (fun _ _ h => by st_pres)

@[st_pres ↓] theorem St.W6Q.removeHandler {m : W6Mask} {s t : St} (h : St.W6Q m s t) (x : Nat) (n : Option Name) :
    St.W6Q m s ((t.removeHandler x n).2) := by
  st_pres_unfold St.removeHandler

@[st_pres ↓] theorem St.W6Q.fireContext {m : W6Mask} {s t : St} (h : St.W6Q m s t) (r e : Nat) :
    St.W6Q m s (t.fireContext r e) :=
  St.fireContext_pres t r e h (fun _ _ h => by st_pres) (fun _ _ h => by st_pres) (fun _ _ h => by st_pres)

@[st_pres ↓] theorem St.W6Q.fireRaw {m : W6Mask} {s t : St} (h : St.W6Q m s t) (self e : Nat) (chans : List Chan) (prio : Int) :
    St.W6Q m s (t.fireRaw self e chans prio) := by
  st_pres_unfold St.fireRaw

@[st_pres ↓] theorem St.W6Q.childEv {m : W6Mask} {s t : St} (h : St.W6Q m s t) (p sfx : Nat) (hs : m.dn = true → sfx ≠ sfxDone) :
    St.W6Q m s (t.childEv p sfx) := by
  unfold St.childEv
  apply St.W6Q.addEv h
  intro hm
  have := hs hm
  simp [Ev.w6_isDoneChild, Name.child, this]

@[st_pres ↓] theorem St.W6Q.fireChild {m : W6Mask} {s t : St} (h : St.W6Q m s t) (self p sfx : Nat) (chans : List Chan)
    (hs : m.dn = true → sfx ≠ sfxDone) :
    St.W6Q m s (t.fireChild self p sfx chans) := by
  st_pres_unfold St.fireChild

@[st_pres ↓] theorem St.W6Q.inform {m : W6Mask} {s t : St} (h : St.W6Q m s t) (e : Nat) (force : Bool) :
    St.W6Q m s (t.inform e force) := by
  st_pres_unfold St.inform

@[st_pres ↓] theorem St.W6Q.setValue {m : W6Mask} {s t : St} (h : St.W6Q m s t) (e : Nat) (x : VItem) :
    St.W6Q m s (t.setValue e x) := by
  st_pres_unfold St.setValue

@[st_pres ↓] theorem St.W6Q.fireTmplEv {m : W6Mask} {s t : St} (h : St.W6Q m s t) (self : Nat) (ev : Ev) (target : Option Chan) (prio : Int)
    (hev : m.dn = true → ev.w6_isDoneChild = false) :
    St.W6Q m s (t.fireTmplEv self ev target prio) := by
  st_pres_unfold St.fireTmplEv

@[st_pres ↓] theorem St.W6Q.effectDone1 {m : W6Mask} {s t : St} (h : St.W6Q m s t) (r e : Nat) (announce : Bool) :
    St.W6Q m s ((t.effectDone1 r e announce).2) :=
  St.effectDone1_pres t r e announce h (fun _ => by st_pres) (fun _ _ h => by st_pres) (fun _ h => by st_pres)

theorem St.W6Q.eventDonePre {m : W6Mask} {s t : St} (h : St.W6Q m s t) (r e : Nat) (err : Bool) (hm : m.dn = false) :
    St.W6Q m s ((t.eventDonePre r e err).2) := by
  obtain ⟨lg, fl, rn, tm, ex, dn⟩ := m; dsimp only at hm; subst hm
  st_pres_unfold St.eventDonePre

@[st_pres ↓] theorem St.W6Q.registerTask {m : W6Mask} {s t : St} (h : St.W6Q m s t) (c : Nat) (x : Task) :
    St.W6Q m s (t.registerTask c x) := by
  st_pres_unfold St.registerTask

@[st_pres ↓] theorem St.W6Q.unregisterTask {m : W6Mask} {s t : St} (h : St.W6Q m s t) (c : Nat) (x : Task) :
    St.W6Q m s (t.unregisterTask c x) := by
  st_pres_unfold St.unregisterTask

@[st_pres ↓] theorem St.W6Q.reduceTimeLeft {m : W6Mask} {s t : St} (h : St.W6Q m s t) (e : Nat) (d : Int) :
    St.W6Q m s (t.reduceTimeLeft e d) := by
  unfold St.reduceTimeLeft
  apply St.W6Q.modEv h <;> intro x <;> split <;> rfl

@[st_pres ↓] theorem St.W6Q.registerPre {m : W6Mask} {s t : St} (h : St.W6Q m s t) (c p : Nat) :
    St.W6Q m s ((t.registerPre c p).2) :=
  St.registerPre_pres h c p (fun _ => by st_pres) (fun _ _ h => by st_pres) (fun _ h => by st_pres)
    (fun _ _ _ _ h => by st_pres)

@[st_pres ↓] theorem St.W6Q.registerFin {m : W6Mask} {s t : St} (h : St.W6Q m s t) (c : Nat) :
    St.W6Q m s (t.registerFin c) := by
  st_pres_unfold St.registerFin

@[st_pres ↓] theorem St.W6Q.unregister {m : W6Mask} {s t : St} (h : St.W6Q m s t) (c : Nat) :
    St.W6Q m s (t.unregister c) := by
  st_pres_unfold St.unregister

@[st_pres ↓] theorem St.W6Q.prepUnregPre {m : W6Mask} {s t : St} (h : St.W6Q m s t) (c : Nat) :
    St.W6Q m s (t.prepUnregPre c) := by
  st_pres_unfold St.prepUnregPre

@[st_pres ↓] theorem St.W6Q.prepUnregFin {m : W6Mask} {s t : St} (h : St.W6Q m s t) (c : Nat) :
    St.W6Q m s (t.prepUnregFin c) := by
  st_pres_unfold St.prepUnregFin

@[st_pres ↓] theorem St.W6Q.actFire {m : W6Mask} {s t : St} (h : St.W6Q m s t) (self i : Nat) (target : Option Chan) (prio : Int) (cancel : Bool) :
    St.W6Q m s (t.actFire self i target prio cancel) := by
  st_pres_unfold St.actFire

@[st_pres ↓] theorem St.W6Q.actStopEv {m : W6Mask} {s t : St} (h : St.W6Q m s t) (ev : Option Nat) :
    St.W6Q m s (t.actStopEv ev) := by
  st_pres_unfold St.actStopEv

@[st_pres ↓] theorem St.W6Q.timerReset {m : W6Mask} {s t : St} (h : St.W6Q m s t) (i : Nat) :
    St.W6Q m s (t.timerReset i) := by
  st_pres_unfold St.timerReset

@[st_pres ↓] theorem St.W6Q.timerCreate {m : W6Mask} {s t : St} (h : St.W6Q m s t) (i : Nat) :
    St.W6Q m s (t.timerCreate i) := by
  st_pres_unfold St.timerCreate

@[st_pres ↓] theorem St.W6Q.timerTick {m : W6Mask} {s t : St} (h : St.W6Q m s t) (i e : Nat) :
    St.W6Q m s (t.timerTick i e) :=
  St.timerTick_pres t i e h (fun _ _ h => by st_pres) (fun _ => (h.addEv _ fun _ => rfl).modTimer _ _)
    (fun _ _ _ _ h => by st_pres) (fun _ _ h => by st_pres) (fun _ _ h => by st_pres)

@[st_pres ↓] theorem St.W6Q.startWait {m : W6Mask} {s t : St} (h : St.W6Q m s t) (w : Nat) :
    St.W6Q m s (t.startWait w) :=
  St.startWait_pres t w h (fun _ _ => by st_pres) (fun _ _ _ _ _ h => by st_pres) (fun _ _ _ _ _ h => by st_pres)

@[st_pres ↓] theorem St.W6Q.stopBegin {m : W6Mask} {s t : St} (h : St.W6Q m s t) (c : Nat) :
    St.W6Q m s (t.stopBegin c) := by
  st_pres_unfold St.stopBegin

@[st_pres ↓] theorem St.W6Q.stopSetCode {m : W6Mask} {s t : St} (h : St.W6Q m s t) (r : Nat) (code : Code) :
    St.W6Q m s (t.stopSetCode r code) := by
  st_pres_unfold St.stopSetCode

@[st_pres ↓] theorem St.W6Q.genCall {m : W6Mask} {s t : St} (h : St.W6Q m s t) (owner i : Nat) (target : Option Chan) (timeout : Option Nat) :
    St.W6Q m s (t.genCall owner i target timeout) := by
  st_pres_unfold St.genCall

@[st_pres ↓] theorem St.W6Q.genWait {m : W6Mask} {s t : St} (h : St.W6Q m s t) (owner : Nat) (name : Name) (target : Option Chan) (timeout : Option Nat) :
    St.W6Q m s (t.genWait owner name target timeout) := by
  st_pres_unfold St.genWait

@[st_pres ↓] theorem St.W6Q.resumeGenPre {m : W6Mask} {s t : St} (h : St.W6Q m s t) (g : Nat) (silent : Bool) :
    St.W6Q m s (t.resumeGenPre g silent) := by
  st_pres_unfold St.resumeGenPre

@[st_pres ↓] theorem St.W6Q.stopIteration {m : W6Mask} {s t : St} (h : St.W6Q m s t) (r : Nat) (x : Task) :
    St.W6Q m s ((t.stopIteration r x).2) :=
  St.stopIteration_pres t r x (by st_pres) (fun _ _ h => by st_pres) (fun _ h => by st_pres)

@[st_pres ↓] theorem St.W6Q.fireException {m : W6Mask} {s t : St} (h : St.W6Q m s t) (r e : Nat) :
    St.W6Q m s (t.fireException r e) := by
  st_pres_unfold St.fireException

@[st_pres ↓] theorem St.W6Q.errorBranch {m : W6Mask} {s t : St} (h : St.W6Q m s t) (r : Nat) (x : Task) (resumed : Bool) :
    St.W6Q m s ((t.errorBranch r x resumed).2) :=
  St.errorBranch_pres t r x resumed (by st_pres) (fun _ h => by st_pres) (fun _ h => by st_pres)
    (fun _ _ h => by st_pres) (fun _ _ h => by st_pres) (fun _ h => by st_pres) (fun _ _ h => by st_pres)

@[st_pres ↓] theorem St.W6Q.ownSub {m : W6Mask} {s t : St} (h : St.W6Q m s t) (r : Nat) (x : Task) (w : Nat) :
    St.W6Q m s (t.ownSub r x w) := by
  st_pres_unfold St.ownSub

@[st_pres ↓] theorem St.W6Q.setValueOpt {m : W6Mask} {s t : St} (h : St.W6Q m s t) (e : Nat) (v : Option Nat) :
    St.W6Q m s (t.setValueOpt e v) := by
  st_pres_unfold St.setValueOpt

@[st_pres ↓] theorem St.W6Q.parentSub {m : W6Mask} {s t : St} (h : St.W6Q m s t) (r : Nat) (x : Task) (p w2 : Nat) (viaThrow : Bool) :
    St.W6Q m s (t.parentSub r x p w2 viaThrow) := by
  st_pres_unfold St.parentSub

@[st_pres ↓] theorem St.W6Q.parentPlain {m : W6Mask} {s t : St} (h : St.W6Q m s t) (r : Nat) (x : Task) (p : Nat) (v : Option Nat) (viaThrow : Bool) :
    St.W6Q m s (t.parentPlain r x p v viaThrow) := by
  st_pres_unfold St.parentPlain

theorem St.W6Q.onWaitEvent {m : W6Mask} {s t : St} (h : St.W6Q m s t) (w e : Nat) (hm : m.rn = false) :
    St.W6Q m s ((t.onWaitEvent w e).2) := by
  obtain ⟨lg, fl, rn, tm, ex, dn⟩ := m; dsimp only at hm; subst hm
  st_pres_unfold St.onWaitEvent

theorem St.W6Q.onWaitDone {m : W6Mask} {s t : St} (h : St.W6Q m s t) (w e : Nat) (hm : m.fl = false) :
    St.W6Q m s ((t.onWaitDone w e).2) := by
  obtain ⟨lg, fl, rn, tm, ex, dn⟩ := m; dsimp only at hm; subst hm
  st_pres_unfold St.onWaitDone

theorem St.W6Q.onWaitTick {m : W6Mask} {s t : St} (h : St.W6Q m s t) (w : Nat) (hm : m.tm = false) (hx : m.ex = false) :
    St.W6Q m s ((t.onWaitTick w).2) := by
  have no {b : Bool} (e : b = false) {p : Prop} : b = true → p := fun hh => absurd (e.symm.trans hh) Bool.false_ne_true
  exact St.onWaitTick_pres t w h (fun _ _ _ h => h.removeHandler _ _)
    (fun _ _ _ => ((h.modWait w (fun x => { x with timedOut := true }) (fun _ _ => rfl) (fun _ _ => ⟨rfl, rfl⟩)
      fun _ _ => rfl).addGen _ (no hx)).registerTask _ _)
    (h.modWait w (fun x => { x with timeout := x.timeout - 1 }) (fun _ _ => rfl) (fun _ _ => ⟨rfl, rfl⟩) (no hm))

@[st_pres ↓] theorem St.W6Q.onFallbackGE {m : W6Mask} {s t : St} (h : St.W6Q m s t) (e : Nat) :
    St.W6Q m s ((t.onFallbackGE e).2) := by
  st_pres_unfold St.onFallbackGE

@[st_pres ↓] theorem St.W6Q.computeHandlers {m : W6Mask} {s t : St} (h : St.W6Q m s t) (r : Nat) (name : Name) (chans : List Chan) :
    St.W6Q m s ((t.computeHandlers r name chans).2) := by
  st_pres_unfold St.computeHandlers

@[st_pres ↓] theorem St.W6Q.dispComplete {m : W6Mask} {s t : St} (h : St.W6Q m s t) (e : Nat) (ev : Ev) :
    St.W6Q m s (t.dispComplete e ev) := by
  st_pres_unfold St.dispComplete

@[st_pres ↓] theorem St.W6Q.cacheRefresh {m : W6Mask} {s t : St} (h : St.W6Q m s t) (r : Nat) :
    St.W6Q m s (t.cacheRefresh r) := by
  st_pres_unfold St.cacheRefresh

@[st_pres ↓] theorem St.W6Q.lookupHandlers {m : W6Mask} {s t : St} (h : St.W6Q m s t) (r : Nat) (name : Name) (chans : List Chan) :
    St.W6Q m s ((t.lookupHandlers r name chans).2) := by
  st_pres_unfold St.lookupHandlers

@[st_pres ↓] theorem St.W6Q.dispGE {m : W6Mask} {s t : St} (h : St.W6Q m s t) (r e remaining : Nat) (name : Name) :
    St.W6Q m s (t.dispGE r e remaining name) := by
  st_pres_unfold St.dispGE

@[st_pres ↓] theorem St.W6Q.dispatchPre {m : W6Mask} {s t : St} (h : St.W6Q m s t) (r e remaining : Nat) :
    St.W6Q m s ((t.dispatchPre r e remaining).2) := by
  st_pres_unfold St.dispatchPre

@[st_pres ↓] theorem St.W6Q.handlerRaised {m : W6Mask} {s t : St} (h : St.W6Q m s t) (r e : Nat) :
    St.W6Q m s (t.handlerRaised r e) := by
  st_pres_unfold St.handlerRaised

@[st_pres ↓] theorem St.W6Q.applyValue {m : W6Mask} {s t : St} (h : St.W6Q m s t) (r e : Nat) (value : Outcome) :
    St.W6Q m s (t.applyValue r e value) := by
  st_pres_unfold St.applyValue

@[st_pres ↓] theorem St.W6Q.geTasksCheck {m : W6Mask} {s t : St} (h : St.W6Q m s t) (r e : Nat) :
    St.W6Q m s (t.geTasksCheck r e) := by
  st_pres_unfold St.geTasksCheck

@[st_pres ↓] theorem St.W6Q.flushBegin {m : W6Mask} {s t : St} (h : St.W6Q m s t) (r : Nat) :
    St.W6Q m s (t.flushBegin r) := by
  st_pres_unfold St.flushBegin

@[st_pres ↓] theorem St.W6Q.tickGenerate {m : W6Mask} {s t : St} (h : St.W6Q m s t) (c : Nat) :
    St.W6Q m s (t.tickGenerate c) := by
  st_pres_unfold St.tickGenerate

@[st_pres ↓] theorem St.W6Q.runBegin {m : W6Mask} {s t : St} (h : St.W6Q m s t) (c : Nat) :
    St.W6Q m s (t.runBegin c) := by
  st_pres_unfold St.runBegin

@[st_pres ↓] theorem St.W6Q.runEnd {m : W6Mask} {s t : St} (h : St.W6Q m s t) (c : Nat) :
    St.W6Q m s ((t.runEnd c).2) := by
  st_pres_unfold St.runEnd

@[st_pres ↓] theorem St.W6Q.actStep {m : W6Mask} {s t : St} (h : St.W6Q m s t) (ctx : HCtx) (a : Act) : St.W6Q m s (actStep t ctx a).st := by
  cases a <;> st_pres_unfold CV.Core.actStep

@[st_pres ↓] theorem St.W6Q.updateRootAll {m : W6Mask} (s : St) : ∀ (fuel : Nat) (todo : List Nat) (root : Nat) (t : St),
    St.W6Q m s t → St.W6Q m s (St.updateRootAll fuel todo root t) :=
  fun fuel todo root t h => St.updateRootAll_pres root (fun _ _ h => by st_pres) fuel todo t h

/-- the operations that perform one of the protocol actions -/
def w6_protoOps : List Op := [.eventDonePre, .onWaitEvent, .onWaitDone, .onWaitTick, .logResumed, .logTimeout, .setGenExc]

theorem St.W6Q.keeps {m : W6Mask} (s : St) (o : Op) (ho : o ∉ w6_protoOps) : o.Keeps (St.W6Q m s) := by
  cases o
  case eventDonePre | onWaitEvent | onWaitDone | onWaitTick | logResumed | logTimeout | setGenExc => exact absurd (by decide) ho
  all_goals (intro t h; intros; st_pres)

theorem Cfg.w6_eventDone_q {m : W6Mask} (c : Cfg) (k : List Frame) (r e : Nat) (err : Bool) (hm : m.dn = false) :
    St.W6Q m c.st (c.eventDone k r e err).st :=
  pred_ite_st (St.W6Q.eventDonePre (St.W6Q.refl _) _ _ _ hm) (St.W6Q.eventDonePre (St.W6Q.refl _) _ _ _ hm)

@[st_pres ↓] theorem Cfg.w6_contStop_q {m : W6Mask} {s0 : St} (c : Cfg) (k : List Frame) (s : St) (r : Nat) (x : Task) (hle : St.W6Q m s0 s) :
    St.W6Q m s0 (c.contStop k s r x).st :=
  Cfg.contStop_pres c k (St.W6Q.keeps _ .stopIteration (by decide)) hle r x

@[st_pres ↓] theorem Cfg.w6_contError_q {m : W6Mask} {s0 : St} (c : Cfg) (k : List Frame) (s : St) (r : Nat) (x : Task) (resumed : Bool) (hle : St.W6Q m s0 s) :
    St.W6Q m s0 (c.contError k s r x resumed).st :=
  Cfg.contError_pres c k (St.W6Q.keeps _ .errorBranch (by decide)) hle r x resumed

theorem Cfg.w6_ptBodyWait_q {m : W6Mask} (c : Cfg) (k : List Frame) (r : Nat) (x : Task) (w : Nat) (hm : m.lg = false) :
    St.W6Q m c.st (c.ptBodyWait k r x w).st := by
  obtain ⟨lg, fl, rn, tm, ex, dn⟩ := m; dsimp only at hm; subst hm
  st_pres_unfold Cfg.ptBodyWait

theorem Cfg.w6_ptBodyExc_q {m : W6Mask} (c : Cfg) (k : List Frame) (r : Nat) (x : Task) (w : Nat) (fired : Bool)
    (hm : m.lg = false) (hx : m.ex = false) :
    St.W6Q m c.st (c.ptBodyExc k r x w fired).st := by
  obtain ⟨lg, fl, rn, tm, ex, dn⟩ := m; dsimp only at hm hx; subst hm; subst hx
  st_pres_unfold Cfg.ptBodyExc

theorem Cfg.w6_ptBody_q {m : W6Mask} (c : Cfg) (k : List Frame) (r : Nat) (x : Task)
    (h1 : ∀ w, c.st.gen x.g = .wait w → m.lg = false)
    (h2 : ∀ w b, c.st.gen x.g = .exc w b → m.lg = false ∧ m.ex = false) :
    St.W6Q m c.st (c.ptBody k r x).st := by
  unfold Cfg.ptBody; (try dsimp only)
  split
  · st_pres
  · rename_i w heq; exact Cfg.w6_ptBodyWait_q c k r x w (h1 w heq)
  · rename_i w b heq; exact Cfg.w6_ptBodyExc_q c k r x w b (h2 w b heq).1 (h2 w b heq).2
  · st_pres
  · st_pres

@[st_pres ↓] theorem Cfg.w6_invokeUser_q {m : W6Mask} {s0 : St} (c : Cfg) (k : List Frame) (s : St) (h e owner p : Nat) (hle : St.W6Q m s0 s) :
    St.W6Q m s0 (c.invokeUser k s h e owner p).st := by
  st_pres_unfold Cfg.invokeUser

theorem Cfg.w6_invoke_q {m : W6Mask} (c : Cfg) (k : List Frame) (r h e : Nat)
    (h1 : ∀ w, (c.st.handler h).kind = .waitEvent w → m.rn = false)
    (h2 : ∀ w, (c.st.handler h).kind = .waitDone w → m.fl = false)
    (h3 : ∀ w, (c.st.handler h).kind = .waitTick w → m.tm = false ∧ m.ex = false) :
    St.W6Q m c.st (c.invoke k r h e).st := by
  have hs : St.W6Q m c.st (c.w6_invokeSt h e) := pred_ite ((St.W6Q.refl _).logE _ (fun _ => rfl)) (St.W6Q.refl _)
  rw [Cfg.invoke_eq]
  generalize c.w6_invokeSt h e = s at hs ⊢
  split
  · st_pres
  · st_pres
  · rename_i w heq; exact hs.onWaitEvent _ _ (h1 w heq)
  · rename_i w heq; exact hs.onWaitDone _ _ (h2 w heq)
  · rename_i w heq; exact hs.onWaitTick _ (h3 w heq).1 (h3 w heq).2
  · st_pres
  · st_pres
  · exact hs

end CV.Core
