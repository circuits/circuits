import CV.Proofs.InvWait
import CV.Proofs.InvWaitFacts
/-
C06, global layer: initial states, admissible sessions, and the theorems about every reachable
configuration (the invariant, the phase function `w6_phase`, resumption at most once, no residue).
-/
namespace CV.Core

/-- the state a driver session starts from (as far as the wait protocol is concerned): no wait state, no
    generator, no task yet; the pre-declared handlers are not temporary `waitEvent` handlers; the handler
    tables are duplicate-free and mention only declared handlers; user programs `removeHandler` only
    pre-declared handlers -/
structure W6InitWait (s0 : St) : Prop where
  waits : s0.waits = []
  gens : s0.gens = []
  kinds : ∀ h, h < s0.hs.length → (s0.handler h).kind.w6_isWait = false
  htabLt : ∀ c k h, (k, h) ∈ (s0.comp c).htab → h < s0.hs.length
  nodup : ∀ c, (s0.comp c).htab.Nodup
  tasks : ∀ c, (s0.comp c).tasks = []
  progs : ∀ p ∈ s0.progs, ∀ a ∈ p, Act.w6_hOk s0.hs.length a

/-- external operations may `removeHandler` only pre-declared handlers, like user code -/
def ExtOp.w6ok (n0 : Nat) : ExtOp → Prop
  | .doAct _ a => Act.w6_hOk n0 a
  | _ => True

/-- the configurations of sessions whose external operations are admissible -/
inductive W6ReachW (n0 : Nat) (s0 : St) : Cfg → Prop
  | init (d : Nat) (tape : List Entry) (op : ExtOp) (hop : op.w6ok n0) : W6ReachW n0 s0 (startOf (envChange s0 d tape) op)
  | step {c : Cfg} : W6ReachW n0 s0 c → W6ReachW n0 s0 (CV.Core.step c)
  | next {c : Cfg} (d : Nat) (tape : List Entry) (op : ExtOp) (hop : op.w6ok n0) :
      W6ReachW n0 s0 c → done c = true → W6ReachW n0 s0 (startOf (envChange c.st d tape) op)

theorem W6ReachW.reach {n0 : Nat} {s0 : St} {c : Cfg} (h : W6ReachW n0 s0 c) : Reach s0 c := by
  induction h with
  | init d tape op _ => exact Reach.init d tape op
  | step _ ih => exact Reach.step ih
  | next d tape op _ _ hd ih => exact Reach.next d tape op ih hd

theorem W6InitWait.gen {s0 : St} (hi : W6InitWait s0) (g : Nat) : s0.gen g = dfltGen := by simp [St.gen, hi.gens]

theorem W6InitWait.winv {s0 : St} (h : W6InitWait s0) : W6WInv s0.hs.length s0 := by
  have hw : ∀ w, s0.wait w = dfltWait := fun w => by simp [St.wait, h.waits]
  have hg := h.gen
  -- there is no wait state, and no declared handler is temporary: what is said of either holds of none
  have nw : ∀ {w : Nat} {p : Prop}, w < s0.w6_view.nw → p := fun hw' => by
    rw [show s0.w6_view.nw = 0 by simp [h.waits]] at hw'; cases hw'
  have nk : ∀ {x : Nat} {p : Prop}, x < s0.hs.length → (s0.w6_view.handler x).kind.w6_isWait = true → p :=
    fun hx hk => absurd ((h.kinds _ hx).symm.trans hk) Bool.false_ne_true
  refine ⟨.ofParts (Nat.le_refl _) h.kinds h.htabLt h.nodup
      (fun x hx => ⟨fun w hk => nk hx (by rw [hk]; rfl), fun w hk => nk hx (by rw [hk]; rfl),
        fun w hk => nk hx (by rw [hk]; rfl)⟩)
      (fun w hw' => nw hw') (fun c k x hx hk => nk (h.htabLt c k x hx) hk) ?_,
    ⟨fun w => nw, ?_, fun w => nw, ?_, ?_, h.progs⟩⟩
  · intro w
    simp only [St.w6_view_wh, hw w]
    exact ⟨fun x => (by cases x), fun x => (by cases x), fun x => (by cases x), fun x => (by cases x)⟩
  · intro g w hgw; simp only [St.w6_view_gen, hg g] at hgw; cases hgw
  · intro c t ht; simp only [St.w6_view_tasks, h.tasks c] at ht; cases ht
  · intro g e hh o rest st pc sd hgu; simp only [St.w6_view_gen, hg g] at hgu; cases hgu

theorem W6CInv.start {n0 : Nat} {s : St} (h : W6WInv n0 s) (d : Nat) (tape : List Entry) (op : ExtOp) (hop : op.w6ok n0) :
    W6CInv n0 (startOf (envChange s d tape) op) := by
  have hw : W6WInv n0 (envChange s d tape) := h
  cases op with
  | doAct c a =>
    refine ⟨hw, ?_, ?_, ?_, ?_⟩
    · show W6AllOk n0 _ [.acts ⟨c, none⟩ [a], .doFin c]
      simp only [w6_AllOk_cons, w6_AllOk_nil, W6FrameOk, and_true, List.mem_singleton]
      intro a' ha'; subst ha'; exact hop
    · intro _ hh; cases hh
    · simp [startOf, startDo, Cfg.start, Frame.w6_isPt, Frame.w6_isStepGen]
    · intro _ hp; simp [startOf, startDo, Cfg.start, Frame.w6_isPt] at hp
  | tick c | flush c | run c =>
    refine ⟨hw, ⟨trivial, trivial⟩, ?_, ?_, ?_⟩
    · intro _ hh; cases hh
    · simp [startOf, startTick, startFlush, startRun, Cfg.start, Frame.w6_isStepGen]
    · intro _ hp; simp [startOf, startTick, startFlush, startRun, Cfg.start, Frame.w6_isPt] at hp

theorem W6ReachW.cinv {s0 : St} (hi : W6InitWait s0) {c : Cfg} (h : W6ReachW s0.hs.length s0 c) : W6CInv s0.hs.length c := by
  induction h with
  | init d tape op hop => exact W6CInv.start hi.winv d tape op hop
  | step _ ih => exact w6_step_cinv _ ih
  | next d tape op hop _ _ ih => exact W6CInv.start ih.w d tape op hop

/-- A predicate of the state that holds initially, is kept by `envChange` and by every step from a configuration with
    `W6CInv`, holds in every admissible session. -/
theorem W6ReachW.inv_st {s0 : St} (hi : W6InitWait s0) (P : St → Prop) (h0 : P s0)
    (henv : ∀ s d tape, P s → P (envChange s d tape))
    (hstep : ∀ c, W6CInv s0.hs.length c → P c.st → P (CV.Core.step c).st) {c : Cfg} (h : W6ReachW s0.hs.length s0 c) :
    P c.st := by
  induction h with
  | init d tape op hop => rw [startOf_st]; exact henv _ _ _ h0
  | step hr ih => exact hstep _ (hr.cinv hi) ih
  | next d tape op hop _ _ ih => rw [startOf_st]; exact henv _ _ _ ih

def St.w6_doneInst (s : St) (w : Nat) : Prop :=
  (some ((s.wait w).evName.child sfxDone), (s.wait w).hDone) ∈ (s.comp (s.wait w).owner).htab

instance (s : St) (w : Nat) : Decidable (s.w6_doneInst w) := by unfold St.w6_doneInst; infer_instance

/-- `St.w6_doneInst` is the clause "the `_done` key is in the owner's table" of `W6HInv`, said of the state. -/
theorem St.w6_doneInst_iff (s : St) (w : Nat) : s.w6_doneInst w ↔ s.w6_view.doneKey w ∈ s.w6_view.htabOf w := Iff.rfl

/-- 0 not started, 1 started (waiting for the event), 2 event seen, 3 done seen (resumption task registered),
    4 finished: resumed or timed out (the `_done` handler is gone) -/
def w6_phase (s : St) (w : Nat) : Nat :=
  if (s.wait w).started = false then 0
  else if ¬ s.w6_doneInst w then 4
  else if (s.wait w).flag = true then 3
  else if (s.wait w).run = true then 2
  else 1

theorem w6_doneKey_stable {n0 : Nat} {c : Cfg} (h : W6CInv n0 c) (h' : W6CInv n0 (step c)) (w : Nat)
    (hst : (c.st.wait w).started = true) :
    ((step c).st.wait w).owner = (c.st.wait w).owner ∧ ((step c).st.wait w).evName = (c.st.wait w).evName ∧
    ((step c).st.wait w).hDone = (c.st.wait w).hDone := by
  have hS := w6_step_s c
  obtain ⟨i1, i2, _⟩ := hS.ident w (h.w.1.started_lt hst)
  obtain ⟨r1, _, _, r4⟩ := h.w.1.doneRec hst
  have hk := hS.hsKeep _ r1
  obtain ⟨_, _, k3⟩ := h'.w.1.kindDone (c.st.wait w).hDone w (Nat.lt_of_lt_of_le r1 hS.hsLen)
    (by rw [show (step c).st.w6_view.handler = (step c).st.handler from rfl, hk]; exact r4)
  exact ⟨i1, i2, k3⟩

/-- so "installed" after the step can be asked of the key `w` had before it -/
theorem w6_doneInst_step {n0 : Nat} {c : Cfg} (h : W6CInv n0 c) (h' : W6CInv n0 (step c)) (w : Nat)
    (hst : (c.st.wait w).started = true) :
    (step c).st.w6_doneInst w ↔ c.st.w6_view.doneKey w ∈ ((step c).st.comp (c.st.wait w).owner).htab := by
  obtain ⟨e1, e2, e3⟩ := w6_doneKey_stable h h' w hst
  unfold St.w6_doneInst; rw [e1, e2, e3]; rfl

theorem w6_doneInst_gone {n0 : Nat} {c : Cfg} (h : W6CInv n0 c) (h' : W6CInv n0 (step c)) (w : Nat)
    (hst : (c.st.wait w).started = true) (hno : ¬ c.st.w6_doneInst w) : ¬ (step c).st.w6_doneInst w := by
  obtain ⟨r1, _, _, r4⟩ := h.w.1.doneRec hst
  exact fun hin => hno ((w6_step_a c).temp_back ((w6_doneInst_step h h' w hst).1 hin) r1 (congrArg HKind.w6_isWait r4))

theorem w6_phase_le_four (s : St) (w : Nat) : w6_phase s w ≤ 4 := by
  unfold w6_phase; repeat' split
  all_goals omega

theorem w6_phase_gone {s : St} {w : Nat} (hst : (s.wait w).started = true) (hno : ¬ s.w6_doneInst w) :
    w6_phase s w = 4 := by
  unfold w6_phase; rw [if_neg (by rw [hst]; exact Bool.noConfusion), if_pos hno]

theorem w6_phase_inst {s : St} {w : Nat} (hst : (s.wait w).started = true) (hin : s.w6_doneInst w) :
    w6_phase s w = if (s.wait w).flag = true then 3 else if (s.wait w).run = true then 2 else 1 := by
  unfold w6_phase; rw [if_neg (by rw [hst]; exact Bool.noConfusion), if_neg (not_not_intro hin)]

theorem w6_phase_mono {n0 : Nat} {c : Cfg} (h : W6CInv n0 c) (w : Nat) : w6_phase c.st w ≤ w6_phase (step c).st w := by
  have h' := w6_step_cinv c h
  have hb := (w6_step_s c).bits w
  by_cases ha : (c.st.wait w).started = false
  · unfold w6_phase; rw [if_pos ha]; exact Nat.zero_le _
  have ha : (c.st.wait w).started = true := by simpa using ha
  by_cases hd' : (step c).st.w6_doneInst w
  · -- the `_done` handler is still installed, so it was before: the phases are decided by `flag` and `run`
    have hd : c.st.w6_doneInst w := Classical.byContradiction fun hd => w6_doneInst_gone h h' w ha hd hd'
    rw [w6_phase_inst ha hd, w6_phase_inst (hb.1 ha) hd']
    by_cases hf : (c.st.wait w).flag = true
    · rw [if_pos hf, if_pos (hb.2.2 hf)]; exact Nat.le_refl _
    · rw [if_neg hf]
      by_cases hr : (c.st.wait w).run = true
      · rw [if_pos hr, if_pos (hb.2.1 hr)]; split <;> omega
      · rw [if_neg hr]; repeat' split
        all_goals omega
  · -- phase 4 is the largest
    rw [w6_phase_gone (hb.1 ha) hd']; exact w6_phase_le_four _ _

/-- the task step of `w`'s waitEvent generator that consumes the `_done` handler (the step that logs `.resumed`
    when the wait state has an event and a user generator as parent) -/
def W6ResumesW (c : Cfg) (w : Nat) : Prop :=
  ∃ r t k, c.stack = .ptBody r t :: k ∧ c.exn = none ∧ c.st.gen t.g = .wait w ∧
    (c.st.removeHandler (c.st.wait w).hDone (some ((c.st.wait w).evName.child sfxDone))).1 = true

theorem Cfg.w6_ptBodyWait_a_rm (c : Cfg) (k : List Frame) (r : Nat) (t : Task) (w : Nat) :
    St.W6A (c.st.removeHandler (c.st.wait w).hDone (some ((c.st.wait w).evName.child sfxDone))).2
      (c.ptBodyWait k r t w).st :=
  (Cfg.ptBodyWait_pres c k (fun o _ => St.W6SA.keeps _ o) r t w (St.W6SA.refl _)).2

/-- Once the `_done` handler of the started wait state `w` has been removed (from a state `u` with the tables of `c.st`), a
    step that re-installs no temporary handler (`St.W6A`) ends with `w` in phase 4. -/
theorem W6CInv.done_removed {n0 : Nat} {c : Cfg} (h : W6CInv n0 c) (w : Nat) (hst : (c.st.wait w).started = true)
    {u : St} (hu : u.hs = c.st.hs) (hc : ∀ x, (u.comp x).htab = (c.st.comp x).htab)
    (hA : St.W6A (u.removeHandler (c.st.wait w).hDone (some ((c.st.wait w).evName.child sfxDone))).2 (step c).st) :
    w6_phase (step c).st w = 4 := by
  obtain ⟨r1, r2, _, r4⟩ := h.w.1.doneRec hst
  have hh : ∀ x, u.handler x = c.st.handler x := fun x => by simp only [St.handler, hu]
  have hnot : ¬ (step c).st.w6_doneInst w := by
    intro hin
    have hm := hA.temp_back ((w6_doneInst_step h (w6_step_cinv c h) w hst).1 hin)
      (by rw [St.w6_removeHandler_hs, hu]; exact r1)
      (by rw [St.w6_removeHandler_handler, hh]; exact congrArg HKind.w6_isWait r4)
    have := (u.w6_removeHandler_named_htab (c.st.wait w).hDone ((c.st.wait w).evName.child sfxDone)
      (c.st.wait w).owner _ (by rw [hc]; exact h.w.1.nodup _)).1 hm
    exact this.2 ⟨by rw [hh, r2], rfl⟩
  exact w6_phase_gone (((w6_step_s c).bits w).1 hst) hnot

/-- the task of a waitEvent generator is registered only once `flag` is set -/
theorem w6_resume_flag {n0 : Nat} {c : Cfg} (h : W6CInv n0 c) (w : Nat) (hr : W6ResumesW c w) :
    (c.st.wait w).flag = true := by
  obtain ⟨r, t, k, hs, _, hg, _⟩ := hr
  have hT : c.st.w6_view.TaskOk t := h.headFrame hs
  exact hT.2.1 w hg

theorem w6_resume_phase {n0 : Nat} {c : Cfg} (h : W6CInv n0 c) (w : Nat) (hr : W6ResumesW c w) :
    w6_phase c.st w = 3 ∧ w6_phase (step c).st w = 4 := by
  have hfl := w6_resume_flag h w hr
  obtain ⟨r, t, k, hs, hx, hg, hok⟩ := hr
  have hst := h.w.1.flag_started hfl
  obtain ⟨_, r2, _, _⟩ := h.w.1.doneRec hst
  have hin : c.st.w6_doneInst w := by
    have := (c.st.w6_removeHandler_named_ok _ _).1 hok
    rw [r2] at this; exact this
  refine ⟨by rw [w6_phase_inst hst hin, if_pos hfl], ?_⟩
  have hstep : (step c).st = (c.ptBodyWait k r t w).st := by
    rw [w6_step_ptBody c r t k hs hx, Cfg.w6_ptBody_wait c k r t hg]
  exact h.done_removed w hst rfl (fun _ => rfl) (hstep ▸ Cfg.w6_ptBodyWait_a_rm c k r t w)

theorem w6_no_residue_of_cinv {n0 : Nat} {c : Cfg} (h : W6CInv n0 c)
    (hall : ∀ w, w < c.st.waits.length → (c.st.wait w).started = true → w6_phase c.st w = 4) :
    ∀ x k hd, (k, hd) ∈ (c.st.comp x).htab → (c.st.handler hd).kind.w6_isWait = false := by
  intro x k hd hm
  refine Classical.byContradiction fun hne => ?_
  obtain ⟨w, hw, hst, hin⟩ := h.w.1.done_of_entry hm (by simpa using hne)
  have h4 := hall w hw hst
  rw [w6_phase_inst hst ((c.st.w6_doneInst_iff w).2 hin)] at h4
  repeat' split at h4
  all_goals omega

/-- `c'` comes later than `c` in the same admissible session -/
inductive W6Later (n0 : Nat) : Cfg → Cfg → Prop
  | refl (c : Cfg) : W6Later n0 c c
  | step {c c' : Cfg} : W6Later n0 c c' → W6Later n0 c (CV.Core.step c')
  | next {c c' : Cfg} (d : Nat) (tape : List Entry) (op : ExtOp) (hop : op.w6ok n0) :
      W6Later n0 c c' → done c' = true → W6Later n0 c (startOf (envChange c'.st d tape) op)

theorem W6Later.cinv {n0 : Nat} {c c' : Cfg} (h : W6CInv n0 c) (hl : W6Later n0 c c') : W6CInv n0 c' := by
  induction hl with
  | refl => exact h
  | step _ ih => exact w6_step_cinv _ ih
  | next d tape op hop _ _ ih => exact W6CInv.start ih.w d tape op hop

theorem W6Later.phase_mono {n0 : Nat} {c c' : Cfg} (h : W6CInv n0 c) (hl : W6Later n0 c c') (w : Nat) :
    w6_phase c.st w ≤ w6_phase c'.st w := by
  induction hl with
  | refl => exact Nat.le_refl _
  | step hl' ih => exact Nat.le_trans ih (CV.Core.w6_phase_mono (W6Later.cinv h hl') w)
  | next d tape op hop _ _ ih => rw [startOf_st]; exact ih

/-- a resumption step of `w` happens in phase 3: from phase 4 on there is none -/
theorem W6Later.no_resume {n0 : Nat} {c c' : Cfg} (h : W6CInv n0 c) (hl : W6Later n0 c c') {w : Nat}
    (h4 : w6_phase c.st w = 4) : ¬ W6ResumesW c' w := by
  intro hr'
  have h2 := (w6_resume_phase (W6Later.cinv h hl) w hr').1
  have := W6Later.phase_mono h hl w
  omega

theorem w6_resume_at_most_once {n0 : Nat} {c c' : Cfg} (h : W6CInv n0 c) (w : Nat) (hr : W6ResumesW c w)
    (hl : W6Later n0 (step c) c') : ¬ W6ResumesW c' w :=
  W6Later.no_resume (w6_step_cinv c h) hl (w6_resume_phase h w hr).2

theorem w6_resumed_is_resumption (c : Cfg) {es : List Entry} (hes : (step c).st.log = es ++ c.st.log)
    {pe ph src : Nat} {v : Collapsed} {er : Bool} (hx : Entry.resumed pe ph src v er ∈ es) :
    ∃ w, W6ResumesW c w ∧ (c.st.wait w).event = some src := by
  obtain ⟨r, t, k, w, p, o, rest, st, pc, sd, h1, h2, h3, h4, _, _, h7, _, _⟩ := w6_resumed_needs_event c hes hx
  exact ⟨w, ⟨r, t, k, h1, h2, h3, h7⟩, h4⟩

/-- `_on_tick` at countdown 0 removes the `_done` handler, from a state `u` with the handler tables it started with, and
    re-installs no temporary handler afterwards -/
theorem St.w6_onWaitTick_a0 (t : St) (w : Nat) (hg : ¬ ((t.wait w).flag || (t.wait w).timedOut) = true)
    (h0 : ((t.wait w).timeout == 0) = true) :
    ∃ u : St, u.hs = t.hs ∧ (∀ x, (u.comp x).htab = (t.comp x).htab) ∧
      St.W6A (u.removeHandler (t.wait w).hDone (some ((t.wait w).evName.child sfxDone))).2 (t.onWaitTick w).2 := by
  refine ⟨((t.modWait w fun x => { x with timedOut := true }).addGen (.exc w false)).registerTask (t.wait w).owner
    ⟨(t.wait w).taskEvent, t.gens.length, some (t.wait w).parentGen⟩, rfl,
    fun x => St.w6_registerTask_htab .., ?_⟩
  rw [St.onWaitTick_eq, if_neg hg, if_pos h0]
  exact St.tickDrop_pres _ _ (fun _ _ _ h => h.removeHandler _ _) (.refl _)

/-- the step in which `w`'s `_on_tick` closure finds the countdown at 0 (and registers the
    `TimeoutError` task) takes `w` to phase 4: from then on no resumption step of `w` can happen -/
theorem w6_timeout_finishes {n0 : Nat} {c : Cfg} (h : W6CInv n0 c) (w r hh e : Nat) (k : List Frame)
    (hs : c.stack = .invoke r hh e :: k) (hx : c.exn = none) (hk : (c.st.handler hh).kind = .waitTick w)
    (h0 : (c.st.wait w).timeout = 0)
    (hfl : (c.st.wait w).flag = false) (hto : (c.st.wait w).timedOut = false) : w6_phase (step c).st w = 4 := by
  obtain ⟨_, hst, _⟩ := h.w.1.kindTick hh w (handler_lt_of_kind (by rw [hk]; nofun)) hk
  have hstep : (step c).st = ((c.w6_invokeSt hh e).onWaitTick w).2 := by
    rw [w6_step_invoke c r hh e k hs hx, Cfg.w6_invoke_waitTick c k r hh e w hk]
  obtain ⟨u, hu, hc, hA⟩ := St.w6_onWaitTick_a0 (c.w6_invokeSt hh e) w (by rw [Cfg.w6_invokeSt_wait]; simp [hfl, hto])
    (by rw [Cfg.w6_invokeSt_wait]; simp [h0])
  rw [Cfg.w6_invokeSt_wait, ← hstep] at hA
  exact h.done_removed w hst (hu.trans (Cfg.w6_invokeSt_hs ..)) (fun x => (hc x).trans (by rw [Cfg.w6_invokeSt_comp])) hA

theorem w6_installed_by_phase {n0 : Nat} {c : Cfg} (h : W6CInv n0 c) (w : Nat) (hw : w < c.st.waits.length)
    (hst : (c.st.wait w).started = true) :
    (c.st.w6_view.evKey w ∈ c.st.w6_view.htabOf w → w6_phase c.st w = 1) ∧
    (∀ ht, (c.st.wait w).hTick = some ht → c.st.w6_view.tickKey ht ∈ c.st.w6_view.htabOf w →
      w6_phase c.st w = 1 ∨ w6_phase c.st w = 2) ∧
    (c.st.w6_doneInst w ↔ 1 ≤ w6_phase c.st w ∧ w6_phase c.st w ≤ 3) := by
  refine ⟨fun hm => ?_, fun ht hht hm => ?_, ?_⟩
  · have a := h.w.1.evKey_run hst hm
    have b := (h.w.1.i1 w hw hst hm).2
    have hf : ¬ (c.st.wait w).flag = true := fun hf => Bool.noConfusion (a.symm.trans (h.w.1.flag_run hf))
    rw [w6_phase_inst hst ((c.st.w6_doneInst_iff w).2 b), if_neg hf, if_neg (by rw [a]; exact Bool.noConfusion)]
  · have a := (h.w.1.i2 w ht hw hst hht hm).1
    have b := h.w.1.tickKey_flag hst hht hm
    rw [w6_phase_inst hst ((c.st.w6_doneInst_iff w).2 a), if_neg (by rw [b]; exact Bool.noConfusion)]
    split
    · exact Or.inr rfl
    · exact Or.inl rfl
  · by_cases hd : c.st.w6_doneInst w
    · rw [w6_phase_inst hst hd]
      refine ⟨fun _ => ?_, fun _ => hd⟩
      repeat' split
      all_goals omega
    · rw [w6_phase_gone hst hd]
      exact ⟨fun hd' => absurd hd' hd, fun h3 => by omega⟩

theorem w6_wait_task_needs_flag {n0 : Nat} {c : Cfg} (h : W6CInv n0 c) (x : Nat) (t : Task) (ht : t ∈ (c.st.comp x).tasks)
    (w : Nat) (hg : c.st.gen t.g = .wait w) : (c.st.wait w).flag = true ∧ 3 ≤ w6_phase c.st w := by
  have hfl : (c.st.wait w).flag = true := (h.w.2.tasks x t ht).2.1 w hg
  have hst := h.w.1.flag_started hfl
  refine ⟨hfl, ?_⟩
  by_cases hd : c.st.w6_doneInst w
  · rw [w6_phase_inst hst hd, if_pos hfl]; exact Nat.le_refl _
  · rw [w6_phase_gone hst hd]; omega

end CV.Core
