import CV.Proofs.InvWaitSt
/-
C06, global layer: the two UNIVERSAL relations, which every step respects (no exceptions).

`St.W6S s s'`: generator ids stay valid, a generator that is not a waitEvent generator never becomes one, wait states keep
their identity (`owner`, `evName`, `task`) and their `started` / `run` / `flag` bits only ever go from false to true, the
handler table only grows, programs never change.  It is what carries the facts about the frames deeper in the stack across
a step (`W6AllOk.ofS`, CV/Proofs/InvWait.lean).
`St.W6A s s'`: no temporary handler is ever re-installed: every handler-table entry of `s'` is an entry of `s`, or belongs to
a handler that is new in `s'`, or to one that is not a temporary `waitEvent` handler.

They are walked through the helpers together, as `St.W6SA`; the lemmas carry `st_pres` (`CV/Proofs/Pres.lean`).
-/
namespace CV.Core

structure St.W6S (s s' : St) : Prop where
  gensLen : s.gens.length ≤ s'.gens.length
  genBack : ∀ g, g < s.gens.length → ∀ w, s'.gen g = .wait w → s.gen g = .wait w
  waitsLen : s.waits.length ≤ s'.waits.length
  ident : ∀ w, w < s.waits.length →
    (s'.wait w).owner = (s.wait w).owner ∧ (s'.wait w).evName = (s.wait w).evName ∧ (s'.wait w).task = (s.wait w).task
  bits : ∀ w, ((s.wait w).started = true → (s'.wait w).started = true) ∧
    ((s.wait w).run = true → (s'.wait w).run = true) ∧ ((s.wait w).flag = true → (s'.wait w).flag = true)
  hsLen : s.hs.length ≤ s'.hs.length
  hsKeep : ∀ h, h < s.hs.length → s'.handler h = s.handler h
  progs : s'.progs = s.progs

namespace St.W6S

theorem refl (s : St) : St.W6S s s :=
  ⟨Nat.le_refl _, fun _ _ _ h => h, Nat.le_refl _, fun _ _ => ⟨rfl, rfl, rfl⟩, fun _ => ⟨id, id, id⟩,
   Nat.le_refl _, fun _ _ => rfl, rfl⟩

theorem trans {a b c : St} (h1 : St.W6S a b) (h2 : St.W6S b c) : St.W6S a c := by
  refine ⟨Nat.le_trans h1.gensLen h2.gensLen, ?_, Nat.le_trans h1.waitsLen h2.waitsLen, ?_, ?_,
    Nat.le_trans h1.hsLen h2.hsLen, ?_, h2.progs.trans h1.progs⟩
  · intro g hg w hw
    exact h1.genBack g hg w (h2.genBack g (Nat.lt_of_lt_of_le hg h1.gensLen) w hw)
  · intro w hw
    have k1 := h1.ident w hw
    have k2 := h2.ident w (Nat.lt_of_lt_of_le hw h1.waitsLen)
    exact ⟨k2.1.trans k1.1, k2.2.1.trans k1.2.1, k2.2.2.trans k1.2.2⟩
  · intro w
    exact ⟨fun h => (h2.bits w).1 ((h1.bits w).1 h), fun h => (h2.bits w).2.1 ((h1.bits w).2.1 h),
      fun h => (h2.bits w).2.2 ((h1.bits w).2.2 h)⟩
  · intro h hh
    rw [h2.hsKeep h (Nat.lt_of_lt_of_le hh h1.hsLen), h1.hsKeep h hh]

-- `St.W6S` reads the generators, the wait states, the handler records and the programs only: a primitive that writes another
-- table keeps every clause of `refl` as it stands, and each of the others replaces the clauses about the table it writes
theorem modComp_self (t : St) (c : Nat) (f : Comp → Comp) : St.W6S t (t.modComp c f) := { refl t with }
theorem modEv_self (t : St) (c : Nat) (f : Ev → Ev) : St.W6S t (t.modEv c f) := { refl t with }
theorem modTimer_self (t : St) (c : Nat) (f : TimerSt → TimerSt) : St.W6S t (t.modTimer c f) := { refl t with }
theorem tick1_self (t : St) (d : Int) : St.W6S t (t.tick1 d) := { refl t with }
theorem logE_self (t : St) (x : Entry) : St.W6S t (t.logE x) := { refl t with }
theorem addEv_self (t : St) (x : Ev) : St.W6S t (t.addEv x) := { refl t with }

theorem addH_self (t : St) (x : Handler) : St.W6S t (t.addH x) :=
  { refl t with
    hsLen := by simp
    hsKeep := fun h hh => by rw [St.w6_addH_handler]; simp [Nat.ne_of_lt hh] }

theorem setGen_self (t : St) (g : Nat) (x : GenRec) (hx : x.w6_isWait = false) : St.W6S t (t.setGen g x) :=
  { refl t with
    gensLen := by simp
    genBack := fun g' _ w hw => by
      rcases St.w6_setGen_gen_cases t g x g' with h | ⟨_, _, h⟩
      · rwa [h] at hw
      · rw [h] at hw; rw [hw] at hx; cases hx }

theorem addGen_self (t : St) (x : GenRec) : St.W6S t (t.addGen x) :=
  { refl t with
    gensLen := by simp
    genBack := fun g' hg' w hw => by rw [St.w6_addGen_gen] at hw; simpa [Nat.ne_of_lt hg'] using hw }

theorem addWait_self (t : St) (x : WaitSt) : St.W6S t (t.addWait x) :=
  { refl t with
    waitsLen := by simp
    ident := fun w hw => by rw [St.w6_addWait_wait]; simp [Nat.ne_of_lt hw]
    bits := fun w => by
      rw [St.w6_addWait_wait]; split
      · rename_i hw; rw [hw, St.w6_wait_ge _ _ (Nat.le_refl _)]
        exact ⟨fun h => (by cases h), fun h => (by cases h), fun h => (by cases h)⟩
      · exact ⟨id, id, id⟩ }

theorem modWait_self (t : St) (w : Nat) (f : WaitSt → WaitSt)
    (h1 : ∀ x, (f x).owner = x.owner ∧ (f x).evName = x.evName ∧ (f x).task = x.task)
    (h2 : ∀ x, (x.started = true → (f x).started = true) ∧ (x.run = true → (f x).run = true) ∧
      (x.flag = true → (f x).flag = true)) : St.W6S t (t.modWait w f) :=
  { refl t with
    waitsLen := by simp
    ident := fun w' _ => ⟨St.w6_modWait_wait_pres t (·.owner) w f (fun x => (h1 x).1) w',
      St.w6_modWait_wait_pres t (·.evName) w f (fun x => (h1 x).2.1) w',
      St.w6_modWait_wait_pres t (·.task) w f (fun x => (h1 x).2.2) w'⟩
    bits := fun w' => by
      by_cases e1 : w' = w
      · subst e1
        by_cases e2 : w' < t.waits.length
        · rw [St.w6_modWait_wait_lt _ _ _ e2]; exact h2 _
        · rw [St.w6_modWait_wait_ge _ _ _ _ (by omega)]; exact ⟨id, id, id⟩
      · rw [St.w6_modWait_wait_ne _ _ _ _ e1]; exact ⟨id, id, id⟩ }

variable {s t : St}
@[st_pres ↓] theorem modComp (h : St.W6S s t) (c : Nat) (f : Comp → Comp) : St.W6S s (t.modComp c f) := h.trans (modComp_self ..)
@[st_pres ↓] theorem modEv (h : St.W6S s t) (c : Nat) (f : Ev → Ev) : St.W6S s (t.modEv c f) := h.trans (modEv_self ..)
@[st_pres ↓] theorem modTimer (h : St.W6S s t) (c : Nat) (f : TimerSt → TimerSt) : St.W6S s (t.modTimer c f) := h.trans (modTimer_self ..)
@[st_pres ↓] theorem tick1 (h : St.W6S s t) (d : Int) : St.W6S s (t.tick1 d) := h.trans (tick1_self ..)
@[st_pres ↓] theorem logE (h : St.W6S s t) (x : Entry) : St.W6S s (t.logE x) := h.trans (logE_self ..)
@[st_pres ↓] theorem addEv (h : St.W6S s t) (x : Ev) : St.W6S s (t.addEv x) := h.trans (addEv_self ..)
@[st_pres ↓] theorem addH (h : St.W6S s t) (x : Handler) : St.W6S s (t.addH x) := h.trans (addH_self ..)

@[st_pres ↓] theorem setGen (h : St.W6S s t) (g : Nat) (x : GenRec) (hx : x.w6_isWait = false) : St.W6S s (t.setGen g x) :=
  h.trans (setGen_self _ _ _ hx)

@[st_pres ↓] theorem addGen (h : St.W6S s t) (x : GenRec) : St.W6S s (t.addGen x) := h.trans (addGen_self ..)
@[st_pres ↓] theorem addWait (h : St.W6S s t) (x : WaitSt) : St.W6S s (t.addWait x) := h.trans (addWait_self ..)

@[st_pres ↓] theorem modWait (h : St.W6S s t) (w : Nat) (f : WaitSt → WaitSt)
    (h1 : ∀ x, (f x).owner = x.owner ∧ (f x).evName = x.evName ∧ (f x).task = x.task)
    (h2 : ∀ x, (x.started = true → (f x).started = true) ∧ (x.run = true → (f x).run = true) ∧
      (x.flag = true → (f x).flag = true)) : St.W6S s (t.modWait w f) := h.trans (modWait_self _ _ _ h1 h2)

end St.W6S

attribute [st_pres] St.W6S.refl

-- the second side condition of `St.W6S.modWait`: each bit is kept (`id`) or set (`fun _ => rfl`)
macro_rules | `(tactic| st_pres_side) => `(tactic|
  (intro _; refine And.intro ?_ (And.intro ?_ ?_) <;> first | exact id | exact fun _ => rfl | fail))

/-- what `St.W6S` speaks of is part of the view -/
theorem St.W6S.ofV {s t : St} (h : St.W6V s t) : St.W6S s t := by
  have e2 : t.gen = s.gen := congrArg W6View.gen h
  have e4 : ∀ w, (t.wait w).w6h = (s.wait w).w6h := congrFun (congrArg W6View.wh h)
  have e5 : ∀ w, (t.wait w).w6g = (s.wait w).w6g := congrFun (congrArg W6View.wg h)
  have e7 : t.handler = s.handler := congrArg W6View.handler h
  exact ⟨Nat.le_of_eq (congrArg W6View.ng h).symm, fun g _ w hw => by rwa [e2] at hw,
    Nat.le_of_eq (congrArg W6View.nw h).symm,
    fun w _ => ⟨congrArg W6WH.owner (e4 w), congrArg W6WH.evName (e4 w), congrArg W6WG.task (e5 w)⟩,
    fun w => ⟨fun hh => (congrArg W6WH.started (e4 w)).trans hh, fun hh => (congrArg W6WH.run (e4 w)).trans hh,
      fun hh => (congrArg W6WH.flag (e4 w)).trans hh⟩,
    Nat.le_of_eq (congrArg W6View.nh h).symm, fun x _ => congrFun e7 x, congrArg W6View.progs h⟩

@[st_pres ↓] theorem St.W6S.addHandler {s t : St} (h : St.W6S s t) (x : Nat) : St.W6S s (t.addHandler x) :=
  St.addHandler_pres t x h (fun _ h => by st_pres) (fun _ _ h => by st_pres) (fun _ _ h => by st_pres)

@[st_pres ↓] theorem St.W6S.removeHandler {s t : St} (h : St.W6S s t) (x : Nat) (n : Option Name) :
    St.W6S s ((t.removeHandler x n).2) := by
  st_pres_unfold St.removeHandler

structure St.W6A (s s' : St) : Prop where
  hsLen : s.hs.length ≤ s'.hs.length
  hsKeep : ∀ h, h < s.hs.length → s'.handler h = s.handler h
  add : ∀ c x, x ∈ (s'.comp c).htab → x ∈ (s.comp c).htab ∨ (x.2 < s.hs.length → (s.handler x.2).kind.w6_isWait = false)

namespace St.W6A

theorem refl (s : St) : St.W6A s s := ⟨Nat.le_refl _, fun _ _ => rfl, fun _ _ h => Or.inl h⟩

theorem trans {a b c : St} (h1 : St.W6A a b) (h2 : St.W6A b c) : St.W6A a c := by
  refine ⟨Nat.le_trans h1.hsLen h2.hsLen, ?_, ?_⟩
  · intro h hh; rw [h2.hsKeep h (Nat.lt_of_lt_of_le hh h1.hsLen), h1.hsKeep h hh]
  · intro cc x hx
    rcases h2.add cc x hx with hx | hx
    · exact h1.add cc x hx
    · right; intro hlt
      have := hx (Nat.lt_of_lt_of_le hlt h1.hsLen)
      rwa [h1.hsKeep _ hlt] at this

/-- an entry of a temporary handler that is in a table after `St.W6A` was there before -/
theorem temp_back {s s' : St} (hA : St.W6A s s') {x : Nat} {e : HKey × Nat} (he : e ∈ (s'.comp x).htab)
    (hlt : e.2 < s.hs.length) (hk : (s.handler e.2).kind.w6_isWait = true) : e ∈ (s.comp x).htab :=
  (hA.add x e he).resolve_right fun hn => Bool.false_ne_true ((hn hlt).symm.trans hk)

theorem modComp_self (t : St) (c : Nat) (f : Comp → Comp) (hf : ∀ x, (f x).htab = x.htab) : St.W6A t (t.modComp c f) :=
  { refl t with add := fun c' x hx => Or.inl (by rwa [St.w6_modComp_comp_htab _ _ _ hf] at hx) }

theorem modEv_self (t : St) (c : Nat) (f : Ev → Ev) : St.W6A t (t.modEv c f) := { refl t with }
theorem modTimer_self (t : St) (c : Nat) (f : TimerSt → TimerSt) : St.W6A t (t.modTimer c f) := { refl t with }
theorem modWait_self (t : St) (c : Nat) (f : WaitSt → WaitSt) : St.W6A t (t.modWait c f) := { refl t with }
theorem tick1_self (t : St) (d : Int) : St.W6A t (t.tick1 d) := { refl t with }
theorem logE_self (t : St) (x : Entry) : St.W6A t (t.logE x) := { refl t with }
theorem addEv_self (t : St) (x : Ev) : St.W6A t (t.addEv x) := { refl t with }
theorem setGen_self (t : St) (g : Nat) (x : GenRec) : St.W6A t (t.setGen g x) := { refl t with }
theorem addGen_self (t : St) (x : GenRec) : St.W6A t (t.addGen x) := { refl t with }
theorem addWait_self (t : St) (x : WaitSt) : St.W6A t (t.addWait x) := { refl t with }

theorem addH_self (t : St) (x : Handler) : St.W6A t (t.addH x) :=
  { refl t with
    hsLen := by simp
    hsKeep := fun h hh => by rw [St.w6_addH_handler]; simp [Nat.ne_of_lt hh] }

variable {s t : St}
@[st_pres ↓] theorem modComp (h : St.W6A s t) (c : Nat) (f : Comp → Comp) (hf : ∀ x, (f x).htab = x.htab) : St.W6A s (t.modComp c f) :=
  h.trans (modComp_self _ _ _ hf)

@[st_pres ↓] theorem modEv (h : St.W6A s t) (c : Nat) (f : Ev → Ev) : St.W6A s (t.modEv c f) := h.trans (modEv_self ..)
@[st_pres ↓] theorem modTimer (h : St.W6A s t) (c : Nat) (f : TimerSt → TimerSt) : St.W6A s (t.modTimer c f) := h.trans (modTimer_self ..)
@[st_pres ↓] theorem modWait (h : St.W6A s t) (c : Nat) (f : WaitSt → WaitSt) : St.W6A s (t.modWait c f) := h.trans (modWait_self ..)
@[st_pres ↓] theorem tick1 (h : St.W6A s t) (d : Int) : St.W6A s (t.tick1 d) := h.trans (tick1_self ..)
@[st_pres ↓] theorem logE (h : St.W6A s t) (x : Entry) : St.W6A s (t.logE x) := h.trans (logE_self ..)
@[st_pres ↓] theorem addEv (h : St.W6A s t) (x : Ev) : St.W6A s (t.addEv x) := h.trans (addEv_self ..)
@[st_pres ↓] theorem setGen (h : St.W6A s t) (g : Nat) (x : GenRec) : St.W6A s (t.setGen g x) := h.trans (setGen_self ..)
@[st_pres ↓] theorem addGen (h : St.W6A s t) (x : GenRec) : St.W6A s (t.addGen x) := h.trans (addGen_self ..)
@[st_pres ↓] theorem addWait (h : St.W6A s t) (x : WaitSt) : St.W6A s (t.addWait x) := h.trans (addWait_self ..)
@[st_pres ↓] theorem addH (h : St.W6A s t) (x : Handler) : St.W6A s (t.addH x) := h.trans (addH_self ..)
end St.W6A

attribute [st_pres] St.W6A.refl

theorem St.W6A.addHandler {s t : St} (h : St.W6A s t) (x : Nat)
    (hx : x < s.hs.length → (s.handler x).kind.w6_isWait = false) : St.W6A s (t.addHandler x) := by
  refine ⟨by rw [St.w6_addHandler_hs]; exact h.hsLen, fun y hy => by rw [St.w6_addHandler_handler]; exact h.hsKeep y hy, ?_⟩
  intro c y hy
  rcases (t.w6_addHandler_htab x c).2.2.1 y hy with hy | ⟨hy, _⟩
  · exact h.add c y hy
  · right; intro hlt; rw [hy] at hlt ⊢; exact hx hlt

@[st_pres ↓] theorem St.W6A.removeHandler {s t : St} (h : St.W6A s t) (x : Nat) (n : Option Name) :
    St.W6A s ((t.removeHandler x n).2) := by
  refine ⟨by rw [St.w6_removeHandler_hs]; exact h.hsLen, fun y hy => by rw [St.w6_removeHandler_handler]; exact h.hsKeep y hy, ?_⟩
  intro c y hy
  exact h.add c y ((t.w6_removeHandler_htab_sublist x n c).subset hy)

def St.W6SA (s s' : St) : Prop := St.W6S s s' ∧ St.W6A s s'

namespace St.W6SA
variable {s t : St}

theorem refl (s : St) : St.W6SA s s := ⟨.refl s, .refl s⟩
theorem trans {a b c : St} (h1 : St.W6SA a b) (h2 : St.W6SA b c) : St.W6SA a c := ⟨h1.1.trans h2.1, h1.2.trans h2.2⟩

@[st_pres ↓] theorem modComp (h : St.W6SA s t) (c : Nat) (f : Comp → Comp) (hf : ∀ x, (f x).htab = x.htab) :
    St.W6SA s (t.modComp c f) := ⟨h.1.modComp c f, h.2.modComp c f hf⟩

@[st_pres ↓] theorem modEv (h : St.W6SA s t) (c : Nat) (f : Ev → Ev) : St.W6SA s (t.modEv c f) := ⟨h.1.modEv c f, h.2.modEv c f⟩

@[st_pres ↓] theorem modTimer (h : St.W6SA s t) (c : Nat) (f : TimerSt → TimerSt) : St.W6SA s (t.modTimer c f) :=
  ⟨h.1.modTimer c f, h.2.modTimer c f⟩

@[st_pres ↓] theorem tick1 (h : St.W6SA s t) (d : Int) : St.W6SA s (t.tick1 d) := ⟨h.1.tick1 d, h.2.tick1 d⟩
@[st_pres ↓] theorem logE (h : St.W6SA s t) (x : Entry) : St.W6SA s (t.logE x) := ⟨h.1.logE x, h.2.logE x⟩
@[st_pres ↓] theorem addEv (h : St.W6SA s t) (x : Ev) : St.W6SA s (t.addEv x) := ⟨h.1.addEv x, h.2.addEv x⟩
@[st_pres ↓] theorem addH (h : St.W6SA s t) (x : Handler) : St.W6SA s (t.addH x) := ⟨h.1.addH x, h.2.addH x⟩

@[st_pres ↓] theorem setGen (h : St.W6SA s t) (g : Nat) (x : GenRec) (hx : x.w6_isWait = false) : St.W6SA s (t.setGen g x) :=
  ⟨h.1.setGen g x hx, h.2.setGen g x⟩

@[st_pres ↓] theorem addGen (h : St.W6SA s t) (x : GenRec) : St.W6SA s (t.addGen x) := ⟨h.1.addGen x, h.2.addGen x⟩
@[st_pres ↓] theorem addWait (h : St.W6SA s t) (x : WaitSt) : St.W6SA s (t.addWait x) := ⟨h.1.addWait x, h.2.addWait x⟩

@[st_pres ↓] theorem modWait (h : St.W6SA s t) (w : Nat) (f : WaitSt → WaitSt)
    (h1 : ∀ x, (f x).owner = x.owner ∧ (f x).evName = x.evName ∧ (f x).task = x.task)
    (h2 : ∀ x, (x.started = true → (f x).started = true) ∧ (x.run = true → (f x).run = true) ∧
      (x.flag = true → (f x).flag = true)) : St.W6SA s (t.modWait w f) := ⟨h.1.modWait w f h1 h2, h.2.modWait w f⟩

theorem addHandler (h : St.W6SA s t) (x : Nat) (hx : x < s.hs.length → (s.handler x).kind.w6_isWait = false) :
    St.W6SA s (t.addHandler x) := ⟨h.1.addHandler x, h.2.addHandler x hx⟩

@[st_pres ↓] theorem removeHandler (h : St.W6SA s t) (x : Nat) (n : Option Name) : St.W6SA s (t.removeHandler x n).2 :=
  ⟨h.1.removeHandler x n, h.2.removeHandler x n⟩

end St.W6SA

attribute [st_pres] St.W6SA.refl

@[st_pres ↓] theorem St.W6SA.fireContext {s t : St} (h : St.W6SA s t) (r e : Nat) :
    St.W6SA s (t.fireContext r e) :=
  St.fireContext_pres t r e h (fun _ _ h => by st_pres) (fun _ _ h => by st_pres) (fun _ _ h => by st_pres)

@[st_pres ↓] theorem St.W6SA.fireRaw {s t : St} (h : St.W6SA s t) (self e : Nat) (chans : List Chan) (prio : Int) :
    St.W6SA s (t.fireRaw self e chans prio) := by
  st_pres_unfold St.fireRaw

@[st_pres ↓] theorem St.W6SA.childEv {s t : St} (h : St.W6SA s t) (p sfx : Nat) :
    St.W6SA s (t.childEv p sfx) := by
  st_pres_unfold St.childEv

@[st_pres ↓] theorem St.W6SA.fireChild {s t : St} (h : St.W6SA s t) (self p sfx : Nat) (chans : List Chan) :
    St.W6SA s (t.fireChild self p sfx chans) := by
  st_pres_unfold St.fireChild

@[st_pres ↓] theorem St.W6SA.inform {s t : St} (h : St.W6SA s t) (e : Nat) (force : Bool) :
    St.W6SA s (t.inform e force) := by
  st_pres_unfold St.inform

@[st_pres ↓] theorem St.W6SA.setValue {s t : St} (h : St.W6SA s t) (e : Nat) (x : VItem) :
    St.W6SA s (t.setValue e x) := by
  st_pres_unfold St.setValue

@[st_pres ↓] theorem St.W6SA.fireTmplEv {s t : St} (h : St.W6SA s t) (self : Nat) (ev : Ev) (target : Option Chan) (prio : Int) :
    St.W6SA s (t.fireTmplEv self ev target prio) := by
  st_pres_unfold St.fireTmplEv

@[st_pres ↓] theorem St.W6SA.effectDone1 {s t : St} (h : St.W6SA s t) (r e : Nat) (announce : Bool) :
    St.W6SA s ((t.effectDone1 r e announce).2) :=
  St.effectDone1_pres t r e announce h (fun _ => by st_pres) (fun _ _ h => by st_pres) (fun _ h => by st_pres)

@[st_pres ↓] theorem St.W6SA.eventDonePre {s t : St} (h : St.W6SA s t) (r e : Nat) (err : Bool) :
    St.W6SA s ((t.eventDonePre r e err).2) := by
  st_pres_unfold St.eventDonePre

@[st_pres ↓] theorem St.W6SA.registerTask {s t : St} (h : St.W6SA s t) (c : Nat) (x : Task) :
    St.W6SA s (t.registerTask c x) := by
  st_pres_unfold St.registerTask

@[st_pres ↓] theorem St.W6SA.unregisterTask {s t : St} (h : St.W6SA s t) (c : Nat) (x : Task) :
    St.W6SA s (t.unregisterTask c x) := by
  st_pres_unfold St.unregisterTask

@[st_pres ↓] theorem St.W6SA.reduceTimeLeft {s t : St} (h : St.W6SA s t) (e : Nat) (d : Int) :
    St.W6SA s (t.reduceTimeLeft e d) := by
  st_pres_unfold St.reduceTimeLeft

@[st_pres ↓] theorem St.W6SA.registerPre {s t : St} (h : St.W6SA s t) (c p : Nat) :
    St.W6SA s ((t.registerPre c p).2) :=
  St.registerPre_pres h c p (fun _ => by st_pres) (fun _ _ h => by st_pres) (fun _ h => by st_pres)
    (fun _ _ _ _ h => by st_pres)

@[st_pres ↓] theorem St.W6SA.registerFin {s t : St} (h : St.W6SA s t) (c : Nat) :
    St.W6SA s (t.registerFin c) := by
  st_pres_unfold St.registerFin

@[st_pres ↓] theorem St.W6SA.unregister {s t : St} (h : St.W6SA s t) (c : Nat) :
    St.W6SA s (t.unregister c) := by
  st_pres_unfold St.unregister

@[st_pres ↓] theorem St.W6SA.prepUnregPre {s t : St} (h : St.W6SA s t) (c : Nat) :
    St.W6SA s (t.prepUnregPre c) := by
  st_pres_unfold St.prepUnregPre

@[st_pres ↓] theorem St.W6SA.prepUnregFin {s t : St} (h : St.W6SA s t) (c : Nat) :
    St.W6SA s (t.prepUnregFin c) := by
  st_pres_unfold St.prepUnregFin

@[st_pres ↓] theorem St.W6SA.actFire {s t : St} (h : St.W6SA s t) (self i : Nat) (target : Option Chan) (prio : Int) (cancel : Bool) :
    St.W6SA s (t.actFire self i target prio cancel) := by
  st_pres_unfold St.actFire

@[st_pres ↓] theorem St.W6SA.actStopEv {s t : St} (h : St.W6SA s t) (ev : Option Nat) :
    St.W6SA s (t.actStopEv ev) := by
  st_pres_unfold St.actStopEv

@[st_pres ↓] theorem St.W6SA.timerReset {s t : St} (h : St.W6SA s t) (i : Nat) :
    St.W6SA s (t.timerReset i) := by
  st_pres_unfold St.timerReset

@[st_pres ↓] theorem St.W6SA.timerCreate {s t : St} (h : St.W6SA s t) (i : Nat) :
    St.W6SA s (t.timerCreate i) := by
  st_pres_unfold St.timerCreate

@[st_pres ↓] theorem St.W6SA.timerTick {s t : St} (h : St.W6SA s t) (i e : Nat) :
    St.W6SA s (t.timerTick i e) :=
  St.timerTick_pres t i e h (fun _ _ h => by st_pres) (fun _ => by st_pres) (fun _ _ _ _ h => by st_pres)
    (fun _ _ h => by st_pres) (fun _ _ h => by st_pres)

@[st_pres ↓] theorem St.W6SA.startWait {s t : St} (h : St.W6SA s t) (w : Nat) : St.W6SA s (t.startWait w) :=
  -- the handlers it installs are new: their ids are beyond the table of `s`
  St.startWait_pres t w h (fun _ _ => by st_pres)
    (fun _ _ _ _ _ hu => (hu.addH _).addHandler _ fun hlt => absurd hu.2.hsLen (Nat.not_le_of_lt hlt))
    (fun _ _ _ _ _ hu => hu.modWait _ _ (fun _ => ⟨rfl, rfl, rfl⟩) (fun _ => ⟨fun _ => rfl, id, id⟩))

@[st_pres ↓] theorem St.W6SA.stopBegin {s t : St} (h : St.W6SA s t) (c : Nat) :
    St.W6SA s (t.stopBegin c) := by
  st_pres_unfold St.stopBegin

@[st_pres ↓] theorem St.W6SA.stopSetCode {s t : St} (h : St.W6SA s t) (r : Nat) (code : Code) :
    St.W6SA s (t.stopSetCode r code) := by
  st_pres_unfold St.stopSetCode

@[st_pres ↓] theorem St.W6SA.genCall {s t : St} (h : St.W6SA s t) (owner i : Nat) (target : Option Chan) (timeout : Option Nat) :
    St.W6SA s (t.genCall owner i target timeout) := by
  st_pres_unfold St.genCall

@[st_pres ↓] theorem St.W6SA.genWait {s t : St} (h : St.W6SA s t) (owner : Nat) (name : Name) (target : Option Chan) (timeout : Option Nat) :
    St.W6SA s (t.genWait owner name target timeout) := by
  st_pres_unfold St.genWait

@[st_pres ↓] theorem St.W6SA.resumeGenPre {s t : St} (h : St.W6SA s t) (g : Nat) (silent : Bool) :
    St.W6SA s (t.resumeGenPre g silent) := by
  st_pres_unfold St.resumeGenPre

@[st_pres ↓] theorem St.W6SA.stopIteration {s t : St} (h : St.W6SA s t) (r : Nat) (x : Task) :
    St.W6SA s ((t.stopIteration r x).2) :=
  St.stopIteration_pres t r x (by st_pres) (fun _ _ h => by st_pres) (fun _ h => by st_pres)

@[st_pres ↓] theorem St.W6SA.fireException {s t : St} (h : St.W6SA s t) (r e : Nat) :
    St.W6SA s (t.fireException r e) := by
  st_pres_unfold St.fireException

@[st_pres ↓] theorem St.W6SA.errorBranch {s t : St} (h : St.W6SA s t) (r : Nat) (x : Task) (resumed : Bool) :
    St.W6SA s ((t.errorBranch r x resumed).2) :=
  St.errorBranch_pres t r x resumed (by st_pres) (fun _ h => by st_pres) (fun _ h => by st_pres)
    (fun _ _ h => by st_pres) (fun _ _ h => by st_pres) (fun _ h => by st_pres) (fun _ _ h => by st_pres)

@[st_pres ↓] theorem St.W6SA.ownSub {s t : St} (h : St.W6SA s t) (r : Nat) (x : Task) (w : Nat) :
    St.W6SA s (t.ownSub r x w) := by
  st_pres_unfold St.ownSub

@[st_pres ↓] theorem St.W6SA.setValueOpt {s t : St} (h : St.W6SA s t) (e : Nat) (v : Option Nat) :
    St.W6SA s (t.setValueOpt e v) := by
  st_pres_unfold St.setValueOpt

@[st_pres ↓] theorem St.W6SA.parentSub {s t : St} (h : St.W6SA s t) (r : Nat) (x : Task) (p w2 : Nat) (viaThrow : Bool) :
    St.W6SA s (t.parentSub r x p w2 viaThrow) := by
  st_pres_unfold St.parentSub

@[st_pres ↓] theorem St.W6SA.parentPlain {s t : St} (h : St.W6SA s t) (r : Nat) (x : Task) (p : Nat) (v : Option Nat) (viaThrow : Bool) :
    St.W6SA s (t.parentPlain r x p v viaThrow) := by
  st_pres_unfold St.parentPlain

@[st_pres ↓] theorem St.W6SA.onWaitEvent {s t : St} (h : St.W6SA s t) (w e : Nat) :
    St.W6SA s ((t.onWaitEvent w e).2) := by
  st_pres_unfold St.onWaitEvent

@[st_pres ↓] theorem St.W6SA.onWaitDone {s t : St} (h : St.W6SA s t) (w e : Nat) :
    St.W6SA s ((t.onWaitDone w e).2) :=
  St.onWaitDone_pres t w e h (fun _ _ _ h => by st_pres) (fun _ _ => by st_pres)

@[st_pres ↓] theorem St.W6SA.onWaitTick {s t : St} (h : St.W6SA s t) (w : Nat) :
    St.W6SA s ((t.onWaitTick w).2) :=
  St.onWaitTick_pres t w h (fun _ _ _ h => h.removeHandler _ _)
    (fun _ _ _ => ((h.modWait w (fun x => { x with timedOut := true }) (fun _ => ⟨rfl, rfl, rfl⟩)
      fun _ => ⟨id, id, id⟩).addGen _).registerTask _ _)
    (h.modWait w (fun x => { x with timeout := x.timeout - 1 }) (fun _ => ⟨rfl, rfl, rfl⟩) fun _ => ⟨id, id, id⟩)

@[st_pres ↓] theorem St.W6SA.onFallbackGE {s t : St} (h : St.W6SA s t) (e : Nat) :
    St.W6SA s ((t.onFallbackGE e).2) := by
  st_pres_unfold St.onFallbackGE

@[st_pres ↓] theorem St.W6SA.computeHandlers {s t : St} (h : St.W6SA s t) (r : Nat) (name : Name) (chans : List Chan) :
    St.W6SA s ((t.computeHandlers r name chans).2) := by
  st_pres_unfold St.computeHandlers

@[st_pres ↓] theorem St.W6SA.dispComplete {s t : St} (h : St.W6SA s t) (e : Nat) (ev : Ev) :
    St.W6SA s (t.dispComplete e ev) := by
  st_pres_unfold St.dispComplete

@[st_pres ↓] theorem St.W6SA.cacheRefresh {s t : St} (h : St.W6SA s t) (r : Nat) :
    St.W6SA s (t.cacheRefresh r) := by
  st_pres_unfold St.cacheRefresh

@[st_pres ↓] theorem St.W6SA.lookupHandlers {s t : St} (h : St.W6SA s t) (r : Nat) (name : Name) (chans : List Chan) :
    St.W6SA s ((t.lookupHandlers r name chans).2) := by
  st_pres_unfold St.lookupHandlers

@[st_pres ↓] theorem St.W6SA.dispGE {s t : St} (h : St.W6SA s t) (r e remaining : Nat) (name : Name) :
    St.W6SA s (t.dispGE r e remaining name) := by
  st_pres_unfold St.dispGE

@[st_pres ↓] theorem St.W6SA.dispatchPre {s t : St} (h : St.W6SA s t) (r e remaining : Nat) :
    St.W6SA s ((t.dispatchPre r e remaining).2) := by
  st_pres_unfold St.dispatchPre

@[st_pres ↓] theorem St.W6SA.handlerRaised {s t : St} (h : St.W6SA s t) (r e : Nat) :
    St.W6SA s (t.handlerRaised r e) := by
  st_pres_unfold St.handlerRaised

@[st_pres ↓] theorem St.W6SA.applyValue {s t : St} (h : St.W6SA s t) (r e : Nat) (value : Outcome) :
    St.W6SA s (t.applyValue r e value) := by
  st_pres_unfold St.applyValue

@[st_pres ↓] theorem St.W6SA.geTasksCheck {s t : St} (h : St.W6SA s t) (r e : Nat) :
    St.W6SA s (t.geTasksCheck r e) := by
  st_pres_unfold St.geTasksCheck

@[st_pres ↓] theorem St.W6SA.flushBegin {s t : St} (h : St.W6SA s t) (r : Nat) :
    St.W6SA s (t.flushBegin r) := by
  st_pres_unfold St.flushBegin

@[st_pres ↓] theorem St.W6SA.tickGenerate {s t : St} (h : St.W6SA s t) (c : Nat) :
    St.W6SA s (t.tickGenerate c) := by
  st_pres_unfold St.tickGenerate

@[st_pres ↓] theorem St.W6SA.runBegin {s t : St} (h : St.W6SA s t) (c : Nat) :
    St.W6SA s (t.runBegin c) := by
  st_pres_unfold St.runBegin

@[st_pres ↓] theorem St.W6SA.runEnd {s t : St} (h : St.W6SA s t) (c : Nat) :
    St.W6SA s ((t.runEnd c).2) := by
  st_pres_unfold St.runEnd

@[st_pres ↓] theorem St.W6SA.actStep {s t : St} (h : St.W6SA s t) (ctx : HCtx) (a : Act) : St.W6SA s (actStep t ctx a).st := by
  cases a <;> (unfold CV.Core.actStep; (try dsimp only))
  case addH x =>
    split
    · rename_i hk
      apply St.W6SA.addHandler h
      intro hlt
      rw [← h.2.hsKeep x hlt]
      exact HKind.w6_code0_not_wait hk
    · exact h
  all_goals st_pres

@[st_pres ↓] theorem St.W6SA.updateRootAll (s : St) : ∀ (fuel : Nat) (todo : List Nat) (root : Nat) (t : St),
    St.W6SA s t → St.W6SA s (St.updateRootAll fuel todo root t) :=
  fun fuel todo root t h => St.updateRootAll_pres root (fun _ _ h => by st_pres) fuel todo t h

-- the helper lemmas of `St.W6S` and `St.W6A` by name: the two halves of the joint walk
theorem St.W6S.fireRaw {s t : St} (h : St.W6S s t) (self e : Nat) (chans : List Chan) (prio : Int) :
    St.W6S s (t.fireRaw self e chans prio) :=
  h.trans (St.W6SA.fireRaw (.refl t) self e chans prio).1

theorem St.W6S.inform {s t : St} (h : St.W6S s t) (e : Nat) (force : Bool) :
    St.W6S s (t.inform e force) :=
  h.trans (St.W6SA.inform (.refl t) e force).1

theorem St.W6S.setValue {s t : St} (h : St.W6S s t) (e : Nat) (x : VItem) :
    St.W6S s (t.setValue e x) :=
  h.trans (St.W6SA.setValue (.refl t) e x).1

theorem St.W6S.registerTask {s t : St} (h : St.W6S s t) (c : Nat) (x : Task) :
    St.W6S s (t.registerTask c x) :=
  h.trans (St.W6SA.registerTask (.refl t) c x).1

theorem St.W6S.unregisterTask {s t : St} (h : St.W6S s t) (c : Nat) (x : Task) :
    St.W6S s (t.unregisterTask c x) :=
  h.trans (St.W6SA.unregisterTask (.refl t) c x).1

theorem St.W6S.registerPre {s t : St} (h : St.W6S s t) (c p : Nat) :
    St.W6S s ((t.registerPre c p).2) :=
  h.trans (St.W6SA.registerPre (.refl t) c p).1

theorem St.W6S.unregister {s t : St} (h : St.W6S s t) (c : Nat) :
    St.W6S s (t.unregister c) :=
  h.trans (St.W6SA.unregister (.refl t) c).1

theorem St.W6S.prepUnregPre {s t : St} (h : St.W6S s t) (c : Nat) :
    St.W6S s (t.prepUnregPre c) :=
  h.trans (St.W6SA.prepUnregPre (.refl t) c).1

theorem St.W6S.timerTick {s t : St} (h : St.W6S s t) (i e : Nat) :
    St.W6S s (t.timerTick i e) :=
  h.trans (St.W6SA.timerTick (.refl t) i e).1

theorem St.W6S.startWait {s t : St} (h : St.W6S s t) (w : Nat) :
    St.W6S s (t.startWait w) :=
  h.trans (St.W6SA.startWait (.refl t) w).1

theorem St.W6S.dispatchPre {s t : St} (h : St.W6S s t) (r e remaining : Nat) :
    St.W6S s ((t.dispatchPre r e remaining).2) :=
  h.trans (St.W6SA.dispatchPre (.refl t) r e remaining).1

theorem St.W6S.flushBegin {s t : St} (h : St.W6S s t) (r : Nat) :
    St.W6S s (t.flushBegin r) :=
  h.trans (St.W6SA.flushBegin (.refl t) r).1

theorem St.W6S.updateRootAll (s : St) : ∀ (fuel : Nat) (todo : List Nat) (root : Nat) (t : St),
    St.W6S s t → St.W6S s (St.updateRootAll fuel todo root t) :=
  fun fuel todo root t h => h.trans (St.W6SA.updateRootAll t fuel todo root t (.refl t)).1

theorem St.W6A.fireRaw {s t : St} (h : St.W6A s t) (self e : Nat) (chans : List Chan) (prio : Int) :
    St.W6A s (t.fireRaw self e chans prio) :=
  h.trans (St.W6SA.fireRaw (.refl t) self e chans prio).2

theorem St.W6A.inform {s t : St} (h : St.W6A s t) (e : Nat) (force : Bool) :
    St.W6A s (t.inform e force) :=
  h.trans (St.W6SA.inform (.refl t) e force).2

theorem St.W6A.setValue {s t : St} (h : St.W6A s t) (e : Nat) (x : VItem) :
    St.W6A s (t.setValue e x) :=
  h.trans (St.W6SA.setValue (.refl t) e x).2

theorem St.W6A.registerTask {s t : St} (h : St.W6A s t) (c : Nat) (x : Task) :
    St.W6A s (t.registerTask c x) :=
  h.trans (St.W6SA.registerTask (.refl t) c x).2

theorem St.W6A.unregisterTask {s t : St} (h : St.W6A s t) (c : Nat) (x : Task) :
    St.W6A s (t.unregisterTask c x) :=
  h.trans (St.W6SA.unregisterTask (.refl t) c x).2

theorem St.W6A.registerPre {s t : St} (h : St.W6A s t) (c p : Nat) :
    St.W6A s ((t.registerPre c p).2) :=
  h.trans (St.W6SA.registerPre (.refl t) c p).2

theorem St.W6A.unregister {s t : St} (h : St.W6A s t) (c : Nat) :
    St.W6A s (t.unregister c) :=
  h.trans (St.W6SA.unregister (.refl t) c).2

theorem St.W6A.prepUnregPre {s t : St} (h : St.W6A s t) (c : Nat) :
    St.W6A s (t.prepUnregPre c) :=
  h.trans (St.W6SA.prepUnregPre (.refl t) c).2

theorem St.W6A.timerTick {s t : St} (h : St.W6A s t) (i e : Nat) :
    St.W6A s (t.timerTick i e) :=
  h.trans (St.W6SA.timerTick (.refl t) i e).2

theorem St.W6A.startWait {s t : St} (h : St.W6A s t) (w : Nat) :
    St.W6A s (t.startWait w) :=
  h.trans (St.W6SA.startWait (.refl t) w).2

theorem St.W6A.dispatchPre {s t : St} (h : St.W6A s t) (r e remaining : Nat) :
    St.W6A s ((t.dispatchPre r e remaining).2) :=
  h.trans (St.W6SA.dispatchPre (.refl t) r e remaining).2

theorem St.W6A.flushBegin {s t : St} (h : St.W6A s t) (r : Nat) :
    St.W6A s (t.flushBegin r) :=
  h.trans (St.W6SA.flushBegin (.refl t) r).2

theorem St.W6A.updateRootAll (s : St) : ∀ (fuel : Nat) (todo : List Nat) (root : Nat) (t : St),
    St.W6A s t → St.W6A s (St.updateRootAll fuel todo root t) :=
  fun fuel todo root t h => h.trans (St.W6SA.updateRootAll t fuel todo root t (.refl t)).2

theorem St.W6SA.keeps (s : St) (o : Op) : o.Keeps (St.W6SA s) := by
  cases o <;> (intro t h; intros; st_pres)

theorem w6_stepFrame_s (c : Cfg) (k : List Frame) (f : Frame) : St.W6S c.st (stepFrame c k f).st :=
  (stepFrame_pres c k f (fun o _ => St.W6SA.keeps _ o) (St.W6SA.refl _)).1

theorem w6_step_s (c : Cfg) : St.W6S c.st (step c).st := (step_pres c (St.W6SA.keeps _) (St.W6SA.refl _)).1

theorem w6_step_a (c : Cfg) : St.W6A c.st (step c).st := (step_pres c (St.W6SA.keeps _) (St.W6SA.refl _)).2

end CV.Core
