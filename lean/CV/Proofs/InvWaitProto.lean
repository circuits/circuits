import CV.Proofs.InvWaitSt
/-
C06, global layer: the three closures of `waitEvent` and the resumption step preserve `W6WInv`.
-/
namespace CV.Core

namespace W6GInv
variable {n0 : Nat} {t : St}

theorem st_modEv (h : W6GInv n0 t.w6_view) (e : Nat) (f : Ev → Ev) : W6GInv n0 (t.modEv e f).w6_view := h

theorem st_modWait (h : W6GInv n0 t.w6_view) (w : Nat) (f : WaitSt → WaitSt) (f1 : ∀ x, (f x).task = x.task)
    (f2 : ∀ x, x.flag = true → (f x).flag = true) (f3 : ∀ x, (f x).started = x.started)
    (f4 : ∀ x, (f x).parentGen = x.parentGen) : W6GInv n0 (t.modWait w f).w6_view := by
  by_cases hw : w < t.waits.length
  · refine h.wgUpdate (v' := (t.modWait w f).w6_view) w rfl rfl (by simp) ?_ ?_ ?_ ?_ rfl rfl
    · intro w' hne; simp [St.w6_modWait_wait_ne _ _ _ _ hne]
    · simp [St.w6_modWait_wait_lt _ _ _ hw, WaitSt.w6g, f1]
    · simp only [St.w6_view_wg, St.w6_modWait_wait_lt _ _ _ hw, WaitSt.w6g]; exact f2 _
    · intro _ hs
      simp only [St.w6_view_wg, St.w6_modWait_wait_lt _ _ _ hw, WaitSt.w6g, f3, f4] at hs ⊢
      exact h.pgen w hw hs
  · refine h.congr rfl rfl (by simp) ?_ rfl rfl
    funext w'; simp [St.w6_modWait_wait_ge _ _ _ _ (Nat.le_of_not_lt hw)]

end W6GInv

theorem St.w6_rmOwned (t : St) (hid : Nat) (nm : Name) (o : Nat) (ho : (t.handler hid).owner = o)
    (hnd : ∀ c, (t.comp c).htab.Nodup) :
    (∀ c, ((t.removeHandler hid (some nm)).2.comp c).htab.Nodup) ∧
    (∀ c x, x ∈ ((t.removeHandler hid (some nm)).2.comp c).htab ↔ x ∈ (t.comp c).htab ∧ ¬ (c = o ∧ x = (some nm, hid))) ∧
    ((t.removeHandler hid (some nm)).1 = true ↔ (some nm, hid) ∈ (t.comp o).htab) := by
  subst ho
  exact ⟨fun c => (t.w6_removeHandler_htab_sublist hid _ c).nodup (hnd c),
    fun c x => t.w6_removeHandler_named_htab hid nm c x (hnd _), t.w6_removeHandler_named_ok hid nm⟩

theorem St.w6_removeHandler_named_fail (t : St) (h : Nat) (n : Name) (hf : (t.removeHandler h (some n)).1 = false) (c : Nat) :
    ((t.removeHandler h (some n)).2.comp c).htab = (t.comp c).htab := by
  rw [St.w6_removeHandler_htab, St.w6_rmKeyList_some]
  split
  · rename_i hc
    rw [(w6_rmKeys_single _ _ _).1]
    apply List.erase_of_not_mem
    intro hm
    have := (t.w6_removeHandler_named_ok h n).2 (by rw [← hc.1]; exact hm)
    rw [this] at hf; cases hf
  · rfl

theorem W6HInv.ids {n0 : Nat} {v : W6View} (h : W6HInv n0 v) (w : Nat) (hw : w < v.nw) (hst : (v.wh w).started = true) :
    (v.wh w).hEvent ≠ (v.wh w).hDone ∧ ∀ ht, (v.wh w).hTick = some ht → ht ≠ (v.wh w).hEvent ∧ ht ≠ (v.wh w).hDone := by
  obtain ⟨_, _, _, k1⟩ := h.recEv w hw hst
  obtain ⟨_, _, _, k2⟩ := h.recDone w hw hst
  refine ⟨fun e => (by rw [e, k2] at k1; cases k1), fun ht hht => ?_⟩
  obtain ⟨_, _, _, k3⟩ := h.recTick w ht hw hst hht
  exact ⟨fun e => (by rw [e, k1] at k3; cases k3), fun e => (by rw [e, k2] at k3; cases k3)⟩

theorem W6HInv.keys {n0 : Nat} {v : W6View} (h : W6HInv n0 v) (w : Nat) (hw : w < v.nw) (hst : (v.wh w).started = true) :
    v.evKey w ≠ v.doneKey w ∧ ∀ ht, (v.wh w).hTick = some ht → v.tickKey ht ≠ v.evKey w ∧ v.tickKey ht ≠ v.doneKey w :=
  ⟨fun e => (h.ids w hw hst).1 (congrArg Prod.snd e), fun ht hht =>
    ⟨fun e => ((h.ids w hw hst).2 ht hht).1 (congrArg Prod.snd e), fun e => ((h.ids w hw hst).2 ht hht).2 (congrArg Prod.snd e)⟩⟩

/-- state-level form of `W6HInv.update`: `t'` differs from `t` in `run / flag / event / timeout` of `w` and in the
    entries `K` (all of them entries of `w`'s own handlers) removed from the owner's table -/
theorem W6HInv.st_update {n0 : Nat} {t : St} (h : W6HInv n0 t.w6_view) (w : Nat) (hw : w < t.waits.length)
    (hst : (t.wait w).started = true) (t' : St) (K : List (HKey × Nat))
    (q1 : t'.hs = t.hs) (q3 : t'.waits.length = t.waits.length) (q4 : ∀ w', w' ≠ w → t'.wait w' = t.wait w')
    (r f : Bool) (ev : Option Nat) (tm : Int)
    (q5 : (t'.wait w).w6h = { (t.wait w).w6h with run := r, flag := f, event := ev, timeout := tm })
    (nd : ∀ c, (t'.comp c).htab.Nodup)
    (mem : ∀ c x, x ∈ (t'.comp c).htab ↔ x ∈ (t.comp c).htab ∧ ¬ (c = (t.wait w).owner ∧ x ∈ K))
    (hK : ∀ x, x ∈ K → (t.handler x.2).kind.w6_widx = some w)
    (c1 : (f = true → ev.isSome = true) ∧ (ev.isSome = true → r = true))
    (c2 : tm < 0 → (t.wait w).hTick = none)
    (c3 : t.w6_view.evKey w ∈ t.w6_view.htabOf w → t.w6_view.evKey w ∉ K →
      r = false ∧ t.w6_view.doneKey w ∈ t.w6_view.htabOf w ∧ t.w6_view.doneKey w ∉ K)
    (c4 : ∀ ht, (t.wait w).hTick = some ht → t.w6_view.tickKey ht ∈ t.w6_view.htabOf w → t.w6_view.tickKey ht ∉ K →
      (t.w6_view.doneKey w ∈ t.w6_view.htabOf w ∧ t.w6_view.doneKey w ∉ K) ∧ f = false)
    (c5 : ∀ ht, (t.wait w).hTick = some ht → t.w6_view.doneKey w ∈ t.w6_view.htabOf w → t.w6_view.doneKey w ∉ K → f = false →
      t.w6_view.tickKey ht ∈ t.w6_view.htabOf w ∧ t.w6_view.tickKey ht ∉ K) : W6HInv n0 t'.w6_view := by
  have hh : t'.handler = t.handler := by funext x; simp [St.handler, q1]
  have e_owner : (t'.wait w).w6h.owner = (t.wait w).owner := by rw [q5]; rfl
  have memO : ∀ x, x ∈ (t'.comp (t.wait w).owner).htab ↔ x ∈ (t.comp (t.wait w).owner).htab ∧ x ∉ K := by
    intro x; rw [mem]; simp
  -- the keys of `w` and the table they are looked up in are those of `t`, up to the entries `K`
  have eE : t'.w6_view.evKey w = t.w6_view.evKey w := by
    show (some (t'.wait w).w6h.evName, (t'.wait w).w6h.hEvent) = _; rw [q5]; rfl
  have eD : t'.w6_view.doneKey w = t.w6_view.doneKey w := by
    show (some ((t'.wait w).w6h.evName.child sfxDone), (t'.wait w).w6h.hDone) = _; rw [q5]; rfl
  have eT : t'.w6_view.htabOf w = (t'.comp (t.wait w).owner).htab := by
    show (t'.comp (t'.wait w).w6h.owner).htab = _; rw [e_owner]
  refine h.update (v' := t'.w6_view) w hw hst (by simp [q1]) (by simp [hh]) (by simp [q3]) ?_ ?_ ?_ ?_ ?_ ?_ ?_ nd ?_ ?_
    ?_ ?_ ?_ ?_ ?_
  · intro w' hne; simp [q4 w' hne]
  · simp only [St.w6_view_wh]; rw [q5]
  · simp only [St.w6_view_wh]; rw [q5]
  · simp only [St.w6_view_wh]; rw [q5]
  · simp only [St.w6_view_wh]; rw [q5]
  · simp only [St.w6_view_wh]; rw [q5]
  · simp only [St.w6_view_wh]; rw [q5]; exact hst
  · intro c x hx; exact ((mem c x).1 hx).1
  · intro c x hx hk
    refine (mem c x).2 ⟨hx, fun hh' => hk (hK x hh'.2)⟩
  · simp only [St.w6_view_wh]; rw [q5]; exact c1
  · simp only [St.w6_view_wh]; rw [q5]; exact c2
  · rw [eE, eD, eT]; simp only [St.w6_view_wh]; rw [q5]
    intro hm
    have hm' := (memO _).1 hm
    obtain ⟨a, b, c⟩ := c3 hm'.1 hm'.2
    exact ⟨a, (memO _).2 ⟨b, c⟩⟩
  · intro ht hht
    rw [eD, eT]; simp only [St.w6_view_wh] at hht ⊢; rw [q5] at hht ⊢
    intro hm
    have hm' := (memO _).1 hm
    obtain ⟨⟨a, b⟩, c⟩ := c4 ht hht hm'.1 hm'.2
    exact ⟨(memO _).2 ⟨a, b⟩, c⟩
  · intro ht hht
    rw [eD, eT]; simp only [St.w6_view_wh] at hht ⊢; rw [q5] at hht ⊢
    intro hm hf
    have hm' := (memO _).1 hm
    obtain ⟨a, b⟩ := c5 ht hht hm'.1 hm'.2 hf
    exact (memO _).2 ⟨a, b⟩

namespace W6WInv
variable {n0 : Nat} {t : St}

theorem onWaitEvent (h : W6WInv n0 t) (w e : Nat) (hw : w < t.waits.length) (hst : (t.wait w).started = true) :
    W6WInv n0 (t.onWaitEvent w e).2 := by
  obtain ⟨_, r2, _, r4⟩ := h.1.evRec hst
  obtain ⟨hne1, hne2⟩ := h.1.keys w hw hst
  unfold St.onWaitEvent
  dsimp only
  split
  · obtain ⟨nd', mem', _⟩ := t.w6_rmOwned (t.wait w).hEvent (t.wait w).evName (t.wait w).owner r2 h.1.nodup
    split
    · rename_i hf
      have hf' : (t.removeHandler (t.wait w).hEvent (some (t.wait w).evName)).1 = false := by simpa using hf
      exact ⟨h.1.congr (by simp) (by funext y; simp) (by simp) (by funext w'; simp)
        (by funext c; simp only [St.w6_view_htab]; exact t.w6_removeHandler_named_fail _ _ hf' c), h.2.st_removeHandler _ _⟩
    · refine ⟨?_, ?_⟩
      · refine h.1.st_update w hw hst _ [(some (t.wait w).evName, (t.wait w).hEvent)] (by simp) (by simp) ?_
          true (t.wait w).flag (some e) (t.wait w).timeout ?_ ?_ ?_ ?_ ⟨fun _ => rfl, fun _ => rfl⟩
          (h.1.noTick w hw hst) ?_ ?_ ?_
        · intro w' hne; rw [St.w6_modWait_wait_ne _ _ _ _ hne]; simp
        · rw [St.w6_modWait_wait_lt _ _ _ (by simpa using hw)]; simp [WaitSt.w6h]
        · intro c; simp only [St.w6_modWait_comp, St.w6_modEv_comp]; exact nd' c
        · intro c x; simp only [St.w6_modWait_comp, St.w6_modEv_comp]; rw [mem' c x]; simp
        · intro x hx; simp only [List.mem_singleton] at hx; subst hx; simp only [r4]; rfl
        · intro _ hn; exact absurd (List.mem_singleton.2 rfl) hn
        · intro ht hht hm _
          have := h.1.i2 w ht hw hst hht hm
          exact ⟨⟨this.1, fun hd => hne1 (List.mem_singleton.1 hd).symm⟩, this.2⟩
        · intro ht hht hm _ hf
          exact ⟨h.1.j1 w ht hw hst hht hm hf, fun hd => (hne2 ht hht).1 (List.mem_singleton.1 hd)⟩
      · exact ((h.2.st_removeHandler _ _).st_modEv _ _).st_modWait _ _ (fun _ => rfl) (fun _ hx => hx) (fun _ => rfl)
          (fun _ => rfl)
  · exact h

theorem onWaitDone (h : W6WInv n0 t) (w e : Nat) (hw : w < t.waits.length) (hst : (t.wait w).started = true) :
    W6WInv n0 (t.onWaitDone w e).2 := by
  obtain ⟨tg1, tg2⟩ := h.2.taskGen w hw
  have hpg := h.2.pgen w hw hst
  simp only [St.w6_view_wg, WaitSt.w6g, St.w6_view_ng, St.w6_view_gen] at tg1 tg2 hpg
  unfold St.onWaitDone
  dsimp only
  split
  · rename_i hg
    simp only [Bool.and_eq_true, beq_iff_eq] at hg
    replace hg := hg.2
    have hrun : (t.wait w).run = true := h.1.event_run hg.1
    generalize hu : (t.modWait w fun x => { x with flag := true }).registerTask (t.wait w).owner
        ⟨(t.wait w).taskEvent, (t.wait w).task, some (t.wait w).parentGen⟩ = u
    have hG1 : W6GInv n0 u.w6_view := by
      subst hu
      apply W6GInv.st_registerTask
      · exact h.2.st_modWait _ _ (fun _ => rfl) (fun _ _ => rfl) (fun _ => rfl) (fun _ => rfl)
      · refine ⟨by simpa using tg1, ?_, ?_⟩
        · intro w' hgw
          simp only [St.w6_view_gen, St.w6_modWait_gen] at hgw
          rw [tg2] at hgw; injection hgw with hgw; subst hgw
          simp [St.w6_modWait_wait_lt _ _ _ hw, WaitSt.w6g]
        · intro p hp; injection hp with hp; subst hp
          exact ⟨by simpa using hpg.1, by simpa using hpg.2⟩
    have q4 : ∀ w', w' ≠ w → u.wait w' = t.wait w' := by
      subst hu; intro w' hne; simp [St.w6_modWait_wait_ne _ _ _ _ hne]
    have q5 : (u.wait w).w6h =
        { (t.wait w).w6h with run := (t.wait w).run, flag := true, event := (t.wait w).event, timeout := (t.wait w).timeout } := by
      subst hu; simp [St.w6_modWait_wait_lt _ _ _ hw, WaitSt.w6h]
    have q6 : ∀ c, (u.comp c).htab = (t.comp c).htab := by
      subst hu; exact fun c => St.w6_registerTask_htab ..
    have q1 : u.hs = t.hs := by subst hu; rfl
    have q3 : u.waits.length = t.waits.length := by subst hu; simp
    -- `u` with the entries `K` removed: the flag is up, so the `_on_tick` entry must not be there any more
    have hH : ∀ (u' : St) (K : List (HKey × Nat)), u'.hs = u.hs → u'.waits = u.waits → (∀ c, (u'.comp c).htab.Nodup) →
        (∀ c x, x ∈ (u'.comp c).htab ↔ x ∈ (t.comp c).htab ∧ ¬ (c = (t.wait w).owner ∧ x ∈ K)) →
        (∀ x, x ∈ K → (t.handler x.2).kind.w6_widx = some w) →
        (∀ ht, (t.wait w).hTick = some ht → t.w6_view.tickKey ht ∈ t.w6_view.htabOf w → t.w6_view.tickKey ht ∈ K) →
        W6HInv n0 u'.w6_view := by
      intro u' K e1 e2 nd mem hK c4
      have ew : ∀ w', u'.wait w' = u.wait w' := fun w' => by simp [St.wait, e2]
      refine h.1.st_update w hw hst u' K (e1.trans q1) (by rw [e2]; exact q3) (fun w' hne => (ew w').trans (q4 w' hne))
        (t.wait w).run true (t.wait w).event (t.wait w).timeout (by rw [ew]; exact q5) nd mem hK
        ⟨fun _ => hg.1, h.1.event_run⟩ (h.1.noTick w hw hst) ?_ (fun ht hht hm hn => absurd (c4 ht hht hm) hn)
        (fun _ _ _ _ hf => by cases hf)
      intro hm _
      have := h.1.evKey_run hst hm
      rw [hrun] at this; cases this
    -- nothing removed: the `_on_tick` handler is not installed
    have hH0 : (∀ ht, (t.wait w).hTick = some ht → False) → W6HInv n0 u.w6_view := fun hno =>
      hH u [] rfl rfl (fun c => by rw [q6]; exact h.1.nodup c) (fun c x => by rw [q6]; simp) nofun
        (fun ht hht _ => (hno ht hht).elim)
    split
    · split
      · rename_i ht hht
        obtain ⟨_, k2, _, k4⟩ := h.1.tickRec hst hht
        obtain ⟨nd', mem', _⟩ := u.w6_rmOwned ht Name.generateEvents (t.wait w).owner
          (by rw [← k2]; simp [St.handler, q1]) (fun c => by rw [q6]; exact h.1.nodup c)
        have hH2 := hH (u.removeHandler ht (some Name.generateEvents)).2 [(some Name.generateEvents, ht)] (by simp) (by simp)
          nd' (fun c x => by rw [mem' c x, q6]; simp)
          (fun x hx => by rw [List.mem_singleton.1 hx]; simp only [k4]; rfl)
          (fun ht' hht' _ => by
            rw [hht] at hht'; injection hht' with hht'; subst hht'; exact List.mem_singleton.2 rfl)
        have hG2 := hG1.st_removeHandler ht (some Name.generateEvents)
        split <;> exact ⟨hH2, hG2⟩
      · rename_i hnone
        exact ⟨hH0 (fun ht hht => by rw [hnone] at hht; cases hht), hG1⟩
    · rename_i htm
      have hnone := h.1.noTick w hw hst (show (t.wait w).timeout < 0 by simpa using htm)
      exact ⟨hH0 (fun ht hht => by rw [show (t.wait w).hTick = none from hnone] at hht; cases hht), hG1⟩
  · exact h

end W6WInv

/-- the `_done` handler of `w` goes (time-out or resumption), together with whatever else of `w` is still installed -/
theorem W6HInv.st_dropDone {n0 : Nat} {t : St} (h : W6HInv n0 t.w6_view) (w : Nat) (hw : w < t.waits.length)
    (hst : (t.wait w).started = true) (t' : St) (K : List (HKey × Nat))
    (q1 : t'.hs = t.hs) (q3 : t'.waits.length = t.waits.length) (q4 : ∀ w', t'.wait w' = t.wait w')
    (nd : ∀ c, (t'.comp c).htab.Nodup)
    (mem : ∀ c x, x ∈ (t'.comp c).htab ↔ x ∈ (t.comp c).htab ∧ ¬ (c = (t.wait w).owner ∧ x ∈ K))
    (hK : ∀ x, x ∈ K → (t.handler x.2).kind.w6_widx = some w)
    (a : t.w6_view.doneKey w ∈ K)
    (b : ∀ ht, (t.wait w).hTick = some ht → t.w6_view.tickKey ht ∈ K ∨ t.w6_view.tickKey ht ∉ t.w6_view.htabOf w)
    (c : t.w6_view.evKey w ∈ K ∨ t.w6_view.evKey w ∉ t.w6_view.htabOf w ∨ (t.wait w).run = true) : W6HInv n0 t'.w6_view := by
  refine h.st_update w hw hst t' K q1 q3 (fun w' _ => q4 w') (t.wait w).run (t.wait w).flag (t.wait w).event
    (t.wait w).timeout (by rw [q4 w]; rfl) nd mem hK ⟨h.flag_event, h.event_run⟩ (h.noTick w hw hst) ?_ ?_ ?_
  · intro hm hn
    rcases c with c | c | c
    · exact absurd c hn
    · exact absurd hm c
    · have := h.evKey_run hst hm
      rw [c] at this; cases this
  · intro ht hht hm hn
    rcases b ht hht with b | b
    · exact absurd b hn
    · exact absurd hm b
  · intro _ _ _ hn _; exact absurd a hn

namespace W6WInv
variable {n0 : Nat} {t : St}

/-- the `removeHandler` with which the resumption step (`Cfg.ptBodyWait`) begins -/
theorem removeDone (h : W6WInv n0 t) (w : Nat) (hfl : (t.wait w).flag = true) :
    W6WInv n0 (t.removeHandler (t.wait w).hDone (some ((t.wait w).evName.child sfxDone))).2 := by
  have hrun := h.1.flag_run hfl
  have hst := h.1.run_started hrun
  have hw := h.1.started_lt hst
  obtain ⟨_, k2, _, k4⟩ := h.1.doneRec hst
  obtain ⟨nd', mem', _⟩ := t.w6_rmOwned (t.wait w).hDone ((t.wait w).evName.child sfxDone) (t.wait w).owner k2 h.1.nodup
  refine ⟨h.1.st_dropDone w hw hst _ [((some ((t.wait w).evName.child sfxDone)), (t.wait w).hDone)] (by simp) (by simp)
    (by simp) nd' ?_ ?_ (List.mem_singleton.2 rfl) ?_ (Or.inr (Or.inr hrun)), h.2.st_removeHandler _ _⟩
  · intro c x; rw [mem' c x]; simp
  · intro x hx; simp only [List.mem_singleton] at hx; subst hx; simp only [k4]; rfl
  · intro ht hht
    right; intro hm
    have := h.1.tickKey_flag hst hht hm
    rw [hfl] at this; cases this

end W6WInv

/-- `u` is `t` with the entries `K`, all of them entries of `w`'s own handlers, removed from the table of `w`'s
    owner (and possibly other tasks / generators) -/
structure W6Rm (n0 : Nat) (t : St) (w : Nat) (u : St) (K : List (HKey × Nat)) : Prop where
  hs : u.hs = t.hs
  waits : u.waits = t.waits
  nd : ∀ c, (u.comp c).htab.Nodup
  mem : ∀ c x, x ∈ (u.comp c).htab ↔ x ∈ (t.comp c).htab ∧ ¬ (c = (t.wait w).owner ∧ x ∈ K)
  own : ∀ x, x ∈ K → (t.handler x.2).kind.w6_widx = some w
  g : W6GInv n0 u.w6_view

theorem W6Rm.step {n0 : Nat} {t u : St} {w : Nat} {K : List (HKey × Nat)} (r : W6Rm n0 t w u K) (hid : Nat) (nm : Name)
    (ho : (t.handler hid).owner = (t.wait w).owner) (hk : (t.handler hid).kind.w6_widx = some w) :
    W6Rm n0 t w (u.removeHandler hid (some nm)).2 ((some nm, hid) :: K) ∧
    ((u.removeHandler hid (some nm)).1 = true ↔ (some nm, hid) ∈ (u.comp (t.wait w).owner).htab) := by
  have hh : (u.handler hid).owner = (t.wait w).owner := by rw [← ho]; simp [St.handler, r.hs]
  obtain ⟨nd', mem', ok'⟩ := u.w6_rmOwned hid nm _ hh r.nd
  refine ⟨⟨by simp [r.hs], by simp [r.waits], nd', ?_, ?_, r.g.st_removeHandler _ _⟩, ok'⟩
  · intro c x
    rw [mem' c x, r.mem c x]
    simp only [List.mem_cons]
    constructor
    · rintro ⟨⟨h1, h2⟩, h3⟩
      exact ⟨h1, fun hh' => hh'.2.elim (fun h4 => h3 ⟨hh'.1, h4⟩) (fun h4 => h2 ⟨hh'.1, h4⟩)⟩
    · rintro ⟨h1, h2⟩
      exact ⟨⟨h1, fun hh' => h2 ⟨hh'.1, Or.inr hh'.2⟩⟩, fun hh' => h2 ⟨hh'.1, Or.inl hh'.2⟩⟩
  · intro x hx
    rcases List.mem_cons.1 hx with rfl | hx
    · exact hk
    · exact r.own x hx

theorem W6Rm.winv {n0 : Nat} {t u : St} {K : List (HKey × Nat)} {w : Nat} (r : W6Rm n0 t w u K)
    (h : W6HInv n0 t.w6_view) (hw : w < t.waits.length) (hst : (t.wait w).started = true)
    (a : t.w6_view.doneKey w ∈ K)
    (b : ∀ ht, (t.wait w).hTick = some ht → t.w6_view.tickKey ht ∈ K ∨ t.w6_view.tickKey ht ∉ t.w6_view.htabOf w)
    (c : t.w6_view.evKey w ∈ K ∨ t.w6_view.evKey w ∉ t.w6_view.htabOf w ∨ (t.wait w).run = true) : W6WInv n0 u :=
  ⟨h.st_dropDone w hw hst u K r.hs (by rw [r.waits]) (fun w' => by simp [St.wait, r.waits]) r.nd r.mem r.own a b c, r.g⟩

theorem W6Rm.tail {n0 : Nat} {t u : St} {K : List (HKey × Nat)} {w : Nat} (r : W6Rm n0 t w u K)
    (h : W6HInv n0 t.w6_view) (hw : w < t.waits.length) (hst : (t.wait w).started = true)
    (a : t.w6_view.doneKey w ∈ K)
    (b : ∀ ht, (t.wait w).hTick = some ht → t.w6_view.tickKey ht ∈ K ∨ t.w6_view.tickKey ht ∉ t.w6_view.htabOf w) :
    W6WInv n0 (St.tickDropEvent (t.wait w) u).2 := by
  obtain ⟨_, kE2, _, kE4⟩ := h.evRec hst
  unfold St.tickDropEvent
  cases hrun : (t.wait w).run
  · obtain ⟨r3, _⟩ := r.step (t.wait w).hEvent (t.wait w).evName kE2 (by rw [kE4]; rfl)
    have fin := r3.winv h hw hst (List.mem_cons_of_mem _ a) (fun ht hht => (b ht hht).imp_left (List.mem_cons_of_mem _))
      (Or.inl List.mem_cons_self)
    simp only [Bool.not_false, if_true]
    split <;> exact fin
  · simp only [Bool.not_true, Bool.false_eq_true, if_false]
    exact r.winv h hw hst a b (Or.inr (Or.inr hrun))

/-- `timedOut` is not part of the view the wait-protocol invariant reads -/
theorem St.w6_timedOut_view (t : St) (w : Nat) :
    (t.modWait w fun x => { x with timedOut := true }).w6_view = t.w6_view := by
  unfold St.w6_view
  congr 1
  · simp
  · funext w'; exact St.w6_modWait_wait_pres t WaitSt.w6h w (fun x => { x with timedOut := true }) (fun _ => rfl) w'
  · funext w'; exact St.w6_modWait_wait_pres t WaitSt.w6g w (fun x => { x with timedOut := true }) (fun _ => rfl) w'

namespace W6WInv
variable {n0 : Nat} {t : St}

theorem tickFire (h : W6WInv n0 t) (w : Nat) (hw : w < t.waits.length) (hst : (t.wait w).started = true) :
    W6WInv n0 (St.tickDrop (t.wait w) ((t.addGen (.exc w false)).registerTask (t.wait w).owner
      ⟨(t.wait w).taskEvent, t.gens.length, some (t.wait w).parentGen⟩)).2 := by
  obtain ⟨_, hne2⟩ := h.1.keys w hw hst
  obtain ⟨_, kD2, _, kD4⟩ := h.1.doneRec hst
  have hpg := h.2.pgen w hw hst
  simp only [St.w6_view_wg, WaitSt.w6g] at hpg
  unfold St.tickDrop
  dsimp only
  have r0 : W6Rm n0 t w ((t.addGen (.exc w false)).registerTask (t.wait w).owner
      ⟨(t.wait w).taskEvent, t.gens.length, some (t.wait w).parentGen⟩) [] := by
    refine ⟨rfl, rfl, ?_, ?_, nofun, ?_⟩
    · intro c; rw [St.w6_registerTask_htab]; exact h.1.nodup c
    · intro c x; rw [St.w6_registerTask_htab]; simp
    · apply W6GInv.st_registerTask
      · exact h.2.st_addGen _ rfl (fun _ _ _ _ _ _ _ hh => by cases hh)
      · refine ⟨by simp, ?_, ?_⟩
        · intro w' hg; simp [St.w6_addGen_gen] at hg
        · intro p hp; injection hp with hp; subst hp
          refine ⟨by simp only [St.w6_view_ng, St.w6_addGen_gens_length]; exact Nat.lt_succ_of_lt hpg.1, ?_⟩
          have hne : (t.wait w).parentGen ≠ t.gens.length := Nat.ne_of_lt hpg.1
          simp only [St.w6_view_gen, St.w6_addGen_gen, if_neg hne]; exact hpg.2
  generalize (t.addGen (.exc w false)).registerTask (t.wait w).owner
      ⟨(t.wait w).taskEvent, t.gens.length, some (t.wait w).parentGen⟩ = s1 at r0
  obtain ⟨r1, ok1⟩ := r0.step (t.wait w).hDone ((t.wait w).evName.child sfxDone) kD2 (by rw [kD4]; rfl)
  have s1mem : ∀ x, x ∈ (s1.comp (t.wait w).owner).htab ↔ x ∈ t.w6_view.htabOf w := by
    intro x; rw [r0.mem]; simp
  split
  · -- it was not installed, so neither are the other two
    rename_i hf
    have hdn : t.w6_view.doneKey w ∉ t.w6_view.htabOf w := by
      intro hm
      have := ok1.2 ((s1mem _).2 hm)
      rw [this] at hf; cases hf
    exact r1.winv h.1 hw hst List.mem_cons_self (fun ht hht => Or.inr fun hm => hdn (h.1.i2 w ht hw hst hht hm).1)
      (Or.inr (Or.inl fun hm => hdn (h.1.i1 w hw hst hm).2))
  rename_i hok1
  have hdin : t.w6_view.doneKey w ∈ t.w6_view.htabOf w :=
    (s1mem _).1 (ok1.1 (by simpa using hok1))
  cases hT : (t.wait w).hTick with
  | none =>
    simp only [Bool.not_true, Bool.false_eq_true, if_false]
    exact r1.tail h.1 hw hst List.mem_cons_self (fun ht hht => by rw [hT] at hht; cases hht)
  | some ht =>
    simp only []
    obtain ⟨_, kT2, _, kT4⟩ := h.1.tickRec hst hT
    obtain ⟨r2, ok2⟩ := r1.step ht Name.generateEvents kT2 (by rw [kT4]; rfl)
    have hb : ∀ ht', (t.wait w).hTick = some ht' → t.w6_view.tickKey ht' ∈
        [(some Name.generateEvents, ht), (some ((t.wait w).evName.child sfxDone), (t.wait w).hDone)] ∨
        t.w6_view.tickKey ht' ∉ t.w6_view.htabOf w := by
      intro ht' hht'; rw [hT] at hht'; injection hht' with hht'; subst hht'
      exact Or.inl List.mem_cons_self
    have hd2 := List.mem_cons_of_mem (some Name.generateEvents, ht) (List.mem_cons_self (a := t.w6_view.doneKey w) (l := []))
    split
    · -- it was not installed any more: the `_done` event has been seen
      rename_i hf2
      have htn : t.w6_view.tickKey ht ∉ t.w6_view.htabOf w := by
        intro hm
        have hm1 : (some Name.generateEvents, ht) ∈ ((s1.removeHandler (t.wait w).hDone
            (some ((t.wait w).evName.child sfxDone))).2.comp (t.wait w).owner).htab := by
          rw [r1.mem]
          exact ⟨hm, fun hd => (hne2 ht hT).2 (List.mem_singleton.1 hd.2)⟩
        have := ok2.2 hm1
        rw [this] at hf2; cases hf2
      have hfl : (t.wait w).flag = true := by
        cases hfl : (t.wait w).flag
        · exact absurd (h.1.j1 w ht hw hst hT hdin hfl) htn
        · rfl
      exact r2.winv h.1 hw hst hd2 hb (Or.inr (Or.inr (h.1.flag_run hfl)))
    · exact r2.tail h.1 hw hst hd2 hb

theorem onWaitTick (h : W6WInv n0 t) (w : Nat) (hw : w < t.waits.length) (hst : (t.wait w).started = true) :
    W6WInv n0 (t.onWaitTick w).2 := by
  rw [St.onWaitTick_eq]
  by_cases hgd : ((t.wait w).flag || (t.wait w).timedOut) = true
  · rw [if_pos hgd]; exact h
  rw [if_neg hgd]
  split
  · -- `tickFire` for the state with `timedOut` set, which reads the same fields of its wait state as of `t.wait w`
    have := (h.ofV (St.w6_timedOut_view t w)).tickFire w (by simpa using hw)
      (by rw [St.w6_modWait_wait_lt _ _ _ hw]; exact hst)
    rwa [St.w6_modWait_wait_lt _ _ _ hw] at this
  · split
    ·
      rename_i htm
      refine ⟨?_, h.2.st_modWait _ _ (fun _ => rfl) (fun _ hx => hx) (fun _ => rfl) (fun _ => rfl)⟩
      refine h.1.st_update w hw hst _ [] (by simp) (by simp) ?_ (t.wait w).run (t.wait w).flag (t.wait w).event
        ((t.wait w).timeout - 1) ?_ ?_ ?_ ?_ ⟨h.1.flag_event, h.1.event_run⟩ ?_ ?_ ?_ ?_
      · intro w' hne; simp [St.w6_modWait_wait_ne _ _ _ _ hne]
      · simp [St.w6_modWait_wait_lt _ _ _ hw, WaitSt.w6h]
      · intro c; exact h.1.nodup c
      · intro c x; simp
      · intro x hx; cases hx
      · intro hlt; exfalso; omega
      · intro hm _; exact ⟨(h.1.i1 w hw hst hm).1, (h.1.i1 w hw hst hm).2, by simp⟩
      · intro ht hht hm _; exact ⟨⟨(h.1.i2 w ht hw hst hht hm).1, by simp⟩, (h.1.i2 w ht hw hst hht hm).2⟩
      · intro ht hht hm _ hf; exact ⟨h.1.j1 w ht hw hst hht hm hf, by simp⟩
    · exact h

end W6WInv
end CV.Core
