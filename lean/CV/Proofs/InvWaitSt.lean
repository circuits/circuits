import CV.Proofs.InvWaitH
import CV.Proofs.InvWaitG
import CV.Proofs.InvWaitBase
/-
C06, global layer: the state invariant `W6WInv = W6HInv ∧ W6GInv`, its preservation by the helpers of the machine that
change the view (`St.w6_view`), and `startWait` as the optional `fire` of `callEvent`, the installation of the temporary
handlers and one `modWait` (`St.w6_startWait_eq`).  The lemmas `st_…` of `W6HInv` / `W6GInv` speak of the view of a
state (after one of its helpers, or compared with another state), those without the prefix of views.
-/
namespace CV.Core

@[simp] theorem St.w6_view_nh (s : St) : s.w6_view.nh = s.hs.length := rfl
@[simp] theorem St.w6_view_handler (s : St) : s.w6_view.handler = s.handler := rfl
@[simp] theorem St.w6_view_nw (s : St) : s.w6_view.nw = s.waits.length := rfl
@[simp] theorem St.w6_view_wh (s : St) (w : Nat) : s.w6_view.wh w = (s.wait w).w6h := rfl
@[simp] theorem St.w6_view_wg (s : St) (w : Nat) : s.w6_view.wg w = (s.wait w).w6g := rfl
@[simp] theorem St.w6_view_ng (s : St) : s.w6_view.ng = s.gens.length := rfl
@[simp] theorem St.w6_view_gen (s : St) : s.w6_view.gen = s.gen := rfl
@[simp] theorem St.w6_view_htab (s : St) (c : Nat) : s.w6_view.htab c = (s.comp c).htab := rfl
@[simp] theorem St.w6_view_tasks (s : St) (c : Nat) : s.w6_view.tasks c = (s.comp c).tasks := rfl
@[simp] theorem St.w6_view_progs (s : St) : s.w6_view.progs = s.progs := rfl
@[simp] theorem St.w6_view_evKey (s : St) (w : Nat) : s.w6_view.evKey w = (some (s.wait w).evName, (s.wait w).hEvent) := rfl

@[simp] theorem St.w6_view_doneKey (s : St) (w : Nat) :
    s.w6_view.doneKey w = (some ((s.wait w).evName.child sfxDone), (s.wait w).hDone) := rfl

@[simp] theorem W6View.tickKey_eq (v : W6View) (ht : Nat) : v.tickKey ht = (some Name.generateEvents, ht) := rfl
@[simp] theorem St.w6_view_htabOf (s : St) (w : Nat) : s.w6_view.htabOf w = (s.comp (s.wait w).owner).htab := rfl

def W6WInv (n0 : Nat) (s : St) : Prop := W6HInv n0 s.w6_view ∧ W6GInv n0 s.w6_view

/-! The clauses of `W6HInv` about one wait state, read off the view of a state `t` in terms of `t` itself.  -/
namespace W6HInv
variable {n0 : Nat} {t : St} {w : Nat} (h : W6HInv n0 t.w6_view)
include h

theorem flag_event (hf : (t.wait w).flag = true) : (t.wait w).event.isSome = true := (h.chain w).1 hf
theorem event_run (he : (t.wait w).event.isSome = true) : (t.wait w).run = true := (h.chain w).2.1 he
theorem run_started (hr : (t.wait w).run = true) : (t.wait w).started = true := (h.chain w).2.2.1 hr
theorem started_lt (hs : (t.wait w).started = true) : w < t.waits.length := (h.chain w).2.2.2 hs
theorem flag_run (hf : (t.wait w).flag = true) : (t.wait w).run = true := h.event_run (h.flag_event hf)
theorem flag_started (hf : (t.wait w).flag = true) : (t.wait w).started = true := h.run_started (h.flag_run hf)

theorem evKey_run (hs : (t.wait w).started = true) (hm : t.w6_view.evKey w ∈ t.w6_view.htabOf w) :
    (t.wait w).run = false := (h.i1 w (h.started_lt hs) hs hm).1

theorem tickKey_flag (hs : (t.wait w).started = true) {ht : Nat} (hht : (t.wait w).hTick = some ht)
    (hm : t.w6_view.tickKey ht ∈ t.w6_view.htabOf w) : (t.wait w).flag = false :=
  (h.i2 w ht (h.started_lt hs) hs hht hm).2

theorem evRec (hs : (t.wait w).started = true) :
    (t.wait w).hEvent < t.hs.length ∧ (t.handler (t.wait w).hEvent).owner = (t.wait w).owner ∧
    (t.handler (t.wait w).hEvent).names = [(t.wait w).evName] ∧ (t.handler (t.wait w).hEvent).kind = .waitEvent w :=
  h.recEv w (h.started_lt hs) hs

theorem doneRec (hs : (t.wait w).started = true) :
    (t.wait w).hDone < t.hs.length ∧ (t.handler (t.wait w).hDone).owner = (t.wait w).owner ∧
    (t.handler (t.wait w).hDone).names = [(t.wait w).evName.child sfxDone] ∧
    (t.handler (t.wait w).hDone).kind = .waitDone w :=
  h.recDone w (h.started_lt hs) hs

theorem tickRec (hs : (t.wait w).started = true) {ht : Nat} (hht : (t.wait w).hTick = some ht) :
    ht < t.hs.length ∧ (t.handler ht).owner = (t.wait w).owner ∧ (t.handler ht).names = [Name.generateEvents] ∧
    (t.handler ht).kind = .waitTick w :=
  h.recTick w ht (h.started_lt hs) hs hht

end W6HInv

namespace W6GInv
variable {n0 : Nat} {t : St}

theorem st_registerTask (h : W6GInv n0 t.w6_view) (c : Nat) (x : Task) (hx : t.w6_view.TaskOk x) :
    W6GInv n0 (t.registerTask c x).w6_view := by
  refine h.tasksChange (v' := (t.registerTask c x).w6_view) rfl rfl rfl rfl rfl ?_
  intro c' y hy
  simp only [St.w6_view_tasks, St.registerTask_tasks] at hy ⊢
  split at hy
  · rcases (mem_addUniq _ _ _).1 hy with hy | hy
    · exact Or.inl hy
    · subst hy; exact Or.inr hx
  · exact Or.inl hy

theorem st_unregisterTask (h : W6GInv n0 t.w6_view) (c : Nat) (x : Task) : W6GInv n0 (t.unregisterTask c x).w6_view := by
  refine h.tasksChange (v' := (t.unregisterTask c x).w6_view) rfl rfl rfl rfl rfl ?_
  intro c' y hy
  simp only [St.w6_view_tasks, St.unregisterTask_tasks] at hy ⊢
  split at hy
  · exact Or.inl (List.mem_of_mem_erase hy)
  · exact Or.inl hy

theorem st_removeHandler (h : W6GInv n0 t.w6_view) (x : Nat) (n : Option Name) : W6GInv n0 (t.removeHandler x n).2.w6_view :=
  h.congr (by simp) (by funext y; simp) (by simp) (by funext w; simp) (by funext c; simp)
    (t.w6_removeHandler_compsOnly x n).progs

theorem st_addGen (h : W6GInv n0 t.w6_view) (x : GenRec) (hx : x.w6_isWait = false)
    (hacts : ∀ e hh o rest st pc sd, x = .user e hh o rest st pc sd → ∀ a ∈ rest, Act.w6_hOk n0 a) :
    W6GInv n0 (t.addGen x).w6_view := by
  refine h.addGen (v' := (t.addGen x).w6_view) (by simp) ?_ ?_ ?_ ?_ rfl rfl rfl rfl
  · intro g hg; simp only [St.w6_view_ng] at hg; simp [St.w6_addGen_gen, hg]
  · simp [St.w6_addGen_gen, hx]
  · intro e hh o rest st pc sd hg
    simp [St.w6_addGen_gen] at hg
    exact hacts e hh o rest st pc sd hg
  · intro w; simp only [St.w6_view_gen, St.w6_view_ng]; rw [St.w6_gen_ge _ _ (Nat.le_refl _)]; intro hh; cases hh

end W6GInv

namespace W6WInv
variable {n0 : Nat} {s t : St}

theorem ofV {s' : St} (h : W6WInv n0 s) (hv : St.W6V s s') : W6WInv n0 s' := by
  unfold W6WInv; rw [show s'.w6_view = s.w6_view from hv]; exact h

theorem addH (h : W6WInv n0 t) (x : Handler) (hx : x.kind.w6_isWait = false) : W6WInv n0 (t.addH x) := by
  refine ⟨h.1.extendH (v' := (t.addH x).w6_view) (by simp) ?_ ?_ rfl rfl rfl, h.2.congr rfl rfl rfl rfl rfl rfl⟩
  · intro y hy; simp only [St.w6_view_nh] at hy; simp [St.w6_addH_handler, Nat.ne_of_lt hy]
  · intro y h1 h2
    simp only [St.w6_view_nh, St.w6_addH_hs_length] at h1 h2
    have : y = t.hs.length := by omega
    simp [St.w6_addH_handler, this, hx]

theorem setGen (h : W6WInv n0 t) (g : Nat) (x : GenRec) (hold : (t.gen g).w6_isWait = false) (hx : x.w6_isWait = false)
    (hacts : ∀ e hh o rest st pc sd, x = .user e hh o rest st pc sd → ∀ a ∈ rest, Act.w6_hOk n0 a) :
    W6WInv n0 (t.setGen g x) := by
  refine ⟨h.1.congr rfl rfl rfl rfl rfl, h.2.setGen (v' := (t.setGen g x).w6_view) g (by simp) ?_ hold ?_ ?_ rfl rfl rfl rfl⟩
  · intro g' hg'; simp [St.w6_setGen_gen_ne _ _ _ _ hg']
  · simp only [St.w6_view_gen]
    rcases St.w6_setGen_gen_cases t g x g with e | ⟨_, _, e⟩
    · rw [e]; exact hold
    · rw [e]; exact hx
  · intro e hh o rest st pc sd hg
    simp only [St.w6_view_gen] at hg
    rcases St.w6_setGen_gen_cases t g x g with e' | ⟨_, _, e'⟩
    · rw [e'] at hg; exact h.2.gacts g e hh o rest st pc sd hg
    · rw [e'] at hg; exact hacts e hh o rest st pc sd hg

theorem addGen (h : W6WInv n0 t) (x : GenRec) (hx : x.w6_isWait = false)
    (hacts : ∀ e hh o rest st pc sd, x = .user e hh o rest st pc sd → ∀ a ∈ rest, Act.w6_hOk n0 a) :
    W6WInv n0 (t.addGen x) :=
  ⟨h.1.congr rfl rfl rfl rfl rfl, h.2.st_addGen x hx hacts⟩

theorem registerTask (h : W6WInv n0 t) (c : Nat) (x : Task) (hx : t.w6_view.TaskOk x) : W6WInv n0 (t.registerTask c x) := by
  refine ⟨h.1.congr rfl rfl rfl rfl ?_, h.2.st_registerTask c x hx⟩
  funext c'; exact t.w6_registerTask_htab c x c'

theorem unregisterTask (h : W6WInv n0 t) (c : Nat) (x : Task) : W6WInv n0 (t.unregisterTask c x) := by
  refine ⟨h.1.congr rfl rfl rfl rfl ?_, h.2.st_unregisterTask c x⟩
  funext c'; exact t.w6_unregisterTask_htab c x c'

/-- `addHandler h` of a handler that is not temporary (user code) -/
theorem addHandler (h : W6WInv n0 t) (x : Nat) (hlt : x < t.hs.length) (hk : (t.handler x).kind.w6_isWait = false) :
    W6WInv n0 (t.addHandler x) := by
  refine ⟨h.1.htabChange (v' := (t.addHandler x).w6_view) (by simp) (by funext y; simp) (by simp) (by funext w; simp)
      ?_ x hlt hk ?_ ?_, h.2.congr (by simp) (by funext y; simp) (by simp) (by funext w; simp) ?_ (t.w6_addHandler_compsOnly x).progs⟩
  · intro c; exact (t.w6_addHandler_htab x c).2.1 (h.1.nodup c)
  · intro c k y hy
    rcases (t.w6_addHandler_htab x c).2.2.1 _ hy with hy | ⟨hy, _⟩
    · exact Or.inl hy
    · exact Or.inr hy
  · intro c k y hy _; exact (t.w6_addHandler_htab x c).2.2.2 _ hy
  · funext c; exact (t.w6_addHandler_htab x c).1

/-- `removeHandler h` of a pre-declared handler (user code) -/
theorem removeHandler (h : W6WInv n0 t) (x : Nat) (n : Option Name) (hlt : x < n0) :
    W6WInv n0 (t.removeHandler x n).2 := by
  refine ⟨h.1.htabChange (v' := (t.removeHandler x n).2.w6_view) (by simp) (by funext y; simp) (by simp)
      (by funext w; simp) ?_ x (Nat.lt_of_lt_of_le hlt h.1.hs0) (h.1.old x hlt) ?_ ?_, h.2.st_removeHandler x n⟩
  · intro c; exact (t.w6_removeHandler_htab_sublist x n c).nodup (h.1.nodup c)
  · intro c k y hy; exact Or.inl ((t.w6_removeHandler_htab_sublist x n c).subset hy)
  · intro c k y hy hne; exact t.w6_removeHandler_htab_keep x n c _ hy hne

theorem newWait (h : W6WInv n0 t) (x : WaitSt) (h1 : x.task = t.gens.length) (h2 : x.started = false)
    (h3 : x.run = false) (h4 : x.flag = false) (h5 : x.event = none) :
    W6WInv n0 ((t.addGen (.wait t.waits.length)).addWait x) := by
  refine ⟨h.1.newWait (v' := ((t.addGen (.wait t.waits.length)).addWait x).w6_view) rfl rfl (by simp) ?_ rfl ?_ ?_ ?_ ?_,
    h.2.newWait (v' := ((t.addGen (.wait t.waits.length)).addWait x).w6_view) (by simp) ?_ ?_ ?_ (by simp) ?_ ?_ ?_ rfl rfl⟩
  · intro w hw; simp only [St.w6_view_nw] at hw; simp [St.w6_addWait_wait, hw]
  · simp [St.w6_addWait_wait, WaitSt.w6h, h2]
  · simp [St.w6_addWait_wait, WaitSt.w6h, h3]
  · simp [St.w6_addWait_wait, WaitSt.w6h, h4]
  · simp [St.w6_addWait_wait, WaitSt.w6h, h5]
  · intro g hg; simp only [St.w6_view_ng] at hg; simp [St.w6_addGen_gen, hg]
  · simp [St.w6_addGen_gen]
  · intro w; simp only [St.w6_view_gen, St.w6_view_ng]; rw [St.w6_gen_ge _ _ (Nat.le_refl _)]; intro hh; cases hh
  · intro w hw; simp only [St.w6_view_nw] at hw; simp [St.w6_addWait_wait, hw]
  · simp [St.w6_addWait_wait, WaitSt.w6g, h1]
  · simp [St.w6_addWait_wait, WaitSt.w6g, h2]

end W6WInv

/-- create a handler record and install it: `self.addHandler(handler(name, channel=…)(closure))` -/
def St.w6_install (s : St) (hd : Handler) : St := (s.addH hd).addHandler s.hs.length

/-- `s'` is `s` with one more handler record `hd` (of the single name `n`), entered in the table of its
    owner if that is a component -/
structure St.W6Inst (s s' : St) (hd : Handler) (n : Name) : Prop where
  hsLen : s'.hs.length = s.hs.length + 1
  keep : ∀ x, x < s.hs.length → s'.handler x = s.handler x
  new : s'.handler s.hs.length = hd
  nodup : ∀ c, (s.comp c).htab.Nodup → (s'.comp c).htab.Nodup
  mem : ∀ c x, x ∈ (s'.comp c).htab ↔ x ∈ (s.comp c).htab ∨
    (decide (hd.owner < s.comps.length) = true ∧ c = hd.owner ∧ x = (some n, s.hs.length))
  tasks : ∀ c, (s'.comp c).tasks = (s.comp c).tasks
  wait : ∀ w, s'.wait w = s.wait w
  waitsLen : s'.waits.length = s.waits.length
  gen : ∀ g, s'.gen g = s.gen g
  gensLen : s'.gens.length = s.gens.length
  progs : s'.progs = s.progs
  compsLen : s'.comps.length = s.comps.length

theorem St.w6_install_spec (s : St) (hd : Handler) (n : Name) (hn : hd.names = [n]) :
    St.W6Inst s (s.w6_install hd) hd n := by
  unfold St.w6_install
  have hh : (s.addH hd).handler s.hs.length = hd := by rw [St.w6_addH_handler, if_pos rfl]
  have hco := (s.addH hd).w6_addHandler_compsOnly s.hs.length
  refine ⟨by simp, ?_, ?_, ?_, ?_, ?_, by simp, by simp, by simp, by simp, hco.progs, hco.compsLen⟩
  · intro x hx; rw [St.w6_addHandler_handler, St.w6_addH_handler, if_neg (Nat.ne_of_lt hx)]
  · rw [St.w6_addHandler_handler, hh]
  · intro c; exact ((s.addH hd).w6_addHandler_htab _ c).2.1
  · intro c x
    rw [St.w6_addHandler_single_htab _ _ n (by rw [hh]; exact hn), hh]
    by_cases hc : c = hd.owner ∧ c < (s.addH hd).comps.length
    · rw [if_pos hc, mem_addUniq]
      obtain ⟨rfl, hc⟩ := hc
      have hc : hd.owner < s.comps.length := hc
      simp only [hc, decide_true, true_and, St.w6_addH_comp]
    · rw [if_neg hc]
      exact ⟨Or.inl, fun hm => hm.resolve_right fun ⟨hi, hc1, _⟩ => hc ⟨hc1, hc1 ▸ of_decide_eq_true hi⟩⟩
  · intro c; exact ((s.addH hd).w6_addHandler_htab _ c).1

def w6_hdE (ws : WaitSt) (chan : Option Chan) (w : Nat) : Handler :=
  { owner := ws.owner, names := [ws.evName], chan := chan, kind := .waitEvent w }

def w6_hdD (ws : WaitSt) (chan : Option Chan) (w : Nat) : Handler :=
  { owner := ws.owner, names := [ws.evName.child sfxDone], chan := chan, kind := .waitDone w }

def w6_hdT (ws : WaitSt) (chan : Option Chan) (w : Nat) : Handler :=
  { owner := ws.owner, names := [Name.generateEvents], chan := chan, kind := .waitTick w }

@[simp] theorem w6_hdE_owner (ws : WaitSt) (chan : Option Chan) (w : Nat) : (w6_hdE ws chan w).owner = ws.owner := rfl
@[simp] theorem w6_hdD_owner (ws : WaitSt) (chan : Option Chan) (w : Nat) : (w6_hdD ws chan w).owner = ws.owner := rfl
@[simp] theorem w6_hdT_owner (ws : WaitSt) (chan : Option Chan) (w : Nat) : (w6_hdT ws chan w).owner = ws.owner := rfl

/-- the three `addHandler` calls of `waitEvent` -/
def St.w6_install3 (s1 : St) (ws : WaitSt) (chan : Option Chan) (w : Nat) : St :=
  let s2 := s1.w6_install (w6_hdE ws chan w)
  let s3 := s2.w6_install (w6_hdD ws chan w)
  if ws.timeout ≥ 0
    then s3.w6_install (w6_hdT ws chan w)
    else s3

/-- `startWait` after the (optional) `fire` of `callEvent`: install the temporary handlers, fill in the state -/
def St.w6_startTail (s1 : St) (ws : WaitSt) (chan : Option Chan) (evObj : Option Nat) (w : Nat) : St :=
  (s1.w6_install3 ws chan w).modWait w fun x =>
    { x with
      evObj := evObj
      hEvent := s1.hs.length
      hDone := (s1.w6_install (w6_hdE ws chan w)).hs.length
      hTick := (if ws.timeout ≥ 0 then some ((s1.w6_install (w6_hdE ws chan w)).w6_install (w6_hdD ws chan w)).hs.length else none)
      started := true }

/-- `s'` is `s1` with the two or three records of `ws` appended and entered in the table of the owner (if it exists) -/
structure St.W6Inst3 (s1 s' : St) (ws : WaitSt) (chan : Option Chan) (w : Nat) : Prop where
  hsLen : s'.hs.length = s1.hs.length + (if ws.timeout ≥ 0 then 3 else 2)
  keep : ∀ x, x < s1.hs.length → s'.handler x = s1.handler x
  newE : s'.handler s1.hs.length = w6_hdE ws chan w
  newD : s'.handler (s1.hs.length + 1) = w6_hdD ws chan w
  newT : ws.timeout ≥ 0 → s'.handler (s1.hs.length + 2) = w6_hdT ws chan w
  nodup : ∀ c, (s1.comp c).htab.Nodup → (s'.comp c).htab.Nodup
  mem : ∀ c x, x ∈ (s'.comp c).htab ↔ x ∈ (s1.comp c).htab ∨
    (decide (ws.owner < s1.comps.length) = true ∧ c = ws.owner ∧
      (x = (some ws.evName, s1.hs.length) ∨ x = (some (ws.evName.child sfxDone), s1.hs.length + 1) ∨
        (ws.timeout ≥ 0 ∧ x = (some Name.generateEvents, s1.hs.length + 2))))
  tasks : ∀ c, (s'.comp c).tasks = (s1.comp c).tasks
  wait : ∀ w', s'.wait w' = s1.wait w'
  waitsLen : s'.waits.length = s1.waits.length
  gen : ∀ g, s'.gen g = s1.gen g
  gensLen : s'.gens.length = s1.gens.length
  progs : s'.progs = s1.progs

theorem St.w6_install3_spec (s1 : St) (ws : WaitSt) (chan : Option Chan) (w : Nat) :
    St.W6Inst3 s1 (s1.w6_install3 ws chan w) ws chan w := by
  have a := s1.w6_install_spec (w6_hdE ws chan w) ws.evName rfl
  have b := (s1.w6_install (w6_hdE ws chan w)).w6_install_spec (w6_hdD ws chan w) _ rfl
  have lt1 : s1.hs.length < (s1.w6_install (w6_hdE ws chan w)).hs.length := by rw [a.hsLen]; exact Nat.lt_succ_self _
  unfold St.w6_install3
  dsimp only
  by_cases ht : ws.timeout ≥ 0
  · rw [if_pos ht]
    have c := ((s1.w6_install (w6_hdE ws chan w)).w6_install (w6_hdD ws chan w)).w6_install_spec (w6_hdT ws chan w) _ rfl
    have lt2 : (s1.w6_install (w6_hdE ws chan w)).hs.length <
        ((s1.w6_install (w6_hdE ws chan w)).w6_install (w6_hdD ws chan w)).hs.length := by
      rw [b.hsLen]; exact Nat.lt_succ_self _
    have e3 : ((s1.w6_install (w6_hdE ws chan w)).w6_install (w6_hdD ws chan w)).hs.length = s1.hs.length + 2 := by
      rw [b.hsLen, a.hsLen]
    refine ⟨by rw [c.hsLen, e3, if_pos ht], fun x hx => ?_, ?_, ?_, fun _ => ?_,
      fun c' hnd => c.nodup c' (b.nodup c' (a.nodup c' hnd)),
      fun c' x => ?_, fun c' => by rw [c.tasks, b.tasks, a.tasks], fun w' => by rw [c.wait, b.wait, a.wait],
      by rw [c.waitsLen, b.waitsLen, a.waitsLen], fun g => by rw [c.gen, b.gen, a.gen],
      by rw [c.gensLen, b.gensLen, a.gensLen], by rw [c.progs, b.progs, a.progs]⟩
    · rw [c.keep x (Nat.lt_trans (Nat.lt_trans hx lt1) lt2), b.keep x (Nat.lt_trans hx lt1), a.keep x hx]
    · rw [c.keep _ (Nat.lt_trans lt1 lt2), b.keep _ lt1, a.new]
    · rw [← a.hsLen, c.keep _ lt2, b.new]
    · rw [← e3, c.new]
    · rw [c.mem, b.mem, a.mem, b.compsLen, a.compsLen, e3, a.hsLen]
      simp only [w6_hdE_owner, w6_hdD_owner, w6_hdT_owner, ht, true_and, or_assoc, and_or_left]
      exact Iff.rfl
  · rw [if_neg ht]
    refine ⟨by rw [b.hsLen, a.hsLen, if_neg ht], fun x hx => ?_, ?_, ?_, fun h => absurd h ht,
      fun c' hnd => b.nodup c' (a.nodup c' hnd),
      fun c' x => ?_, fun c' => by rw [b.tasks, a.tasks], fun w' => by rw [b.wait, a.wait],
      by rw [b.waitsLen, a.waitsLen], fun g => by rw [b.gen, a.gen], by rw [b.gensLen, a.gensLen], by rw [b.progs, a.progs]⟩
    · rw [b.keep x (Nat.lt_trans hx lt1), a.keep x hx]
    · rw [b.keep _ lt1, a.new]
    · rw [← a.hsLen, b.new]
    · rw [b.mem, a.mem, a.compsLen, a.hsLen]
      simp only [w6_hdE_owner, w6_hdD_owner, ht, false_and, or_false, or_assoc, and_or_left]
      exact Iff.rfl

theorem St.w6_startWait_eq (s : St) (w : Nat) :
    s.startWait w = St.w6_startTail
      (match (s.wait w).isCall with
        | some (t, target) => s.fireTmplEv (s.wait w).owner (mkEvOfTmpl s t) target 0
        | none => s)
      (s.wait w)
      (match (s.wait w).isCall with
        | some _ => ((match (s.wait w).isCall with
            | some (t, target) => s.fireTmplEv (s.wait w).owner (mkEvOfTmpl s t) target 0
            | none => s).ev s.evs.length).chans.head?
        | none => (s.wait w).chanArg)
      (match (s.wait w).isCall with
        | some _ => some s.evs.length
        | none => none) w := rfl

/-- `startWait` followed by `task_state.task_event = …; task_state.parent = …` (the pair is what `processTask`
    does on a freshly yielded waitEvent generator) -/
theorem W6WInv.w6_startTail {n0 : Nat} {s1 : St} (h : W6WInv n0 s1) (ws : WaitSt) (chan : Option Chan) (evObj : Option Nat)
    (w : Nat) (hw : w < s1.waits.length) (hws : (s1.wait w).w6h = ws.w6h) (hns : ws.started = false) (te pg : Nat)
    (hp : s1.w6_view.NonWait pg) :
    W6WInv n0 ((St.w6_startTail s1 ws chan evObj w).modWait w fun x => { x with taskEvent := te, parentGen := pg }) := by
  have hv : s1.w6_view.wh w = ws.w6h := by simp [hws]
  have i := s1.w6_install3_spec ws chan w
  have a1 := (s1.w6_install_spec (w6_hdE ws chan w) ws.evName rfl).hsLen
  have b1 := ((s1.w6_install (w6_hdE ws chan w)).w6_install_spec (w6_hdD ws chan w) _ rfl).hsLen
  have hwS : w < (s1.w6_install3 ws chan w).waits.length := by rw [i.waitsLen]; exact hw
  have hFne : ∀ w', w' ≠ w →
      ((St.w6_startTail s1 ws chan evObj w).modWait w fun x => { x with taskEvent := te, parentGen := pg }).wait w' = s1.wait w' := by
    intro w' hne
    rw [St.w6_modWait_wait_ne _ _ _ _ hne]; unfold St.w6_startTail; rw [St.w6_modWait_wait_ne _ _ _ _ hne, i.wait]
  have hFw : ((St.w6_startTail s1 ws chan evObj w).modWait w fun x => { x with taskEvent := te, parentGen := pg }).wait w =
      { s1.wait w with
          evObj := evObj
          hEvent := s1.hs.length
          hDone := s1.hs.length + 1
          hTick := (if ws.timeout ≥ 0 then some (s1.hs.length + 2) else none)
          started := true
          taskEvent := te
          parentGen := pg } := by
    rw [St.w6_modWait_wait_lt _ _ _ (by unfold St.w6_startTail; simpa using hwS)]
    unfold St.w6_startTail
    rw [St.w6_modWait_wait_lt _ _ _ hwS, i.wait, a1, b1, a1]
  generalize hF : (St.w6_startTail s1 ws chan evObj w).modWait w (fun x => { x with taskEvent := te, parentGen := pg }) = F
    at hFne hFw
  -- everything but the wait table is that of `w6_install3`
  obtain ⟨q1, q2, q3, q4, q5, q6, q7⟩ : F.hs = (s1.w6_install3 ws chan w).hs ∧
      F.handler = (s1.w6_install3 ws chan w).handler ∧ F.comp = (s1.w6_install3 ws chan w).comp ∧
      F.gen = (s1.w6_install3 ws chan w).gen ∧ F.gens = (s1.w6_install3 ws chan w).gens ∧
      F.progs = (s1.w6_install3 ws chan w).progs ∧ F.waits.length = s1.waits.length := by
    subst hF; unfold St.w6_startTail
    refine ⟨?_, funext fun _ => ?_, funext fun _ => ?_, funext fun _ => ?_, ?_, ?_, ?_⟩
    all_goals simp only [St.w6_modWait_hs, St.w6_modWait_handler, St.w6_modWait_comp, St.w6_modWait_gen,
      St.w6_modWait_gens, St.w6_modWait_progs, St.w6_modWait_waits_length, i.waitsLen]
  refine ⟨?_, ?_⟩
  · refine W6HInv.startWait (v := s1.w6_view) (v' := F.w6_view) h.1 w hw (by rw [hv]; exact hns) ?_ ?_ ?_ ?_ ?_ ?_ ?_
      ?_ ?_ ?_ ?_ ?_ ?_ ?_ ?_ ?_ ?_ (decide (ws.owner < s1.comps.length)) ?_ ?_
    · simp only [St.w6_view_nh, hv]; rw [q1, i.hsLen]; rfl
    · intro x hx; simp only [St.w6_view_handler, St.w6_view_nh] at hx ⊢; rw [q2]; exact i.keep x hx
    · simp only [St.w6_view_handler, St.w6_view_nh, hv]; rw [q2, i.newE]; exact ⟨rfl, rfl, rfl⟩
    · simp only [St.w6_view_handler, St.w6_view_nh, hv]; rw [q2, i.newD]; exact ⟨rfl, rfl, rfl⟩
    · intro ht; simp only [St.w6_view_handler, St.w6_view_nh, hv] at ht ⊢; rw [q2, i.newT ht]; exact ⟨rfl, rfl, rfl⟩
    · simp only [St.w6_view_nw]; exact q7
    · intro w' hne; simp only [St.w6_view_wh]; rw [hFne w' hne]
    · simp only [St.w6_view_wh]; rw [hFw]; rfl
    · simp only [St.w6_view_wh]; rw [hFw]; rfl
    · simp only [St.w6_view_wh]; rw [hFw]; rfl
    · simp only [St.w6_view_wh]; rw [hFw]; rfl
    · simp only [St.w6_view_wh]; rw [hFw]; rfl
    · simp only [St.w6_view_wh]; rw [hFw]; rfl
    · simp only [St.w6_view_wh, St.w6_view_nh]; rw [hFw]; rfl
    · simp only [St.w6_view_wh, St.w6_view_nh]; rw [hFw]; rfl
    · simp only [St.w6_view_wh, St.w6_view_nh, hws]; rw [hFw]; rfl
    · simp only [St.w6_view_wh]; rw [hFw]; rfl
    · intro c; simp only [St.w6_view_htab]; rw [q3]; exact i.nodup c (h.1.nodup c)
    · intro c x; simp only [St.w6_view_htab, St.w6_view_nh, hv]; rw [q3]; exact i.mem c x
  · refine W6GInv.wgUpdate (v := s1.w6_view) (v' := F.w6_view) h.2 w ?_ ?_ ?_ ?_ ?_ ?_ ?_ ?_ ?_
    · simp only [St.w6_view_ng]; rw [q5, i.gensLen]
    · simp only [St.w6_view_gen]; rw [q4]; funext g; exact i.gen g
    · simp only [St.w6_view_nw]; exact q7
    · intro w' hne; simp only [St.w6_view_wg]; rw [hFne w' hne]
    · simp only [St.w6_view_wg]; rw [hFw]; rfl
    · simp only [St.w6_view_wg]; rw [hFw]; exact id
    · intro _ _; simp only [St.w6_view_wg]; rw [hFw]; exact hp
    · funext c; simp only [St.w6_view_tasks]; rw [q3]; exact i.tasks c
    · simp only [St.w6_view_progs]; rw [q6, i.progs]

end CV.Core
