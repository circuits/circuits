import CV.Proofs.InvWaitViewDef
import CV.Proofs.Pres
import CV.Proofs.Tables
/-
C06, global layer: most helpers and most arms of `step` do not change the view (`St.W6V`, CV/Proofs/InvWaitViewDef.lean);
the lemmas carry `st_pres` (`CV/Proofs/Pres.lean`).
-/
namespace CV.Core

namespace St.W6V

theorem modComp_self (t : St) (c : Nat) (f : Comp → Comp) (h1 : ∀ x, (f x).htab = x.htab)
    (h2 : ∀ x, (f x).tasks = x.tasks) : St.W6V t (t.modComp c f) := by
  unfold St.W6V St.w6_view
  congr 1
  · funext c'; exact St.w6_modComp_comp_pres t (·.htab) c f h1 c'
  · funext c'; exact St.w6_modComp_comp_pres t (·.tasks) c f h2 c'

theorem modEv_self (t : St) (c : Nat) (f : Ev → Ev) : St.W6V t (t.modEv c f) := rfl
theorem modTimer_self (t : St) (c : Nat) (f : TimerSt → TimerSt) : St.W6V t (t.modTimer c f) := rfl
theorem tick1_self (t : St) (d : Int) : St.W6V t (t.tick1 d) := rfl
theorem logE_self (t : St) (x : Entry) : St.W6V t (t.logE x) := rfl
theorem addEv_self (t : St) (x : Ev) : St.W6V t (t.addEv x) := rfl

variable {s t : St}
@[st_pres ↓] theorem modComp (h : St.W6V s t) (c : Nat) (f : Comp → Comp) (h1 : ∀ x, (f x).htab = x.htab)
    (h2 : ∀ x, (f x).tasks = x.tasks) : St.W6V s (t.modComp c f) := h.trans (modComp_self _ _ _ h1 h2)

@[st_pres ↓] theorem modEv (h : St.W6V s t) (c : Nat) (f : Ev → Ev) : St.W6V s (t.modEv c f) := h.trans (modEv_self ..)
@[st_pres ↓] theorem modTimer (h : St.W6V s t) (c : Nat) (f : TimerSt → TimerSt) : St.W6V s (t.modTimer c f) := h.trans (modTimer_self ..)
@[st_pres ↓] theorem tick1 (h : St.W6V s t) (d : Int) : St.W6V s (t.tick1 d) := h.trans (tick1_self ..)
@[st_pres ↓] theorem logE (h : St.W6V s t) (x : Entry) : St.W6V s (t.logE x) := h.trans (logE_self ..)
@[st_pres ↓] theorem addEv (h : St.W6V s t) (x : Ev) : St.W6V s (t.addEv x) := h.trans (addEv_self ..)
end St.W6V

attribute [st_pres] St.W6V.refl

theorem St.W6V.foldl {s t : St} {α} (g : St → α → St) (hg : ∀ a x, St.W6V s a → St.W6V s (g a x)) (l : List α)
    (h : St.W6V s t) : St.W6V s (l.foldl g t) :=
  foldl_pres g hg l h

@[st_pres ↓] theorem St.W6V.fireContext {s t : St} (h : St.W6V s t) (r e : Nat) :
    St.W6V s (t.fireContext r e) :=
  St.fireContext_pres t r e h (fun _ _ h => by st_pres) (fun _ _ h => by st_pres) (fun _ _ h => by st_pres)

@[st_pres ↓] theorem St.W6V.fireRaw {s t : St} (h : St.W6V s t) (self e : Nat) (chans : List Chan) (prio : Int) :
    St.W6V s (t.fireRaw self e chans prio) := by
  st_pres_unfold St.fireRaw

@[st_pres ↓] theorem St.W6V.childEv {s t : St} (h : St.W6V s t) (p sfx : Nat) :
    St.W6V s (t.childEv p sfx) := by
  st_pres_unfold St.childEv

@[st_pres ↓] theorem St.W6V.fireChild {s t : St} (h : St.W6V s t) (self p sfx : Nat) (chans : List Chan) :
    St.W6V s (t.fireChild self p sfx chans) := by
  st_pres_unfold St.fireChild

@[st_pres ↓] theorem St.W6V.inform {s t : St} (h : St.W6V s t) (e : Nat) (force : Bool) :
    St.W6V s (t.inform e force) := by
  st_pres_unfold St.inform

@[st_pres ↓] theorem St.W6V.setValue {s t : St} (h : St.W6V s t) (e : Nat) (x : VItem) :
    St.W6V s (t.setValue e x) := by
  st_pres_unfold St.setValue

@[st_pres ↓] theorem St.W6V.fireTmplEv {s t : St} (h : St.W6V s t) (self : Nat) (ev : Ev) (target : Option Chan) (prio : Int) :
    St.W6V s (t.fireTmplEv self ev target prio) := by
  st_pres_unfold St.fireTmplEv

@[st_pres ↓] theorem St.W6V.effectDone1 {s t : St} (h : St.W6V s t) (r e : Nat) (announce : Bool) :
    St.W6V s ((t.effectDone1 r e announce).2) :=
  St.effectDone1_pres t r e announce h (fun _ => by st_pres) (fun _ _ h => by st_pres) (fun _ h => by st_pres)

@[st_pres ↓] theorem St.W6V.eventDonePre {s t : St} (h : St.W6V s t) (r e : Nat) (err : Bool) :
    St.W6V s ((t.eventDonePre r e err).2) := by
  st_pres_unfold St.eventDonePre

@[st_pres ↓] theorem St.W6V.reduceTimeLeft {s t : St} (h : St.W6V s t) (e : Nat) (d : Int) :
    St.W6V s (t.reduceTimeLeft e d) := by
  st_pres_unfold St.reduceTimeLeft

@[st_pres ↓] theorem St.W6V.registerPre {s t : St} (h : St.W6V s t) (c p : Nat) :
    St.W6V s ((t.registerPre c p).2) :=
  St.registerPre_pres h c p (fun _ => by st_pres) (fun _ _ h => by st_pres) (fun _ h => by st_pres)
    (fun _ _ _ _ h => by st_pres)

@[st_pres ↓] theorem St.W6V.registerFin {s t : St} (h : St.W6V s t) (c : Nat) :
    St.W6V s (t.registerFin c) := by
  st_pres_unfold St.registerFin

@[st_pres ↓] theorem St.W6V.unregister {s t : St} (h : St.W6V s t) (c : Nat) :
    St.W6V s (t.unregister c) := by
  st_pres_unfold St.unregister

@[st_pres ↓] theorem St.W6V.prepUnregPre {s t : St} (h : St.W6V s t) (c : Nat) :
    St.W6V s (t.prepUnregPre c) := by
  st_pres_unfold St.prepUnregPre

@[st_pres ↓] theorem St.W6V.prepUnregFin {s t : St} (h : St.W6V s t) (c : Nat) :
    St.W6V s (t.prepUnregFin c) := by
  st_pres_unfold St.prepUnregFin

@[st_pres ↓] theorem St.W6V.actFire {s t : St} (h : St.W6V s t) (self i : Nat) (target : Option Chan) (prio : Int) (cancel : Bool) :
    St.W6V s (t.actFire self i target prio cancel) := by
  st_pres_unfold St.actFire

@[st_pres ↓] theorem St.W6V.actStopEv {s t : St} (h : St.W6V s t) (ev : Option Nat) :
    St.W6V s (t.actStopEv ev) := by
  st_pres_unfold St.actStopEv

@[st_pres ↓] theorem St.W6V.timerReset {s t : St} (h : St.W6V s t) (i : Nat) :
    St.W6V s (t.timerReset i) := by
  st_pres_unfold St.timerReset

@[st_pres ↓] theorem St.W6V.timerCreate {s t : St} (h : St.W6V s t) (i : Nat) :
    St.W6V s (t.timerCreate i) := by
  st_pres_unfold St.timerCreate

@[st_pres ↓] theorem St.W6V.timerTick {s t : St} (h : St.W6V s t) (i e : Nat) :
    St.W6V s (t.timerTick i e) :=
  St.timerTick_pres t i e h (fun _ _ h => by st_pres) (fun _ => by st_pres) (fun _ _ _ _ h => by st_pres)
    (fun _ _ h => by st_pres) (fun _ _ h => by st_pres)

@[st_pres ↓] theorem St.W6V.stopBegin {s t : St} (h : St.W6V s t) (c : Nat) :
    St.W6V s (t.stopBegin c) := by
  st_pres_unfold St.stopBegin

@[st_pres ↓] theorem St.W6V.stopSetCode {s t : St} (h : St.W6V s t) (r : Nat) (code : Code) :
    St.W6V s (t.stopSetCode r code) := by
  st_pres_unfold St.stopSetCode

@[st_pres ↓] theorem St.W6V.fireException {s t : St} (h : St.W6V s t) (r e : Nat) :
    St.W6V s (t.fireException r e) := by
  st_pres_unfold St.fireException

@[st_pres ↓] theorem St.W6V.setValueOpt {s t : St} (h : St.W6V s t) (e : Nat) (v : Option Nat) :
    St.W6V s (t.setValueOpt e v) := by
  st_pres_unfold St.setValueOpt

@[st_pres ↓] theorem St.W6V.onFallbackGE {s t : St} (h : St.W6V s t) (e : Nat) :
    St.W6V s ((t.onFallbackGE e).2) := by
  st_pres_unfold St.onFallbackGE

@[st_pres ↓] theorem St.W6V.dispComplete {s t : St} (h : St.W6V s t) (e : Nat) (ev : Ev) :
    St.W6V s (t.dispComplete e ev) := by
  st_pres_unfold St.dispComplete

@[st_pres ↓] theorem St.W6V.cacheRefresh {s t : St} (h : St.W6V s t) (r : Nat) :
    St.W6V s (t.cacheRefresh r) := by
  st_pres_unfold St.cacheRefresh

@[st_pres ↓] theorem St.W6V.dispGE {s t : St} (h : St.W6V s t) (r e remaining : Nat) (name : Name) :
    St.W6V s (t.dispGE r e remaining name) := by
  st_pres_unfold St.dispGE

@[st_pres ↓] theorem St.W6V.handlerRaised {s t : St} (h : St.W6V s t) (r e : Nat) :
    St.W6V s (t.handlerRaised r e) := by
  st_pres_unfold St.handlerRaised

@[st_pres ↓] theorem St.W6V.geTasksCheck {s t : St} (h : St.W6V s t) (r e : Nat) :
    St.W6V s (t.geTasksCheck r e) := by
  st_pres_unfold St.geTasksCheck

@[st_pres ↓] theorem St.W6V.flushBegin {s t : St} (h : St.W6V s t) (r : Nat) :
    St.W6V s (t.flushBegin r) := by
  st_pres_unfold St.flushBegin

@[st_pres ↓] theorem St.W6V.tickGenerate {s t : St} (h : St.W6V s t) (c : Nat) :
    St.W6V s (t.tickGenerate c) := by
  st_pres_unfold St.tickGenerate

@[st_pres ↓] theorem St.W6V.runBegin {s t : St} (h : St.W6V s t) (c : Nat) :
    St.W6V s (t.runBegin c) := by
  st_pres_unfold St.runBegin

@[st_pres ↓] theorem St.W6V.runEnd {s t : St} (h : St.W6V s t) (c : Nat) :
    St.W6V s ((t.runEnd c).2) := by
  st_pres_unfold St.runEnd

@[st_pres ↓] theorem St.W6V.updateRootAll (s : St) : ∀ (fuel : Nat) (todo : List Nat) (root : Nat) (t : St),
    St.W6V s t → St.W6V s (St.updateRootAll fuel todo root t) :=
  fun fuel todo root t h => St.updateRootAll_pres root (fun _ _ h => by st_pres) fuel todo t h

/-- the operations that change the view: generators, handler records (`dispatchPre` adds the fallback handlers), handler
    tables, task sets, wait states -/
def w6_viewOps : List Op :=
  [.addGenUser, .setGenDead, .setGenUser, .setGenExc, .setGenOne, .actStep, .genCall, .genWait, .resumeGenPre,
   .stopIteration, .errorBranch, .removeHandler, .unregisterTask, .ownSub, .parentSub, .parentPlain, .dispatchPre,
   .onWaitEvent, .onWaitDone, .onWaitTick, .applyValue]

theorem St.W6V.keeps (s : St) (o : Op) (ho : o ∉ w6_viewOps) : o.Keeps (St.W6V s) := by
  cases o
  case addGenUser | setGenDead | setGenUser | setGenExc | setGenOne | actStep | genCall | genWait | resumeGenPre | stopIteration
      | errorBranch | removeHandler | unregisterTask | ownSub | parentSub | parentPlain | dispatchPre | onWaitEvent | onWaitDone
      | onWaitTick | applyValue => exact absurd (by decide) ho
  all_goals (intro t h; intros; st_pres)

theorem w6_stepFrame_v (c : Cfg) (k : List Frame) (f : Frame) (hf : avoids f.ops w6_viewOps = true) :
    St.W6V c.st (stepFrame c k f).st :=
  stepFrame_pres_avoiding c k (St.W6V.keeps _) f hf (St.W6V.refl _)

theorem w6_unwind_v (c : Cfg) (k : List Frame) (ex : Exn) (f : Frame) : St.W6V c.st (unwind c k ex f).st :=
  unwind_pres_avoiding c k (St.W6V.keeps _) ex f rfl (St.W6V.refl _)

end CV.Core
