import CV.Model.Core.Step
/-
C06 is proved in two layers.  The local layer (InvWaitLocal, InvWaitFacts; Part 1 of CV/Props/C06.lean) says of every
configuration which step can do what to the wait protocol.  The global layer (this file, InvWaitView, InvWaitH, InvWaitG,
InvWaitSt, InvWaitProto, InvWait, InvWaitMono, InvWaitMain; Part 2) is an invariant of the configurations of an admissible
session.  The identifiers of both carry the prefix `w6_` / `W6`; those of InvWait2*.lean (Parts 3 to 5, which rest on
both layers) carry `w6b_` / `W6B`.

C06, global layer: the VIEW of a state - everything the wait-protocol invariant reads: handler records, wait states,
generators, per-component handler tables and task sets, programs - and the relation `St.W6V s s'` = "same view".  The
invariants `W6HInv`, `W6GInv` (CV/Proofs/InvWaitH.lean, InvWaitG.lean) are predicates of the view, so a change that keeps
it keeps them (`W6WInv.ofV`); CV/Proofs/InvWaitView.lean shows which helpers and arms of `step` keep it.
-/
namespace CV.Core

def GenRec.w6_isWait : GenRec → Bool
  | .wait _ => true
  | _ => false

/-- the fields of a wait state the handler-table invariant reads -/
structure W6WH where
  owner : Nat
  evName : Name
  timeout : Int
  run : Bool
  flag : Bool
  event : Option Nat
  hEvent : Nat
  hDone : Nat
  hTick : Option Nat
  started : Bool

/-- the fields of a wait state the task / generator invariant reads -/
structure W6WG where
  task : Nat
  parentGen : Nat
  flag : Bool
  started : Bool

def WaitSt.w6h (x : WaitSt) : W6WH := ⟨x.owner, x.evName, x.timeout, x.run, x.flag, x.event, x.hEvent, x.hDone, x.hTick, x.started⟩
def WaitSt.w6g (x : WaitSt) : W6WG := ⟨x.task, x.parentGen, x.flag, x.started⟩

structure W6View where
  nh : Nat
  handler : Nat → Handler
  nw : Nat
  wh : Nat → W6WH
  wg : Nat → W6WG
  ng : Nat
  gen : Nat → GenRec
  htab : Nat → List (HKey × Nat)
  tasks : Nat → List Task
  progs : List Prog

def St.w6_view (s : St) : W6View :=
  ⟨s.hs.length, s.handler, s.waits.length, fun w => (s.wait w).w6h, fun w => (s.wait w).w6g, s.gens.length, s.gen,
   fun c => (s.comp c).htab, fun c => (s.comp c).tasks, s.progs⟩

def St.W6V (s s' : St) : Prop := s'.w6_view = s.w6_view

namespace St.W6V
theorem refl (s : St) : St.W6V s s := rfl
theorem trans {a b c : St} (h1 : St.W6V a b) (h2 : St.W6V b c) : St.W6V a c := Eq.trans h2 h1
end St.W6V

end CV.Core
