import CV.Model.Irc
/-
For C18: a rendered IRC message holds no line break before its CRLF (`body_noBrk`, `oneLine_crlf`), and `parsemsg`
reads it back: a list of tokens (`Tok`: non-empty, no whitespace, no leading colon) joined by single spaces splits
into the same tokens (`splitTrailing_joinSp`, `wsSplit_joinSp`), with `markLast`'s colon telling where the trailing
argument starts.
`parseRest` is `parsemsg` behind the prefix, on a token list (`parsemsg_noprefix`, `parsemsg_prefix`).
-/
namespace CV
namespace Irc

/-- the colon decision for the final argument -/
def mark (a : Str) : Str := if a.contains ' ' && a.head? != some ':' then ':' :: a else a

theorem markLast_append_singleton (init : List Str) (a : Str) :
    markLast (init ++ [a]) = init ++ [mark a] := by
  induction init with
  | nil => simp only [List.nil_append, markLast, mark]; split <;> rfl
  | cons x init ih =>
    cases hi : init ++ [a] with
    | nil => simp at hi
    | cons y rest =>
      rw [List.cons_append, hi, markLast, ← hi, ih]
      · simp
      · simp

theorem mem_markLast {a : Str} {l : List Str} (h : a ∈ markLast l) :
    a ∈ l ∨ ∃ b ∈ l, a = ':' :: b := by
  cases hl : l.getLast? with
  | none => rw [List.getLast?_eq_none_iff.1 hl] at h; simp [markLast] at h
  | some x =>
    obtain ⟨init, rfl⟩ := List.getLast?_eq_some_iff.1 hl
    rw [markLast_append_singleton, List.mem_append, List.mem_singleton] at h
    rcases h with h | rfl
    · exact .inl (List.mem_append_left _ h)
    · unfold mark; split
      · exact .inr ⟨x, by simp, rfl⟩
      · exact .inl (by simp)

theorem mem_joinSp {c : Char} {l : List Str} (h : c ∈ joinSp l) :
    c = ' ' ∨ ∃ a ∈ l, c ∈ a := by
  induction l with
  | nil => simp [joinSp] at h
  | cons x rest ih =>
    cases rest with
    | nil => right; exact ⟨x, by simp, by simpa [joinSp] using h⟩
    | cons y rest =>
      simp only [joinSp, List.mem_append, List.mem_cons] at h
      rcases h with h | rfl | h
      · right; exact ⟨x, by simp, h⟩
      · left; rfl
      · rcases ih (by simpa [joinSp] using h) with h | ⟨a, ha, hc⟩
        · left; exact h
        · right; exact ⟨a, List.mem_cons_of_mem _ ha, hc⟩

def isBrk (c : Char) : Bool := c == '\n' || c == '\r'

theorem checkArgs_current_iff (m : Msg) :
    checkArgs Policy.current m = true ↔
      (∀ a ∈ m.args.dropLast, ' ' ∉ a) ∧ (∀ a ∈ m.args, ∀ c ∈ a, isBrk c = false) ∧
      (∀ c ∈ m.pfx.getD [], isBrk c = false) ∧ (∀ c ∈ cmdStr m.command, isBrk c = false) := by
  simp [checkArgs, Policy.current, isBrk, and_assoc]

theorem body_noBrk (m : Msg) (h : checkArgs Policy.current m = true) :
    ∀ c ∈ body m, isBrk c = false := by
  rw [checkArgs_current_iff] at h
  obtain ⟨_, hargs, hpfx, hcmd⟩ := h
  intro c hc
  simp only [body, List.mem_append, List.mem_cons] at hc
  rcases hc with (hc | hc) | rfl | hc
  · cases hp : m.pfx with
    | none => simp [hp, prefixPart] at hc
    | some p =>
      have hc : c = ':' ∨ c ∈ p ∨ c = ' ' := by simpa [hp, prefixPart, or_assoc] using hc
      rcases hc with rfl | hc | rfl
      · decide
      · exact hpfx c (by simpa [hp] using hc)
      · decide
  · exact hcmd c hc
  · decide
  · rcases mem_joinSp hc with rfl | ⟨a, ha, hca⟩
    · decide
    · rcases mem_markLast ha with ha | ⟨b, hb, rfl⟩
      · exact hargs a ha c hca
      · rcases List.mem_cons.1 hca with rfl | hca
        · decide
        · exact hargs b hb c hca

theorem oneLine_crlf (b : Str) (h : ∀ c ∈ b, isBrk c = false) :
    oneLine (b ++ ['\r', '\n']) = true := by
  have : (b ++ ['\r', '\n']).reverse = '\n' :: '\r' :: b.reverse := by simp
  simp only [oneLine, this]
  simp only [Bool.not_eq_true', List.any_eq_false, List.mem_reverse]
  intro c hc
  have := h c hc
  simp only [isBrk, Bool.or_eq_false_iff, beq_eq_false_iff_ne, ne_eq] at this
  simp [this.1, this.2]

theorem render_eq_some {p : Policy} {m : Msg} {w : Str} (h : render p m = some w) :
    checkArgs p m = true ∧ w = body m ++ ['\r', '\n'] := by
  unfold render at h
  split at h
  · next hc => exact ⟨hc, by simpa using h.symm⟩
  · simp at h

theorem splitSpace1_append (p rest : Str) (h : ' ' ∉ p) :
    splitSpace1 (p ++ ' ' :: rest) = some (p, rest) := by
  induction p with
  | nil => simp [splitSpace1]
  | cons c p ih =>
    have hc : c ≠ ' ' := fun e => h (by simp [e])
    have hp : ' ' ∉ p := fun e => h (by simp [e])
    simp [splitSpace1, hc, ih hp]

theorem splitTrailing_nosp_append (a rest : Str) (h : ' ' ∉ a) :
    splitTrailing (a ++ rest) = (splitTrailing rest).map (fun p => (a ++ p.1, p.2)) := by
  induction a with
  | nil =>
    simp only [List.nil_append]
    cases splitTrailing rest <;> simp
  | cons c a ih =>
    have hc : c ≠ ' ' := fun e => h (by simp [e])
    have ha : ' ' ∉ a := fun e => h (by simp [e])
    cases hr : a ++ rest with
    | nil =>
      have h1 : a = [] := (List.append_eq_nil_iff.1 hr).1
      have h2 : rest = [] := (List.append_eq_nil_iff.1 hr).2
      subst h1 h2
      simp [splitTrailing]
    | cons d r =>
      rw [List.cons_append, hr]
      simp only [splitTrailing, hc, false_and, if_false]
      rw [← hr, ih ha]
      cases splitTrailing rest <;> simp

theorem splitTrailing_space (rest : Str) (h : rest.head? ≠ some ':') :
    splitTrailing (' ' :: rest) = (splitTrailing rest).map (fun p => (' ' :: p.1, p.2)) := by
  cases rest with
  | nil => simp [splitTrailing]
  | cons d r =>
    have hd : d ≠ ':' := by simpa using h
    simp only [splitTrailing, hd, and_false, if_false]
    cases splitTrailing (d :: r) <;> simp

theorem splitTrailing_found (h t : Str) (hn : splitTrailing h = none) :
    splitTrailing (h ++ ' ' :: ':' :: t) = some (h, t) := by
  induction h with
  | nil => simp [splitTrailing]
  | cons c h ih =>
    cases h with
    | nil =>
      have : ¬ (c = ' ' ∧ ' ' = ':') := by simp
      simp [splitTrailing]
    | cons d r =>
      simp only [splitTrailing] at hn
      split at hn
      · simp at hn
      · next hcd =>
        have hn' : splitTrailing (d :: r) = none := by
          cases hs : splitTrailing (d :: r) with
          | none => rfl
          | some p => simp [hs] at hn
        have := ih hn'
        simp only [List.cons_append] at this ⊢
        simp only [splitTrailing, hcd, if_false, this]

structure Tok (ws : Char → Bool) (a : Str) : Prop where
  ne : a ≠ []
  nows : ∀ c ∈ a, ws c = false
  nocolon : a.head? ≠ some ':'

theorem tokOk_iff (ws : Char → Bool) (a : Str) : tokOk ws a = true ↔ Tok ws a := by
  constructor
  · intro h
    simp only [tokOk, Bool.and_eq_true, Bool.not_eq_true', List.isEmpty_eq_false_iff,
      List.any_eq_false, bne_iff_ne, ne_eq] at h
    exact ⟨h.1.1, fun c hc => by simpa using h.1.2 c hc, h.2⟩
  · intro ⟨h1, h2, h3⟩
    simp only [tokOk, Bool.and_eq_true, Bool.not_eq_true', List.isEmpty_eq_false_iff,
      List.any_eq_false, bne_iff_ne, ne_eq]
    exact ⟨⟨h1, fun c hc => by simpa using h2 c hc⟩, h3⟩

theorem Tok.nosp {ws : Char → Bool} (hws : ws ' ' = true) {a : Str} (h : Tok ws a) : ' ' ∉ a := by
  intro hm
  have := h.nows _ hm
  rw [hws] at this
  cases this

theorem joinSp_cons_cons (a b : Str) (rest : List Str) :
    joinSp (a :: b :: rest) = a ++ ' ' :: joinSp (b :: rest) := rfl

theorem joinSp_cons_of_ne (a : Str) (l : List Str) (h : l ≠ []) :
    joinSp (a :: l) = a ++ ' ' :: joinSp l := by
  cases l with
  | nil => exact absurd rfl h
  | cons b rest => rfl

theorem joinSp_append_singleton (l : List Str) (x : Str) (h : l ≠ []) :
    joinSp (l ++ [x]) = joinSp l ++ ' ' :: x := by
  induction l with
  | nil => exact absurd rfl h
  | cons a l ih =>
    cases l with
    | nil => simp [joinSp]
    | cons b rest =>
      have := ih (by simp)
      simp only [List.cons_append] at this ⊢
      rw [joinSp_cons_cons, this, joinSp_cons_cons]
      simp

theorem head?_joinSp_cons (b : Str) (rest : List Str) (hb : b ≠ []) :
    (joinSp (b :: rest)).head? = b.head? := by
  cases b with
  | nil => exact absurd rfl hb
  | cons c b' => cases rest <;> simp [joinSp]

theorem splitTrailing_tok {ws : Char → Bool} (hws : ws ' ' = true) (a : Str) (h : Tok ws a) :
    splitTrailing a = none := by
  have := splitTrailing_nosp_append a [] (h.nosp hws)
  simpa [splitTrailing] using this

theorem splitTrailing_joinSp {ws : Char → Bool} (hws : ws ' ' = true) (toks : List Str)
    (h : ∀ a ∈ toks, Tok ws a) : splitTrailing (joinSp toks) = none := by
  induction toks with
  | nil => simp [joinSp, splitTrailing]
  | cons a toks ih =>
    cases toks with
    | nil => simpa [joinSp] using splitTrailing_tok hws a (h a (by simp))
    | cons b rest =>
      have ha := h a (by simp)
      have hb := h b (by simp)
      rw [joinSp_cons_cons, splitTrailing_nosp_append _ _ (ha.nosp hws),
        splitTrailing_space _ (by rw [head?_joinSp_cons _ _ hb.ne]; exact hb.nocolon),
        ih (fun x hx => h x (List.mem_cons_of_mem _ hx))]
      rfl

theorem wsSplitAux_nows (ws : Char → Bool) (cur a rest : Str) (h : ∀ c ∈ a, ws c = false) :
    wsSplitAux ws cur (a ++ rest) = wsSplitAux ws (cur ++ a) rest := by
  induction a generalizing cur with
  | nil => simp
  | cons c a ih =>
    have hc : ws c = false := h c (by simp)
    simp only [List.cons_append, wsSplitAux, hc, Bool.false_eq_true, if_false]
    rw [ih _ (fun x hx => h x (List.mem_cons_of_mem _ hx))]
    simp

theorem wsSplitAux_space (ws : Char → Bool) (hws : ws ' ' = true) (cur rest : Str) (h : cur ≠ []) :
    wsSplitAux ws cur (' ' :: rest) = cur :: wsSplitAux ws [] rest := by
  have : cur.isEmpty = false := by simpa using h
  simp [wsSplitAux, hws, this]

theorem wsSplit_tok (ws : Char → Bool) (a : Str) (h : Tok ws a) : wsSplit ws a = [a] := by
  have := wsSplitAux_nows ws [] a [] h.nows
  have hne : a.isEmpty = false := by simpa using h.ne
  simp only [List.append_nil, List.nil_append] at this
  simp [wsSplit, this, wsSplitAux, hne]

theorem wsSplit_joinSp {ws : Char → Bool} (hws : ws ' ' = true) (toks : List Str)
    (h : ∀ a ∈ toks, Tok ws a) : wsSplit ws (joinSp toks) = toks := by
  induction toks with
  | nil => simp [joinSp, wsSplit, wsSplitAux]
  | cons a toks ih =>
    cases toks with
    | nil => simpa [joinSp] using wsSplit_tok ws a (h a (by simp))
    | cons b rest =>
      have ha := h a (by simp)
      have ih' := ih (fun x hx => h x (List.mem_cons_of_mem _ hx))
      unfold wsSplit at ih' ⊢
      rw [joinSp_cons_cons, wsSplitAux_nows _ _ _ _ ha.nows, List.nil_append,
        wsSplitAux_space _ hws _ _ ha.ne, ih']

/-- a command followed by a single space (no arguments) -/
theorem splitTrailing_tok_space {ws : Char → Bool} (hws : ws ' ' = true) (a : Str) (h : Tok ws a) :
    splitTrailing (a ++ [' ']) = none := by
  rw [splitTrailing_nosp_append _ _ (h.nosp hws)]
  simp [splitTrailing]

theorem wsSplit_tok_space {ws : Char → Bool} (hws : ws ' ' = true) (a : Str) (h : Tok ws a) :
    wsSplit ws (a ++ [' ']) = [a] := by
  unfold wsSplit
  rw [wsSplitAux_nows _ _ _ _ h.nows, List.nil_append, wsSplitAux_space _ hws _ _ h.ne]
  simp [wsSplitAux]

/-- the token list `parsemsg` builds after the prefix split -/
def toksOf (ws : Char → Bool) (s : Str) : List Str :=
  match splitTrailing s with
  | some (h, t) => wsSplit ws h ++ [t]
  | none => wsSplit ws s

def headTail : List Str → Option Str × List Str
  | [] => (none, [])
  | c :: args => (some c, args)

/-- the part of `parsemsg` after the prefix split -/
def parseRest (ws : Char → Bool) (s : Str) : Option Str × List Str := headTail (toksOf ws s)

theorem match_eq_headTail (pre0 : Str) (toks : List Str) :
    (match toks with
      | [] => some (pre0, (none : Option Str), ([] : List Str))
      | c :: args => some (pre0, some c, args)) = some (pre0, (headTail toks).1, (headTail toks).2) := by
  cases toks <;> rfl

theorem parsemsg_noprefix (ws : Char → Bool) (s : Str) (h : s.head? ≠ some ':') :
    parsemsg ws s = some ([], (parseRest ws s).1, (parseRest ws s).2) := by
  cases s with
  | nil =>
    simp [parsemsg, parseRest, toksOf, headTail, splitTrailing, wsSplit, wsSplitAux]
  | cons c s =>
    have hc : c ≠ ':' := by simpa using h
    unfold parsemsg
    split
    · next heq => simp at heq; exact absurd heq.1 hc
    · exact match_eq_headTail [] (toksOf ws (c :: s))

theorem parsemsg_prefix (ws : Char → Bool) (p s : Str) (h : ' ' ∉ p) :
    parsemsg ws (':' :: p ++ ' ' :: s) = some (p, (parseRest ws s).1, (parseRest ws s).2) := by
  have := splitSpace1_append p s h
  simp only [parsemsg, List.cons_append, this]
  exact match_eq_headTail p (toksOf ws s)

theorem toksOf_joinSp {ws : Char → Bool} (hws : ws ' ' = true) (toks : List Str) (h : ∀ a ∈ toks, Tok ws a) :
    toksOf ws (joinSp toks) = toks := by
  simp only [toksOf, splitTrailing_joinSp hws _ h, wsSplit_joinSp hws _ h]

theorem toksOf_joinSp_trailing {ws : Char → Bool} (hws : ws ' ' = true) (toks : List Str)
    (h : ∀ a ∈ toks, Tok ws a) (hne : toks ≠ []) (t : Str) :
    toksOf ws (joinSp (toks ++ [':' :: t])) = toks ++ [t] := by
  rw [joinSp_append_singleton _ _ hne]
  simp only [toksOf, splitTrailing_found _ _ (splitTrailing_joinSp hws _ h), wsSplit_joinSp hws _ h]

theorem mark_cases {ws : Char → Bool} {a : Str} (h : lastOk ws a = true) :
    mark a = ':' :: a ∨ (mark a = a ∧ Tok ws a) := by
  simp only [lastOk, Bool.and_eq_true, Bool.not_eq_true', List.isEmpty_eq_false_iff,
    bne_iff_ne, ne_eq, Bool.or_eq_true, List.any_eq_false] at h
  obtain ⟨⟨hne, hcol⟩, hsp⟩ := h
  unfold mark
  by_cases hs : a.contains ' ' = true
  · left; rw [if_pos (by rw [hs]; simpa using hcol)]
  · right
    refine ⟨by rw [if_neg (by rw [Bool.not_eq_true] at hs; simp only [hs, Bool.false_and, Bool.false_eq_true, not_false_eq_true])], hne, ?_, hcol⟩
    intro c hc
    simpa using (hsp.resolve_left hs) c hc

theorem parseRest_rendered {ws : Char → Bool} (hws : ws ' ' = true) (cmd : Str) (args : List Str)
    (hcmd : Tok ws cmd) (hinit : ∀ a ∈ args.dropLast, Tok ws a)
    (hlast : ∀ a, args.getLast? = some a → lastOk ws a = true) :
    parseRest ws (cmd ++ ' ' :: joinSp (markLast args)) = (some cmd, args) := by
  cases hl : args.getLast? with
  | none =>
    obtain rfl : args = [] := List.getLast?_eq_none_iff.1 hl
    simp only [markLast, joinSp, parseRest, toksOf, headTail, splitTrailing_tok_space hws cmd hcmd,
      wsSplit_tok_space hws cmd hcmd]
  | some a =>
    obtain ⟨init, rfl⟩ := List.getLast?_eq_some_iff.1 hl
    rw [List.dropLast_concat] at hinit
    have htoks : ∀ x ∈ cmd :: init, Tok ws x := List.forall_mem_cons.2 ⟨hcmd, hinit⟩
    -- the body is the space-joined list `cmd :: init ++ [mark a]`
    rw [markLast_append_singleton, ← joinSp_cons_of_ne _ _ (by simp), ← List.cons_append, parseRest]
    rcases mark_cases (hlast a hl) with hm | ⟨hm, hta⟩ <;> rw [hm]
    · rw [toksOf_joinSp_trailing hws _ htoks (by simp)]; rfl
    · rw [toksOf_joinSp hws _ (List.forall_mem_append.2 ⟨htoks, List.forall_mem_singleton.2 hta⟩)]; rfl

theorem head?_tok_append {ws : Char → Bool} (a rest : Str) (h : Tok ws a) :
    (a ++ rest).head? ≠ some ':' := by
  cases a with
  | nil => exact absurd rfl h.ne
  | cons c a => simpa using h.nocolon

end Irc
end CV
