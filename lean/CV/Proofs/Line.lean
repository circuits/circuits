import CV.Model.Line
import CV.Model.LineSpec
import CV.Proofs.Feed
import CV.Proofs.ListFacts
/-
Lemmas for C18 (line protocol): `scan` is a homomorphism for `++` and yields exactly the reading the specification
`isReading` accepts; the predicate on untagged output (`untaggedOk`) against `isReading`; `feed` / `feedAll` as runs of
`Feed.runAll`; the server's buffer table keeps the sockets apart.
-/
namespace CV
namespace Line

theorem scan_append (cur a b : Bytes) :
    scan cur (a ++ b) = ((scan cur a).1 ++ (scan (scan cur a).2 b).1, (scan (scan cur a).2 b).2) := by
  induction a generalizing cur with
  | nil => simp [scan]
  | cons c a ih =>
    by_cases h : c = LF
    · simp [scan, h, ih]
    · simp [scan, h, ih]

theorem scan_noLF (cur a : Bytes) (h : LF ∉ a) : scan cur a = ([], cur ++ a) := by
  induction a generalizing cur with
  | nil => simp [scan]
  | cons c a ih =>
    have hc : c ≠ LF := fun e => h (by simp [e])
    have ha : LF ∉ a := fun e => h (by simp [e])
    simp [scan, hc, ih _ ha]

theorem scan_nil_append (buf x : Bytes) (h : LF ∉ buf) : scan [] (buf ++ x) = scan buf x := by
  rw [scan_append, scan_noLF [] buf h]; simp

theorem scan_cons_LF (cur rest : Bytes) :
    scan cur (LF :: rest) = (chomp cur :: (scan [] rest).1, (scan [] rest).2) := by
  simp [scan]

theorem chomp_append_CR (l : Bytes) : chomp (l ++ [CR]) = (l, true) := by
  simp [chomp]

theorem chomp_noCR (l : Bytes) (h : l.getLast? ≠ some CR) : chomp l = (l, false) := by
  simp [chomp, h]

theorem chomp_term (c : Bytes) : (chomp c).1 ++ term (chomp c).2 = c ++ [LF] := by
  unfold chomp
  by_cases h : c.getLast? = some CR
  · obtain ⟨l, rfl⟩ := List.getLast?_eq_some_iff.1 h
    simp [term]
  · simp [h, term]

theorem lineOk_chomp (c : Bytes) (h : LF ∉ c) : lineOk (chomp c) = true := by
  unfold chomp
  by_cases hc : c.getLast? = some CR
  · simp only [hc, if_true, lineOk]
    have : LF ∉ c.dropLast := fun e => h (List.dropLast_subset c e)
    simp [this]
  · simp only [hc, if_false, lineOk]
    simp [h, hc]

theorem rebuild_nil (t : Bytes) : rebuild [] t = t := by simp [rebuild]

theorem rebuild_cons (l : Bytes × Bool) (ls : List (Bytes × Bool)) (t : Bytes) :
    rebuild (l :: ls) t = l.1 ++ term l.2 ++ rebuild ls t := by
  simp [rebuild]

theorem isReading_iff (x : Bytes) (ls : List (Bytes × Bool)) (t : Bytes) :
    isReading x ls t = true ↔ rebuild ls t = x ∧ (∀ l ∈ ls, lineOk l = true) ∧ LF ∉ t := by
  simp [isReading, and_assoc]

theorem lineOk_iff (l : Bytes × Bool) :
    lineOk l = true ↔ LF ∉ l.1 ∧ (l.2 = true ∨ l.1.getLast? ≠ some CR) := by
  simp [lineOk]

/-- the general form of `lines_exact`, for a scan that starts inside a piece -/
theorem scan_isReading (cur x : Bytes) (h : LF ∉ cur) :
    rebuild (scan cur x).1 (scan cur x).2 = cur ++ x ∧
    (∀ l ∈ (scan cur x).1, lineOk l = true) ∧ LF ∉ (scan cur x).2 := by
  induction x generalizing cur with
  | nil => simp [scan, rebuild, h]
  | cons c x ih =>
    by_cases hc : c = LF
    · subst hc
      obtain ⟨h1, h2, h3⟩ := ih [] (by simp)
      rw [scan_cons_LF]
      refine ⟨by rw [rebuild_cons, chomp_term, h1]; simp, ?_, h3⟩
      intro l hl
      rcases List.mem_cons.1 hl with rfl | hl
      · exact lineOk_chomp cur h
      · exact h2 l hl
    · obtain ⟨h1, h2, h3⟩ := ih (cur ++ [c]) (by simp [h, Ne.symm hc])
      simp only [scan, hc, if_false]
      exact ⟨by rw [h1]; simp, h2, h3⟩

theorem scan_line (l : Bytes × Bool) (rest : Bytes) (h : lineOk l = true) :
    scan [] (l.1 ++ term l.2 ++ rest) = (l :: (scan [] rest).1, (scan [] rest).2) := by
  obtain ⟨l1, tag⟩ := l
  rw [lineOk_iff] at h
  obtain ⟨hlf, hcr⟩ := h
  simp only at hlf hcr
  rw [List.append_assoc, scan_nil_append _ _ hlf]
  cases tag with
  | true =>
    have : CR ≠ LF := by decide
    simp only [term, if_true, List.cons_append, List.nil_append]
    rw [scan]
    simp only [this, if_false]
    rw [scan_cons_LF, chomp_append_CR]
  | false =>
    have hcr' : l1.getLast? ≠ some CR := by simpa using hcr
    simp only [term, Bool.false_eq_true, if_false, List.cons_append, List.nil_append]
    rw [scan_cons_LF, chomp_noCR _ hcr']

theorem scan_rebuild (ls : List (Bytes × Bool)) (t x : Bytes)
    (hx : rebuild ls t = x) (hok : ∀ l ∈ ls, lineOk l = true) (ht : LF ∉ t) :
    scan [] x = (ls, t) := by
  induction ls generalizing x with
  | nil =>
    rw [rebuild_nil] at hx; subst hx
    rw [scan_noLF _ _ ht]; simp
  | cons l ls ih =>
    rw [rebuild_cons] at hx; subst hx
    rw [scan_line l _ (hok l (by simp))]
    rw [ih _ rfl (fun l' hl' => hok l' (by simp [hl']))]

theorem isPrefixOf_append_cons (l : Bytes) (a b : UInt8) (p q : Bytes) :
    (l ++ a :: p).isPrefixOf (l ++ b :: q) = (a == b && p.isPrefixOf q) := by
  induction l with
  | nil => simp [List.isPrefixOf]
  | cons c l ih => simp [ih]

theorem isReading_cons (x : Bytes) (l : Bytes × Bool) (tl : List (Bytes × Bool)) (t : Bytes) :
    isReading x (l :: tl) t = true ↔
      lineOk l = true ∧ ∃ rest, x = l.1 ++ term l.2 ++ rest ∧ isReading rest tl t = true := by
  simp only [isReading_iff, rebuild_cons, List.forall_mem_cons]
  constructor
  · rintro ⟨rfl, ⟨h1, h2⟩, h3⟩; exact ⟨h1, _, rfl, rfl, h2, h3⟩
  · rintro ⟨h1, _, rfl, rfl, h2, h3⟩; exact ⟨rfl, ⟨h1, h2⟩, h3⟩

/-- A line followed by CR LF can only be tagged CRLF: tagged LF it would end in CR. -/
theorem untaggedOk_cons (x l : Bytes) (ls : List Bytes) (t : Bytes) :
    untaggedOk x (l :: ls) t = true ↔
      ∃ tag rest, lineOk (l, tag) = true ∧ x = l ++ term tag ++ rest ∧ untaggedOk rest ls t = true := by
  have hd : ∀ (p r : Bytes), (p ++ r).drop p.length = r := fun p r => List.drop_left
  have hp : ∀ (p r : Bytes), p.isPrefixOf (p ++ r) = true := fun p r =>
    List.isPrefixOf_iff_prefix.2 (List.prefix_append _ _)
  simp only [untaggedOk, Bool.and_eq_true, lineOk_iff]
  constructor
  · rintro ⟨hl, h⟩
    have hl' : LF ∉ l := by simpa using hl
    split at h
    · next h1 =>
      exact ⟨true, _, ⟨hl', Or.inl rfl⟩,
        by simpa [term] using (List.prefix_iff_eq_append.1 (List.isPrefixOf_iff_prefix.1 h1)).symm, h⟩
    · split at h
      · next h2 =>
        simp only [Bool.and_eq_true] at h
        exact ⟨false, _, ⟨hl', Or.inr (by simpa using h.1)⟩,
          by simpa [term] using (List.prefix_iff_eq_append.1 (List.isPrefixOf_iff_prefix.1 h2)).symm, h.2⟩
      · cases h
  · rintro ⟨tag, rest, ⟨hlf, hcr⟩, rfl, h⟩
    refine ⟨by simpa using hlf, ?_⟩
    cases tag with
    | true =>
      have e : l ++ term true ++ rest = (l ++ [CR, LF]) ++ rest := rfl
      have e2 : l.length + 2 = (l ++ [CR, LF]).length := by simp
      rw [e, if_pos (hp _ _), e2, hd]; exact h
    | false =>
      have e : l ++ term false ++ rest = (l ++ [LF]) ++ rest := rfl
      have e2 : l.length + 1 = (l ++ [LF]).length := by simp
      have hnp : (l ++ [CR, LF]).isPrefixOf (l ++ [LF] ++ rest) = false := by
        rw [List.append_assoc]; exact (isPrefixOf_append_cons l CR LF [LF] rest).trans rfl
      rw [e, hnp, if_neg (by simp), if_pos (hp _ _), e2, hd]
      simp only [Bool.and_eq_true, bne_iff_ne, ne_eq]
      exact ⟨by simpa using hcr, h⟩

theorem untaggedOk_iff (x : Bytes) (ls : List Bytes) (t : Bytes) :
    untaggedOk x ls t = true ↔ ∃ tl : List (Bytes × Bool), tl.map (·.1) = ls ∧ isReading x tl t = true := by
  induction ls generalizing x with
  | nil =>
    constructor
    · intro h
      simp only [untaggedOk, Bool.and_eq_true, beq_iff_eq] at h
      exact ⟨[], rfl, (isReading_iff ..).2 ⟨(rebuild_nil t).trans h.1.symm, by simp, by simpa using h.2⟩⟩
    · rintro ⟨tl, hm, hr⟩
      cases List.map_eq_nil_iff.1 hm
      obtain ⟨h1, -, h3⟩ := (isReading_iff ..).1 hr
      simp [untaggedOk, ← h1, rebuild_nil, h3]
  | cons l ls ih =>
    rw [untaggedOk_cons]
    constructor
    · rintro ⟨tag, rest, hok, hx, h⟩
      obtain ⟨tl, hm, hr⟩ := (ih rest).1 h
      exact ⟨(l, tag) :: tl, by simp [hm], (isReading_cons ..).2 ⟨hok, rest, hx, hr⟩⟩
    · rintro ⟨tl, hm, hr⟩
      cases tl with
      | nil => cases hm
      | cons p tl =>
        obtain ⟨l', tag⟩ := p
        obtain ⟨rfl, hm'⟩ := List.cons.inj (hm : l' :: tl.map (·.1) = l :: ls)
        obtain ⟨hok, rest, hx, hr⟩ := (isReading_cons ..).1 hr
        exact ⟨tag, rest, hok, hx, (ih rest).2 ⟨tl, hm', hr⟩⟩

theorem feed_eq (buf d : Bytes) :
    feed buf d = ((scan [] (buf ++ d)).2, (scan [] (buf ++ d)).1.map (·.1)) := by
  simp [feed, splitLines, splitT]

theorem feed_eq_scan (buf d : Bytes) (h : LF ∉ buf) :
    feed buf d = ((scan buf d).2, (scan buf d).1.map (·.1)) := by
  rw [feed_eq, scan_nil_append _ _ h]

theorem feed_buf_noLF (buf d : Bytes) : LF ∉ (feed buf d).1 := by
  rw [feed_eq]; exact (scan_isReading _ _ (by simp)).2.2

theorem feed_nil (buf : Bytes) (h : LF ∉ buf) : feed buf [] = (buf, []) := by
  rw [feed_eq_scan _ _ h]; simp [scan]

theorem feed_append (buf a b : Bytes) :
    feed buf (a ++ b) =
      ((feed (feed buf a).1 b).1, (feed buf a).2 ++ (feed (feed buf a).1 b).2) := by
  have h1 := feed_buf_noLF buf a
  rw [feed_eq_scan (feed buf a).1 b h1]
  rw [feed_eq, feed_eq, ← List.append_assoc, scan_append]
  simp

theorem feedAll_nil (buf : Bytes) : feedAll buf [] = (buf, []) := rfl

theorem feedAll_eq_runAll : ∀ (segs : List Bytes) (buf : Bytes), feedAll buf segs = Feed.runAll feed buf segs :=
  Feed.eq_runAll (fun _ => rfl) fun _ _ _ => rfl

theorem getBuf_setBuf_same (bufs : Bufs) (s : Nat) (b : Bytes) : getBuf (setBuf bufs s b) s = b := by
  simp [getBuf, setBuf]

theorem getBuf_setBuf_ne (bufs : Bufs) (s s' : Nat) (b : Bytes) (h : s' ≠ s) :
    getBuf (setBuf bufs s b) s' = getBuf bufs s' := by
  have : (s' == s) = false := by simpa using h
  simp [getBuf, setBuf, List.lookup, this, lookup_filter_ne _ _ _ h]

theorem serverFeed_eq (bufs : Bufs) (s : Nat) (d : Bytes) :
    serverFeed bufs s d =
      (setBuf bufs s (feed (getBuf bufs s) d).1, (feed (getBuf bufs s) d).2.map (fun l => (s, l))) := by
  simp [serverFeed, feed]

theorem serverFeedAll_eq_runAll : ∀ (reads : List (Nat × Bytes)) (bufs : Bufs),
    serverFeedAll bufs reads = Feed.runAll (fun b r => serverFeed b r.1 r.2) bufs reads :=
  Feed.eq_runAll (fun _ => rfl) fun _ _ _ => rfl

end Line
end CV
