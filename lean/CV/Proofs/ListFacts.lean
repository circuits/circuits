/-
Facts about `List` that several regions need (`lookup`, `flatMap`; `takeWhile` / `dropWhile` over a prefix on which the
test holds), and the `LawfulBEq` instances for bytes under a name; no model is imported.
-/
namespace CV

theorem lookup_mem {α β} [BEq α] [LawfulBEq α] {l : List (α × β)} {a : α} {b : β} (h : l.lookup a = some b) :
    (a, b) ∈ l := by
  obtain ⟨l₁, l₂, rfl, _⟩ := List.lookup_eq_some_iff.mp h
  exact List.mem_append_right _ (List.mem_cons_self ..)

theorem flatMap_congr' {α β} {l : List α} {f g : α → List β} (h : ∀ a ∈ l, f a = g a) : l.flatMap f = l.flatMap g := by
  rw [List.flatMap_def, List.flatMap_def, List.map_congr_left h]

theorem lookup_cons_ite {α β} [BEq α] [LawfulBEq α] [DecidableEq α] (a : α) (b : β) (l : List (α × β)) (n : α) :
    ((a, b) :: l).lookup n = if n = a then some b else l.lookup n := by
  rw [List.lookup_cons]
  by_cases h : n = a
  · simp [h]
  · rw [if_neg h, beq_eq_false_iff_ne.mpr h]

theorem lookup_filter {α β} [BEq α] [LawfulBEq α] [DecidableEq α] (f : α → Bool) (l : List (α × β)) (k : α) :
    (l.filter (fun p => f p.1)).lookup k = if f k then l.lookup k else none := by
  induction l with
  | nil => cases f k <;> rfl
  | cons x xs ih =>
    obtain ⟨a, b⟩ := x
    rw [List.filter_cons, lookup_cons_ite]
    by_cases hk : k = a
    · subst hk; cases hf : f k <;> simp [hf, ih]
    · cases hf : f a <;> simp [ih, lookup_cons_ite, hk]

theorem lookup_filter_ne {α} (l : List (Nat × α)) (k k' : Nat) (h : k' ≠ k) :
    (l.filter (fun x => !decide (x.1 = k))).lookup k' = l.lookup k' := by
  rw [lookup_filter (fun a => !decide (a = k)), if_pos (by simpa using h)]

theorem takeWhile_all {α} (p : α → Bool) (l : List α) (h : ∀ x ∈ l, p x = true) : l.takeWhile p = l := by
  simpa using List.takeWhile_append_of_pos (l₂ := []) h

theorem dropWhile_all {α} (p : α → Bool) (l : List α) (h : ∀ x ∈ l, p x = true) : l.dropWhile p = [] := by
  simpa using List.dropWhile_append_of_pos (l₂ := []) h

theorem takeWhile_append_stop {α} (p : α → Bool) (l : List α) (x : α) (r : List α)
    (h : ∀ a ∈ l, p a = true) (hx : p x = false) : (l ++ x :: r).takeWhile p = l := by
  rw [List.takeWhile_append_of_pos h, List.takeWhile_cons_of_neg (by simp [hx]), List.append_nil]

theorem dropWhile_append_stop {α} (p : α → Bool) (l : List α) (x : α) (r : List α)
    (h : ∀ a ∈ l, p a = true) (hx : p x = false) : (l ++ x :: r).dropWhile p = x :: r := by
  rw [List.dropWhile_append_of_pos h, List.dropWhile_cons_of_neg (by simp [hx])]

/- Instance search reaches these through `DecidableEq`, slowly, in every proof that compares bytes;
   named, they are found at once. -/
instance lawfulBEqByte : LawfulBEq UInt8 := inferInstance
instance lawfulBEqBytes : LawfulBEq (List UInt8) := inferInstance

theorem nodup_concat {α} {l : List α} {x : α} (h : l.Nodup) (hx : x ∉ l) : (l ++ [x]).Nodup :=
  List.nodup_append.mpr ⟨h, by simp, fun a ha b hb e => hx (List.mem_singleton.mp hb ▸ e ▸ ha)⟩

theorem getLast?_append_of_ne_nil {α} (l : List α) {l' : List α} (h : l' ≠ []) : (l ++ l').getLast? = l'.getLast? := by
  rw [List.getLast?_append, List.getLast?_eq_some_getLast h]; rfl

end CV
