import CV.Model.NodeSpec
/-
C19, framing: reading a stream in arbitrary segments (`feedAll`) processes the same packets as splitting the whole
stream at the delimiters (`feedAll_inv`), under hypotheses on what the codec oracle says about pieces of the stream
(`CodecOK`, `StreamOK`).  The one way the incremental reader runs ahead of the split: `add_buffer` also tries the
unterminated last piece, so a whole packet can be processed before its delimiter has arrived (`Inv.early`).
`Good` is what a correct peer's packets satisfy; a stream of such packets is `StreamOK` (`stream_good`).
-/
namespace CV
namespace Node
theorem splitD_nil : splitD [] = ([], []) := by
  unfold splitD; rfl

theorem splitD_cons (b : UInt8) (rest : Bytes) :
    splitD (b :: rest) =
      if DELIM.isPrefixOf (b :: rest) then ([] :: (splitD (rest.drop 2)).1, (splitD (rest.drop 2)).2)
      else consB b (splitD rest) := by
  rw [splitD]

theorem splitD_delim (y : Bytes) : splitD (DELIM ++ y) = ([] :: (splitD y).1, (splitD y).2) := by
  rw [show DELIM ++ y = 126 :: (126 :: 126 :: y) from rfl, splitD_cons,
    if_pos (show DELIM.isPrefixOf (126 :: 126 :: 126 :: y) = true from rfl)]
  rfl

theorem isPrefix_delim_iff (x : Bytes) : DELIM.isPrefixOf x = true ↔ ∃ y, x = DELIM ++ y :=
  List.isPrefixOf_iff_prefix.trans ⟨fun ⟨y, hy⟩ => ⟨y, hy.symm⟩, fun ⟨y, hy⟩ => ⟨y, hy.symm⟩⟩

theorem splitD_induct {P : Bytes → Prop} (nil : P []) (delim : ∀ y, P y → P (DELIM ++ y))
    (cons : ∀ b rest, ¬ DELIM.isPrefixOf (b :: rest) = true → P rest → P (b :: rest)) : ∀ x, P x := by
  intro x
  induction x using splitD.induct with
  | case1 => exact nil
  | case2 b rest hp ih =>
    obtain ⟨y, hy⟩ := (isPrefix_delim_iff _).mp hp
    have hr : rest.drop 2 = y := by cases hy; rfl
    exact hy ▸ delim y (hr ▸ ih)
  | case3 b rest hp ih => exact cons b rest hp ih

theorem delim_prefix_cases {t R y : Bytes} (h : t ++ R = DELIM ++ y) :
    (t.length < 3 ∧ (t = [] ∨ t = [126] ∨ t = [126, 126])) ∨ ∃ t', t = DELIM ++ t' ∧ y = t' ++ R := by
  by_cases hl : t.length < 3
  · have ht : t = DELIM.take t.length := by
      have := congrArg (List.take t.length) h
      rwa [List.take_left' rfl, List.take_append_of_le_length (Nat.le_of_lt hl)] at this
    refine .inl ⟨hl, ?_⟩
    rcases (by omega : t.length = 0 ∨ t.length = 1 ∨ t.length = 2) with hn | hn | hn <;> rw [hn] at ht
    · exact .inl ht
    · exact .inr (.inl ht)
    · exact .inr (.inr ht)
  · have hl : 3 ≤ t.length := Nat.le_of_not_lt hl
    have ht : t.take 3 = DELIM := by
      have := congrArg (List.take 3) h
      rwa [List.take_append_of_le_length hl, (List.take_left' rfl : List.take 3 (DELIM ++ y) = DELIM)] at this
    have hd : t.drop 3 ++ R = y := by
      have := congrArg (List.drop 3) h
      rwa [List.drop_append_of_le_length hl, (List.drop_left' rfl : List.drop 3 (DELIM ++ y) = y)] at this
    exact .inr ⟨t.drop 3, by rw [← ht, List.take_append_drop], hd.symm⟩

theorem splitD_one : splitD [126] = ([], [126]) := by
  rw [splitD_cons, if_neg (by decide), splitD_nil]; rfl

theorem splitD_two : splitD [126, 126] = ([], [126, 126]) := by
  rw [splitD_cons, if_neg (by decide), splitD_one]; rfl

theorem consB_nil {b : UInt8} {r : List Bytes × Bytes} (h : r.1 = []) : consB b r = ([], b :: r.2) := by
  rw [consB, h]

theorem consB_cons {b : UInt8} {r : List Bytes × Bytes} {p : Bytes} {ps : List Bytes} (h : r.1 = p :: ps) :
    consB b r = ((b :: p) :: ps, r.2) := by
  rw [consB, h]

theorem not_prefix_of_ne {b : UInt8} (hb : b ≠ 126) (l : Bytes) : DELIM.isPrefixOf (b :: l) = false := by
  have : (126 == b) = false := beq_false_of_ne (Ne.symm hb)
  simp only [DELIM, List.isPrefixOf, this, Bool.false_and]

theorem stream_cons (p : Bytes) (ps : List Bytes) : stream (p :: ps) = p ++ (DELIM ++ stream ps) := by
  simp [stream]

theorem stream_append (a b : List Bytes) : stream (a ++ b) = stream a ++ stream b := by
  simp [stream]

theorem stream_single (p : Bytes) : stream [p] = p ++ DELIM := by
  simp [stream]

theorem stream_splitD : ∀ x : Bytes, stream (splitD x).1 ++ (splitD x).2 = x := by
  refine splitD_induct (by simp [splitD_nil, stream]) (fun y ih => ?_) (fun b rest hp ih => ?_)
  · rw [splitD_delim, stream_cons, List.nil_append, List.append_assoc, ih]
  · rw [splitD_cons, if_neg hp]
    cases h1 : (splitD rest).1 with
    | nil => rw [consB_nil h1]; rw [h1] at ih; simpa [stream] using ih
    | cons p ps => rw [consB_cons h1, stream_cons]; rw [h1, stream_cons] at ih; exact congrArg (b :: ·) ih

theorem splitD_fst_nil {x : Bytes} (h : (splitD x).1 = []) : (splitD x).2 = x := by
  simpa [h, stream] using stream_splitD x

theorem splitD_append (x d : Bytes) :
    splitD (x ++ d) =
      ((splitD x).1 ++ (splitD ((splitD x).2 ++ d)).1, (splitD ((splitD x).2 ++ d)).2) := by
  induction x using splitD_induct with
  | nil => simp [splitD_nil]
  | delim y ih => rw [List.append_assoc, splitD_delim, splitD_delim, ih]; simp
  | cons b rest hp ih =>
    by_cases hq : DELIM.isPrefixOf ((b :: rest) ++ d) = true
    · -- the delimiter straddles the boundary: `b :: rest` is a proper part of it
      obtain ⟨y, hy⟩ := (isPrefix_delim_iff _).mp hq
      rcases delim_prefix_cases hy with ⟨_, h | h | h⟩ | ⟨t', ht, _⟩
      · cases h
      · rw [h, splitD_one]; simp
      · rw [h, splitD_two]; simp
      · exact absurd ((isPrefix_delim_iff _).mpr ⟨t', ht⟩) hp
    · rw [splitD_cons b rest, if_neg hp]
      cases h1 : (splitD rest).1 with
      | nil => rw [consB_nil h1, splitD_fst_nil h1]; simp
      | cons p ps =>
        rw [consB_cons h1, List.cons_append, splitD_cons, if_neg (show ¬ DELIM.isPrefixOf (b :: (rest ++ d)) = true from hq), ih, h1]
        simp [consB]

theorem splitD_last (x : Bytes) : splitD (splitD x).2 = ([], (splitD x).2) := by
  have h := splitD_append x []
  simp only [List.append_nil] at h
  have h1 : (splitD (splitD x).2).1 = [] := List.append_right_eq_self.mp (congrArg Prod.fst h).symm
  exact Prod.ext h1 (congrArg Prod.snd h).symm

theorem splitD_free_append {p : Bytes} (hp : TILDE ∉ p) (z : Bytes) :
    splitD (p ++ z) =
      match (splitD z).1 with
      | [] => ([], p ++ (splitD z).2)
      | q :: qs => ((p ++ q) :: qs, (splitD z).2) := by
  induction p with
  | nil => cases h : (splitD z).1 <;> simp [← h]
  | cons b p ih =>
    have hb : b ≠ 126 := by intro h; apply hp; simp [TILDE, h]
    rw [List.cons_append, splitD_cons, not_prefix_of_ne hb, ih fun h => hp (List.mem_cons_of_mem _ h)]
    cases (splitD z).1 <;> simp [consB]

theorem splitD_pkt {p : Bytes} (hp : TILDE ∉ p) (y : Bytes) :
    splitD (p ++ (DELIM ++ y)) = (p :: (splitD y).1, (splitD y).2) := by
  simp only [splitD_free_append hp, splitD_delim, List.append_nil]

theorem splitD_pkt_short {p t : Bytes} (hp : TILDE ∉ p) (ht : t = [] ∨ t = [126] ∨ t = [126, 126]) :
    splitD (p ++ t) = ([], p ++ t) := by
  rw [splitD_free_append hp]
  rcases ht with rfl | rfl | rfl
  · rw [splitD_nil]
  · rw [splitD_one]
  · rw [splitD_two]

/-- the pieces `procPieces` passes on when no handler raises: those the oracle processes -/
def okPieces (proc : Bytes → POut) (ps : List Bytes) : List Bytes := ps.filter (fun q => proc q = .done)

/-- hypotheses on the codec oracle: nothing, `~` and `~~` are not packets -/
structure CodecOK (proc : Bytes → POut) : Prop where
  e0 : proc [] = .valueError
  e1 : proc [126] = .valueError
  e2 : proc [126, 126] = .valueError

/-- hypotheses on a byte stream `S` (all of them about what the oracle says on pieces of `S`):
    no piece makes the handler fail, and an unterminated piece that already parses is a whole
    `~`-free packet directly followed by the delimiter -/
structure StreamOK (proc : Bytes → POut) (S : Bytes) : Prop where
  noRaise : ∀ X R, S = X ++ R → (∀ q ∈ (splitD X).1, proc q ≠ .raised) ∧ proc (splitD X).2 ≠ .raised
  whole : ∀ X R, S = X ++ R → proc (splitD X).2 = .done → TILDE ∉ (splitD X).2 ∧ ∃ y, R = DELIM ++ y

theorem procPieces_noRaise {proc : Bytes → POut} {ps : List Bytes} (h : ∀ q ∈ ps, proc q ≠ .raised) :
    procPieces proc ps = (okPieces proc ps, false) := by
  induction ps with
  | nil => simp [procPieces, okPieces]
  | cons p ps ih =>
    have hp := h p (by simp)
    have ih' := ih (fun q hq => h q (by simp [hq]))
    unfold procPieces
    cases hc : proc p with
    | raised => exact absurd hc hp
    | valueError => simp [ih', okPieces, hc]
    | done => simp [ih', okPieces, hc]

theorem feed_valueError {proc : Bytes → POut} {buf d : Bytes}
    (h : ∀ q ∈ (splitD (buf ++ d)).1, proc q ≠ .raised) (hv : proc (splitD (buf ++ d)).2 = .valueError) :
    feed proc buf d = ⟨(splitD (buf ++ d)).2, okPieces proc (splitD (buf ++ d)).1, false⟩ := by
  simp [feed, procPieces_noRaise h, hv]

theorem feed_done {proc : Bytes → POut} {buf d : Bytes}
    (h : ∀ q ∈ (splitD (buf ++ d)).1, proc q ≠ .raised) (hv : proc (splitD (buf ++ d)).2 = .done) :
    feed proc buf d = ⟨[], okPieces proc (splitD (buf ++ d)).1 ++ [(splitD (buf ++ d)).2], false⟩ := by
  simp [feed, procPieces_noRaise h, hv]

/-- State of the real buffer `buf` and of the packets processed so far `outs`, relative to the strict split of the
    bytes consumed so far `X` (`R`: the bytes still to come).  `plain`: they are the split's last piece and its
    processed pieces.  `early p t y`: the last piece is a packet `p`, processed already, followed by a part `t` of its
    delimiter; the rest of the delimiter is the head of `R`. -/
inductive Inv (proc : Bytes → POut) (X R buf : Bytes) (outs : List Bytes) : Prop where
  | plain (hb : buf = (splitD X).2) (ho : outs = okPieces proc (splitD X).1)
  | early (p t y : Bytes) (hs : (splitD X).2 = p ++ t) (hb : buf = t) (hl : t.length < 3) (hp : TILDE ∉ p)
      (hd : proc p = .done) (ho : outs = okPieces proc (splitD X).1 ++ [p]) (hy : t ++ R = DELIM ++ y)

theorem Inv.of_nil {proc : Bytes → POut} {X buf : Bytes} {outs : List Bytes} (h : Inv proc X [] buf outs) :
    buf = (splitD X).2 ∧ outs = okPieces proc (splitD X).1 := by
  cases h with
  | plain hb ho => exact ⟨hb, ho⟩
  | early p t y hs hb hl hp hd ho hy =>
    have := congrArg List.length hy
    simp [DELIM] at this
    omega

theorem okPieces_append (proc : Bytes → POut) (a b : List Bytes) :
    okPieces proc (a ++ b) = okPieces proc a ++ okPieces proc b := by simp [okPieces]

theorem feed_tail {proc : Bytes → POut} {S X R' : Bytes} (hS : StreamOK proc S) (hX : S = X ++ R')
    {outs : List Bytes} (ho : outs = okPieces proc (splitD X).1) :
    (proc (splitD X).2 = .valueError ∧ Inv proc X R' (splitD X).2 outs) ∨
    (proc (splitD X).2 = .done ∧ Inv proc X R' [] (outs ++ [(splitD X).2])) := by
  have hnr := (hS.noRaise X R' hX).2
  cases hc : proc (splitD X).2 with
  | raised => exact absurd hc hnr
  | valueError => exact Or.inl ⟨rfl, .plain rfl ho⟩
  | done =>
    obtain ⟨ht, y, hy⟩ := hS.whole X R' hX hc
    refine Or.inr ⟨rfl, .early (splitD X).2 [] y (by simp) rfl (by simp) ht hc (by rw [ho]) (by simpa using hy)⟩

theorem feed_step_of {proc : Bytes → POut} {S X d R' buf : Bytes} {outs : List Bytes} (hS : StreamOK proc S)
    (hX' : S = (X ++ d) ++ R') (hl : (splitD (buf ++ d)).2 = (splitD (X ++ d)).2)
    (ho : okPieces proc (splitD (X ++ d)).1 = outs ++ okPieces proc (splitD (buf ++ d)).1)
    (hnr : ∀ q ∈ (splitD (buf ++ d)).1, proc q ≠ .raised) :
    (feed proc buf d).aborted = false ∧
    Inv proc (X ++ d) R' (feed proc buf d).buf (outs ++ (feed proc buf d).done) := by
  rcases feed_tail hS hX' ho.symm with ⟨hv, hi⟩ | ⟨hv, hi⟩ <;> rw [← hl] at hv hi
  · rw [feed_valueError hnr hv]; exact ⟨rfl, hi⟩
  · rw [feed_done hnr hv]; exact ⟨rfl, by simpa [List.append_assoc] using hi⟩

theorem feed_step {proc : Bytes → POut} (hC : CodecOK proc) {S X d R' buf : Bytes} {outs : List Bytes}
    (hS : StreamOK proc S) (hX : S = X ++ (d ++ R')) (hI : Inv proc X (d ++ R') buf outs) :
    (feed proc buf d).aborted = false ∧
    Inv proc (X ++ d) R' (feed proc buf d).buf (outs ++ (feed proc buf d).done) := by
  have hX' : S = (X ++ d) ++ R' := by rw [hX, List.append_assoc]
  have hnr := (hS.noRaise (X ++ d) R' hX').1
  have hsp := splitD_append X d
  cases hI with
  | plain hb ho =>
    subst hb
    refine feed_step_of hS hX' (by rw [hsp]) (by rw [hsp, okPieces_append, ho]) fun q hq => hnr q ?_
    rw [hsp]; exact List.mem_append_right _ hq
  | early p t y hs hb hl hp hd ho hy =>
    rw [hb]
    rw [hs, List.append_assoc] at hsp
    have hy' : (t ++ d) ++ R' = DELIM ++ y := by rw [← hy, List.append_assoc]
    rcases delim_prefix_cases hy' with ⟨hlen, hsh⟩ | ⟨y0, h3, _⟩
    · -- still inside the delimiter: nothing is processed, the early packet stays early
      have hsplit : splitD (t ++ d) = ([], t ++ d) := by simpa using splitD_pkt_short (p := []) (by simp) hsh
      have hv : proc (t ++ d) = .valueError := by
        rcases hsh with h | h | h <;> rw [h]
        · exact hC.e0
        · exact hC.e1
        · exact hC.e2
      rw [splitD_pkt_short hp hsh] at hsp
      rw [feed_valueError (by rw [hsplit]; simp) (by rw [hsplit]; exact hv), hsplit]
      exact ⟨rfl, .early p (t ++ d) y (by rw [hsp]) rfl hlen hp hd (by rw [hsp]; simp [ho, okPieces]) hy'⟩
    · -- the delimiter is complete: the strict split now has the early packet as a piece, the read's own split an empty one
      rw [h3, splitD_pkt hp] at hsp
      have hsplit : splitD (t ++ d) = ([] :: (splitD y0).1, (splitD y0).2) := by rw [h3, splitD_delim]
      refine feed_step_of hS hX' (by rw [hsp, hsplit]) ?_ ?_
      · rw [hsp, hsplit, okPieces_append, ho]; simp [okPieces, hd, hC.e0]
      · rw [hsplit]
        intro q hq
        rcases List.mem_cons.mp hq with h | h
        · rw [h, hC.e0]; simp
        · exact hnr q (by rw [hsp]; simp [h])

/-- segmentation does not matter: from a state related to the consumed part `X` of `S`, reading the rest in any
    segments ends with the split's last piece in the buffer, its processed pieces done, and no read aborted -/
theorem feedAll_inv {proc : Bytes → POut} (hC : CodecOK proc) {S : Bytes} (hS : StreamOK proc S) :
    ∀ (segs : List Bytes) (X buf : Bytes) (outs : List Bytes),
      S = X ++ segs.flatten → Inv proc X segs.flatten buf outs →
      (feedAll proc buf segs).1 = (splitD S).2 ∧
      outs ++ (feedAll proc buf segs).2.1 = okPieces proc (splitD S).1 ∧
      (feedAll proc buf segs).2.2 = false := by
  intro segs
  induction segs with
  | nil =>
    intro X buf outs hX hI
    simp only [List.flatten_nil, List.append_nil] at hX hI
    obtain ⟨hb, ho⟩ := hI.of_nil
    simp [feedAll, hX, hb, ho]
  | cons d ds ih =>
    intro X buf outs hX hI
    have hX2 : S = X ++ (d ++ ds.flatten) := by simpa using hX
    have hI2 : Inv proc X (d ++ ds.flatten) buf outs := by simpa using hI
    obtain ⟨hab, hinv⟩ := feed_step hC hS hX2 hI2
    have hX3 : S = (X ++ d) ++ ds.flatten := by rw [hX2]; simp
    obtain ⟨h1, h2, h3⟩ := ih (X ++ d) _ _ hX3 hinv
    simp only [feedAll]
    refine ⟨h1, ?_, ?_⟩
    · rw [← h2]; simp [List.append_assoc]
    · simp [hab, h3]

/-- what the oracle says about a packet body a correct peer writes: it parses and is processed,
    contains no `~` (the escape), none of its proper prefixes parses (JSON objects are
    self-delimiting) and it does not parse with one or two `~` appended -/
structure Good (proc : Bytes → POut) (p : Bytes) : Prop where
  noTilde : TILDE ∉ p
  done : proc p = .done
  prefixes : ∀ q r, p = q ++ r → r ≠ [] → proc q = .valueError
  t1 : proc (p ++ [126]) = .valueError
  t2 : proc (p ++ [126, 126]) = .valueError

theorem splitD_stream {pkts : List Bytes} (hT : ∀ p ∈ pkts, TILDE ∉ p) (y : Bytes) :
    splitD (stream pkts ++ y) = (pkts ++ (splitD y).1, (splitD y).2) := by
  induction pkts with
  | nil => simp [stream]
  | cons p ps ih =>
    rw [stream_cons, List.append_assoc, List.append_assoc, splitD_pkt (hT p List.mem_cons_self),
      ih fun q hq => hT q (List.mem_cons_of_mem _ hq)]
    rfl

theorem splitD_prefix {X R : Bytes} {pkts : List Bytes} (h : splitD (X ++ R) = (pkts, [])) :
    pkts = (splitD X).1 ++ (splitD ((splitD X).2 ++ R)).1 ∧ (splitD ((splitD X).2 ++ R)).2 = [] := by
  rw [splitD_append] at h
  exact ⟨(congrArg Prod.fst h).symm, congrArg Prod.snd h⟩

theorem Good.tail_cases {proc : Bytes → POut} {q l R S' : Bytes} (hq : Good proc q) (hl : (splitD l).1 = [])
    (h : l ++ R = q ++ (DELIM ++ S')) :
    (∃ r, q = l ++ r ∧ r ≠ []) ∨
      ∃ t, (t = [] ∨ t = [126] ∨ t = [126, 126]) ∧ l = q ++ t ∧ ∃ y, t ++ R = DELIM ++ y := by
  rcases List.append_eq_append_iff.mp h with ⟨r, hr, hR⟩ | ⟨c, hc, hS⟩
  · by_cases h0 : r = []
    · exact .inr ⟨[], .inl rfl, by simp [hr, h0], S', by simp [hR, h0]⟩
    · exact .inl ⟨r, hr, h0⟩
  · rcases delim_prefix_cases hS.symm with ⟨_, hsh⟩ | ⟨t', ht, _⟩
    · exact .inr ⟨c, hsh, hc, S', hS.symm⟩
    · rw [hc, ht, splitD_pkt hq.noTilde] at hl
      cases hl

theorem stream_good {proc : Bytes → POut} (hC : CodecOK proc) :
    ∀ pkts : List Bytes, (∀ p ∈ pkts, Good proc p) →
      StreamOK proc (stream pkts) ∧ splitD (stream pkts) = (pkts, []) := by
  intro pkts hG
  have hsplit : splitD (stream pkts) = (pkts, []) := by
    simpa [splitD_nil] using splitD_stream (fun p hp => (hG p hp).noTilde) []
  -- a prefix `X`: its terminated pieces are packets; its tail does not parse, unless it is the whole next packet
  have key : ∀ X R, stream pkts = X ++ R → (∀ q ∈ (splitD X).1, proc q = .done) ∧
      (proc (splitD X).2 = .valueError ∨
        proc (splitD X).2 = .done ∧ TILDE ∉ (splitD X).2 ∧ ∃ y, R = DELIM ++ y) := by
    intro X R h
    obtain ⟨hp, hl⟩ := splitD_prefix (h ▸ hsplit)
    have hj := stream_splitD ((splitD X).2 ++ R)
    rw [hl, List.append_nil] at hj
    refine ⟨fun q hq => (hG q (hp ▸ List.mem_append_left _ hq)).done, ?_⟩
    cases hqs : (splitD ((splitD X).2 ++ R)).1 with
    | nil =>
      rw [hqs] at hj
      rw [(List.append_eq_nil_iff.mp hj.symm).1]
      exact .inl hC.e0
    | cons q qs =>
      rw [hqs, stream_cons] at hj
      have hq := hG q (hp ▸ hqs ▸ List.mem_append_right _ List.mem_cons_self)
      rcases hq.tail_cases (congrArg Prod.fst (splitD_last X)) hj.symm with
        ⟨r, hr, h0⟩ | ⟨t, ht, hlt, y, hy⟩
      · exact .inl (hq.prefixes _ r hr h0)
      · rw [hlt]
        rcases ht with rfl | rfl | rfl
        · exact .inr ⟨by rw [List.append_nil]; exact hq.done, by rw [List.append_nil]; exact hq.noTilde, y, by simpa using hy⟩
        · exact .inl hq.t1
        · exact .inl hq.t2
  refine ⟨⟨fun X R h => ?_, fun X R h hd => ?_⟩, hsplit⟩
  · obtain ⟨h1, h2⟩ := key X R h
    refine ⟨fun q hq => by rw [h1 q hq]; simp, ?_⟩
    rcases h2 with h2 | ⟨h2, _⟩ <;> rw [h2] <;> simp
  · rcases (key X R h).2 with h2 | ⟨_, h2⟩
    · rw [h2] at hd; cases hd
    · exact h2

theorem escTilde_noTilde (x : Bytes) : TILDE ∉ escTilde x := by
  intro h
  obtain ⟨b, _, hb⟩ := List.mem_flatMap.mp h
  split at hb
  · exact absurd hb (by decide)
  · next hne => exact hne (List.mem_singleton.mp hb).symm

end Node
end CV
