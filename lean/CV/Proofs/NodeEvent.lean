import CV.Model.NodeSpec
/-
For C19: `load_event` and its META_EXCLUDE filter (`loadEvent_ok`); what one packet does (`processJ_call`, `processJ_value`);
what a read may do whatever the bytes are (`ReadOk`); reads as framing followed by packet processing (`recvAll_eq`);
the effects of a read sorted by kind.
-/
namespace CV
namespace Node

theorem strKeys_map (kvs : List (String × J)) :
    strKeys (kvs.map (fun kv => (J.str kv.1, kv.2))) = some kvs := by
  induction kvs with
  | nil => simp [strKeys]
  | cons kv r ih => obtain ⟨k, v⟩ := kv; simp [strKeys, ih]

theorem lookup_filter_ne (k k' : String) (h : k' ≠ k) (l : List (String × J)) :
    J.lookup k (l.filter (·.1 ≠ k')) = J.lookup k l := by
  induction l with
  | nil => simp [J.lookup]
  | cons kv r ih =>
    obtain ⟨a, v⟩ := kv
    simp only [ne_eq, decide_not] at ih ⊢
    by_cases ha : a = k'
    · have hak : a ≠ k := by rw [ha]; exact h
      simp [J.lookup, ha, ih, h]
    · by_cases hk : a = k
      · subst hk
        have : ¬ a = k' := ha
        simp [J.lookup, this]
      · simp [J.lookup, ha, hk, ih]

theorem lookup_append_none (k : String) (l m : List (String × J)) (h : J.lookup k m = none) :
    J.lookup k (l ++ m) = J.lookup k l := by
  induction l with
  | nil => simpa [J.lookup] using h
  | cons kv r ih =>
    obtain ⟨a, v⟩ := kv
    by_cases hk : a = k <;> simp [J.lookup, hk, ih]

theorem lookup_setAttr_ne (k k' : String) (v : J) (h : k' ≠ k) (l : List (String × J)) :
    J.lookup k (setAttr l k' v) = J.lookup k l := by
  unfold setAttr
  rw [lookup_append_none, lookup_filter_ne k k' h]
  simp [J.lookup, h]

theorem applyMeta_excluded (excl : List String) (k : String) (hk : k ∈ excl) :
    ∀ (kvs attrs : List (String × J)), J.lookup k attrs = none → J.lookup k (applyMeta excl attrs kvs) = none := by
  intro kvs
  induction kvs with
  | nil => intro attrs h; simpa [applyMeta] using h
  | cons kv r ih =>
    intro attrs h
    obtain ⟨k', v⟩ := kv
    simp only [applyMeta]
    apply ih
    by_cases hm : metaOk excl k' = true
    · simp only [hm, if_true]
      have hne : k' ≠ k := by
        intro he
        simp [metaOk, he] at hm
        exact hm.2 hk
      rw [lookup_setAttr_ne k k' v hne]; exact h
    · simp only [hm]; exact h

/-- the result of `load_event`, whatever the packet: protected attributes untouched,
    channels usable as a cache key -/
theorem loadEvent_ok {excl : List String} {j : J} {e : Ev} {id : J} (h : loadEvent excl j = .ok (e, id)) :
    (∀ k ∈ excl, e.attr k = none) ∧ e.channels.all J.hashable = true := by
  unfold loadEvent at h
  repeat' split at h
  all_goals first
    | (cases h; done)
    | (cases h
       refine ⟨?_, ?_⟩
       · intro k hk
         exact applyMeta_excluded excl k hk _ [] (by simp [J.lookup])
       · simp_all)

/-- what a call packet makes the protocol do: nothing, one dispatch, or the firewall's refusal -/
def callEffs (c : Cfg) (j : J) : List Eff :=
  match loadEvent c.excl j with
  | .ok (e, id) => if c.recvOk e then [.fire e id] else [.write (dumpValue c.excl id (.bool false) .null e.attrs)]
  | _ => []

theorem processJ_call (c : Cfg) (s : Proto) {j : J} (h : isValuePacket j = false) :
    processJ c s j = (s, callEffs c j) := by
  unfold processJ callEffs
  rw [if_neg (by rw [h]; exact Bool.false_ne_true)]
  cases loadEvent c.excl j with
  | ok p => obtain ⟨e, id⟩ := p; dsimp only; split <;> rfl
  | drop => rfl
  | raised => rfl

theorem processJ_value (c : Cfg) (s : Proto) {j : J} (h : isValuePacket j = true) :
    processJ c s j = (s, []) ∨
      ∃ n v er m, s.pending.any (·.id = n) = true ∧
        processJ c s j = ({ s with pending := resolvePending s.pending n v er m }, [.resolve n v er]) := by
  unfold processJ
  rw [if_pos h]
  split
  · split
    · split
      · exact Or.inr ⟨_, _, _, _, ‹_›, rfl⟩
      · exact Or.inl rfl
    · exact Or.inl rfl
  · exact Or.inl rfl

theorem mem_callEffs {c : Cfg} {j : J} {x : Eff} (h : x ∈ callEffs c j) :
    (∃ e id, x = .fire e id ∧ c.recvOk e = true) ∨ ∃ pkt, x = .write pkt := by
  unfold callEffs at h
  split at h
  · split at h
    · exact .inl ⟨_, _, List.mem_singleton.mp h, ‹_›⟩
    · exact .inr ⟨_, List.mem_singleton.mp h⟩
  · cases h

theorem processJ_value_effects (c : Cfg) (s : Proto) (j : J) (h : isValuePacket j = true) :
    ∀ x ∈ (processJ c s j).2, ∃ n v er, x = Eff.resolve n v er := by
  intro x hx
  rcases processJ_value c s h with h' | ⟨n, v, er, m, _, h'⟩ <;> rw [h'] at hx
  · cases hx
  · exact ⟨n, v, er, List.mem_singleton.mp hx⟩

theorem processJ_call_effects (c : Cfg) (s : Proto) (j : J) (h : isValuePacket j = false) :
    (processJ c s j).1 = s ∧ ∀ n v er, Eff.resolve n v er ∉ (processJ c s j).2 := by
  rw [processJ_call c s h]
  refine ⟨rfl, fun n v er hm => ?_⟩
  obtain ⟨_, _, he, _⟩ | ⟨_, hp⟩ := mem_callEffs hm
  · cases he
  · cases hp

def processP (c : Cfg) (parse : Bytes → PRes) (s : Proto) (p : Bytes) : Proto × List Eff :=
  match parse p with
  | .parsed j => processJ c s j
  | _ => (s, [])

theorem processAll_cons (c : Cfg) (parse : Bytes → PRes) (s : Proto) (p : Bytes) (ps : List Bytes) :
    processAll c parse s (p :: ps) =
      ((processAll c parse (processP c parse s p).1 ps).1,
       (processP c parse s p).2 ++ (processAll c parse (processP c parse s p).1 ps).2) := by
  cases hp : parse p <;> simp only [processAll, processP, hp] <;> rfl

def pids (s : Proto) : List Nat := s.pending.map (·.id)

theorem resolvePending_ids (ps : List Pending) (n : Nat) (v er : J) (m : List (String × J)) :
    (resolvePending ps n v er m).map (·.id) = ps.map (·.id) := by
  unfold resolvePending
  rw [List.map_map]
  apply List.map_congr_left
  intro p _
  simp only [Function.comp]
  split <;> rfl

/-- what holds of the outcome `r` (state, effects) of processing packets in state `s`, whatever the packets -/
structure ReadOk (c : Cfg) (s : Proto) (r : Proto × List Eff) : Prop where
  nid : r.1.nid = s.nid
  pids : pids r.1 = pids s
  fire : ∀ e id, Eff.fire e id ∈ r.2 → c.recvOk e = true
  resolve : ∀ n v er, Eff.resolve n v er ∈ r.2 → n ∈ Node.pids s

theorem ReadOk.refl (c : Cfg) (s : Proto) : ReadOk c s (s, []) :=
  ⟨rfl, rfl, fun _ _ h => (nomatch h), fun _ _ _ h => (nomatch h)⟩

theorem ReadOk.trans {c : Cfg} {s : Proto} {r r2 : Proto × List Eff} (h : ReadOk c s r) (h2 : ReadOk c r.1 r2) :
    ReadOk c s (r2.1, r.2 ++ r2.2) :=
  ⟨h2.nid.trans h.nid, h2.pids.trans h.pids,
   fun e id hm => (List.mem_append.mp hm).elim (h.fire e id) (h2.fire e id),
   fun n v er hm => (List.mem_append.mp hm).elim (h.resolve n v er) fun hm => h.pids ▸ h2.resolve n v er hm⟩

theorem processJ_readOk (c : Cfg) (s : Proto) (j : J) : ReadOk c s (processJ c s j) := by
  cases hv : isValuePacket j
  · obtain ⟨h1, h2⟩ := processJ_call_effects c s j hv
    refine ⟨by rw [h1], by rw [h1], fun e id h => ?_, fun n v er h => absurd h (h2 n v er)⟩
    rw [processJ_call c s hv] at h
    obtain ⟨_, _, he, hr⟩ | ⟨_, hp⟩ := mem_callEffs h
    · cases he; exact hr
    · cases hp
  · rcases processJ_value c s hv with h' | ⟨n, v, er, m, hany, h'⟩ <;> rw [h']
    · exact ReadOk.refl c s
    · refine ⟨rfl, resolvePending_ids _ _ _ _ _, fun _ _ h => (nomatch List.mem_singleton.mp h),
        fun n' v' er' hm => ?_⟩
      cases List.mem_singleton.mp hm
      obtain ⟨p, hp, hpe⟩ := List.any_eq_true.mp hany
      exact List.mem_map.mpr ⟨p, hp, by simpa using hpe⟩

theorem processAll_readOk (c : Cfg) (parse : Bytes → PRes) :
    ∀ (ps : List Bytes) (s : Proto), ReadOk c s (processAll c parse s ps) := by
  intro ps
  induction ps with
  | nil => exact ReadOk.refl c
  | cons p ps ih =>
    intro s
    have hp : ReadOk c s (processP c parse s p) := by
      unfold processP; split
      · exact processJ_readOk c s _
      · exact ReadOk.refl c s
    rw [processAll_cons]
    exact hp.trans (ih _)

theorem recv_readOk (c : Cfg) (parse : Bytes → PRes) (s : Proto) (d : Bytes) :
    ReadOk c s ((recv c parse s d).1, (recv c parse s d).2.1) :=
  have h := processAll_readOk c parse (feed (procOf c.excl parse) s.buf d).done
    { s with buf := (feed (procOf c.excl parse) s.buf d).buf }
  ⟨h.nid, h.pids, h.fire, h.resolve⟩

theorem processJ_buf (c : Cfg) (s : Proto) (b : Bytes) (j : J) :
    processJ c { s with buf := b } j = ({ (processJ c s j).1 with buf := b }, (processJ c s j).2) := by
  cases h : isValuePacket j
  · rw [processJ_call c _ h, processJ_call c s h]
  · unfold processJ
    rw [if_pos h, if_pos h]
    split
    · split
      · split <;> rfl
      · rfl
    · rfl

theorem processAll_buf (c : Cfg) (parse : Bytes → PRes) (b : Bytes) :
    ∀ (l : List Bytes) (s : Proto),
      processAll c parse { s with buf := b } l =
        ({ (processAll c parse s l).1 with buf := b }, (processAll c parse s l).2) := by
  intro l
  induction l with
  | nil => intro s; rfl
  | cons p ps ih =>
    intro s
    have hp : processP c parse { s with buf := b } p =
        ({ (processP c parse s p).1 with buf := b }, (processP c parse s p).2) := by
      unfold processP; split
      · exact processJ_buf c s b _
      · rfl
    rw [processAll_cons, processAll_cons, hp, ih]

theorem processAll_append (c : Cfg) (parse : Bytes → PRes) :
    ∀ (a b : List Bytes) (s : Proto),
      processAll c parse s (a ++ b) =
        ((processAll c parse (processAll c parse s a).1 b).1,
         (processAll c parse s a).2 ++ (processAll c parse (processAll c parse s a).1 b).2) := by
  intro a
  induction a with
  | nil => intro b s; simp [processAll]
  | cons p ps ih =>
    intro b s
    rw [List.cons_append, processAll_cons, processAll_cons, ih, List.append_assoc]

/-- a read is framing followed by packet processing -/
theorem recv_eq (c : Cfg) (parse : Bytes → PRes) (s : Proto) (d : Bytes) :
    recv c parse s d =
      ({ (processAll c parse s (feed (procOf c.excl parse) s.buf d).done).1 with
            buf := (feed (procOf c.excl parse) s.buf d).buf },
       (processAll c parse s (feed (procOf c.excl parse) s.buf d).done).2,
       (feed (procOf c.excl parse) s.buf d).aborted) := by
  simp only [recv]
  rw [processAll_buf]

theorem recvAll_eq (c : Cfg) (parse : Bytes → PRes) :
    ∀ (segs : List Bytes) (s : Proto),
      recvAll c parse s segs =
        ({ (processAll c parse s (feedAll (procOf c.excl parse) s.buf segs).2.1).1 with
            buf := (feedAll (procOf c.excl parse) s.buf segs).1 },
         (processAll c parse s (feedAll (procOf c.excl parse) s.buf segs).2.1).2) := by
  intro segs
  induction segs with
  | nil => intro s; simp [recvAll, feedAll, processAll]
  | cons d ds ih =>
    intro s
    simp only [recvAll, recv_eq, feedAll]
    rw [ih, processAll_buf, processAll_append]

def firesOf : List Eff → List (Ev × J)
  | [] => []
  | .fire e id :: r => (e, id) :: firesOf r
  | _ :: r => firesOf r

def resolvesOf : List Eff → List (Nat × J × J)
  | [] => []
  | .resolve n v er :: r => (n, v, er) :: resolvesOf r
  | _ :: r => resolvesOf r

/-- the handlers started by a run of dispatches are numbered consecutively from `k` on -/
def runsFrom (k : Nat) : List (Ev × J) → List (Ev × J × Nat)
  | [] => []
  | (e, id) :: r => (e, id, k) :: runsFrom (k + 1) r

theorem mem_firesOf {x : Ev × J} : ∀ {effs : List Eff}, x ∈ firesOf effs ↔ Eff.fire x.1 x.2 ∈ effs
  | [] => by simp [firesOf]
  | ef :: r => by cases ef <;> simp [firesOf, mem_firesOf (effs := r), Prod.ext_iff]

theorem mem_resolvesOf {x : Nat × J × J} :
    ∀ {effs : List Eff}, x ∈ resolvesOf effs ↔ Eff.resolve x.1 x.2.1 x.2.2 ∈ effs
  | [] => by simp [resolvesOf]
  | ef :: r => by cases ef <;> simp [resolvesOf, mem_resolvesOf (effs := r), Prod.ext_iff]

theorem runsFrom_length (l : List (Ev × J)) : ∀ k, (runsFrom k l).length = l.length := by
  induction l with
  | nil => intro _; rfl
  | cons x r ih => intro k; simp [runsFrom, ih]

end Node
end CV
