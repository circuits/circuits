import CV.Proofs.NodeTwo
/-
C19, symmetric composition (`ns_step`, CV/Model/NodeTwo.lean): both ends of one connection originate calls.
`ns_Act` lists what one step of one end can be; the invariants of this file are proved by cases on it.
The two ends are interchangeable (`ns_step_swap`): a symmetric invariant is shown for a step of A, and a
step of B is a step of A in the world with the ends exchanged.
Hypothesis-free facts (no assumption about the codec, the bytes on the wire, the peer, the handlers):
  * the send firewall: a rejected call changes nothing but `todo` / `blocked` (`ns_act_send_blocked`),
    and consumes no id (`ns_run_count`)
  * the receive firewalls are gates on both ends (`ns_Act.gate`, kept over a run by `ns_run_ok`)
  * packets (CV/Proofs/NodeEvent.lean): a result packet is never dispatched as a call, a call packet never resolves a
    waiting call
  * ids: an answer is only ever accepted for an id that is registered in the accepting end's OWN table, i.e. one of
    the calls this end made itself (`ReadOk.resolve`, `ns_SideOk`); a waiting caller is resumed at most once
-/
namespace CV
namespace Node

theorem ns_send_blocked_proto (c : Cfg) (s : Proto) (e : Ev) (nr : Bool) (h : c.sendOk e = false) :
    send c s e nr = (s, []) := by
  simp [send, h]

theorem ns_pids_finish (s : Proto) (n : Nat) : pids (finish s n) = (pids s).filter (· ≠ n) := by
  simp [finish, pids, List.filter_map, Function.comp_def]

theorem ns_finish_nid (s : Proto) (n : Nat) : (finish s n).nid = s.nid := rfl

theorem ns_poll_mem (s : Proto) (n : Nat) (pe : Pending) (h : poll s n = some pe) : n ∈ pids s := by
  unfold poll at h
  have h1 := List.find?_some h
  have h2 := List.mem_of_find?_eq_some h
  exact List.mem_map.mpr ⟨pe, h2, by simpa using h1⟩

section
variable (c : Cfg) (parse : Bytes → PRes) (dumps : J → Bytes) (beh : Nat → Ev → Option (J × List (String × J)))

/-- the steps of `ns_act`, as a relation to (me', peer', a read handler raised); `idle` is nothing left to send, no such
    handler, no such finished call -/
inductive ns_Act (me peer : ns_Side) : ns_Op → ns_Side × ns_Side × Bool → Prop
  | idle (op : ns_Op) : ns_Act me peer op (me, peer, false)
  | blocked (e : Ev) (rest : List Ev) (ht : me.todo = e :: rest) (hb : c.sendOk e = false) :
      ns_Act me peer .send ({ me with todo := rest, blocked := me.blocked ++ [e] }, peer, false)
  | sent (e : Ev) (rest : List Ev) (ht : me.todo = e :: rest) (hs : c.sendOk e = true) :
      ns_Act me peer .send
        ({ me with p := { me.p with nid := me.p.nid + 1,
                                    pending := me.p.pending ++ [⟨me.p.nid, false, [], .null, []⟩] },
                   todo := rest, out := me.out ++ wire (dumps (dumpEvent c.excl e (n2_idJ me.p.nid))) }, peer, false)
  | read (n : Nat) (p' : Proto) (effs : List Eff) (ab : Bool)
      (hr : recv c parse me.p (peer.out.take n) = (p', effs, ab)) :
      ns_Act me peer (.deliver n)
        ({ me with p := p', running := me.running ++ runsFrom me.fired.length (firesOf effs),
                   fired := me.fired ++ firesOf effs, out := me.out ++ n2_wire dumps effs,
                   resolved := me.resolved ++ resolvesOf effs },
         { peer with out := peer.out.drop n }, ab)
  | returned (n : Nat) (e : Ev) (id : J) (k : Nat)
      (hf : me.running.find? (fun r => r.2.1.natKey == some n) = some (e, id, k)) :
      ns_Act me peer (.answer n)
        ({ me with running := me.running.eraseP (fun r => r.2.1.natKey == some n),
                   out := me.out ++ (beh k e).elim [] fun va => n2_wire dumps [sendResult c id va.1 va.2] },
         peer, false)
  | resumed (n : Nat) (pe : Pending) (hp : poll me.p n = some pe) (hf : pe.finished = true) :
      ns_Act me peer (.poll n)
        ({ me with p := finish me.p n, yielded := me.yielded ++ [(n, pe.values, pe.errors)] }, peer, false)

theorem ns_act_spec (me peer : ns_Side) (op : ns_Op) :
    ns_Act c parse dumps beh me peer op (ns_act c parse dumps beh me peer op) := by
  cases op with
  | send =>
    simp only [ns_act]
    split
    · exact .idle _
    · rename_i e rest ht
      cases hs : c.sendOk e
      · simpa [send, hs, n2_wire] using
          ns_Act.blocked (c := c) (parse := parse) (dumps := dumps) (beh := beh) (peer := peer) e rest ht hs
      · simpa [send, hs, n2_wire, n2_idJ] using
          ns_Act.sent (c := c) (parse := parse) (dumps := dumps) (beh := beh) (peer := peer) e rest ht hs
  | deliver n => rw [ns_act, ns_absorb_eq]; exact .read n _ _ _ rfl
  | answer n =>
    simp only [ns_act]
    split
    · exact .idle _
    · rename_i e id k hf
      have := ns_Act.returned (c := c) (parse := parse) (dumps := dumps) (beh := beh) (peer := peer) n e id k hf
      cases hb : beh k e <;> simpa [hb] using this
  | poll n =>
    simp only [ns_act]
    split
    · rename_i pe hp
      split
      · exact .resumed n pe hp ‹_›
      · exact .idle _
    · exact .idle _

theorem ns_act_send_blocked (me peer : ns_Side) (e : Ev) (rest : List Ev)
    (ht : me.todo = e :: rest) (hb : c.sendOk e = false) :
    ns_act c parse dumps beh me peer .send = ({ me with todo := rest, blocked := me.blocked ++ [e] }, peer, false) := by
  simp only [ns_act, ht, ns_send_blocked_proto c me.p e false hb, hb]
  simp [n2_wire]

end

/-- bookkeeping of one end's calls: of `calls`, the part `done` has been taken from `todo`; those the send firewall
    `ok` refused are in `blocked`, and the others have used up the ids below `nid` -/
def ns_Count (ok : Ev → Bool) (calls : List Ev) (s : ns_Side) : Prop :=
  ∃ done, calls = done ++ s.todo ∧ s.blocked = done.filter (fun e => !ok e) ∧ s.p.nid = (done.filter ok).length

theorem ns_count_init (ok : Ev → Bool) (calls : List Ev) : ns_Count ok calls { todo := calls } :=
  ⟨[], by simp, by simp, by simp⟩

section
variable {c : Cfg} {parse : Bytes → PRes} {dumps : J → Bytes} {beh : Nat → Ev → Option (J × List (String × J))}
  {me peer : ns_Side} {op : ns_Op} {r : ns_Side × ns_Side × Bool}

theorem ns_Act.peer_out (h : ns_Act c parse dumps beh me peer op r) : ∃ o, r.2.1 = { peer with out := o } := by
  cases h <;> exact ⟨_, rfl⟩

theorem ns_Act.gate (h : ns_Act c parse dumps beh me peer op r) (hg : ∀ x ∈ me.fired, c.recvOk x.1 = true) :
    ∀ x ∈ r.1.fired, c.recvOk x.1 = true := by
  cases h with
  | read n p' effs ab hr =>
    intro x hx
    rcases List.mem_append.mp hx with hx | hx
    · exact hg x hx
    · exact (recv_readOk c parse me.p _).fire x.1 x.2 (by rw [hr]; exact mem_firesOf.mp hx)
  | _ => exact hg

/-- the ids of one end: waiting, resolved and yielded calls all have ids this end has handed out (`< nid`), no id
    waits twice, and a call that has yielded waits no more and yields once -/
structure ns_SideOk (s : ns_Side) : Prop where
  pend_lt : ∀ n ∈ pids s.p, n < s.p.nid
  pend_nodup : (pids s.p).Nodup
  res_lt : ∀ x ∈ s.resolved, x.1 < s.p.nid
  yl_lt : ∀ y ∈ s.yielded, y.1 < s.p.nid
  yl_notpend : ∀ y ∈ s.yielded, y.1 ∉ pids s.p
  yl_nodup : (s.yielded.map (·.1)).Nodup

theorem ns_sideOk_init (calls : List Ev) : ns_SideOk { todo := calls } :=
  ⟨by simp [pids], by simp [pids], by simp, by simp, by simp, by simp⟩

theorem ns_sideOk_out (s : ns_Side) (o : Bytes) (h : ns_SideOk s) : ns_SideOk { s with out := o } :=
  ⟨h.pend_lt, h.pend_nodup, h.res_lt, h.yl_lt, h.yl_notpend, h.yl_nodup⟩

/-- a sent call takes the next id, so it is new in the table; a read resolves registered ids only and leaves the ids of
    the table alone; a resumed generator's id leaves the table for good -/
theorem ns_Act.ok (h : ns_Act c parse dumps beh me peer op r) (hm : ns_SideOk me) : ns_SideOk r.1 := by
  cases h with
  | idle => exact hm
  | blocked | returned => exact ⟨hm.pend_lt, hm.pend_nodup, hm.res_lt, hm.yl_lt, hm.yl_notpend, hm.yl_nodup⟩
  | sent e rest ht hs =>
    have hp : ∀ s : Proto, ∀ q, pids { s with nid := s.nid + 1, pending := s.pending ++ [q] } = pids s ++ [q.id] := by
      intro s q; simp [pids]
    refine ⟨?_, ?_, ?_, ?_, ?_, hm.yl_nodup⟩
    · intro n hn
      rcases List.mem_append.mp (hp me.p _ ▸ hn) with hn | hn
      · exact Nat.lt_succ_of_lt (hm.pend_lt n hn)
      · exact List.mem_singleton.mp hn ▸ Nat.lt_succ_self _
    · rw [hp]
      exact nodup_concat hm.pend_nodup fun h => Nat.lt_irrefl _ (hm.pend_lt _ h)
    · exact fun x hx => Nat.lt_succ_of_lt (hm.res_lt x hx)
    · exact fun y hy => Nat.lt_succ_of_lt (hm.yl_lt y hy)
    · intro y hy hin
      rcases List.mem_append.mp (hp me.p _ ▸ hin) with hin | hin
      · exact hm.yl_notpend y hy hin
      · exact Nat.lt_irrefl _ (List.mem_singleton.mp hin ▸ hm.yl_lt y hy)
  | read n p' effs ab hr =>
    obtain ⟨r1, r2, _, r3⟩ := recv_readOk c parse me.p (peer.out.take n)
    rw [hr] at r1 r2 r3
    refine ⟨r1 ▸ r2 ▸ hm.pend_lt, r2 ▸ hm.pend_nodup, ?_, r1 ▸ hm.yl_lt, r2 ▸ hm.yl_notpend, hm.yl_nodup⟩
    intro x hx
    rcases List.mem_append.mp hx with hx | hx
    · exact r1 ▸ hm.res_lt x hx
    · exact r1 ▸ hm.pend_lt _ (r3 _ _ _ (mem_resolvesOf.mp hx))
  | resumed n pe hp hf =>
    have hmem := ns_poll_mem me.p n pe hp
    refine ⟨?_, ?_, hm.res_lt, ?_, ?_, ?_⟩
    · intro k hk
      exact hm.pend_lt k (List.mem_filter.mp (ns_pids_finish me.p n ▸ hk)).1
    · exact ns_pids_finish me.p n ▸ hm.pend_nodup.filter _
    · intro y hy
      rcases List.mem_append.mp hy with hy | hy
      · exact hm.yl_lt y hy
      · rw [List.mem_singleton.mp hy]; exact hm.pend_lt n hmem
    · intro y hy hin
      have hin := List.mem_filter.mp (ns_pids_finish me.p n ▸ hin)
      rcases List.mem_append.mp hy with hy | hy
      · exact hm.yl_notpend y hy hin.1
      · simp [List.mem_singleton.mp hy] at hin
    · rw [List.map_append]
      refine nodup_concat hm.yl_nodup fun h => ?_
      obtain ⟨y, hy, e⟩ := List.mem_map.mp h
      exact hm.yl_notpend y hy (e ▸ hmem)

theorem ns_Act.count (h : ns_Act c parse dumps beh me peer op r) {calls : List Ev}
    (hc : ns_Count c.sendOk calls me) : ns_Count c.sendOk calls r.1 := by
  obtain ⟨done, h1, h2, h3⟩ := hc
  cases h with
  | blocked e rest ht hb => exact ⟨done ++ [e], by simp [h1, ht], by simp [h2, hb], by simp [h3, hb]⟩
  | sent e rest ht hs => exact ⟨done ++ [e], by simp [h1, ht], by simp [h2, hs], by simp [h3, hs]⟩
  | read n p' effs ab hr => exact ⟨done, h1, h2, (congrArg (·.1.nid) hr).symm.trans ((recv_readOk c parse me.p _).nid.trans h3)⟩
  | _ => exact ⟨done, h1, h2, h3⟩

end

/-- world, environment and step with the roles of A and B exchanged -/
def ns_swapW (w : ns_World) : ns_World := { a := w.b, b := w.a, aborted := w.aborted }

def ns_swapE (E : ns_Env) : ns_Env :=
  { base := { E.base with sendOkA := E.base.sendOkB, recvOkA := E.base.recvOkB, sendOkB := E.base.sendOkA,
                          recvOkB := E.base.recvOkA, beh := E.behA },
    behA := E.base.beh }

def ns_swapS (st : Bool × ns_Op) : Bool × ns_Op := (!st.1, st.2)

theorem ns_step_swap (E : ns_Env) (w : ns_World) (st : Bool × ns_Op) :
    ns_step (ns_swapE E) (ns_swapW w) (ns_swapS st) = ns_swapW (ns_step E w st) := by
  obtain ⟨side, op⟩ := st
  cases side <;> rfl

/-- a step of one end changes the other end only in `out` -/
theorem ns_step_peer (E : ns_Env) (w : ns_World) (op : ns_Op) :
    (∃ o, (ns_step E w (false, op)).b = { w.b with out := o }) ∧
      (∃ o, (ns_step E w (true, op)).a = { w.a with out := o }) :=
  ⟨(ns_act_spec E.base.cA E.base.parse E.base.dumps E.behA w.a w.b op).peer_out,
    (ns_act_spec E.base.cB E.base.parse E.base.dumps E.base.beh w.b w.a op).peer_out⟩

/-- both ends are `ns_SideOk`, and every event dispatched on an end passed that end's receive firewall -/
structure ns_Ok (E : ns_Env) (w : ns_World) : Prop where
  a : ns_SideOk w.a
  b : ns_SideOk w.b
  gateA : ∀ x ∈ w.a.fired, E.base.recvOkA x.1 = true
  gateB : ∀ x ∈ w.b.fired, E.base.recvOkB x.1 = true

theorem ns_ok_init (E : ns_Env) (callsA callsB : List Ev) : ns_Ok E (ns_init callsA callsB) :=
  ⟨ns_sideOk_init _, ns_sideOk_init _, by simp [ns_init], by simp [ns_init]⟩

theorem ns_Ok.swap {E : ns_Env} {w : ns_World} (h : ns_Ok E w) : ns_Ok (ns_swapE E) (ns_swapW w) :=
  ⟨h.b, h.a, h.gateB, h.gateA⟩

theorem ns_step_ok (E : ns_Env) (w : ns_World) (st : Bool × ns_Op) (h : ns_Ok E w) : ns_Ok E (ns_step E w st) := by
  have stepA : ∀ E w op, ns_Ok E w → ns_Ok E (ns_step E w (false, op)) := by
    intro E w op h
    have hA := ns_act_spec E.base.cA E.base.parse E.base.dumps E.behA w.a w.b op
    obtain ⟨o, ho⟩ := (ns_step_peer E w op).1
    exact ⟨hA.ok h.a, ho ▸ ns_sideOk_out _ _ h.b, hA.gate h.gateA, ho ▸ h.gateB⟩
  obtain ⟨side, op⟩ := st
  cases side with
  | false => exact stepA E w op h
  -- a step of B is a step of A in the world with the ends exchanged (`ns_step_swap`)
  | true => exact (stepA _ _ op h.swap).swap

theorem ns_run_ok (E : ns_Env) (sched : List (Bool × ns_Op)) :
    ∀ w, ns_Ok E w → ns_Ok E (ns_run E w sched) :=
  fun _ h => List.foldlRecOn sched (ns_step E) h fun w h st _ => ns_step_ok E w st h

theorem ns_count_out (ok : Ev → Bool) (calls : List Ev) (s : ns_Side) (o : Bytes) (h : ns_Count ok calls s) :
    ns_Count ok calls { s with out := o } := h

theorem ns_stepA_count (E : ns_Env) (callsA callsB : List Ev) (w : ns_World) (op : ns_Op)
    (ha : ns_Count E.base.sendOkA callsA w.a) (hb : ns_Count E.base.sendOkB callsB w.b) :
    ns_Count E.base.sendOkA callsA (ns_step E w (false, op)).a ∧
      ns_Count E.base.sendOkB callsB (ns_step E w (false, op)).b := by
  have hA := ns_act_spec E.base.cA E.base.parse E.base.dumps E.behA w.a w.b op
  obtain ⟨o, ho⟩ := (ns_step_peer E w op).1
  exact ⟨hA.count ha, ho ▸ hb⟩

theorem ns_run_count (E : ns_Env) (callsA callsB : List Ev) (sched : List (Bool × ns_Op)) :
    ∀ w, ns_Count E.base.sendOkA callsA w.a → ns_Count E.base.sendOkB callsB w.b →
      ns_Count E.base.sendOkA callsA (ns_run E w sched).a ∧ ns_Count E.base.sendOkB callsB (ns_run E w sched).b := by
  intro w ha hb
  refine List.foldlRecOn sched (ns_step E) (motive := fun w => ns_Count E.base.sendOkA callsA w.a ∧
    ns_Count E.base.sendOkB callsB w.b) ⟨ha, hb⟩ fun w h st _ => ?_
  obtain ⟨side, op⟩ := st
  cases side with
  | false => exact ns_stepA_count E callsA callsB w op h.1 h.2
  -- a step of B is a step of A in the world with the ends exchanged (`ns_step_swap`)
  | true => exact (ns_stepA_count (ns_swapE E) callsB callsA (ns_swapW w) op h.2 h.1).symm

end Node
end CV
