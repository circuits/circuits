import CV.Proofs.NodeSym
import CV.Proofs.NodeTwoFw
/-
C19: the two-party composition is the symmetric composition seen from one direction.  A two-party step is the
projection of a symmetric step (`ns_step_proj`), so every two-party run is the projection of a symmetric run
(`ns_run_ofN2`) and inherits what holds of the symmetric world without hypotheses.  Conversely, when end B originates no
calls and no event reaches A's application, the symmetric run IS the two-party run of the corresponding steps
(`ns_oneway_gen`); under the hypotheses of the two-party theorems B writes answer packets only and A's reads turn them
into `resolve` effects only, which discharges "no event reaches A's application" (`ns_oneway_reach`): every theorem
about `n2_run` (once_and_back…, answers_not_mixed…) then speaks about the symmetric world.
-/
namespace CV
namespace Node

/-- the two-party world inside a symmetric one (A the caller, B the callee) -/
def ns_proj2 (w : ns_World) : n2_World :=
  { a := w.a.p, b := w.b.p, ab := w.a.out, ba := w.b.out, todo := w.a.todo, running := w.b.running,
    fired := w.b.fired, resolved := w.a.resolved, yielded := w.a.yielded, aborted := w.aborted }

/-- the two-party step a symmetric step amounts to; `none`: B sends / B polls / a handler on A returns -/
def ns_toN2 : Bool × ns_Op → Option n2_Step
  | (false, .send) => some .send
  | (true, .deliver n) => some (.deliverAB n)
  | (true, .answer n) => some (.answer n)
  | (false, .deliver n) => some (.deliverBA n)
  | (false, .poll n) => some (.poll n)
  | _ => none

theorem ns_step_proj (E : ns_Env) (w : ns_World) (st : Bool × ns_Op) (s2 : n2_Step) (h : ns_toN2 st = some s2) :
    ns_proj2 (ns_step E w st) = n2_step E.base (ns_proj2 w) s2 := by
  obtain ⟨side, op⟩ := st
  cases side <;> cases op <;> simp only [ns_toN2, Option.some.injEq, reduceCtorEq] at h <;> subst h
  · -- A sends
    cases ht : w.a.todo <;> simp only [ns_step, ns_act, n2_step, ns_proj2, ht, Bool.or_false] <;> rfl
  · -- A reads
    simp only [ns_step, ns_act, n2_step, ns_absorb_eq, n2_absorbA_eq]
    rfl
  · -- A polls
    simp only [ns_step, ns_act, n2_step, ns_proj2]
    cases poll w.a.p _ with
    | none => simp only [Bool.or_false]
    | some pe => cases hf : pe.finished <;> simp only [hf, Bool.or_false, Bool.false_eq_true, if_false, if_true]
  · -- B reads
    simp only [ns_step, ns_act, n2_step, ns_absorb_eq, n2_absorbB_eq]
    rfl
  · -- a handler on B returns
    simp only [ns_step, ns_act, n2_step, n2_takeAnswer, ns_proj2]
    cases w.b.running.find? _ with
    | none => simp only [Bool.or_false]
    | some x =>
      obtain ⟨e, id, k⟩ := x
      cases hb : E.base.beh k e <;> simp only [hb, n2_resultHandler, if_true, Bool.or_false] <;> rfl

def ns_ofN2 : n2_Step → Bool × ns_Op
  | .send => (false, .send)
  | .deliverAB n => (true, .deliver n)
  | .answer n => (true, .answer n)
  | .deliverBA n => (false, .deliver n)
  | .poll n => (false, .poll n)

theorem ns_run_ofN2 (E : ns_Env) (sched : List n2_Step) :
    ∀ w, n2_run E.base (ns_proj2 w) sched = ns_proj2 (ns_run E w (sched.map ns_ofN2)) := by
  intro w
  rw [ns_run, List.foldl_map]
  exact List.foldl_hom ns_proj2 fun w st => (ns_step_proj E w (ns_ofN2 st) st (by cases st <;> rfl)).symm

/-- end B originates nothing: it has no calls to make and waits for none; on A no more handlers run than were
    dispatched (none, as long as nothing was dispatched) -/
structure ns_One (w : ns_World) : Prop where
  btodo : w.b.todo = []
  bpend : w.b.p.pending = []
  arun : w.a.running.length ≤ w.a.fired.length

section
variable {c : Cfg} {parse : Bytes → PRes} {dumps : J → Bytes} {beh : Nat → Ev → Option (J × List (String × J))}
  {me peer : ns_Side} {op : ns_Op} {r : ns_Side × ns_Side × Bool}

theorem ns_Act.mono (h : ns_Act c parse dumps beh me peer op r) :
    me.fired.length ≤ r.1.fired.length ∧
      (me.running.length ≤ me.fired.length → r.1.running.length ≤ r.1.fired.length) := by
  cases h with
  | read => simp only [List.length_append, runsFrom_length]; omega
  | returned => exact ⟨Nat.le_refl _, Nat.le_trans List.length_eraseP_le⟩
  | _ => exact ⟨Nat.le_refl _, id⟩

theorem ns_Act.quiet (h : ns_Act c parse dumps beh me peer op r) (ht : me.todo = []) (hp : me.p.pending = []) :
    r.1.todo = [] ∧ r.1.p.pending = [] := by
  cases h with
  | idle | returned => exact ⟨ht, hp⟩
  | blocked e rest ht' | sent e rest ht' => rw [ht] at ht'; cases ht'
  | read n p' effs ab hr =>
    have := (recv_readOk c parse me.p (peer.out.take n)).pids
    rw [hr] at this
    exact ⟨ht, by simpa [pids, hp] using this⟩
  | resumed n pe hp' => simp [poll, hp] at hp'

theorem ns_Act.fired_eq (h : ns_Act c parse dumps beh me peer op r)
    (hn : ∀ n e id, Eff.fire e id ∉ (recv c parse me.p (peer.out.take n)).2.1) : r.1.fired = me.fired := by
  cases h with
  | read n p' effs ab hr =>
    have : firesOf effs = [] := List.eq_nil_iff_forall_not_mem.mpr fun x hx =>
      hn n x.1 x.2 (by rw [hr]; exact mem_firesOf.mp hx)
    simp [this]
  | _ => rfl

end

theorem ns_step_one (E : ns_Env) (w : ns_World) (st : Bool × ns_Op) (h : ns_One w) :
    ns_One (ns_step E w st) ∧ w.a.fired.length ≤ (ns_step E w st).a.fired.length := by
  obtain ⟨side, op⟩ := st
  cases side with
  | false =>
    have hA := ns_act_spec E.base.cA E.base.parse E.base.dumps E.behA w.a w.b op
    obtain ⟨o, ho⟩ := (ns_step_peer E w op).1
    exact ⟨⟨ho ▸ h.btodo, ho ▸ h.bpend, hA.mono.2 h.arun⟩, hA.mono.1⟩
  | true =>
    have hB := ns_act_spec E.base.cB E.base.parse E.base.dumps E.base.beh w.b w.a op
    obtain ⟨o, ho⟩ := (ns_step_peer E w op).2
    obtain ⟨h1, h2⟩ := hB.quiet h.btodo h.bpend
    exact ⟨⟨h1, h2, ho ▸ h.arun⟩, ho ▸ Nat.le_refl _⟩

theorem ns_run_fired_mono (E : ns_Env) (sched : List (Bool × ns_Op)) :
    ∀ w, ns_One w → w.a.fired.length ≤ (ns_run E w sched).a.fired.length := by
  induction sched with
  | nil => intro w _; exact Nat.le_refl _
  | cons st r ih =>
    intro w h
    simp only [ns_run, List.foldl_cons]
    obtain ⟨h1, h2⟩ := ns_step_one E w st h
    exact Nat.le_trans h2 (ih _ h1)

theorem ns_step_noop (E : ns_Env) (w : ns_World) (st : Bool × ns_Op) (h : ns_One w) (hf : w.a.fired = [])
    (hn : ns_toN2 st = none) : ns_step E w st = w := by
  have hr : w.a.running = [] := by
    have := h.arun; rw [hf] at this; exact List.eq_nil_of_length_eq_zero (by simpa using this)
  obtain ⟨side, op⟩ := st
  cases side <;> cases op <;> simp only [ns_toN2, reduceCtorEq] at hn
  · simp [ns_step, ns_act, hr]
  · simp [ns_step, ns_act, h.btodo]
  · simp [ns_step, ns_act, poll, h.bpend]

theorem ns_oneway_gen (E : ns_Env) (sched : List (Bool × ns_Op)) :
    ∀ w, ns_One w → (ns_run E w sched).a.fired = [] →
      ns_proj2 (ns_run E w sched) = n2_run E.base (ns_proj2 w) (sched.filterMap ns_toN2) := by
  induction sched with
  | nil => intro w _ _; rfl
  | cons st r ih =>
    intro w h hq
    have hf : w.a.fired = [] := by
      have := ns_run_fired_mono E (st :: r) w h
      rw [hq] at this
      exact List.eq_nil_of_length_eq_zero (by simpa using this)
    simp only [ns_run, List.foldl_cons] at hq ⊢
    cases hn : ns_toN2 st with
    | none =>
      rw [ns_step_noop E w st h hf hn] at hq ⊢
      simp only [List.filterMap_cons, hn]
      exact ih w h hq
    | some s2 =>
      simp only [List.filterMap_cons, hn, n2_run, List.foldl_cons]
      rw [← ns_step_proj E w st s2 hn]
      exact ih _ (ns_step_one E w st h).1 hq

theorem ns_one_init (calls : List Ev) : ns_One (ns_init calls []) := ⟨rfl, rfl, Nat.le_refl _⟩

theorem n2f_reach_recvA {E : n2_Env} {calls : List Ev} (H : n2f_Hyp E calls) {w : n2_World}
    (h : n2f_Reach E calls w) (n : Nat) : ∀ e id, Eff.fire e id ∉ (recv E.cA E.parse w.a (w.ba.take n)).2.1 := by
  obtain ⟨s, kB, kA, ao, yo, I⟩ := h
  obtain ⟨m, buf', _, _, _, _, hrecv⟩ := n2f_readA H I n
  intro e id hm
  rw [hrecv] at hm
  obtain ⟨i, _, hi⟩ := List.mem_map.mp hm
  cases hi

theorem ns_oneway_reach (E : ns_Env) (calls : List Ev) (H : n2f_Hyp E.base calls) (sched : List (Bool × ns_Op)) :
    ∀ w, ns_One w → w.a.fired = [] → n2f_Reach E.base calls (ns_proj2 w) → (ns_run E w sched).a.fired = [] := by
  induction sched with
  | nil => intro w _ hf _; exact hf
  | cons st r ih =>
    intro w h hf hr
    simp only [ns_run, List.foldl_cons]
    cases hn : ns_toN2 st with
    | none =>
      rw [ns_step_noop E w st h hf hn]
      exact ih w h hf hr
    | some s2 =>
      have hr' : n2f_Reach E.base calls (ns_proj2 (ns_step E w st)) := by
        rw [ns_step_proj E w st s2 hn]; exact n2f_reach_step H hr s2
      have hf' : (ns_step E w st).a.fired = [] := by
        obtain ⟨side, op⟩ := st
        cases side with
        | false =>
          exact ((ns_act_spec E.base.cA E.base.parse E.base.dumps E.behA w.a w.b op).fired_eq
            (n2f_reach_recvA (w := ns_proj2 w) H hr)).trans hf
        | true =>
          obtain ⟨o, ho⟩ := (ns_step_peer E w op).2
          exact ho ▸ hf
      exact ih _ (ns_step_one E w st h).1 hf' hr'

end Node
end CV
