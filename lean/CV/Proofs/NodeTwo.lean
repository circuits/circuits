import CV.Proofs.Node
import CV.Proofs.NodeEvent
import CV.Proofs.ListFacts
import CV.Model.NodeTwo
/-
C19, two-party composition (the `once_and_back_…` theorems).  The composition itself (`n2_Env`, `n2_World`, `n2_Step`,
`n2_step`, `n2_run`, `n2_init`, `n2_stepK`, `n2_runK`) lives in the model layer, CV/Model/NodeTwo.lean, and is
executed by `cvdriver node2` against two real `Protocol` endpoints (harness/c19.py, case kind `two`).  Here:

  * the receiving side of one byte stream whose sender keeps appending packets while the receiver is already reading:
    `n2_Rx proc pkts R buf outs` - the sender has written the packets `pkts` so far, `R` are the bytes still in flight,
    `buf` is the receiver's buffer and `outs` the packets it has processed;
  * what is expected of a run, and the hypotheses (`n2_Hyp`);
  * k connections on the server side (`n2_stepK`, described in CV/Model/NodeTwo.lean): every step happens on one
    connection, except that an answer is offered to every connection's `n2_resultHandler`.  Connection j has its own
    parameters `Es j` (calls, application behaviour, firewalls).
-/
namespace CV
namespace Node

theorem n2_inv_append {proc : Bytes → POut} {X R buf : Bytes} {outs : List Bytes} (Z : Bytes)
    (h : Inv proc X R buf outs) : Inv proc X (R ++ Z) buf outs := by
  cases h with
  | plain hb ho => exact .plain hb ho
  | early p t y hs hb hl hp hd ho hy =>
    exact .early p t (y ++ Z) hs hb hl hp hd ho (by rw [← List.append_assoc, hy, List.append_assoc])

def n2_Rx (proc : Bytes → POut) (pkts : List Bytes) (R buf : Bytes) (outs : List Bytes) : Prop :=
  ∃ X, stream pkts = X ++ R ∧ Inv proc X R buf outs

theorem n2_rx_init (proc : Bytes → POut) : n2_Rx proc [] [] [] [] :=
  ⟨[], by simp [stream], .plain (by simp [splitD_nil]) (by simp [splitD_nil, okPieces])⟩

theorem n2f_rx_writes {proc : Bytes → POut} {R buf : Bytes} {outs : List Bytes} (l : List Bytes) {pkts : List Bytes}
    (h : n2_Rx proc pkts R buf outs) : n2_Rx proc (pkts ++ l) (R ++ stream l) buf outs := by
  obtain ⟨X, hX, hI⟩ := h
  exact ⟨X, by rw [stream_append, hX, List.append_assoc], n2_inv_append _ hI⟩

theorem n2_rx_write {proc : Bytes → POut} {pkts : List Bytes} {R buf : Bytes} {outs : List Bytes}
    (p : Bytes) (h : n2_Rx proc pkts R buf outs) :
    n2_Rx proc (pkts ++ [p]) (R ++ (p ++ DELIM)) buf outs :=
  stream_single p ▸ n2f_rx_writes [p] h

theorem n2_rx_read {proc : Bytes → POut} (hC : CodecOK proc) {pkts : List Bytes}
    (hG : ∀ p ∈ pkts, Good proc p) {d R buf : Bytes} {outs : List Bytes}
    (h : n2_Rx proc pkts (d ++ R) buf outs) :
    (feed proc buf d).aborted = false ∧
      n2_Rx proc pkts R (feed proc buf d).buf (outs ++ (feed proc buf d).done) := by
  obtain ⟨X, hX, hI⟩ := h
  obtain ⟨hS, _⟩ := stream_good hC pkts hG
  obtain ⟨h1, h2⟩ := feed_step hC hS hX hI
  exact ⟨h1, X ++ d, by rw [hX]; simp, h2⟩

theorem n2_okPieces_all {proc : Bytes → POut} {l : List Bytes} (h : ∀ p ∈ l, proc p = .done) :
    okPieces proc l = l := by
  unfold okPieces
  apply List.filter_eq_self.mpr
  intro p hp; simp [h p hp]

theorem n2_rx_prefix {proc : Bytes → POut} (hC : CodecOK proc) {pkts : List Bytes}
    (hG : ∀ p ∈ pkts, Good proc p) {R buf : Bytes} {outs : List Bytes}
    (h : n2_Rx proc pkts R buf outs) : outs <+: pkts := by
  obtain ⟨X, hX, hI⟩ := h
  obtain ⟨_, hsplit⟩ := stream_good hC pkts hG
  obtain ⟨h1, _⟩ := splitD_prefix (hX ▸ hsplit)
  have hpre : (splitD X).1 <+: pkts := ⟨_, h1.symm⟩
  have hall : okPieces proc (splitD X).1 = (splitD X).1 := by
    apply n2_okPieces_all
    intro p hp
    exact (hG p (hpre.subset hp)).done
  cases hI with
  | plain hb ho => rw [ho, hall]; exact hpre
  | early p t y hs hb hl hp hd ho hy =>
    rw [ho, hall]
    have : (splitD X).2 ++ R = p ++ (DELIM ++ y) := by rw [hs, List.append_assoc, hy]
    rw [this, splitD_pkt hp] at h1
    exact ⟨(splitD y).1, by rw [h1]; simp⟩

/-- the receiver's packets are the map `f` over a prefix of the index list `l`: a longer prefix of the packets is
    the map over a longer prefix of `l` -/
theorem n2_prefix_split {α β : Type} (f : α → β) (l : List α) (k : Nat) (dn : List β)
    (hk : k ≤ l.length) (h : (l.take k).map f ++ dn <+: l.map f) :
    ∃ m, k ≤ m ∧ m ≤ l.length ∧ dn = ((l.take m).drop k).map f ∧
      (l.take k).map f ++ dn = (l.take m).map f := by
  have hlen : ((l.take k).map f ++ dn).length = k + dn.length := by
    rw [List.length_append, List.length_map, List.length_take, Nat.min_eq_left hk]
  have hm : k + dn.length ≤ l.length := by
    have := h.length_le
    rwa [hlen, List.length_map] at this
  have hall : (l.take k).map f ++ dn = (l.take (k + dn.length)).map f := by
    rw [List.prefix_iff_eq_take.mp h, hlen, List.map_take]
  refine ⟨k + dn.length, Nat.le_add_right _ _, hm, ?_, hall⟩
  have hsp : l.take (k + dn.length) = l.take k ++ (l.take (k + dn.length)).drop k := by
    have := (List.take_append_drop k (l.take (k + dn.length))).symm
    rwa [List.take_take, Nat.min_eq_left (Nat.le_add_right _ _)] at this
  rw [hsp, List.map_append] at hall
  exact List.append_cancel_left hall

theorem n2_rx_done {proc : Bytes → POut} (hC : CodecOK proc) (f : Nat → Bytes) {l : List Nat}
    (hG : ∀ i ∈ l, Good proc (f i)) {k : Nat} (hk : k ≤ l.length) {buf : Bytes}
    (h : n2_Rx proc (l.map f) [] buf ((l.take k).map f)) : buf = [] ∧ k = l.length := by
  have hG' : ∀ p ∈ l.map f, Good proc p := List.forall_mem_map.mpr hG
  obtain ⟨X, hX, hI⟩ := h
  obtain ⟨_, hsplit⟩ := stream_good hC _ hG'
  rw [List.append_nil] at hX
  rw [hX] at hsplit
  obtain ⟨hb, ho⟩ := hI.of_nil
  rw [hsplit] at hb ho
  refine ⟨hb, ?_⟩
  rw [n2_okPieces_all (fun p hp => (hG' p hp).done)] at ho
  have := congrArg List.length ho
  rw [List.length_map, List.length_map, List.length_take, Nat.min_eq_left hk] at this
  exact this

/-- the packets written are numbered by `l`, the first `k` of them processed: a read of the next `n` bytes in flight
    processes a further run of whole packets, up to some `m` -/
theorem n2_rx_take {proc : Bytes → POut} (hC : CodecOK proc) (f : Nat → Bytes) {l : List Nat}
    (hG : ∀ i ∈ l, Good proc (f i)) {k : Nat} (hk : k ≤ l.length) {R buf : Bytes} (n : Nat)
    (h : n2_Rx proc (l.map f) R buf ((l.take k).map f)) :
    ∃ m, k ≤ m ∧ m ≤ l.length ∧ (feed proc buf (R.take n)).aborted = false ∧
      (feed proc buf (R.take n)).done = ((l.take m).drop k).map f ∧
      n2_Rx proc (l.map f) (R.drop n) (feed proc buf (R.take n)).buf ((l.take m).map f) := by
  have hG' : ∀ p ∈ l.map f, Good proc p := List.forall_mem_map.mpr hG
  obtain ⟨hab, hrx⟩ := n2_rx_read hC hG' (d := R.take n) (R := R.drop n)
    ((List.take_append_drop n R).symm ▸ h)
  obtain ⟨m, hkm, hml, hdn, hall⟩ := n2_prefix_split f l k _ hk (n2_rx_prefix hC hG' hrx)
  exact ⟨m, hkm, hml, hab, hdn, hall ▸ hrx⟩

theorem n2_run_append (E : n2_Env) (w : n2_World) (s t : List n2_Step) :
    n2_run E w (s ++ t) = n2_run E (n2_run E w s) t := by
  simp [n2_run, List.foldl_append]

/-- nothing left to happen except generator polls -/
def n2_Quiescent (w : n2_World) : Prop := w.todo = [] ∧ w.ab = [] ∧ w.ba = [] ∧ w.running = []

/-- the id `send` uses for its n-th call -/
def n2_idJ (n : Nat) : J := .num (toString n) (some n) (n == 0)

/-- what `load_event` makes of `dump_event(e, id)` (= `C19.decoded`) -/
def n2_decoded (excl : List String) (e : Ev) : Ev :=
  ⟨e.name, e.args, e.kwargs, e.success, e.failure, e.notify, e.channels,
   applyMeta excl [] (e.attrs.filter (fun kv => !excl.contains kv.1))⟩

/-- (= `C19.WellFormed`) -/
def n2_WellFormed (e : Ev) : Prop :=
  e.name.toList.contains (Char.ofNat 0) = false ∧ e.kwargs.any (fun kv => kwClash kv.1) = false ∧
  e.channels.all J.hashable = true

section expected
variable (E : n2_Env) (calls : List Ev)

def n2_callEv (i : Nat) : Ev := calls.getD i (Ev.local "" [] [])
/-- the event B dispatches for call i -/
def n2_evB (i : Nat) : Ev := n2_decoded E.excl (n2_callEv calls i)
def n2_callJ (i : Nat) : J := dumpEvent E.excl (n2_callEv calls i) (n2_idJ i)
def n2_callPkt (i : Nat) : Bytes := escTilde (E.dumps (n2_callJ E calls i))
/-- value returned by B's handler for call i -/
def n2_val (i : Nat) : J := ((E.beh i (n2_evB E calls i)).getD (.null, [])).1
def n2_ats (i : Nat) : List (String × J) := ((E.beh i (n2_evB E calls i)).getD (.null, [])).2
def n2_ansJ (i : Nat) : J := dumpValue E.excl (n2_idJ i) (.bool false) (n2_val E calls i) (n2_ats E calls i)
def n2_ansPkt (i : Nat) : Bytes := escTilde (E.dumps (n2_ansJ E calls i))

/-- the `meta` of answer i as A's `load_value` filters it -/
def n2_meta (i : Nat) : List (String × J) :=
  ((n2_ats E calls i).filter (fun kv => !E.excl.contains kv.1 && !kv.1.startsWith "__")).filter
    (fun kv => metaOk E.excl kv.1)

/-- `ev.errors` after answer i: False, unless the answering event carries an attribute `errors` -/
def n2_errs (i : Nat) : J :=
  (n2_meta E calls i).foldl (fun a kv => if kv.1 = "errors" then kv.2 else a) (.bool false)

def n2_metas (i : Nat) : List (String × J) :=
  (n2_meta E calls i).foldl (fun a kv => setAttr a kv.1 kv.2) []

def n2_expFire (i : Nat) : Ev × J := (n2_evB E calls i, n2_idJ i)
def n2_expRun (i : Nat) : Ev × J × Nat := (n2_evB E calls i, n2_idJ i, i)
def n2_expRes (i : Nat) : Nat × J × J := (i, n2_val E calls i, .bool false)
def n2_expYield (i : Nat) : Nat × List J × J := (i, [n2_val E calls i], n2_errs E calls i)

/-- A's entry for call i, before / after its answer was processed -/
def n2_expPend (D : List Nat) (i : Nat) : Pending :=
  if i ∈ D then ⟨i, true, [n2_val E calls i], n2_errs E calls i, n2_metas E calls i⟩
  else ⟨i, false, [], .null, []⟩

/-- hypotheses of the `once_and_back_…` theorems (as in `calls_exactly_once`): what the JSON oracle says about
    the packets that occur, well-formed events, open firewalls -/
structure n2_Hyp : Prop where
  codec : CodecOK E.proc
  wf : ∀ i < calls.length, n2_WellFormed (n2_callEv calls i)
  sendOk : ∀ i < calls.length, E.sendOkA (n2_callEv calls i) = true
  recvOk : ∀ i < calls.length, E.recvOkB (n2_evB E calls i) = true
  /-- B's handlers return (exclusion of the known finding `no-answer(remote-handler-raised)`) -/
  returns : ∀ i < calls.length, (E.beh i (n2_evB E calls i)).isSome = true
  callParse : ∀ i < calls.length, E.parse (n2_callPkt E calls i) = .parsed (n2_callJ E calls i)
  callGood : ∀ i < calls.length, Good E.proc (n2_callPkt E calls i)
  ansParse : ∀ i < calls.length, E.parse (n2_ansPkt E calls i) = .parsed (n2_ansJ E calls i)
  ansGood : ∀ i < calls.length, Good E.proc (n2_ansPkt E calls i)

end expected

theorem isValuePacket_dumpValue (excl : List String) (id er v : J) (attrs : List (String × J)) :
    isValuePacket (dumpValue excl id er v attrs) = true := by
  simp only [isValuePacket, dumpValue, J.lookup, String.reduceEq, ↓reduceIte, Option.isSome_some,
    Option.isNone_none, Bool.and_self]

theorem isValuePacket_dumpEvent (excl : List String) (e : Ev) (id : J) :
    isValuePacket (dumpEvent excl e id) = false := by
  simp only [isValuePacket, dumpEvent, J.lookup, String.reduceEq, ↓reduceIte, Option.isSome_none,
    Bool.false_and]

theorem n2_roundtrip (excl : List String) (e : Ev) (id : J) (hw : n2_WellFormed e) :
    loadEvent excl (dumpEvent excl e id) = .ok (n2_decoded excl e, id) := by
  obtain ⟨h1, h2, h3⟩ := hw
  simp only [loadEvent, dumpEvent, J.lookup, String.reduceEq, ↓reduceIte, J.iter, h1, h2, h3,
    Bool.or_self, Bool.false_eq_true, Bool.not_true, pyDict, strKeys_map, J.truthy, n2_decoded]

theorem n2_call_processed (c : Cfg) (s : Proto) (e : Ev) (id : J) (hw : n2_WellFormed e) :
    processJ c s (dumpEvent c.excl e id) =
      (s, [if c.recvOk (n2_decoded c.excl e) then .fire (n2_decoded c.excl e) id
           else .write (dumpValue c.excl id (.bool false) .null (n2_decoded c.excl e).attrs)]) := by
  unfold processJ
  rw [isValuePacket_dumpEvent, if_neg Bool.false_ne_true, n2_roundtrip c.excl e id hw]
  dsimp only
  cases c.recvOk (n2_decoded c.excl e) <;> rfl

theorem n2_answer_routed (c : Cfg) (s : Proto) (n : Nat) (r : String) (z : Bool) (v er : J)
    (attrs : List (String × J)) (hp : s.pending.any (·.id = n) = true) :
    processJ c s (dumpValue c.excl (.num r (some n) z) er v attrs) =
      ({ s with pending := resolvePending s.pending n v er
                  ((attrs.filter (fun kv => !c.excl.contains kv.1 && !kv.1.startsWith "__")).filter
                    (fun kv => metaOk c.excl kv.1)) },
       [.resolve n v er]) := by
  unfold processJ
  rw [isValuePacket_dumpValue, if_pos rfl]
  simp only [loadValue, dumpValue, J.lookup, String.reduceEq, ↓reduceIte, J.natKey, hp]

/-- a call packet and an answer packet make no read handler fail: this much of `Good` follows
    from what the packet parses to -/
theorem procOf_call {excl : List String} {parse : Bytes → PRes} {p : Bytes} {e : Ev} {id : J}
    (hp : parse p = .parsed (dumpEvent excl e id)) (hw : n2_WellFormed e) : procOf excl parse p = .done := by
  rw [procOf, hp]
  simp only [raisesJ, isValuePacket_dumpEvent, n2_roundtrip excl e id hw, Bool.false_eq_true, ↓reduceIte]

theorem procOf_answer {excl : List String} {parse : Bytes → PRes} {p : Bytes} {r : String} {n : Option Nat}
    {z : Bool} {er v : J} {attrs : List (String × J)}
    (hp : parse p = .parsed (dumpValue excl (.num r n z) er v attrs)) : procOf excl parse p = .done := by
  rw [procOf, hp]
  simp only [raisesJ, isValuePacket_dumpValue, ↓reduceIte]
  simp only [loadValue, dumpValue, J.lookup, String.reduceEq, ↓reduceIte, J.hashable, Bool.not_true,
    Bool.false_eq_true]

theorem n2_recv_take (c : Cfg) (parse : Bytes → PRes) (hC : CodecOK (procOf c.excl parse)) (f : Nat → Bytes)
    {l : List Nat} (hG : ∀ i ∈ l, Good (procOf c.excl parse) (f i)) {k : Nat} (hk : k ≤ l.length)
    {R : Bytes} (s : Proto) (n : Nat)
    (h : n2_Rx (procOf c.excl parse) (l.map f) R s.buf ((l.take k).map f)) :
    ∃ m buf', k ≤ m ∧ m ≤ l.length ∧
      n2_Rx (procOf c.excl parse) (l.map f) (R.drop n) buf' ((l.take m).map f) ∧
      recv c parse s (R.take n) =
        ({ (processAll c parse s (((l.take m).drop k).map f)).1 with buf := buf' },
         (processAll c parse s (((l.take m).drop k).map f)).2, false) := by
  obtain ⟨m, hkm, hml, hab, hdn, hrx⟩ := n2_rx_take hC f hG hk n h
  exact ⟨m, _, hkm, hml, hrx, by rw [recv_eq, hdn, hab]⟩

theorem ns_absorb_eq (dumps : J → Bytes) : ∀ (effs : List Eff) (s : ns_Side),
    ns_absorb dumps s effs =
      { s with running := s.running ++ runsFrom s.fired.length (firesOf effs),
               fired := s.fired ++ firesOf effs,
               out := s.out ++ n2_wire dumps effs,
               resolved := s.resolved ++ resolvesOf effs } := by
  intro effs
  induction effs with
  | nil => intro s; simp [ns_absorb, n2_wire, runsFrom, firesOf, resolvesOf]
  | cons ef r ih =>
    intro s
    cases ef <;> simp [ns_absorb, ih, n2_wire, firesOf, resolvesOf, runsFrom]

theorem n2_absorbB_eq (E : n2_Env) : ∀ (effs : List Eff) (w : n2_World),
    n2_absorbB E w effs =
      { w with running := w.running ++ runsFrom w.fired.length (firesOf effs),
               fired := w.fired ++ firesOf effs,
               ba := w.ba ++ n2_wire E.dumps effs } := by
  intro effs
  induction effs with
  | nil => intro w; simp [n2_absorbB, n2_wire, runsFrom, firesOf]
  | cons ef r ih =>
    intro w
    cases ef <;> simp [n2_absorbB, ih, n2_wire, firesOf, runsFrom]

theorem n2_absorbA_eq (E : n2_Env) : ∀ (effs : List Eff) (w : n2_World),
    n2_absorbA E w effs =
      { w with resolved := w.resolved ++ resolvesOf effs, ab := w.ab ++ n2_wire E.dumps effs } := by
  intro effs
  induction effs with
  | nil => intro w; simp [n2_absorbA, n2_wire, resolvesOf]
  | cons ef r ih =>
    intro w
    cases ef <;> simp [n2_absorbA, ih, n2_wire, resolvesOf]

/-! The invariants keep the tables of a world (`fired`, `running`, `pending`, …) as `map`s of an expectation over
`List.range`, or over its indices not yet in a list: how such a list of indices splits (`n2_range_split`,
`n2_take_range`, `n2_range_seg`), is searched (`n2_find_map`), loses an entry (`n2_eraseP_map`) and how the filter
"not yet in `ao`" follows `ao` (`n2_filter_snoc`; `n2_filter_grow` in NodeTwoFw.lean). -/

theorem n2_range_split (m k : Nat) (hk : k ≤ m) :
    List.range m = List.range k ++ List.range' k (m - k) := by
  obtain ⟨d, rfl⟩ : ∃ d, m = k + d := ⟨m - k, by omega⟩
  simp [List.range_add, List.range'_eq_map_range]

theorem n2_take_range (s k : Nat) (hk : k ≤ s) : (List.range s).take k = List.range k := by
  simp [List.take_range, Nat.min_eq_left hk]

theorem n2_range_seg (s m k : Nat) (hk : k ≤ m) (hm : m ≤ s) :
    ((List.range s).take m).drop k = List.range' k (m - k) := by
  rw [n2_take_range s m hm, n2_range_split m k hk]
  simp

theorem n2_find_map {β : Type} (g : Nat → β) (p : β → Bool) (n : Nat) (hp : ∀ i, p (g i) = (i == n)) :
    ∀ F : List Nat, (F.map g).find? p = if n ∈ F then some (g n) else none := by
  intro F
  induction F with
  | nil => simp
  | cons i F ih =>
    simp only [List.map_cons, List.find?_cons, hp]
    by_cases h : i = n
    · subst h; simp
    · have : (i == n) = false := by simpa using h
      simp only [this, ih, List.mem_cons]
      have h' : ¬ n = i := fun e => h e.symm
      simp [h']

theorem n2_eraseP_map {β : Type} (g : Nat → β) (p : β → Bool) (n : Nat) (hp : ∀ i, p (g i) = (i == n)) :
    ∀ F : List Nat, F.Nodup → (F.map g).eraseP p = (F.filter (fun i => !decide (i = n))).map g := by
  intro F
  induction F with
  | nil => simp
  | cons i F ih =>
    intro hnd
    have hnd' := List.nodup_cons.mp hnd
    simp only [List.map_cons, List.eraseP_cons, hp]
    by_cases h : i = n
    · subst h
      have : F.filter (fun j => !decide (j = i)) = F := by
        apply List.filter_eq_self.mpr
        intro j hj; simp; intro e; subst e; exact hnd'.1 hj
      simp [this]
    · have : (i == n) = false := by simpa using h
      simp [this, ih hnd'.2, h]

theorem n2_filter_snoc (q : Nat → Bool) (l ao : List Nat) (n : Nat) :
    (l.filter (fun i => q i && !decide (i ∈ ao))).filter (fun i => !decide (i = n)) =
      l.filter (fun i => q i && !decide (i ∈ ao ++ [n])) := by
  rw [List.filter_filter]
  apply List.filter_congr
  intro i _
  cases q i <;> simp [Bool.and_comm]

theorem n2_stepK_length (Es : Nat → n2_Env) (ws : List n2_World) (js : Nat × n2_Step) :
    (n2_stepK Es ws js).length = ws.length := by
  obtain ⟨j, st⟩ := js
  cases st <;> simp only [n2_stepK] <;> (repeat' split) <;> simp

theorem n2_stepK_of_ne (Es : Nat → n2_Env) (ws : List n2_World) (j : Nat) (st : n2_Step)
    (h : ∀ n, st ≠ .answer n) :
    n2_stepK Es ws (j, st) =
      match ws[j]? with
      | none => ws
      | some w => ws.set j (n2_step (Es j) w st) := by
  cases st with
  | answer n => exact absurd rfl (h n)
  | _ => rfl

theorem n2_stepK_same (Es : Nat → n2_Env) (ws : List n2_World) (j : Nat) (st : n2_Step) :
    (n2_stepK Es ws (j, st))[j]? = (ws[j]?).map (fun w => n2_step (Es j) w st) := by
  by_cases ha : ∃ n, st = .answer n
  · obtain ⟨n, rfl⟩ := ha
    cases hw : ws[j]? with
    | none => simp [n2_stepK, hw]
    | some w =>
      have hj : j < ws.length := (List.getElem?_eq_some_iff.mp hw).1
      simp only [n2_stepK, hw, n2_step, Option.map_some]
      cases hA : n2_takeAnswer (Es j) w n with
      | none => simp [hw]
      | some r =>
        obtain ⟨w', r⟩ := r
        simp [hj, n2_resultHandler]
  · rw [n2_stepK_of_ne Es ws j st fun n e => ha ⟨n, e⟩]
    cases hw : ws[j]? with
    | none => simp [hw]
    | some w => exact List.getElem?_set_self (List.getElem?_eq_some_iff.mp hw).1

/-- **isolation**: a step on connection j - in particular a handler return, whose `_success`
    event every Protocol of the server sees - leaves every other connection exactly as it was:
    nothing is appended to another connection's stream, no state of it changes -/
theorem n2_stepK_other (Es : Nat → n2_Env) (ws : List n2_World) (j j' : Nat) (st : n2_Step) (h : j' ≠ j) :
    (n2_stepK Es ws (j, st))[j']? = ws[j']? := by
  by_cases ha : ∃ n, st = .answer n
  · obtain ⟨n, rfl⟩ := ha
    cases hw : ws[j]? with
    | none => simp [n2_stepK, hw]
    | some w =>
      simp only [n2_stepK, hw]
      cases hA : n2_takeAnswer (Es j) w n with
      | none => rfl
      | some r =>
        obtain ⟨w', r⟩ := r
        simp only [List.getElem?_mapIdx, List.getElem?_set_ne (Ne.symm h)]
        cases ws[j']? with
        | none => rfl
        | some x => simp [n2_resultHandler, Ne.symm h]
  · rw [n2_stepK_of_ne Es ws j st fun n e => ha ⟨n, e⟩]
    cases ws[j]? with
    | none => rfl
    | some w => exact List.getElem?_set_ne (Ne.symm h)

/-- **projection**: in any interleaving of the steps of k connections, connection j goes through
    exactly the two-party run of its own steps -/
theorem n2_runK_proj (Es : Nat → n2_Env) (j : Nat) (sched : List (Nat × n2_Step)) :
    ∀ ws : List n2_World,
      (n2_runK Es ws sched)[j]? = (ws[j]?).map (fun w => n2_run (Es j) w (n2_proj j sched)) := by
  induction sched with
  | nil => intro ws; simp [n2_runK, n2_run, n2_proj]
  | cons js r ih =>
    intro ws
    obtain ⟨j1, st⟩ := js
    have e : n2_runK Es ws ((j1, st) :: r) = n2_runK Es (n2_stepK Es ws (j1, st)) r := rfl
    rw [e, ih]
    by_cases hj : j1 = j
    · subst hj
      rw [n2_stepK_same]
      cases ws[j1]? <;> simp [n2_proj, n2_run]
    · rw [n2_stepK_other Es ws j1 j st (Ne.symm hj)]
      simp [n2_proj, hj]

end Node
end CV
