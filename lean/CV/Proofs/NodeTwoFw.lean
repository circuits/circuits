import CV.Proofs.NodeTwo
/-
C19, two-party composition with a *rejecting* receive firewall on B (`n2_Hyp.recvOk` of
CV/Proofs/NodeTwo.lean, "every call passes", is the special case taken up in NodeTwoInv.lean).

A call whose decoded event fails `E.recvOkB` is answered at once, during the `deliverAB` step that
processes its packet, with value `null` and the attributes of the decoded event; it is never
dispatched (not in `fired` / `running`).  The handler number given to `E.beh` is the *rank* of the
call among the accepted ones.

Every step keeps the invariant `n2f_Inv`; it gives safety at every moment and completion when quiescent.  No deadlock
(`n2f_progress`): from every reachable world some continuation of the schedule reaches a quiescent world, so the
hypothesis `n2_Quiescent` of the completion theorems is satisfiable after every prefix of every schedule.
-/
namespace CV
namespace Node

/-! The expectations `n2f_…` are the `n2_…` of NodeTwo.lean with the value and the attributes of an answer taken from
`n2f_val` / `n2f_ats` (the handler of rank `n2f_rank`, or the firewall's refusal); when every call is accepted the two
families agree (`n2f_exp_of_open`, NodeTwoInv.lean). -/

section expected
variable (E : n2_Env) (calls : List Ev)

def n2f_acc (i : Nat) : Bool := E.recvOkB (n2_evB E calls i)
/-- number of accepted calls before call i = the handler number of call i (if accepted) -/
def n2f_rank (i : Nat) : Nat := ((List.range i).filter (n2f_acc E calls)).length

/-- value A gets for call i: the handler's, or `null` from the firewall -/
def n2f_val (i : Nat) : J :=
  if n2f_acc E calls i then ((E.beh (n2f_rank E calls i) (n2_evB E calls i)).getD (.null, [])).1 else .null

def n2f_ats (i : Nat) : List (String × J) :=
  if n2f_acc E calls i then ((E.beh (n2f_rank E calls i) (n2_evB E calls i)).getD (.null, [])).2
  else (n2_evB E calls i).attrs

def n2f_ansJ (i : Nat) : J :=
  dumpValue E.excl (n2_idJ i) (.bool false) (n2f_val E calls i) (n2f_ats E calls i)

def n2f_ansPkt (i : Nat) : Bytes := escTilde (E.dumps (n2f_ansJ E calls i))

def n2f_meta (i : Nat) : List (String × J) :=
  ((n2f_ats E calls i).filter (fun kv => !E.excl.contains kv.1 && !kv.1.startsWith "__")).filter
    (fun kv => metaOk E.excl kv.1)

def n2f_errs (i : Nat) : J :=
  (n2f_meta E calls i).foldl (fun a kv => if kv.1 = "errors" then kv.2 else a) (.bool false)

def n2f_metas (i : Nat) : List (String × J) :=
  (n2f_meta E calls i).foldl (fun a kv => setAttr a kv.1 kv.2) []

def n2f_expRun (i : Nat) : Ev × J × Nat := (n2_evB E calls i, n2_idJ i, n2f_rank E calls i)
def n2f_expRes (i : Nat) : Nat × J × J := (i, n2f_val E calls i, .bool false)
def n2f_expYield (i : Nat) : Nat × List J × J := (i, [n2f_val E calls i], n2f_errs E calls i)

def n2f_expPend (D : List Nat) (i : Nat) : Pending :=
  if i ∈ D then ⟨i, true, [n2f_val E calls i], n2f_errs E calls i, n2f_metas E calls i⟩
  else ⟨i, false, [], .null, []⟩

/-- what B's processing of call packet i does: dispatch, or the firewall's refusal -/
def n2f_effB (i : Nat) : Eff :=
  if n2f_acc E calls i then .fire (n2_evB E calls i) (n2_idJ i) else .write (n2f_ansJ E calls i)

/-- `n2_Hyp` without `recvOk`: B's firewall may reject any of the calls -/
structure n2f_Hyp : Prop where
  codec : CodecOK E.proc
  wf : ∀ i < calls.length, n2_WellFormed (n2_callEv calls i)
  sendOk : ∀ i < calls.length, E.sendOkA (n2_callEv calls i) = true
  /-- B's handlers return, for the calls that are dispatched -/
  returns : ∀ i < calls.length, n2f_acc E calls i = true →
    (E.beh (n2f_rank E calls i) (n2_evB E calls i)).isSome = true
  callParse : ∀ i < calls.length, E.parse (n2_callPkt E calls i) = .parsed (n2_callJ E calls i)
  callGood : ∀ i < calls.length, Good E.proc (n2_callPkt E calls i)
  ansParse : ∀ i < calls.length, E.parse (n2f_ansPkt E calls i) = .parsed (n2f_ansJ E calls i)
  ansGood : ∀ i < calls.length, Good E.proc (n2f_ansPkt E calls i)

end expected

section
variable (E : n2_Env) (calls : List Ev)

theorem n2f_rank_succ (k : Nat) :
    n2f_rank E calls (k + 1) = n2f_rank E calls k + (if n2f_acc E calls k then 1 else 0) := by
  simp only [n2f_rank, List.range_succ, List.filter_append, List.length_append]
  cases ha : n2f_acc E calls k <;> simp [ha]

theorem n2f_effB_acc (i : Nat) (ha : n2f_acc E calls i = true) :
    n2f_effB E calls i = .fire (n2_evB E calls i) (n2_idJ i) := by
  simp [n2f_effB, ha]

theorem n2f_effB_rej (i : Nat) (ha : n2f_acc E calls i = false) :
    n2f_effB E calls i = .write (n2f_ansJ E calls i) := by
  simp [n2f_effB, ha]

theorem n2f_pend_id (D : List Nat) (i : Nat) : (n2f_expPend E calls D i).id = i := by
  unfold n2f_expPend; split <;> rfl

/-- `finish` on A's table -/
theorem n2f_finish_map (D F : List Nat) (n : Nat) :
    (F.map (n2f_expPend E calls D)).filter (fun p => decide (p.id ≠ n)) =
      (F.filter (fun i => !decide (i = n))).map (n2f_expPend E calls D) := by
  rw [List.filter_map]
  congr 1
  apply List.filter_congr
  intro i _
  simp [n2f_pend_id]

theorem n2f_beh_eq (H : n2f_Hyp E calls) {n : Nat} (hn : n < calls.length) (ha : n2f_acc E calls n = true) :
    E.beh (n2f_rank E calls n) (n2_evB E calls n) = some (n2f_val E calls n, n2f_ats E calls n) := by
  have := H.returns n hn ha
  cases hb : E.beh (n2f_rank E calls n) (n2_evB E calls n) with
  | none => rw [hb] at this; cases this
  | some va => simp [n2f_val, n2f_ats, hb, ha]

theorem n2f_procB (H : n2f_Hyp E calls) (b : Proto) :
    ∀ l : List Nat, (∀ i ∈ l, i < calls.length) →
      processAll E.cB E.parse b (l.map (n2_callPkt E calls)) = (b, l.map (n2f_effB E calls)) := by
  intro l
  induction l with
  | nil => intro _; rfl
  | cons i l ih =>
    intro h
    have hi := h i List.mem_cons_self
    have hJ : processJ E.cB b (n2_callJ E calls i) = (b, [n2f_effB E calls i]) := by
      refine (n2_call_processed E.cB b (n2_callEv calls i) (n2_idJ i) (H.wf i hi)).trans ?_
      show (b, [if n2f_acc E calls i then _ else _]) = _
      cases ha : n2f_acc E calls i
      · rw [n2f_effB_rej E calls i ha, n2f_ansJ, n2f_val, n2f_ats, ha]; rfl
      · rw [n2f_effB_acc E calls i ha]; rfl
    simp only [List.map_cons, processAll, H.callParse i hi, hJ, ih fun j hj => h j (List.mem_cons_of_mem _ hj)]
    rfl

theorem n2f_absorbB :
    ∀ (m k : Nat) (w : n2_World), w.fired.length = n2f_rank E calls k →
      n2_absorbB E w ((List.range' k m).map (n2f_effB E calls)) =
        { w with
          running := w.running ++ ((List.range' k m).filter (n2f_acc E calls)).map (n2f_expRun E calls),
          fired := w.fired ++ ((List.range' k m).filter (n2f_acc E calls)).map (n2_expFire E calls),
          ba := w.ba ++ stream (((List.range' k m).filter (fun i => !n2f_acc E calls i)).map
                  (n2f_ansPkt E calls)) } := by
  intro m
  induction m with
  | zero => intro k w _; simp [n2_absorbB, stream]
  | succ m ih =>
    intro k w hk
    simp only [List.range'_succ, List.map_cons]
    cases ha : n2f_acc E calls k with
    | true =>
      rw [n2f_effB_acc E calls k ha]
      simp only [n2_absorbB]
      rw [ih (k + 1) _ (by simp [hk, n2f_rank_succ, ha])]
      simp [ha, n2f_expRun, n2_expFire, hk]
    | false =>
      rw [n2f_effB_rej E calls k ha]
      simp only [n2_absorbB]
      rw [ih (k + 1) _ (by simpa [n2f_rank_succ, ha] using hk)]
      simp [ha, stream_cons, wire, n2f_ansPkt]

theorem n2f_absorbA_resolves :
    ∀ (l : List Nat) (w : n2_World),
      n2_absorbA E w (l.map (fun i => Eff.resolve i (n2f_val E calls i) (.bool false))) =
        { w with resolved := w.resolved ++ l.map (n2f_expRes E calls) } := by
  intro l
  induction l with
  | nil => intro w; simp [n2_absorbA]
  | cons i l ih =>
    intro w
    simp only [List.map_cons, n2_absorbA]
    rw [ih]
    simp [n2f_expRes]

theorem n2f_resolve_map (L D : List Nat) (n : Nat) (hn : n ∉ D) :
    resolvePending (L.map (n2f_expPend E calls D)) n (n2f_val E calls n) (.bool false) (n2f_meta E calls n) =
      L.map (n2f_expPend E calls (D ++ [n])) := by
  unfold resolvePending
  rw [List.map_map]
  apply List.map_congr_left
  intro i _
  by_cases hi : i = n
  · subst hi
    simp [n2f_expPend, hn, n2f_errs, n2f_metas]
  · by_cases hD : i ∈ D
    · simp [n2f_expPend, hD, hi]
    · simp [n2f_expPend, hD, hi]

theorem n2f_procA (H : n2f_Hyp E calls) (L : List Nat) :
    ∀ (l D : List Nat) (a : Proto), l.Nodup → (∀ i ∈ l, i ∈ L ∧ i ∉ D ∧ i < calls.length) →
      a.pending = L.map (n2f_expPend E calls D) →
      processAll E.cA E.parse a (l.map (n2f_ansPkt E calls)) =
        ({ a with pending := L.map (n2f_expPend E calls (D ++ l)) },
         l.map (fun i => Eff.resolve i (n2f_val E calls i) (.bool false))) := by
  intro l
  induction l with
  | nil => intro D a _ _ hp; simp [processAll, ← hp]
  | cons i l ih =>
    intro D a hnd h hp
    obtain ⟨hiL, hiD, hiN⟩ := h i List.mem_cons_self
    have hnd' := List.nodup_cons.mp hnd
    have hany : a.pending.any (·.id = i) = true := by
      rw [hp, List.any_map]
      exact List.any_eq_true.mpr ⟨i, hiL, by simp [n2f_pend_id]⟩
    have hJ : processJ E.cA a (n2f_ansJ E calls i) =
        ({ a with pending := L.map (n2f_expPend E calls (D ++ [i])) },
         [.resolve i (n2f_val E calls i) (.bool false)]) := by
      rw [← n2f_resolve_map E calls L D i hiD, ← hp]
      exact n2_answer_routed E.cA a i _ _ _ _ _ hany
    have hl : ∀ j ∈ l, j ∈ L ∧ j ∉ D ++ [i] ∧ j < calls.length := by
      intro j hj
      obtain ⟨h1, h2, h3⟩ := h j (List.mem_cons_of_mem _ hj)
      refine ⟨h1, ?_, h3⟩
      rw [List.mem_append, List.mem_singleton, not_or]
      exact ⟨h2, fun hji => hnd'.1 (hji ▸ hj)⟩
    simp only [List.map_cons, processAll, H.ansParse i hiN]
    rw [hJ, ih (D ++ [i]) _ hnd'.2 hl rfl, List.append_assoc]
    rfl

end

/-! ## the invariant

Ghost parameters: `s` calls sent, `kB` call packets B has processed, `ao` the order of the answers
on the stream B→A (refusals are appended when the call packet is processed, handler results when
the handler returns), `kA` answers A has processed, `yo` the order in which A's generators yielded. -/

structure n2f_Inv (E : n2_Env) (calls : List Ev) (w : n2_World) (s kB kA : Nat) (ao yo : List Nat) : Prop where
  hs : s ≤ calls.length
  todo : w.todo = calls.drop s
  anid : w.a.nid = s
  kBs : kB ≤ s
  rxB : n2_Rx E.proc ((List.range s).map (n2_callPkt E calls)) w.ab w.b.buf
          ((List.range kB).map (n2_callPkt E calls))
  fired : w.fired = ((List.range kB).filter (n2f_acc E calls)).map (n2_expFire E calls)
  running : w.running =
    ((List.range kB).filter (fun i => n2f_acc E calls i && !decide (i ∈ ao))).map (n2f_expRun E calls)
  aoN : ao.Nodup
  aoLt : ∀ i ∈ ao, i < kB
  /-- a rejected call is answered as soon as its packet is processed -/
  rej : ∀ i < kB, n2f_acc E calls i = false → i ∈ ao
  kAle : kA ≤ ao.length
  rxA : n2_Rx E.proc (ao.map (n2f_ansPkt E calls)) w.ba w.a.buf ((ao.take kA).map (n2f_ansPkt E calls))
  resolved : w.resolved = (ao.take kA).map (n2f_expRes E calls)
  yoN : yo.Nodup
  yoSub : ∀ i ∈ yo, i ∈ ao.take kA
  pending : w.a.pending =
    ((List.range s).filter (fun i => !decide (i ∈ yo))).map (n2f_expPend E calls (ao.take kA))
  yielded : w.yielded = yo.map (n2f_expYield E calls)
  bpend : w.b.pending = []
  nab : w.aborted = false

theorem n2f_Inv.ao_lt {E : n2_Env} {calls : List Ev} {w : n2_World} {s kB kA : Nat} {ao yo : List Nat}
    (I : n2f_Inv E calls w s kB kA ao yo) (i : Nat) (hi : i ∈ ao) : i < calls.length :=
  Nat.lt_of_lt_of_le (I.aoLt i hi) (Nat.le_trans I.kBs I.hs)

def n2f_Reach (E : n2_Env) (calls : List Ev) (w : n2_World) : Prop :=
  ∃ s kB kA ao yo, n2f_Inv E calls w s kB kA ao yo

theorem n2f_inv_init (E : n2_Env) (calls : List Ev) : n2f_Inv E calls (n2_init calls) 0 0 0 [] [] where
  hs := Nat.zero_le _
  todo := rfl
  anid := rfl
  kBs := Nat.le_refl _
  rxB := n2_rx_init E.proc
  fired := rfl
  running := rfl
  aoN := List.nodup_nil
  aoLt := fun _ h => nomatch h
  rej := fun _ h => nomatch h
  kAle := Nat.le_refl _
  rxA := n2_rx_init E.proc
  resolved := rfl
  yoN := List.nodup_nil
  yoSub := fun _ h => nomatch h
  pending := rfl
  yielded := rfl
  bpend := rfl
  nab := rfl

theorem n2f_reach_init (E : n2_Env) (calls : List Ev) : n2f_Reach E calls (n2_init calls) :=
  ⟨0, 0, 0, [], [], n2f_inv_init E calls⟩

section
variable {E : n2_Env} {calls : List Ev}

theorem n2f_send_eq (H : n2f_Hyp E calls) (a : Proto) (s : Nat) (hs : s < calls.length) (ha : a.nid = s) :
    send E.cA a (n2_callEv calls s) false =
      ({ a with nid := s + 1, pending := a.pending ++ [⟨s, false, [], .null, []⟩] },
       [.write (n2_callJ E calls s)]) := by
  have h := H.sendOk s hs
  simp [send, h, ha, n2_callJ, n2_idJ, n2_Env.cA]

theorem n2f_inv_send (H : n2f_Hyp E calls) {w : n2_World} {s kB kA : Nat} {ao yo : List Nat}
    (I : n2f_Inv E calls w s kB kA ao yo) : n2f_Reach E calls (n2_step E w .send) := by
  by_cases hs : s < calls.length
  · have ht : w.todo = n2_callEv calls s :: calls.drop (s + 1) := by
      rw [I.todo, List.drop_eq_getElem_cons hs]
      simp [n2_callEv, List.getD_eq_getElem?_getD, hs]
    have hsD : s ∉ ao.take kA := fun h =>
      Nat.lt_irrefl s (Nat.lt_of_lt_of_le (I.aoLt s (List.mem_of_mem_take h)) I.kBs)
    have hsy : s ∉ yo := fun h => hsD (I.yoSub s h)
    refine ⟨s + 1, kB, kA, ao, yo, ?_⟩
    simp only [n2_step, ht, n2f_send_eq H w.a s hs I.anid]
    exact { I with
      hs := hs
      todo := rfl
      anid := rfl
      kBs := Nat.le_succ_of_le I.kBs
      rxB := by
        rw [List.range_succ, List.map_append]
        simp only [n2_wire, List.append_nil]
        exact n2_rx_write (n2_callPkt E calls s) I.rxB
      pending := by
        simp only [I.pending, List.range_succ, List.filter_append, List.map_append]
        simp [hsy, n2f_expPend, hsD] }
  · refine ⟨s, kB, kA, ao, yo, ?_⟩
    rw [n2_step, show w.todo = [] from I.todo.trans (List.drop_eq_nil_of_le (Nat.le_of_not_lt hs))]
    exact I

/-- a read of B: the call packets from `kB` up to some `m` are processed, the accepted calls dispatched, the rejected
    ones refused on the stream B→A -/
theorem n2f_readB (H : n2f_Hyp E calls) {w : n2_World} {s kB kA : Nat} {ao yo : List Nat}
    (I : n2f_Inv E calls w s kB kA ao yo) (n : Nat) :
    ∃ m buf', kB ≤ m ∧ m ≤ s ∧
      n2_Rx E.proc ((List.range s).map (n2_callPkt E calls)) (w.ab.drop n) buf'
        ((List.range m).map (n2_callPkt E calls)) ∧
      n2_step E w (.deliverAB n) =
        { w with
          b := { w.b with buf := buf' }, ab := w.ab.drop n, aborted := w.aborted || false
          running := w.running ++ ((List.range' kB (m - kB)).filter (n2f_acc E calls)).map (n2f_expRun E calls)
          fired := w.fired ++ ((List.range' kB (m - kB)).filter (n2f_acc E calls)).map (n2_expFire E calls)
          ba := w.ba ++ stream (((List.range' kB (m - kB)).filter (fun i => !n2f_acc E calls i)).map
                  (n2f_ansPkt E calls)) } := by
  obtain ⟨m, buf', hkm, hms, hrx', hrecv⟩ := n2_recv_take E.cB E.parse H.codec _
    (fun i hi => H.callGood i (Nat.lt_of_lt_of_le (List.mem_range.mp hi) I.hs))
    (k := kB) (by rw [List.length_range]; exact I.kBs) w.b n ((n2_take_range s kB I.kBs).symm ▸ I.rxB)
  rw [List.length_range] at hms
  rw [n2_take_range s m hms] at hrx'
  have hlt : ∀ i ∈ List.range' kB (m - kB), i < calls.length := fun i hi =>
    Nat.lt_of_lt_of_le (by have := (List.mem_range'_1.mp hi).2; omega) (Nat.le_trans hms I.hs)
  rw [n2_range_seg s m kB hkm hms, n2f_procB E calls H w.b _ hlt] at hrecv
  refine ⟨m, buf', hkm, hms, hrx', ?_⟩
  simp only [n2_step, hrecv]
  exact n2f_absorbB E calls (m - kB) kB _ (by rw [I.fired, List.length_map]; rfl)

theorem n2_filter_grow (q : Nat → Bool) {ao nw : List Nat} {k m : Nat} (hkm : k ≤ m) (hao : ∀ i ∈ ao, i < k)
    (hnw : ∀ i ∈ nw, k ≤ i ∧ q i = false) :
    (List.range m).filter (fun i => q i && !decide (i ∈ ao ++ nw)) =
      (List.range k).filter (fun i => q i && !decide (i ∈ ao)) ++ (List.range' k (m - k)).filter q := by
  rw [n2_range_split m k hkm, List.filter_append]
  congr 1 <;> apply List.filter_congr <;> intro i hi
  · have : i ∉ nw := fun h => Nat.lt_irrefl _ (Nat.lt_of_lt_of_le (List.mem_range.mp hi) (hnw i h).1)
    simp [this]
  · have hiao : i ∉ ao := fun h => Nat.lt_irrefl _ (Nat.lt_of_lt_of_le (hao i h) (List.mem_range'_1.mp hi).1)
    cases ha : q i with
    | false => rfl
    | true =>
      have : i ∉ nw := fun h => Bool.false_ne_true ((hnw i h).2.symm.trans ha)
      simp [hiao, this]

theorem n2f_inv_deliverAB (H : n2f_Hyp E calls) {w : n2_World} {s kB kA : Nat} {ao yo : List Nat}
    (I : n2f_Inv E calls w s kB kA ao yo) (n : Nat) :
    n2f_Reach E calls (n2_step E w (.deliverAB n)) := by
  obtain ⟨m, buf', hkm, hms, hrx', hstep⟩ := n2f_readB H I n
  -- the calls refused in this read are answered at once
  obtain ⟨nw, hnwdef⟩ : ∃ nw, nw = (List.range' kB (m - kB)).filter (fun i => !n2f_acc E calls i) := ⟨_, rfl⟩
  have hnw : ∀ i, i ∈ nw ↔ (kB ≤ i ∧ i < m) ∧ n2f_acc E calls i = false := by
    intro i
    rw [hnwdef, List.mem_filter, List.mem_range'_1, Nat.add_sub_cancel' hkm, Bool.not_eq_true']
  have htake : (ao ++ nw).take kA = ao.take kA := List.take_append_of_le_length I.kAle
  refine ⟨s, m, kA, ao ++ nw, yo, ?_⟩
  rw [hstep, ← hnwdef]
  exact { I with
    kBs := hms
    rxB := hrx'
    fired := by
      simp only [I.fired]
      rw [n2_range_split m kB hkm, List.filter_append, List.map_append]
    running := by
      simp only [I.running]
      rw [n2_filter_grow _ hkm I.aoLt fun i hi => ⟨((hnw i).mp hi).1.1, ((hnw i).mp hi).2⟩, List.map_append]
    aoN := by
      refine List.nodup_append.mpr ⟨I.aoN, ?_, fun a ha b hb e => ?_⟩
      · rw [hnwdef]; exact List.Nodup.sublist List.filter_sublist List.nodup_range'
      · exact Nat.lt_irrefl _ (Nat.lt_of_lt_of_le (e ▸ I.aoLt a ha) ((hnw b).mp hb).1.1)
    aoLt := fun i hi => (List.mem_append.mp hi).elim
      (fun h => Nat.lt_of_lt_of_le (I.aoLt i h) hkm) fun h => ((hnw i).mp h).1.2
    rej := fun i him hacc => (Nat.lt_or_ge i kB).elim
      (fun hik => List.mem_append_left _ (I.rej i hik hacc))
      fun hik => List.mem_append_right _ ((hnw i).mpr ⟨⟨hik, him⟩, hacc⟩)
    kAle := by rw [List.length_append]; exact Nat.le_add_right_of_le I.kAle
    rxA := by
      rw [htake, List.map_append]
      exact n2f_rx_writes _ I.rxA
    resolved := htake ▸ I.resolved
    yoSub := htake ▸ I.yoSub
    pending := htake ▸ I.pending
    nab := by simp only [I.nab, Bool.false_or] }

theorem n2f_natKey_run (n i : Nat) :
    ((n2f_expRun E calls i).2.1.natKey == some n) = (i == n) := by
  simp [n2f_expRun, n2_idJ, J.natKey]

theorem n2f_inv_answer (H : n2f_Hyp E calls) {w : n2_World} {s kB kA : Nat} {ao yo : List Nat}
    (I : n2f_Inv E calls w s kB kA ao yo) (n : Nat) :
    n2f_Reach E calls (n2_step E w (.answer n)) := by
  have hfind := n2_find_map (n2f_expRun E calls) (fun r => r.2.1.natKey == some n) n
    (fun i => n2f_natKey_run n i)
    ((List.range kB).filter (fun i => n2f_acc E calls i && !decide (i ∈ ao)))
  rw [← I.running] at hfind
  -- handler `n` is running: its result goes on the stream B→A and `n` at the end of `ao`; otherwise nothing happens
  by_cases hn : n ∈ (List.range kB).filter (fun i => n2f_acc E calls i && !decide (i ∈ ao))
  · rw [if_pos hn] at hfind
    have herase := n2_eraseP_map (n2f_expRun E calls) (fun r => r.2.1.natKey == some n) n
      (fun i => n2f_natKey_run n i) _
      (List.Nodup.sublist (List.filter_sublist (p := fun i => n2f_acc E calls i && !decide (i ∈ ao)))
        (List.nodup_range (n := kB)))
    rw [← I.running, n2_filter_snoc] at herase
    obtain ⟨hnk, hnacc, hnao⟩ : n < kB ∧ n2f_acc E calls n = true ∧ n ∉ ao := by simpa using hn
    have htake : (ao ++ [n]).take kA = ao.take kA := List.take_append_of_le_length I.kAle
    have hbeh := n2f_beh_eq E calls H (Nat.lt_of_lt_of_le hnk (Nat.le_trans I.kBs I.hs)) hnacc
    refine ⟨s, kB, kA, ao ++ [n], yo, ?_⟩
    simp only [n2_step, n2_takeAnswer, hfind, n2f_expRun, n2_resultHandler, if_true, herase, hbeh]
    exact { I with
      running := rfl
      aoN := nodup_concat I.aoN hnao
      aoLt := fun i hi => (List.mem_append.mp hi).elim (I.aoLt i) fun h => List.mem_singleton.mp h ▸ hnk
      rej := fun i hi ha => List.mem_append_left _ (I.rej i hi ha)
      kAle := by rw [List.length_append]; exact Nat.le_add_right_of_le I.kAle
      rxA := by
        rw [htake, List.map_append]
        simp only [sendResult, n2_wire, List.append_nil]
        exact n2_rx_write (n2f_ansPkt E calls n) I.rxA
      resolved := htake ▸ I.resolved
      yoSub := htake ▸ I.yoSub
      pending := htake ▸ I.pending }
  · rw [if_neg hn] at hfind
    refine ⟨s, kB, kA, ao, yo, ?_⟩
    simp only [n2_step, n2_takeAnswer, hfind]
    exact I

/-- a read of A: the answers from `kA` up to some `m` are processed, each resolving its own call -/
theorem n2f_readA (H : n2f_Hyp E calls) {w : n2_World} {s kB kA : Nat} {ao yo : List Nat}
    (I : n2f_Inv E calls w s kB kA ao yo) (n : Nat) :
    ∃ m buf', kA ≤ m ∧ m ≤ ao.length ∧
      n2_Rx E.proc (ao.map (n2f_ansPkt E calls)) (w.ba.drop n) buf' ((ao.take m).map (n2f_ansPkt E calls)) ∧
      ao.take m = ao.take kA ++ (ao.take m).drop kA ∧
      recv E.cA E.parse w.a (w.ba.take n) =
        ({ w.a with buf := buf', pending := ((List.range s).filter (fun i => !decide (i ∈ yo))).map
                                              (n2f_expPend E calls (ao.take m)) },
         ((ao.take m).drop kA).map (fun i => Eff.resolve i (n2f_val E calls i) (.bool false)), false) := by
  obtain ⟨m, buf', hkm, hml, hrx', hrecv⟩ := n2_recv_take E.cA E.parse H.codec _
    (fun i hi => H.ansGood i (I.ao_lt i hi)) I.kAle w.a n I.rxA
  have hsplit : ao.take m = ao.take kA ++ (ao.take m).drop kA := by
    have := (List.take_append_drop kA (ao.take m)).symm
    rwa [List.take_take, Nat.min_eq_left hkm] at this
  have hnd : (ao.take kA ++ (ao.take m).drop kA).Nodup :=
    hsplit ▸ List.Nodup.sublist (List.take_sublist _ _) I.aoN
  have hnd := List.nodup_append.mp hnd
  have hcond : ∀ i ∈ (ao.take m).drop kA,
      i ∈ (List.range s).filter (fun i => !decide (i ∈ yo)) ∧ i ∉ ao.take kA ∧ i < calls.length := by
    intro i hi
    have hiao : i ∈ ao := List.mem_of_mem_take (List.mem_of_mem_drop hi)
    have hnot : i ∉ ao.take kA := fun h => hnd.2.2 i h i hi rfl
    refine ⟨List.mem_filter.mpr ⟨List.mem_range.mpr ?_, ?_⟩, hnot, I.ao_lt i hiao⟩
    · exact Nat.lt_of_lt_of_le (I.aoLt i hiao) I.kBs
    · simpa using fun h => hnot (I.yoSub i h)
  rw [n2f_procA E calls H _ _ (ao.take kA) w.a hnd.2.1 hcond I.pending, ← hsplit] at hrecv
  exact ⟨m, buf', hkm, hml, hrx', hsplit, hrecv⟩

theorem n2f_inv_deliverBA (H : n2f_Hyp E calls) {w : n2_World} {s kB kA : Nat} {ao yo : List Nat}
    (I : n2f_Inv E calls w s kB kA ao yo) (n : Nat) :
    n2f_Reach E calls (n2_step E w (.deliverBA n)) ∧
      (n2_step E w (.deliverBA n)).todo = w.todo ∧ (n2_step E w (.deliverBA n)).ab = w.ab ∧
      (n2_step E w (.deliverBA n)).running = w.running ∧ (n2_step E w (.deliverBA n)).ba = w.ba.drop n := by
  obtain ⟨m, buf', hkm, hml, hrx', hsplit, hrecv⟩ := n2f_readA H I n
  simp only [n2_step, hrecv]
  rw [n2f_absorbA_resolves]
  refine ⟨⟨s, kB, m, ao, yo, ?_⟩, rfl, rfl, rfl, rfl⟩
  exact { I with
    kAle := hml
    rxA := hrx'
    resolved := by
      simp only [I.resolved]
      rw [← List.map_append, ← hsplit]
    yoSub := fun i hi => hsplit ▸ List.mem_append_left _ (I.yoSub i hi)
    pending := rfl
    nab := by simp only [I.nab, Bool.false_or] }

theorem n2f_inv_poll {w : n2_World} {s kB kA : Nat} {ao yo : List Nat}
    (I : n2f_Inv E calls w s kB kA ao yo) (n : Nat) :
    ∃ yo', n2f_Inv E calls (n2_step E w (.poll n)) s kB kA ao yo' ∧ (∀ i ∈ yo, i ∈ yo') ∧
      (n < s → n ∈ ao.take kA → n ∈ yo') := by
  have hfind := n2_find_map (n2f_expPend E calls (ao.take kA)) (fun p => decide (p.id = n)) n
    (fun i => by rw [n2f_pend_id]; rfl) ((List.range s).filter (fun i => !decide (i ∈ yo)))
  rw [← I.pending] at hfind
  -- call `n` is in A's table and answered: its generator is resumed and `n` goes at the end of `yo`; otherwise nothing happens
  by_cases hn : n ∈ (List.range s).filter (fun i => !decide (i ∈ yo))
  · rw [if_pos hn] at hfind
    by_cases hD : n ∈ ao.take kA
    · have hny : n ∉ yo := by simpa using (List.mem_filter.mp hn).2
      refine ⟨yo ++ [n], ?_, fun i hi => List.mem_append_left _ hi, fun _ _ => List.mem_append_right _ (List.mem_singleton_self n)⟩
      have hfin : (n2f_expPend E calls (ao.take kA) n).finished = true := by simp [n2f_expPend, hD]
      simp only [n2_step, poll, hfind, hfin, if_true]
      exact { I with
        yoN := nodup_concat I.yoN hny
        yoSub := fun i hi => (List.mem_append.mp hi).elim (I.yoSub i) fun h => List.mem_singleton.mp h ▸ hD
        pending := by
          simp only [finish, I.pending]
          rw [n2f_finish_map]
          exact congrArg _ (n2_filter_snoc (fun _ => true) _ yo n)
        yielded := by
          simp [I.yielded, n2f_expYield, n2f_expPend, hD] }
    · refine ⟨yo, ?_, fun i hi => hi, fun _ h => absurd h hD⟩
      have hfin : (n2f_expPend E calls (ao.take kA) n).finished = false := by simp [n2f_expPend, hD]
      simp only [n2_step, poll, hfind, hfin]
      exact I
  · rw [if_neg hn] at hfind
    refine ⟨yo, ?_, fun i hi => hi, fun h1 _ => ?_⟩
    · simp only [n2_step, poll, hfind]
      exact I
    · have : ¬ (n < s ∧ n ∉ yo) := by simpa using hn
      exact Classical.byContradiction fun h => this ⟨h1, h⟩

theorem n2f_reach_step (H : n2f_Hyp E calls) {w : n2_World} (h : n2f_Reach E calls w) (st : n2_Step) :
    n2f_Reach E calls (n2_step E w st) := by
  obtain ⟨s, kB, kA, ao, yo, I⟩ := h
  cases st with
  | send => exact n2f_inv_send H I
  | deliverAB n => exact n2f_inv_deliverAB H I n
  | answer n => exact n2f_inv_answer H I n
  | deliverBA n => exact (n2f_inv_deliverBA H I n).1
  | poll n => exact (n2f_inv_poll I n).elim fun yo' I' => ⟨s, kB, kA, ao, yo', I'.1⟩

theorem n2f_reach_run (H : n2f_Hyp E calls) (sched : List n2_Step) :
    ∀ {w : n2_World}, n2f_Reach E calls w → n2f_Reach E calls (n2_run E w sched) :=
  fun h => List.foldlRecOn sched (n2_step E) h fun _ h st _ => n2f_reach_step H h st

end

theorem n2_polls_frame (E : n2_Env) (l : List Nat) :
    ∀ w : n2_World, ∃ a y, n2_run E w (l.map n2_Step.poll) = { w with a := a, yielded := y } := by
  induction l with
  | nil => intro w; exact ⟨_, _, rfl⟩
  | cons n l ih =>
    intro w
    have h1 : ∃ a y, n2_step E w (.poll n) = { w with a := a, yielded := y } := by
      simp only [n2_step]
      split
      · split <;> exact ⟨_, _, rfl⟩
      · exact ⟨_, _, rfl⟩
    obtain ⟨a, y, h1⟩ := h1
    obtain ⟨a', y', h2⟩ := ih (n2_step E w (.poll n))
    exact ⟨a', y', by rw [List.map_cons, n2_run, List.foldl_cons, ← n2_run, h2, h1]⟩

section
variable {E : n2_Env} {calls : List Ev}

theorem n2f_inv_polls (l : List Nat) :
    ∀ {w : n2_World} {s kB kA : Nat} {ao yo : List Nat}, n2f_Inv E calls w s kB kA ao yo →
      ∃ yo', n2f_Inv E calls (n2_run E w (l.map n2_Step.poll)) s kB kA ao yo' ∧ (∀ i ∈ yo, i ∈ yo') ∧
        (∀ n ∈ l, n < s → n ∈ ao.take kA → n ∈ yo') := by
  induction l with
  | nil => intro w s kB kA ao yo I; exact ⟨yo, I, fun i hi => hi, by simp⟩
  | cons n l ih =>
    intro w s kB kA ao yo I
    obtain ⟨yo1, I1, hsub1, hn1⟩ := n2f_inv_poll I n
    obtain ⟨yo2, I2, hsub2, hn2⟩ := ih I1
    refine ⟨yo2, I2, fun i hi => hsub2 i (hsub1 i hi), ?_⟩
    intro k hk hks hkD
    rcases List.mem_cons.mp hk with rfl | h
    · exact hsub2 _ (hn1 hks hkD)
    · exact hn2 k h hks hkD

theorem n2f_safety_reach {w : n2_World} (h : n2f_Reach E calls w) :
    w.fired <+: ((List.range calls.length).filter (n2f_acc E calls)).map (n2_expFire E calls) ∧
    (∃ order : List Nat, order.Nodup ∧ (∀ i ∈ order, i < calls.length) ∧
        w.resolved = order.map (n2f_expRes E calls)) ∧
    (∃ yo : List Nat, yo.Nodup ∧ (∀ i ∈ yo, n2f_expRes E calls i ∈ w.resolved) ∧
        w.yielded = yo.map (n2f_expYield E calls)) ∧
    w.aborted = false := by
  obtain ⟨s, kB, kA, ao, yo, I⟩ := h
  refine ⟨?_, ⟨ao.take kA, ?_, ?_, I.resolved⟩, ⟨yo, I.yoN, ?_, I.yielded⟩, I.nab⟩
  · rw [I.fired, n2_range_split calls.length kB (Nat.le_trans I.kBs I.hs), List.filter_append,
      List.map_append]
    exact List.prefix_append _ _
  · exact List.Nodup.sublist (List.take_sublist _ _) I.aoN
  · exact fun i hi => I.ao_lt i (List.mem_of_mem_take hi)
  · intro i hi
    rw [I.resolved]
    exact List.mem_map.mpr ⟨i, I.yoSub i hi, rfl⟩

theorem n2f_quiescent_ghost (H : n2f_Hyp E calls) {w : n2_World} {s kB kA : Nat} {ao yo : List Nat}
    (I : n2f_Inv E calls w s kB kA ao yo) (q : n2_Quiescent w) :
    s = calls.length ∧ kB = calls.length ∧ kA = ao.length ∧ ao.Perm (List.range calls.length) ∧
      w.a.buf = [] ∧ w.b.buf = [] := by
  obtain ⟨q1, q2, q3, q4⟩ := q
  have hs : s = calls.length :=
    Nat.le_antisymm I.hs (List.drop_eq_nil_iff.mp (I.todo.symm.trans q1))
  obtain ⟨hbbuf, hkB⟩ := n2_rx_done H.codec (n2_callPkt E calls)
    (fun i hi => H.callGood i (Nat.lt_of_lt_of_le (List.mem_range.mp hi) I.hs))
    (k := kB) (by rw [List.length_range]; exact I.kBs) (q2 ▸ (n2_take_range s kB I.kBs).symm ▸ I.rxB)
  rw [List.length_range] at hkB
  obtain ⟨habuf, hkA⟩ := n2_rx_done H.codec (n2f_ansPkt E calls) (fun i hi => H.ansGood i (I.ao_lt i hi))
    I.kAle (q3 ▸ I.rxA)
  have hall : ∀ i, i < kB → i ∈ ao := by
    intro i hi
    cases ha : n2f_acc E calls i with
    | false => exact I.rej i hi ha
    | true =>
      have h2 : (List.range kB).filter (fun i => n2f_acc E calls i && !decide (i ∈ ao)) = [] :=
        List.map_eq_nil_iff.mp (I.running.symm.trans q4)
      simpa [ha] using List.filter_eq_nil_iff.mp h2 i (List.mem_range.mpr hi)
  refine ⟨hs, hkB.trans hs, hkA, ?_, habuf, hbbuf⟩
  rw [List.perm_ext_iff_of_nodup I.aoN List.nodup_range]
  exact fun i => ⟨fun hi => List.mem_range.mpr (I.ao_lt i hi),
    fun hi => hall i ((hkB.trans hs).symm ▸ List.mem_range.mp hi)⟩

theorem n2f_complete_reach (H : n2f_Hyp E calls) {w : n2_World} (h : n2f_Reach E calls w)
    (q : n2_Quiescent w) :
    w.fired = ((List.range calls.length).filter (n2f_acc E calls)).map (n2_expFire E calls) ∧
    w.resolved.Perm ((List.range calls.length).map (n2f_expRes E calls)) ∧
    (∀ p ∈ w.a.pending, p.finished = true ∧ p.id < calls.length ∧
        p.values = [n2f_val E calls p.id] ∧ p.errors = n2f_errs E calls p.id) ∧
    w.a.buf = [] ∧ w.b.buf = [] ∧ w.b.pending = [] ∧ w.aborted = false := by
  obtain ⟨s, kB, kA, ao, yo, I⟩ := h
  obtain ⟨hs, hkB, hkA, hperm, habuf, hbbuf⟩ := n2f_quiescent_ghost H I q
  have htake : ao.take kA = ao := by rw [hkA]; exact List.take_length
  refine ⟨by rw [I.fired, hkB], ?_, ?_, habuf, hbbuf, I.bpend, I.nab⟩
  · rw [I.resolved, htake]
    exact hperm.map _
  · intro p hp
    rw [I.pending, htake] at hp
    obtain ⟨i, hi, rfl⟩ := List.mem_map.mp hp
    have hi' : i < s := by
      have := (List.mem_filter.mp hi).1
      exact List.mem_range.mp this
    have hiao : i ∈ ao := hperm.mem_iff.mpr (List.mem_range.mpr (by omega))
    simp [n2f_expPend, hiao]
    omega

theorem n2f_complete_polled_reach (H : n2f_Hyp E calls) {w : n2_World} (h : n2f_Reach E calls w)
    (q : n2_Quiescent w) :
    (n2_run E w ((List.range calls.length).map n2_Step.poll)).a.pending = [] ∧
    (n2_run E w ((List.range calls.length).map n2_Step.poll)).yielded.Perm
      ((List.range calls.length).map (n2f_expYield E calls)) ∧
    n2_Quiescent (n2_run E w ((List.range calls.length).map n2_Step.poll)) ∧
    n2f_Reach E calls (n2_run E w ((List.range calls.length).map n2_Step.poll)) := by
  obtain ⟨s, kB, kA, ao, yo, I⟩ := h
  obtain ⟨hs, hkB, hkA, hperm, _, _⟩ := n2f_quiescent_ghost H I q
  obtain ⟨yo', I', _, hall⟩ := n2f_inv_polls (List.range calls.length) I
  have hyall : ∀ i, i < calls.length → i ∈ yo' := fun i hi =>
    hall i (List.mem_range.mpr hi) (hs ▸ hi)
      (by rw [hkA, List.take_length]; exact hperm.mem_iff.mpr (List.mem_range.mpr hi))
  have hq : n2_Quiescent (n2_run E w ((List.range calls.length).map n2_Step.poll)) := by
    obtain ⟨a, y, e⟩ := n2_polls_frame E (List.range calls.length) w
    rw [e]; exact q
  refine ⟨?_, ?_, hq, ⟨s, kB, kA, ao, yo', I'⟩⟩
  · rw [I'.pending, List.filter_eq_nil_iff.mpr, List.map_nil]
    intro i hi
    simpa using hyall i (hs ▸ List.mem_range.mp hi)
  · rw [I'.yielded]
    refine ((List.perm_ext_iff_of_nodup I'.yoN List.nodup_range).mpr fun i =>
      ⟨fun hi => ?_, fun hi => hyall i (List.mem_range.mp hi)⟩).map _
    exact List.mem_range.mpr (hkB ▸ I'.aoLt i (List.mem_of_mem_take (I'.yoSub i hi)))

end

theorem n2f_reach_sched (E : n2_Env) (calls : List Ev) (H : n2f_Hyp E calls) (sched : List n2_Step) :
    n2f_Reach E calls (n2_run E (n2_init calls) sched) :=
  n2f_reach_run H sched (n2f_reach_init E calls)

/-- the caller of a rejected call can only ever be resumed with `[null]` -/
theorem n2f_rejected_value (E : n2_Env) (calls : List Ev) (i : Nat)
    (h : n2f_acc E calls i = false) : n2f_val E calls i = .null := by
  simp [n2f_val, h]

theorem n2f_rejected_yield (E : n2_Env) (calls : List Ev) (i : Nat)
    (h : n2f_acc E calls i = false) :
    n2f_expYield E calls i = (i, [.null], n2f_errs E calls i) := by
  simp [n2f_expYield, n2f_rejected_value E calls i h]

theorem n2f_accepted_value (E : n2_Env) (calls : List Ev) (i : Nat)
    (h : n2f_acc E calls i = true) :
    n2f_val E calls i = ((E.beh (n2f_rank E calls i) (n2_evB E calls i)).getD (.null, [])).1 := by
  simp [n2f_val, h]

theorem n2_answer_head (E : n2_Env) (w : n2_World) (e : Ev) (id : J) (k n : Nat) (rest : List (Ev × J × Nat))
    (hr : w.running = (e, id, k) :: rest) (hid : id.natKey = some n) :
    ∃ b, n2_step E w (.answer n) = { w with running := rest, ba := b } := by
  simp only [n2_step, n2_takeAnswer, hr, hid, n2_resultHandler, List.find?_cons, List.eraseP_cons,
    beq_self_eq_true, if_true]
  split <;> exact ⟨_, rfl⟩

section
variable {E : n2_Env} {calls : List Ev}

theorem n2f_prog_send (H : n2f_Hyp E calls) : ∀ (k : Nat) {w : n2_World}, n2f_Reach E calls w → w.todo.length = k →
    ∃ l, n2f_Reach E calls (n2_run E w l) ∧ (n2_run E w l).todo = [] := by
  intro k
  induction k with
  | zero => intro w h hk; exact ⟨[], h, List.eq_nil_of_length_eq_zero hk⟩
  | succ k ih =>
    intro w h hk
    have h1 := n2f_reach_step H h .send
    have hl : (n2_step E w .send).todo.length = k := by
      cases ht : w.todo with
      | nil => rw [ht] at hk; simp at hk
      | cons e r => rw [ht] at hk; simp [n2_step, ht] at hk ⊢; omega
    obtain ⟨l, hl1, hl2⟩ := ih h1 hl
    exact ⟨.send :: l, hl1, hl2⟩

theorem n2f_prog_answers (H : n2f_Hyp E calls) : ∀ (k : Nat) {w : n2_World}, n2f_Reach E calls w →
    w.todo = [] → w.ab = [] → w.running.length = k →
    ∃ l, n2f_Reach E calls (n2_run E w l) ∧ (n2_run E w l).todo = [] ∧ (n2_run E w l).ab = [] ∧
      (n2_run E w l).running = [] := by
  intro k
  induction k with
  | zero => intro w h h1 h2 hk; exact ⟨[], h, h1, h2, List.eq_nil_of_length_eq_zero hk⟩
  | succ k ih =>
    intro w h h1 h2 hk
    obtain ⟨s, kB, kA, ao, yo, I⟩ := h
    have hrun := I.running
    cases hF : (List.range kB).filter (fun i => n2f_acc E calls i && !decide (i ∈ ao)) with
    | nil => rw [hF] at hrun; rw [hrun] at hk; simp at hk
    | cons i F =>
      rw [hF] at hrun
      have hr : w.running = (n2_evB E calls i, n2_idJ i, n2f_rank E calls i) :: F.map (n2f_expRun E calls) := by
        rw [hrun]; rfl
      obtain ⟨b, hstep⟩ := n2_answer_head E w _ _ _ i _ hr (by simp [n2_idJ, J.natKey])
      have hR := n2f_reach_step H ⟨s, kB, kA, ao, yo, I⟩ (.answer i)
      rw [hstep] at hR
      obtain ⟨l, c⟩ := ih hR h1 h2 (by rw [hr] at hk; simpa using hk)
      rw [← hstep] at c
      exact ⟨.answer i :: l, c⟩

/-- no deadlock: send what is left, one read on B, let the handlers return, one read on A -/
theorem n2f_progress (H : n2f_Hyp E calls) {w : n2_World} (h : n2f_Reach E calls w) :
    ∃ more, n2_Quiescent (n2_run E w more) := by
  obtain ⟨l1, r1, t1⟩ := n2f_prog_send H _ h rfl
  -- one read of everything in flight towards B
  let w2 := n2_step E (n2_run E w l1) (.deliverAB (n2_run E w l1).ab.length)
  have r2 : n2f_Reach E calls w2 := n2f_reach_step H r1 _
  have t2 : w2.todo = [] := by simp only [w2, n2_step, n2_absorbB_eq]; exact t1
  have a2 : w2.ab = [] := by simp only [w2, n2_step, n2_absorbB_eq]; exact List.drop_length
  obtain ⟨l3, r3, t3, a3, u3⟩ := n2f_prog_answers H _ r2 t2 a2 rfl
  obtain ⟨s, kB, kA, ao, yo, I⟩ := r3
  obtain ⟨_, ft, fa, fr, fb⟩ := n2f_inv_deliverBA H I (n2_run E w2 l3).ba.length
  refine ⟨l1 ++ (.deliverAB (n2_run E w l1).ab.length :: l3) ++ [.deliverBA (n2_run E w2 l3).ba.length], ?_⟩
  have e : n2_run E w (l1 ++ (.deliverAB (n2_run E w l1).ab.length :: l3) ++
      [.deliverBA (n2_run E w2 l3).ba.length]) =
      n2_step E (n2_run E w2 l3) (.deliverBA (n2_run E w2 l3).ba.length) := by
    rw [n2_run_append, n2_run_append]
    rfl
  rw [e]
  exact ⟨ft.trans t3, fa.trans a3, by rw [fb]; simp, fr.trans u3⟩

end

end Node
end CV
