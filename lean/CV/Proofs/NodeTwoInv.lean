import CV.Proofs.NodeTwoFw
/-
C19, two-party composition when B's receive firewall accepts every call (`n2_Hyp.recvOk`): the
handler number of a call is then its call number and every answer is the handler's, so the
invariant `n2f_Inv` of NodeTwoFw.lean reads as `n2_Inv`, in the expectations of NodeTwo.lean, and
its observations read as what `Safe` and `Completed` (CV/Props/C19.lean) state.

The ghost parameters `s kB kA ao yo` are those of `n2f_Inv`.

At the end, toy instances of the two-party world showing that the hypotheses of the once-and-back theorems are satisfiable:
`n2_toyEnv` (two calls, a four-packet "JSON", every call accepted: `n2_Hyp`) and `n2f_toyEnv` (three calls, a six-packet
"JSON", a *rejecting* receive firewall on B: `n2f_Hyp` with some call rejected and some accepted - and with an accepted
call whose handler number (rank 1) differs from its call number (2)).  In both every packet has four bytes, so the
hypotheses on the oracle come from `n2f_Hyp.of_length`; what is left are the finite tables.
-/
namespace CV
namespace Node

structure n2_Inv (E : n2_Env) (calls : List Ev) (w : n2_World) (s kB kA : Nat) (ao yo : List Nat) : Prop where
  hs : s ≤ calls.length
  todo : w.todo = calls.drop s
  anid : w.a.nid = s
  kBs : kB ≤ s
  rxB : n2_Rx E.proc ((List.range s).map (n2_callPkt E calls)) w.ab w.b.buf
          ((List.range kB).map (n2_callPkt E calls))
  fired : w.fired = (List.range kB).map (n2_expFire E calls)
  running : w.running = ((List.range kB).filter (fun i => !decide (i ∈ ao))).map (n2_expRun E calls)
  aoN : ao.Nodup
  aoLt : ∀ i ∈ ao, i < kB
  kAle : kA ≤ ao.length
  rxA : n2_Rx E.proc (ao.map (n2_ansPkt E calls)) w.ba w.a.buf ((ao.take kA).map (n2_ansPkt E calls))
  resolved : w.resolved = (ao.take kA).map (n2_expRes E calls)
  yoN : yo.Nodup
  yoSub : ∀ i ∈ yo, i ∈ ao.take kA
  pending : w.a.pending =
    ((List.range s).filter (fun i => !decide (i ∈ yo))).map (n2_expPend E calls (ao.take kA))
  yielded : w.yielded = yo.map (n2_expYield E calls)
  bpend : w.b.pending = []
  nab : w.aborted = false

section
variable {E : n2_Env} {calls : List Ev}

theorem n2f_rank_all (h : ∀ i < calls.length, n2f_acc E calls i = true) :
    ∀ i, i ≤ calls.length → n2f_rank E calls i = i := by
  intro i
  induction i with
  | zero => intro _; simp [n2f_rank]
  | succ k ih =>
    intro hk
    rw [n2f_rank_succ, ih (by omega), h k (by omega)]
    simp

/-- at call `i` the expectations of NodeTwoFw.lean (`n2f_…`) are those of NodeTwo.lean (`n2_…`) -/
structure n2f_ExpEq (E : n2_Env) (calls : List Ev) (i : Nat) : Prop where
  val : n2f_val E calls i = n2_val E calls i
  errs : n2f_errs E calls i = n2_errs E calls i
  ansJ : n2f_ansJ E calls i = n2_ansJ E calls i
  ansPkt : n2f_ansPkt E calls i = n2_ansPkt E calls i
  expRun : n2f_expRun E calls i = n2_expRun E calls i
  expRes : n2f_expRes E calls i = n2_expRes E calls i
  expYield : n2f_expYield E calls i = n2_expYield E calls i
  expPend : ∀ D, n2f_expPend E calls D i = n2_expPend E calls D i

/-- when nothing is rejected, rank and call number agree, and with them all expectations -/
theorem n2f_exp_of_open (hacc : ∀ i < calls.length, n2f_acc E calls i = true) {i : Nat} (hi : i < calls.length) :
    n2f_ExpEq E calls i := by
  have hr := n2f_rank_all hacc i (Nat.le_of_lt hi)
  have hv : n2f_val E calls i = n2_val E calls i := by simp [n2f_val, n2_val, hacc i hi, hr]
  have ha : n2f_ats E calls i = n2_ats E calls i := by simp [n2f_ats, n2_ats, hacc i hi, hr]
  refine ⟨hv, ?_, ?_, ?_, ?_, ?_, ?_, fun D => ?_⟩ <;>
    simp only [n2f_ansPkt, n2f_ansJ, n2f_errs, n2f_metas, n2f_meta, n2f_expRun, n2f_expRes, n2f_expYield,
      n2f_expPend, hv, ha, hr] <;> rfl

theorem n2f_hyp_of_hyp (H : n2_Hyp E calls) : n2f_Hyp E calls where
  codec := H.codec
  wf := H.wf
  sendOk := H.sendOk
  returns := fun i hi _ => (n2f_rank_all H.recvOk i (Nat.le_of_lt hi)).symm ▸ H.returns i hi
  callParse := H.callParse
  callGood := H.callGood
  ansParse := fun i hi => by
    have e := n2f_exp_of_open H.recvOk hi
    rw [e.ansJ, e.ansPkt]; exact H.ansParse i hi
  ansGood := fun i hi => (n2f_exp_of_open H.recvOk hi).ansPkt ▸ H.ansGood i hi

theorem n2_hyp_of_open (H : n2f_Hyp E calls) (hacc : ∀ i < calls.length, n2f_acc E calls i = true) :
    n2_Hyp E calls where
  codec := H.codec
  wf := H.wf
  sendOk := H.sendOk
  recvOk := hacc
  returns := fun i hi => by
    have h := H.returns i hi (hacc i hi)
    rwa [n2f_rank_all hacc i (Nat.le_of_lt hi)] at h
  callParse := H.callParse
  callGood := H.callGood
  ansParse := fun i hi => by
    have e := n2f_exp_of_open hacc hi
    rw [← e.ansJ, ← e.ansPkt]; exact H.ansParse i hi
  ansGood := fun i hi => (n2f_exp_of_open hacc hi).ansPkt ▸ H.ansGood i hi

theorem n2_inv_of_fw (H : n2_Hyp E calls) {w : n2_World} {s kB kA : Nat} {ao yo : List Nat}
    (I : n2f_Inv E calls w s kB kA ao yo) : n2_Inv E calls w s kB kA ao yo := by
  have hkB : kB ≤ calls.length := Nat.le_trans I.kBs I.hs
  have hacc : ∀ i ∈ List.range kB, n2f_acc E calls i = true := fun i hi =>
    H.recvOk i (Nat.lt_of_lt_of_le (List.mem_range.mp hi) hkB)
  have htk : ∀ i ∈ ao.take kA, i < calls.length := fun i hi => I.ao_lt i (List.mem_of_mem_take hi)
  have hpk : ∀ l : List Nat, (∀ i ∈ l, i < calls.length) →
      l.map (n2f_ansPkt E calls) = l.map (n2_ansPkt E calls) := fun l hl =>
    List.map_congr_left fun i hi => (n2f_exp_of_open H.recvOk (hl i hi)).ansPkt
  exact {
    hs := I.hs, todo := I.todo, anid := I.anid, kBs := I.kBs, rxB := I.rxB
    fired := by rw [I.fired, List.filter_eq_self.mpr hacc]
    running := by
      rw [I.running, List.filter_congr fun i hi => by rw [hacc i hi, Bool.true_and]]
      exact List.map_congr_left fun i hi =>
        (n2f_exp_of_open H.recvOk (Nat.lt_of_lt_of_le (List.mem_range.mp (List.mem_filter.mp hi).1) hkB)).expRun
    aoN := I.aoN, aoLt := I.aoLt, kAle := I.kAle
    rxA := hpk _ I.ao_lt ▸ hpk _ htk ▸ I.rxA
    resolved := I.resolved.trans (List.map_congr_left fun i hi => (n2f_exp_of_open H.recvOk (htk i hi)).expRes)
    yoN := I.yoN, yoSub := I.yoSub
    pending := I.pending.trans (List.map_congr_left fun i hi =>
      (n2f_exp_of_open H.recvOk (Nat.lt_of_lt_of_le (List.mem_range.mp (List.mem_filter.mp hi).1) I.hs)).expPend _)
    yielded := I.yielded.trans (List.map_congr_left fun i hi =>
      (n2f_exp_of_open H.recvOk (htk i (I.yoSub i hi))).expYield)
    bpend := I.bpend, nab := I.nab }

theorem n2_safety (H : n2_Hyp E calls) {w : n2_World} (h : n2f_Reach E calls w) :
    w.fired <+: (List.range calls.length).map (n2_expFire E calls) ∧
    (∃ order : List Nat, order.Nodup ∧ (∀ i ∈ order, i < w.fired.length) ∧
        w.resolved = order.map (n2_expRes E calls)) ∧
    (∃ yo : List Nat, yo.Nodup ∧ (∀ i ∈ yo, n2_expRes E calls i ∈ w.resolved) ∧
        w.yielded = yo.map (n2_expYield E calls)) ∧
    w.aborted = false := by
  obtain ⟨s, kB, kA, ao, yo, I⟩ := h
  have I := n2_inv_of_fw H I
  refine ⟨?_, ⟨ao.take kA, ?_, ?_, I.resolved⟩, ⟨yo, I.yoN, ?_, I.yielded⟩, I.nab⟩
  · rw [I.fired, n2_range_split calls.length kB (Nat.le_trans I.kBs I.hs), List.map_append]
    exact List.prefix_append _ _
  · exact List.Nodup.sublist (List.take_sublist _ _) I.aoN
  · intro i hi
    rw [I.fired]; simpa using I.aoLt i (List.mem_of_mem_take hi)
  · intro i hi
    rw [I.resolved]
    exact List.mem_map.mpr ⟨i, I.yoSub i hi, rfl⟩

theorem n2_complete (H : n2_Hyp E calls) {w : n2_World} (h : n2f_Reach E calls w) (q : n2_Quiescent w) :
    w.fired = (List.range calls.length).map (n2_expFire E calls) ∧
    w.resolved.Perm ((List.range calls.length).map (n2_expRes E calls)) ∧
    (∀ p ∈ w.a.pending, p.finished = true ∧ p.id < calls.length ∧
        p.values = [n2_val E calls p.id] ∧ p.errors = n2_errs E calls p.id) ∧
    w.a.buf = [] ∧ w.b.buf = [] ∧ w.b.pending = [] ∧ w.aborted = false := by
  obtain ⟨hf, hr, hp, rest⟩ := n2f_complete_reach (n2f_hyp_of_hyp H) h q
  have hall : ∀ i ∈ List.range calls.length, n2f_acc E calls i = true := fun i hi =>
    H.recvOk i (List.mem_range.mp hi)
  refine ⟨by rw [hf, List.filter_eq_self.mpr hall], ?_, ?_, rest⟩
  · rw [← List.map_congr_left fun i hi => (n2f_exp_of_open H.recvOk (List.mem_range.mp hi)).expRes]
    exact hr
  · intro p hpm
    obtain ⟨h1, h2, h3, h4⟩ := hp p hpm
    exact ⟨h1, h2, by rw [h3, (n2f_exp_of_open H.recvOk h2).val], by rw [h4, (n2f_exp_of_open H.recvOk h2).errs]⟩

theorem n2_complete_polled (H : n2_Hyp E calls) {w : n2_World} (h : n2f_Reach E calls w)
    (q : n2_Quiescent w) :
    (n2_run E w ((List.range calls.length).map n2_Step.poll)).a.pending = [] ∧
    (n2_run E w ((List.range calls.length).map n2_Step.poll)).yielded.Perm
      ((List.range calls.length).map (n2_expYield E calls)) ∧
    n2_Quiescent (n2_run E w ((List.range calls.length).map n2_Step.poll)) ∧
    n2f_Reach E calls (n2_run E w ((List.range calls.length).map n2_Step.poll)) := by
  obtain ⟨h1, h2, h3⟩ := n2f_complete_polled_reach (n2f_hyp_of_hyp H) h q
  refine ⟨h1, ?_, h3⟩
  rw [← List.map_congr_left fun i hi => (n2f_exp_of_open H.recvOk (List.mem_range.mp hi)).expYield]
  exact h2

end

theorem Good.of_length {proc : Bytes → POut} {n : Nat} (hshort : ∀ q : Bytes, q.length ≠ n → proc q = .valueError)
    {p : Bytes} (hl : p.length = n) (hn : TILDE ∉ p) (hd : proc p = .done) : Good proc p := by
  refine ⟨hn, hd, ?_, hshort _ (by simp [hl]), hshort _ (by simp [hl])⟩
  intro q r h hr
  apply hshort
  have h1 := congrArg List.length h
  have h2 : r.length > 0 := List.length_pos_iff.mpr hr
  simp at h1
  omega

theorem n2f_Hyp.of_length {E : n2_Env} {calls : List Ev} {n : Nat} (hn : 3 ≤ n)
    (hshort : ∀ q : Bytes, q.length ≠ n → E.proc q = .valueError)
    (wf : ∀ i < calls.length, n2_WellFormed (n2_callEv calls i))
    (sendOk : ∀ i < calls.length, E.sendOkA (n2_callEv calls i) = true)
    (returns : ∀ i < calls.length, n2f_acc E calls i = true →
      (E.beh (n2f_rank E calls i) (n2_evB E calls i)).isSome = true)
    (call : ∀ i < calls.length, (n2_callPkt E calls i).length = n ∧
      E.parse (n2_callPkt E calls i) = .parsed (n2_callJ E calls i))
    (ans : ∀ i < calls.length, (n2f_ansPkt E calls i).length = n ∧
      E.parse (n2f_ansPkt E calls i) = .parsed (n2f_ansJ E calls i)) : n2f_Hyp E calls where
  codec := ⟨hshort _ (by simp; omega), hshort _ (by simp; omega), hshort _ (by simp; omega)⟩
  wf := wf
  sendOk := sendOk
  returns := returns
  callParse := fun i hi => (call i hi).2
  callGood := fun i hi =>
    Good.of_length hshort (call i hi).1 (escTilde_noTilde _) (procOf_call (call i hi).2 (wf i hi))
  ansParse := fun i hi => (ans i hi).2
  ansGood := fun i hi => Good.of_length hshort (ans i hi).1 (escTilde_noTilde _) (procOf_answer (ans i hi).2)

def n2_toyCalls : List Ev := [Ev.local "ping" [.str "x~~~y"] [], Ev.local "pong" [] [("value", .null)]]

/-- B's handler returns the call number as a string, and leaves an attribute on the event -/
def n2_toyBeh (k : Nat) (_e : Ev) : Option (J × List (String × J)) :=
  some (.str (toString k), [("seen", .bool true)])

def n2_toyExcl : List String := ["cause", "value"]

/-- a four-packet "JSON": `{c0}` `{c1}` are the two call packets, `{v0}` `{v1}` the two answers -/
def n2_toyDumps : J → Bytes
  | .obj (("id", .num _ (some n) _) :: ("name", _) :: _) => [123, 99, 48 + n.toUInt8, 125]
  | .obj (("id", .num _ (some n) _) :: ("errors", _) :: _) => [123, 118, 48 + n.toUInt8, 125]
  | _ => [63]

def n2_toyCallJ (i : Nat) : J := dumpEvent n2_toyExcl (n2_callEv n2_toyCalls i) (n2_idJ i)

def n2_toyAnsJ (i : Nat) : J :=
  dumpValue n2_toyExcl (n2_idJ i) (.bool false) (.str (toString i)) [("seen", .bool true)]

def n2_toyParse (p : Bytes) : PRes :=
  if p.length ≠ 4 then .valueError
  else if p = [123, 99, 48, 125] then .parsed (n2_toyCallJ 0)
  else if p = [123, 99, 49, 125] then .parsed (n2_toyCallJ 1)
  else if p = [123, 118, 48, 125] then .parsed (n2_toyAnsJ 0)
  else if p = [123, 118, 49, 125] then .parsed (n2_toyAnsJ 1)
  else .valueError

def n2_toyEnv : n2_Env :=
  ⟨n2_toyExcl, fun _ => true, fun _ => true, fun _ => true, fun _ => true, n2_toyParse, n2_toyDumps, n2_toyBeh⟩

theorem n2_toy_pkts : n2_callPkt n2_toyEnv n2_toyCalls 0 = [123, 99, 48, 125] ∧ n2_callPkt n2_toyEnv n2_toyCalls 1 = [123, 99, 49, 125] ∧
    n2_ansPkt n2_toyEnv n2_toyCalls 0 = [123, 118, 48, 125] ∧ n2_ansPkt n2_toyEnv n2_toyCalls 1 = [123, 118, 49, 125] := by
  refine ⟨?_, ?_, ?_, ?_⟩ <;> rfl

theorem n2_toy_short (q : Bytes) (h : q.length ≠ 4) : n2_toyEnv.proc q = .valueError := by
  simp [n2_Env.proc, n2_toyEnv, procOf, n2_toyParse, h]

theorem n2_toy_hyp : n2_Hyp n2_toyEnv n2_toyCalls := by
  obtain ⟨c0, c1, _, _⟩ := n2_toy_pkts
  refine n2_hyp_of_open (.of_length (n := 4) (by decide) n2_toy_short ?_ (fun _ _ => rfl) (fun _ _ _ => rfl) ?_ ?_)
    (fun _ _ => rfl)
  · intro i hi
    match i, hi with
    | 0, _ | 1, _ => exact ⟨by decide, by decide, by decide⟩
  · intro i hi
    match i, hi with
    | 0, _ => rw [c0]; exact ⟨rfl, rfl⟩
    | 1, _ => rw [c1]; exact ⟨rfl, rfl⟩
  · intro i hi
    match i, hi with
    | 0, _ | 1, _ => exact ⟨rfl, rfl⟩

/-- the rejected call carries a user attribute: the refusal sends it back as `meta` -/
def n2f_toyCalls : List Ev :=
  [Ev.local "ping" [.str "x~~~y"] [],
   { Ev.local "pong" [] [("value", .null)] with attrs := [("tag", .str "t")] },
   Ev.local "ping" [] []]

def n2f_toyAttrs1 : List (String × J) := (n2_decoded n2_toyExcl (n2_callEv n2f_toyCalls 1)).attrs

def n2f_toyCallJ (i : Nat) : J := dumpEvent n2_toyExcl (n2_callEv n2f_toyCalls i) (n2_idJ i)

/-- the handlers answer with their *handler* number: "0" for call 0, "1" for call 2; call 1 is
    refused by the firewall with `null` and the attributes of the event -/
def n2f_toyAnsJ : Nat → J
  | 0 => dumpValue n2_toyExcl (n2_idJ 0) (.bool false) (.str "0") [("seen", .bool true)]
  | 1 => dumpValue n2_toyExcl (n2_idJ 1) (.bool false) .null n2f_toyAttrs1
  | _ => dumpValue n2_toyExcl (n2_idJ 2) (.bool false) (.str "1") [("seen", .bool true)]

def n2f_toyParse (p : Bytes) : PRes :=
  if p.length ≠ 4 then .valueError
  else if p = [123, 99, 48, 125] then .parsed (n2f_toyCallJ 0)
  else if p = [123, 99, 49, 125] then .parsed (n2f_toyCallJ 1)
  else if p = [123, 99, 50, 125] then .parsed (n2f_toyCallJ 2)
  else if p = [123, 118, 48, 125] then .parsed (n2f_toyAnsJ 0)
  else if p = [123, 118, 49, 125] then .parsed (n2f_toyAnsJ 1)
  else if p = [123, 118, 50, 125] then .parsed (n2f_toyAnsJ 2)
  else .valueError

/-- B's receive firewall refuses every `pong` -/
def n2f_toyEnv : n2_Env :=
  ⟨n2_toyExcl, fun _ => true, fun _ => true, fun _ => true, fun e => e.name != "pong",
   n2f_toyParse, n2_toyDumps, n2_toyBeh⟩

example : n2f_acc n2f_toyEnv n2f_toyCalls 0 = true := by decide
example : n2f_acc n2f_toyEnv n2f_toyCalls 1 = false := by decide
example : n2f_acc n2f_toyEnv n2f_toyCalls 2 = true := by decide
example : n2f_rank n2f_toyEnv n2f_toyCalls 2 = 1 := by decide

theorem n2f_toy_acc : n2f_acc n2f_toyEnv n2f_toyCalls 0 = true ∧ n2f_acc n2f_toyEnv n2f_toyCalls 1 = false ∧
    n2f_acc n2f_toyEnv n2f_toyCalls 2 = true := by
  refine ⟨?_, ?_, ?_⟩ <;> decide

theorem n2f_toy_pkts :
    n2_callPkt n2f_toyEnv n2f_toyCalls 0 = [123, 99, 48, 125] ∧
    n2_callPkt n2f_toyEnv n2f_toyCalls 1 = [123, 99, 49, 125] ∧
    n2_callPkt n2f_toyEnv n2f_toyCalls 2 = [123, 99, 50, 125] ∧
    n2f_ansPkt n2f_toyEnv n2f_toyCalls 0 = [123, 118, 48, 125] ∧
    n2f_ansPkt n2f_toyEnv n2f_toyCalls 1 = [123, 118, 49, 125] ∧
    n2f_ansPkt n2f_toyEnv n2f_toyCalls 2 = [123, 118, 50, 125] := by
  refine ⟨?_, ?_, ?_, ?_, ?_, ?_⟩ <;> rfl

theorem n2f_toy_short (q : Bytes) (h : q.length ≠ 4) : n2f_toyEnv.proc q = .valueError := by
  simp [n2_Env.proc, n2f_toyEnv, procOf, n2f_toyParse, h]

theorem n2f_toy_hyp : n2f_Hyp n2f_toyEnv n2f_toyCalls := by
  obtain ⟨c0, c1, c2, v0, v1, v2⟩ := n2f_toy_pkts
  refine .of_length (n := 4) (by decide) n2f_toy_short ?_ (fun _ _ => rfl) (fun _ _ _ => rfl) ?_ ?_
  · intro i hi
    match i, hi with
    | 0, _ | 1, _ | 2, _ => exact ⟨by decide, by decide, by decide⟩
  · intro i hi
    match i, hi with
    | 0, _ => rw [c0]; exact ⟨rfl, rfl⟩
    | 1, _ => rw [c1]; exact ⟨rfl, rfl⟩
    | 2, _ => rw [c2]; exact ⟨rfl, rfl⟩
  · intro i hi
    match i, hi with
    | 0, _ => rw [v0]; exact ⟨rfl, rfl⟩
    | 1, _ => rw [v1]; exact ⟨rfl, rfl⟩
    | 2, _ => rw [v2]; exact ⟨rfl, rfl⟩

/-- the theorems apply to the toy: whatever the schedule, the rejected call 1 is never dispatched -/
theorem n2f_toy_safety (sched : List n2_Step) :
    (n2_run n2f_toyEnv (n2_init n2f_toyCalls) sched).fired <+:
      [n2_expFire n2f_toyEnv n2f_toyCalls 0, n2_expFire n2f_toyEnv n2f_toyCalls 2] := by
  have h := (n2f_safety_reach (n2f_reach_sched n2f_toyEnv n2f_toyCalls n2f_toy_hyp sched)).1
  have e : ((List.range n2f_toyCalls.length).filter (n2f_acc n2f_toyEnv n2f_toyCalls)) = [0, 2] := by decide
  rw [e] at h
  exact h

end Node
end CV
