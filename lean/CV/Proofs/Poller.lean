import CV.Model.PollerSpec
/-
C10: the invariant tying the kernel object / `_map` to the interest lists
(`PInv`) and its preservation by every operation.  A registration operation is a BasePoller call about one
descriptor (`BaseCall`: what such a call leaves alone; `PInvX`: the invariant up to that descriptor's kernel
entry) followed by `_updateRegistration` (`updateRegistration_fst`: what that leaves behind, for all three kinds).
-/
namespace CV
namespace Poller

@[simp] theorem upd_same {α : Type} (m : Nat → α) (k : Nat) (v : α) : upd m k v k = v := by simp [upd]
@[simp] theorem upd_other {α : Type} (m : Nat → α) (k x : Nat) (v : α) (h : x ≠ k) : upd m k v x = m x := by
  simp [upd, h]

theorem upd_apply {α : Type} (m : Nat → α) (k x : Nat) (v : α) : upd m k v x = if x = k then v else m x := rfl

/-- the descriptor table of the world: `fno` (object to its number while open) and `owner` (number to the open
    object holding it) are inverse to each other (`fo`, `of`), and an open object still has the number it was
    created with (`orig`) -/
structure WInv (w : World) : Prop where
  fo : ∀ o f, w.fno o = some f → w.owner f = some o
  of : ∀ o f, w.owner f = some o → w.fno o = some f
  orig : ∀ o f, w.fno o = some f → w.orig o = some f

theorem WInv.init : WInv World.init := ⟨by simp [World.init], by simp [World.init], by simp [World.init]⟩

theorem WInv.fno_inj {w : World} (h : WInv w) {o o' f} (a : w.fno o = some f) (b : w.fno o' = some f) : o = o' := by
  have := h.fo _ _ a; have := h.fo _ _ b; simp_all

/-- two partial maps that are inverse to each other stay so when a fresh pair is entered (`inv_upd_some`) and when
    a pair is removed (`inv_upd_none`): `fno` / `owner` under `opn` and `close` -/
theorem inv_upd_some {g k : Nat → Option Nat} (h : ∀ a b, g a = some b ↔ k b = some a) {a0 b0 : Nat}
    (ha : g a0 = none) (hb : k b0 = none) (a b : Nat) :
    upd g a0 (some b0) a = some b ↔ upd k b0 (some a0) b = some a := by
  by_cases ea : a = a0 <;> by_cases eb : b = b0 <;> simp only [upd_apply, ea, eb, if_true, if_false]
  · exact ⟨fun x => absurd (Option.some.inj x).symm eb, fun x => nomatch ha.symm.trans ((h a0 b).2 x)⟩
  · exact ⟨fun x => (nomatch hb.symm.trans ((h a b0).1 x)), fun x => absurd (Option.some.inj x).symm ea⟩
  · exact h a b

theorem inv_upd_none {g k : Nat → Option Nat} (h : ∀ a b, g a = some b ↔ k b = some a) {a0 b0 : Nat}
    (hab : g a0 = some b0) (a b : Nat) : upd g a0 none a = some b ↔ upd k b0 none b = some a := by
  by_cases ea : a = a0 <;> by_cases eb : b = b0 <;> simp only [upd_apply, ea, eb, if_true, if_false, reduceCtorEq]
  · exact ⟨nofun, fun x => eb (Option.some.inj (((h a0 b).2 x).symm.trans hab))⟩
  · exact ⟨fun x => ea (Option.some.inj (((h a b0).1 x).symm.trans ((h a0 b0).1 hab))), nofun⟩
  · exact h a b

theorem WInv.iff {w : World} (h : WInv w) (o : Obj) (f : Nat) : w.fno o = some f ↔ w.owner f = some o :=
  ⟨h.fo o f, h.of o f⟩

theorem World.canOpen_iff {w : World} {o : Obj} {f : Nat} :
    w.canOpen o f = true ↔ w.orig o = none ∧ w.owner f = none := by
  simp [World.canOpen]

theorem WInv.fno_of_orig_none {w : World} (h : WInv w) {o : Obj} (c : w.orig o = none) : w.fno o = none := by
  cases hh : w.fno o with
  | none => rfl
  | some f' => exact nomatch c.symm.trans (h.orig _ _ hh)

theorem WInv.opn {w : World} (h : WInv w) {o f} (c : w.canOpen o f = true) : WInv (w.opn o f) := by
  obtain ⟨c1, c2⟩ := World.canOpen_iff.1 c
  have i := inv_upd_some h.iff (h.fno_of_orig_none c1) c2
  refine ⟨fun o' f' => (i o' f').1, fun o' f' => (i o' f').2, fun o' f' hh => ?_⟩
  simp only [World.opn, upd_apply] at hh ⊢
  split
  · next e => rwa [if_pos e] at hh
  · next e => rw [if_neg e] at hh; exact h.orig _ _ hh

theorem WInv.close {w : World} (h : WInv w) {o f} (c : w.fno o = some f) : WInv (w.close o f) := by
  have i := inv_upd_none h.iff c
  refine ⟨fun o' f' => (i o' f').1, fun o' f' => (i o' f').2, fun o' f' hh => ?_⟩
  simp only [World.close, upd_apply] at hh
  split at hh
  · cases hh
  · exact h.orig _ _ hh

/-- `PInvX s x`: the invariant, except that the kernel registration of object `x` may be out of
    date (between the BasePoller call and `_updateRegistration`).  `PInv s = PInvX s none`.
    `W` the world; `M` a number in `_map` is the one its object was created with; `B`, `T`, `T2` a listed object was
    created and has a target, an unlisted one has none; `S` Select has no kernel object; `K2` lists to kernel: a
    listed open object other than `x` is registered under its number with exactly its interests; `K1` kernel to
    lists: a registered number is in `_map`, for a listed object (or `x`), which under EPoll is open. -/
structure PInvX (s : State) (x : Option Obj) : Prop where
  W : WInv s.w
  M : ∀ f o, s.map f = some o → s.w.orig o = some f
  B : ∀ o, (o ∈ s.read ∨ o ∈ s.write) → (s.w.orig o).isSome
  T : ∀ o, (o ∈ s.read ∨ o ∈ s.write) → (s.targets o).isSome
  T2 : ∀ o, o ∉ s.read → o ∉ s.write → s.targets o = none
  S : s.kind = .select → ∀ f, s.kin f = false ∧ s.kout f = false
  K2 : ∀ o f, some o ≠ x → s.kind ≠ .select → s.w.fno o = some f → (o ∈ s.read ∨ o ∈ s.write) →
        s.map f = some o ∧ s.kin f = decide (o ∈ s.read) ∧ s.kout f = decide (o ∈ s.write)
  K1 : ∀ f, (s.kin f = true ∨ s.kout f = true) →
        ∃ o, s.map f = some o ∧ (some o = x ∨ o ∈ s.read ∨ o ∈ s.write) ∧ (s.kind = .epoll → s.w.fno o = some f)

abbrev PInv (s : State) : Prop := PInvX s none

theorem PInv.init (k : Kind) : PInv (State.init k) := by
  constructor
  · exact WInv.init
  all_goals simp [State.init, World.init]

theorem mem_filter_ne {l : List Obj} {a o : Obj} : a ∈ l.filter (· ≠ o) ↔ a ∈ l ∧ a ≠ o := by
  simp [List.mem_filter]

/-- What a BasePoller call about `o` leaves alone: everything but the membership and the target of `o`.
    Every such call is followed by `_updateRegistration(o)`. -/
structure BaseCall (s s' : State) (o : Obj) : Prop where
  kind : s'.kind = s.kind
  w : s'.w = s.w
  map : s'.map = s.map
  kin : s'.kin = s.kin
  kout : s'.kout = s.kout
  read : ∀ a, a ≠ o → (a ∈ s'.read ↔ a ∈ s.read)
  write : ∀ a, a ≠ o → (a ∈ s'.write ↔ a ∈ s.write)
  targets : ∀ a, a ≠ o → s'.targets a = s.targets a

theorem pinvx_base {s s' : State} {o : Obj} (h : PInv s) (b : BaseCall s s' o)
    (hko : (o ∈ s'.read ∨ o ∈ s'.write) → (s.w.orig o).isSome ∧ (s'.targets o).isSome)
    (hno : o ∉ s'.read → o ∉ s'.write → s'.targets o = none) : PInvX s' (some o) := by
  obtain ⟨W, M, B, T, T2, S, K2, K1⟩ := h
  obtain ⟨hk, hw, hm, hin, hout, hr, hwr, ht⟩ := b
  constructor
  · rw [hw]; exact W
  · rw [hw, hm]; exact M
  · intro o' h'; rw [hw]; by_cases e : o' = o
    · subst e; exact (hko h').1
    · apply B; rw [hr _ e, hwr _ e] at h'; exact h'
  · intro o' h'; by_cases e : o' = o
    · subst e; exact (hko h').2
    · rw [ht _ e]; apply T; rw [hr _ e, hwr _ e] at h'; exact h'
  · intro o' h1 h2; by_cases e : o' = o
    · subst e; exact hno h1 h2
    · rw [ht _ e]; rw [hr _ e] at h1; rw [hwr _ e] at h2; exact T2 _ h1 h2
  · rw [hk, hin, hout]; exact S
  · intro o' f hx hkk hf hmm
    have e : o' ≠ o := by intro e; subst e; simp at hx
    rw [hk] at hkk; rw [hw] at hf; rw [hr _ e, hwr _ e] at hmm
    have := K2 o' f (by simp) hkk hf hmm
    rw [hm, hin, hout]; simp only [hr _ e, hwr _ e]; exact this
  · intro f hkk
    rw [hin, hout] at hkk
    obtain ⟨o', h1, h2, h3⟩ := K1 f hkk
    refine ⟨o', by rw [hm]; exact h1, ?_, by rw [hk, hw]; exact h3⟩
    by_cases e : o' = o
    · subst e; simp
    · rw [hr _ e, hwr _ e]; simp at h2; exact Or.inr h2

theorem dropTargetIfUnused_eq (s : State) (o : Obj) :
    dropTargetIfUnused s o =
      { s with targets := fun a => if a = o ∧ o ∉ s.read ∧ o ∉ s.write then none else s.targets a } := by
  unfold dropTargetIfUnused
  split
  · next h =>
    rw [show (fun a => if a = o ∧ o ∉ s.read ∧ o ∉ s.write then none else s.targets a) = s.targets from
      funext fun a => if_neg fun ⟨_, h1, h2⟩ => h.elim h1 h2]
  · next h =>
    rw [show (fun a => if a = o ∧ o ∉ s.read ∧ o ∉ s.write then none else s.targets a) = upd s.targets o none from
      funext fun a => by simp [upd_apply, not_or.mp h]]

theorem mem_snoc_ne {l : List Obj} {a o : Obj} (h : a ≠ o) : a ∈ l ++ [o] ↔ a ∈ l := by
  simp [h]

theorem baseCall_addReader (s : State) (o : Obj) (c : Chan) : BaseCall s (baseAddReader s o c) o :=
  ⟨rfl, rfl, rfl, rfl, rfl, fun _ => mem_snoc_ne, fun _ _ => .rfl, fun _ h => upd_other _ _ _ _ h⟩

theorem baseCall_addWriter (s : State) (o : Obj) (c : Chan) : BaseCall s (baseAddWriter s o c) o :=
  ⟨rfl, rfl, rfl, rfl, rfl, fun _ _ => .rfl, fun _ => mem_snoc_ne, fun _ h => upd_other _ _ _ _ h⟩

theorem baseCall_removeReader (s : State) (o : Obj) : BaseCall s (baseRemoveReader s o) o := by
  rw [baseRemoveReader, dropTargetIfUnused_eq]
  exact ⟨rfl, rfl, rfl, rfl, rfl, fun _ => List.mem_erase_of_ne, fun _ _ => .rfl, fun _ h => if_neg fun x => h x.1⟩

theorem baseCall_removeWriter (s : State) (o : Obj) : BaseCall s (baseRemoveWriter s o) o := by
  rw [baseRemoveWriter, dropTargetIfUnused_eq]
  exact ⟨rfl, rfl, rfl, rfl, rfl, fun _ _ => .rfl, fun _ => List.mem_erase_of_ne, fun _ h => if_neg fun x => h x.1⟩

theorem baseCall_discard (s : State) (o : Obj) : BaseCall s (baseDiscard s o) o :=
  ⟨rfl, rfl, rfl, rfl, rfl, fun _ h => mem_filter_ne.trans (and_iff_left h),
    fun _ h => mem_filter_ne.trans (and_iff_left h), fun _ h => upd_other _ _ _ _ h⟩

theorem pinvx_addReader {s : State} {o : Obj} {c : Chan} (h : PInv s) (k : s.w.known o = true) :
    PInvX (baseAddReader s o c) (some o) :=
  pinvx_base h (baseCall_addReader s o c) (fun _ => ⟨k, by simp [baseAddReader]⟩)
    (fun h1 => by simp [baseAddReader] at h1)

theorem pinvx_addWriter {s : State} {o : Obj} {c : Chan} (h : PInv s) (k : s.w.known o = true) :
    PInvX (baseAddWriter s o c) (some o) :=
  pinvx_base h (baseCall_addWriter s o c) (fun _ => ⟨k, by simp [baseAddWriter]⟩)
    (fun _ h1 => by simp [baseAddWriter] at h1)

theorem pinvx_removeReader {s : State} {o : Obj} (h : PInv s) :
    PInvX (baseRemoveReader s o) (some o) := by
  refine pinvx_base h (baseCall_removeReader s o) (fun hm => ?_) (fun h1 h2 => ?_) <;>
    simp only [baseRemoveReader, dropTargetIfUnused_eq] at *
  · have hm' : o ∈ s.read ∨ o ∈ s.write := hm.imp_left List.mem_of_mem_erase
    exact ⟨h.B _ hm', by rw [if_neg (by grind)]; exact h.T _ hm'⟩
  · rw [if_pos ⟨trivial, h1, h2⟩]

theorem pinvx_removeWriter {s : State} {o : Obj} (h : PInv s) :
    PInvX (baseRemoveWriter s o) (some o) := by
  refine pinvx_base h (baseCall_removeWriter s o) (fun hm => ?_) (fun h1 h2 => ?_) <;>
    simp only [baseRemoveWriter, dropTargetIfUnused_eq] at *
  · have hm' : o ∈ s.read ∨ o ∈ s.write := hm.imp_right List.mem_of_mem_erase
    exact ⟨h.B _ hm', by rw [if_neg (by grind)]; exact h.T _ hm'⟩
  · rw [if_pos ⟨trivial, h1, h2⟩]

theorem pinvx_discard {s : State} {o : Obj} (h : PInv s) :
    PInvX (baseDiscard s o) (some o) :=
  pinvx_base h (baseCall_discard s o) (fun hm => by simp [baseDiscard] at hm) (fun _ _ => by simp [baseDiscard])

theorem WInv.orig_inj {w : World} (h : WInv w) {o f f'} (a : w.fno o = some f) (b : w.orig o = some f') : f = f' := by
  have := h.orig _ _ a; simp_all

/-- open object, still listed: (re)register -/
theorem pinv_register {s : State} {o : Obj} {f : Nat} (h : PInvX s (some o)) (hs : s.kind ≠ .select)
    (hf : s.w.fno o = some f) (hm : o ∈ s.read ∨ o ∈ s.write) :
    PInv { (unregister s f) with kin := upd (unregister s f).kin f (decide (o ∈ s.read)),
                                 kout := upd (unregister s f).kout f (decide (o ∈ s.write)),
                                 map := upd (unregister s f).map f (some o) } := by
  refine { h with M := fun f' o' hmap => ?_, S := fun hk => absurd hk hs, K2 := fun o' f' _ hk hf' hm' => ?_,
                  K1 := fun f' hk => ?_ } <;> simp only [unregister] at *
  · simp only [upd_apply] at hmap
    by_cases e : f' = f
    · subst e; simp at hmap; subst hmap; exact h.W.orig _ _ hf
    · simp only [e, if_false] at hmap; exact h.M _ _ hmap
  · by_cases e : o' = o
    · subst e; rw [hf] at hf'; cases hf'; simp only [upd_same]; exact ⟨trivial, rfl, rfl⟩
    · have ne : f' ≠ f := by intro e2; subst e2; exact e (h.W.fno_inj hf' hf)
      simp only [upd_other _ _ _ _ ne]
      exact h.K2 o' f' (by simp [e]) hk hf' hm'
  · by_cases e : f' = f
    · subst e; exact ⟨o, by simp, by simp [hm], fun _ => hf⟩
    · simp only [upd_other _ _ _ _ e] at hk ⊢
      obtain ⟨o', h1, h2, h3⟩ := h.K1 f' hk
      refine ⟨o', h1, ?_, h3⟩
      rcases h2 with h2 | h2
      · obtain rfl : o' = o := Option.some.inj h2
        exact absurd (Option.some.inj ((h.M _ _ h1).symm.trans (h.W.orig _ _ hf))) e
      · exact .inr h2

/-- state after the disconnect branch of `_process` -/
def discState (s : State) (f : Nat) (o : Obj) : State :=
  { (baseDiscard (unregister s f) o) with map := upd s.map f none }

theorem listed_discard {s : State} {o a : Obj} :
    (a ∈ s.read.filter (· ≠ o) ∨ a ∈ s.write.filter (· ≠ o)) ↔ (a ∈ s.read ∨ a ∈ s.write) ∧ a ≠ o := by
  simp only [mem_filter_ne, or_and_right]

/-- Number `f`, with which `o` was created, is dropped from the kernel object and from `_map`, and
    `o` from the lists.  This is legal as soon as no other listed open object has the number:
    it covers the disconnect branch of `_process` (`s.map f = some o`) and the
    `_updateRegistration` of an open object that is no longer listed. -/
theorem pinv_discState {s : State} {x : Option Obj} {f : Nat} {o : Obj} (h : PInvX s x)
    (hx : ∀ y, x = some y → y = o) (ho : s.w.orig o = some f)
    (hf : s.kind ≠ .select → ∀ o', o' ≠ o → (o' ∈ s.read ∨ o' ∈ s.write) → s.w.fno o' ≠ some f) :
    PInv (discState s f o) := by
  obtain ⟨W, M, B, T, T2, S, K2, K1⟩ := h
  have hxo : ∀ o', o' ≠ o → some o' ≠ x := fun o' e hh => e (hx _ hh.symm)
  constructor <;> simp only [discState, baseDiscard, unregister, listed_discard]
  · exact W
  · intro f' o' hm
    rw [upd_apply] at hm
    split at hm
    · cases hm
    · exact M _ _ hm
  · exact fun o' hm => B _ hm.1
  · intro o' hm
    rw [upd_other _ _ _ _ hm.2]
    exact T _ hm.1
  · intro o' h1 h2
    by_cases e : o' = o
    · rw [e, upd_same]
    · rw [upd_other _ _ _ _ e]
      exact T2 _ (fun hr => h1 (mem_filter_ne.2 ⟨hr, e⟩)) (fun hw => h2 (mem_filter_ne.2 ⟨hw, e⟩))
  · intro hk f'
    simp only [upd_apply]
    split
    · exact ⟨rfl, rfl⟩
    · exact S hk f'
  · intro o' f' _ hk hf' hm
    have ne : f' ≠ f := fun e => hf hk o' hm.2 hm.1 (e ▸ hf')
    have k2 := K2 o' f' (hxo _ hm.2) hk hf' hm.1
    simp only [upd_other _ _ _ _ ne, mem_filter_ne, hm.2, ne_eq, not_false_eq_true, and_true]
    exact k2
  · intro f' hk
    have e : f' ≠ f := by
      intro e; subst e; simp only [upd_same, Bool.false_eq_true, or_self] at hk
    simp only [upd_other _ _ _ _ e] at hk ⊢
    obtain ⟨o', h1, h2, h3⟩ := K1 f' hk
    have ne : o' ≠ o := by
      intro e2; subst e2
      exact e (Option.some.inj ((M _ _ h1).symm.trans ho))
    exact ⟨o', h1, .inr ⟨h2.resolve_left (hxo _ ne), ne⟩, h3⟩

theorem baseDiscard_eq_self {s : State} {o : Obj} (T2 : ∀ o, o ∉ s.read → o ∉ s.write → s.targets o = none)
    (h1 : o ∉ s.read) (h2 : o ∉ s.write) : baseDiscard s o = s := by
  have a : s.read.filter (· ≠ o) = s.read := by
    apply List.filter_eq_self.mpr; intro a ha; simp; intro e; subst e; exact h1 ha
  have b : s.write.filter (· ≠ o) = s.write := by
    apply List.filter_eq_self.mpr; intro a ha; simp; intro e; subst e; exact h2 ha
  have c : upd s.targets o none = s.targets := by
    funext x; simp only [upd_apply]; split
    · next e => subst e; exact (T2 _ h1 h2).symm
    · rfl
  simp only [baseDiscard, a, b, c]

/-- What `_updateRegistration(o)` leaves behind, when targets exist only for listed descriptors (so that the
    `super().discard(o)` of an unlisted descriptor changes nothing): Select does nothing; Poll and EPoll treat an
    open descriptor alike (registered afresh under its number, or the number dropped); for a closed one Poll
    purges its stale numbers [D2] and EPoll does nothing. -/
theorem updateRegistration_fst {s : State} {o : Obj}
    (T2 : ∀ a, a ∉ s.read → a ∉ s.write → s.targets a = none) :
    (updateRegistration s o).1 =
      if s.kind = .select then s else
      match s.w.fno o with
      | some f =>
        if o ∈ s.read ∨ o ∈ s.write then
          { (unregister s f) with kin := upd (unregister s f).kin f (decide (o ∈ s.read)),
                                  kout := upd (unregister s f).kout f (decide (o ∈ s.write)),
                                  map := upd (unregister s f).map f (some o) }
        else { (unregister s f) with map := upd s.map f none }
      | none => if s.kind = .poll then purge s o else s := by
  have drop : ∀ s' : State, s'.read = s.read → s'.write = s.write → s'.targets = s.targets →
      ¬ (o ∈ s.read ∨ o ∈ s.write) → baseDiscard s' o = s' := fun s' hr hw ht hm =>
    baseDiscard_eq_self (by rw [hr, hw, ht]; exact T2) (fun x => hm (.inl (hr ▸ x))) (fun x => hm (.inr (hw ▸ x)))
  unfold updateRegistration
  cases hk : s.kind <;> simp only [reduceCtorEq, if_false, if_true]
  all_goals
    cases hf : s.w.fno o <;> simp only [] <;> split <;> try rfl
  -- left: an unlisted descriptor, closed or open, under Poll and under EPoll
  all_goals rename_i hm
  · rw [drop (purge s o) rfl rfl rfl hm]
  · rw [drop (unregister s _) rfl rfl rfl hm]; rfl
  · rw [drop s rfl rfl rfl hm]
  · rw [drop (unregister s _) rfl rfl rfl hm]; rfl

/-- select has no kernel object: nothing to bring up to date -/
theorem pinv_of_select {s : State} {x} (h : PInvX s x) (hs : s.kind = .select) : PInv s := by
  refine { h with K2 := fun o f _ hk => absurd hs hk, K1 := fun f hk => ?_ }
  rw [(h.S hs f).1, (h.S hs f).2] at hk
  rcases hk with hk | hk <;> cases hk

/-- EPoll, closed object: the kernel has already dropped it -/
theorem pinv_epoll_closed {s : State} {o : Obj} (h : PInvX s (some o)) (hs : s.kind = .epoll)
    (hf : s.w.fno o = none) : PInv s := by
  refine { h with K2 := fun o' f _ hk hf' hm => ?_, K1 := fun f hk => ?_ }
  · have e : o' ≠ o := fun e => by rw [e, hf] at hf'; cases hf'
    exact h.K2 o' f (by simp [e]) hk hf' hm
  · obtain ⟨o', h1, h2, h3⟩ := h.K1 f hk
    refine ⟨o', h1, ?_, h3⟩
    rcases h2 with h2 | h2
    · obtain rfl : o' = o := Option.some.inj h2
      have := h3 hs
      rw [hf] at this; cases this
    · exact .inr h2

/-- Poll, closed object: [D2] purge its stale numbers -/
theorem pinv_purge {s : State} {o : Obj} (h : PInvX s (some o)) (hf : s.w.fno o = none) : PInv (purge s o) := by
  refine { h with M := fun f o' hmap => ?_, S := fun hk f => ?_, K2 := fun o' f _ hk hf' hm => ?_,
                  K1 := fun f hk => ?_ } <;> simp only [purge] at *
  · split at hmap
    · simp at hmap
    · exact h.M _ _ hmap
  · rw [(h.S hk f).1, (h.S hk f).2]
    exact ⟨ite_self _, ite_self _⟩
  · have e : o' ≠ o := fun e => by rw [e, hf] at hf'; cases hf'
    have := h.K2 o' f (by simp [e]) hk hf' hm
    have ne : ¬ s.map f = some o := by simp [this.1, e]
    simp only [ne, if_false]; exact this
  · by_cases e : s.map f = some o
    · simp [e] at hk
    · simp only [e, if_false] at hk ⊢
      obtain ⟨o', h1, h2, h3⟩ := h.K1 f hk
      refine ⟨o', h1, ?_, h3⟩
      rcases h2 with h2 | h2
      · simp at h2; subst h2; exact absurd h1 e
      · simp [h2]

theorem pinv_updateRegistration {s : State} {o : Obj} (h : PInvX s (some o)) :
    PInv (updateRegistration s o).1 := by
  rw [updateRegistration_fst h.T2]
  split
  · next hk => exact pinv_of_select h hk
  · next hk =>
    split
    · next f hf =>
      split
      · next hm => exact pinv_register h hk hf hm
      · next hm =>
        have := pinv_discState h (fun _ e => (Option.some.inj e).symm) (h.W.orig _ _ hf)
          fun _ _ ne _ hf' => ne (h.W.fno_inj hf' hf)
        rwa [discState, baseDiscard_eq_self (s := unregister s f) h.T2 (fun x => hm (.inl x)) (fun x => hm (.inr x))]
          at this
    · next hf =>
      split
      · exact pinv_purge h hf
      · next hp =>
        refine pinv_epoll_closed h ?_ hf
        cases hkk : s.kind <;> simp_all

theorem pinv_opn {s : State} {o : Obj} {f : Nat} (h : PInv s) (c : s.w.canOpen o f = true) :
    PInv { s with w := s.w.opn o f } := by
  obtain ⟨c1, c2⟩ := World.canOpen_iff.1 c
  have fresh : ∀ o', (s.w.orig o').isSome → o' ≠ o := fun o' h e => by rw [e, c1] at h; cases h
  have notin : ¬ (o ∈ s.read ∨ o ∈ s.write) := fun hm => fresh o (h.B _ hm) rfl
  refine { h with W := h.W.opn c, M := fun f' o' hmap => ?_, B := fun o' hm => ?_,
                  K2 := fun o' f' _ hk hf' hm => ?_, K1 := fun f' hk => ?_ }
  · have := h.M _ _ hmap
    have e : o' ≠ o := fresh o' (by rw [this]; rfl)
    simp only [World.opn, upd_other _ _ _ _ e, this]
  · have e : o' ≠ o := by intro e; subst e; exact notin hm
    simp only [World.opn, upd_other _ _ _ _ e]; exact h.B _ hm
  · have e : o' ≠ o := by intro e; subst e; exact notin hm
    simp only [World.opn, upd_other _ _ _ _ e] at hf'
    exact h.K2 o' f' (by simp) hk hf' hm
  · obtain ⟨o', h1, h2, h3⟩ := h.K1 f' hk
    refine ⟨o', h1, h2, ?_⟩
    intro hk'
    have e : o' ≠ o := fresh o' (by rw [h.M _ _ h1]; rfl)
    simp only [World.opn, upd_other _ _ _ _ e]; exact h3 hk'

theorem close_eq (s : State) (o : Obj) (f : Nat) :
    close s o f =
      { s with w := s.w.close o f, kin := if s.kind = .epoll then upd s.kin f false else s.kin,
               kout := if s.kind = .epoll then upd s.kout f false else s.kout } := by
  unfold close; cases s.kind <;> rfl

theorem WInv.close_fno {w : World} (h : WInv w) {o o' : Obj} {f f' : Nat} (hf : w.fno o = some f)
    (hh : (w.close o f).fno o' = some f') : w.fno o' = some f' ∧ o' ≠ o ∧ f' ≠ f := by
  simp only [World.close, upd_apply] at hh
  split at hh
  · cases hh
  · next e => exact ⟨hh, e, fun e2 => e (h.fno_inj (e2 ▸ hh) hf)⟩

theorem pinv_close {s : State} {o : Obj} {f : Nat} (h : PInv s) (hf : s.w.fno o = some f) :
    PInv (close s o f) := by
  rw [close_eq]
  -- EPoll's kernel forgets the number `f`; every other entry of the kernel object is as it was
  have other : ∀ {m : Nat → Bool} {f'}, f' ≠ f → (if s.kind = .epoll then upd m f false else m) f' = m f' :=
    fun ne => by split <;> simp [upd_other _ _ _ _ ne]
  have still : ∀ {m : Nat → Bool} {f'}, (if s.kind = .epoll then upd m f false else m) f' = true →
      m f' = true ∧ (s.kind = .epoll → f' ≠ f) := fun {m f'} x => by
    by_cases e : f' = f
    · subst e; split at x
      · simp at x
      · next hk => exact ⟨x, fun hk' => absurd hk' hk⟩
    · exact ⟨by rwa [other e] at x, fun _ => e⟩
  refine { h with W := h.W.close hf, S := fun hk f' => ?_, K2 := fun o' f' _ hk hf' hm => ?_, K1 := fun f' hk => ?_ }
  · have hk : s.kind = .select := hk
    simp only [hk, reduceCtorEq, if_false]; exact h.S hk f'
  · obtain ⟨a, -, c⟩ := h.W.close_fno hf hf'
    dsimp only
    rw [other c, other c]
    exact h.K2 o' f' (by simp) hk a hm
  · obtain ⟨o', h1, h2, h3⟩ := h.K1 f' (hk.imp (still ·|>.1) (still ·|>.1))
    refine ⟨o', h1, h2, fun hk' => ?_⟩
    -- EPoll: the number is not `f`, so its descriptor is not `o` and stays open
    have ne : f' ≠ f := hk.elim (fun x => (still x).2 hk') (fun x => (still x).2 hk')
    have e2 : o' ≠ o := fun e2 => ne (Option.some.inj ((h3 hk').symm.trans (e2 ▸ hf)))
    simp only [World.close, upd_other _ _ _ _ e2]; exact h3 hk'

theorem foldl_baseDiscard_select {s : State} (l : List Obj) (h : PInv s) (hs : s.kind = .select) :
    PInv (l.foldl baseDiscard s) := by
  induction l generalizing s with
  | nil => exact h
  | cons a l ih => exact ih (pinv_of_select (pinvx_discard h) hs) hs

theorem foldl_baseDiscard_eq (L : List Obj) (s : State) :
    L.foldl baseDiscard s =
      { s with read := s.read.filter (fun a => decide (a ∉ L)), write := s.write.filter (fun a => decide (a ∉ L)),
               targets := fun a => if a ∈ L then none else s.targets a } := by
  induction L generalizing s with
  | nil => simp [List.filter_eq_self.2]
  | cons x L ih =>
    rw [List.foldl_cons, ih]
    simp only [baseDiscard, List.filter_filter, List.mem_cons, not_or]
    congr 1
    · exact List.filter_congr fun a _ => by by_cases a = x <;> simp [*]
    · exact List.filter_congr fun a _ => by by_cases a = x <;> simp [*]
    · funext a; by_cases a = x <;> simp [*]

theorem preen_eq (s : State) :
    preen s =
      { s with read := s.read.filter (fun a => !closedIn s a), write := s.write.filter (fun a => !closedIn s a),
               targets := fun a => if (a ∈ s.read ∨ a ∈ s.write) ∧ closedIn s a = true then none else s.targets a } := by
  rw [preen, foldl_baseDiscard_eq]
  congr 1
  · exact List.filter_congr fun a h => by cases hc : closedIn s a <;> simp [h, hc]
  · exact List.filter_congr fun a h => by cases hc : closedIn s a <;> simp [h, hc]
  · funext a; simp [or_and_right]

theorem pinv_selectRound {s : State} (rd) (h : PInv s) (hs : s.kind = .select) : PInv (selectRound s rd).1 := by
  unfold selectRound; split
  · exact foldl_baseDiscard_select _ h hs
  · exact h

theorem process_cases (s : State) (f : Nat) (ev : Rev) :
    (∃ es, process s f ev = (s, es) ∧ ∀ e ∈ es, e.kind ≠ .disconnect) ∨
    (∃ o, s.map f = some o ∧ process s f ev = (discState s f o, [⟨.disconnect, o, s.targets o⟩])) := by
  unfold process
  cases hm : s.map f with
  | none => left; exact ⟨[], rfl, by simp⟩
  | some o =>
    simp only []
    split
    · right; exact ⟨o, rfl, rfl⟩
    · left; refine ⟨_, rfl, ?_⟩
      intro e he
      simp only [List.mem_append] at he
      rcases he with he | he
      · split at he
        · simp at he; subst he; simp
        · simp at he
      · split at he
        · simp at he; subst he; simp
        · simp at he

theorem pinv_process {s : State} (f : Nat) (ev : Rev) (h : PInv s) : PInv (process s f ev).1 := by
  rcases process_cases s f ev with ⟨_, e, _⟩ | ⟨o, hm, e⟩
  · rw [e]; exact h
  · rw [e]
    refine pinv_discState h (fun _ e => nomatch e) (h.M _ _ hm) fun hk o' ne hl hf => ?_
    exact ne (Option.some.inj ((h.K2 o' f (fun e => nomatch e) hk hf hl).1.symm.trans hm))

theorem process_kind (s : State) (f : Nat) (ev : Rev) : (process s f ev).1.kind = s.kind := by
  rcases process_cases s f ev with ⟨_, e, _⟩ | ⟨o, hm, e⟩ <;> rw [e]
  rfl

theorem pinv_processAll {s : State} (t : List (Nat × Rev)) (h : PInv s) : PInv (processAll s t).1 := by
  induction t generalizing s with
  | nil => exact h
  | cons a t ih =>
    obtain ⟨f, ev⟩ := a
    simp only [processAll]
    exact ih (pinv_process f ev h)

theorem pinv_round {s : State} (fs rd) (h : PInv s) : PInv (round s fs rd).1 := by
  unfold round; split
  · next hk => exact pinv_selectRound rd h hk
  · exact pinv_processAll _ h

theorem pinv_registration {s s1 : State} {o : Obj} (h : PInv s) (hb : s.w.known o = true → PInvX s1 (some o)) :
    PInv (if s.w.known o then outOf (updateRegistration s1 o) else (s, Out.bad)).1 := by
  split
  · next k => exact pinv_updateRegistration (hb k)
  · exact h

theorem pinv_step {s : State} (op : Op) (h : PInv s) : PInv (step s op).1 := by
  cases op with
  | addReader o c => exact pinv_registration h (pinvx_addReader h)
  | addWriter o c => exact pinv_registration h (pinvx_addWriter h)
  | removeReader o => exact pinv_registration h fun _ => pinvx_removeReader h
  | removeWriter o => exact pinv_registration h fun _ => pinvx_removeWriter h
  | discard o => exact pinv_registration h fun _ => pinvx_discard h
  | opn o f =>
    simp only [step]; split
    · next c => exact pinv_opn h c
    · exact h
  | close o =>
    simp only [step]; split
    · next f hf => exact pinv_close h hf
    · exact h
  | poll fs rd =>
    simp only [step]; split
    · exact pinv_round fs rd h
    · exact h

theorem pinv_runFrom {s : State} (ops : List Op) (h : PInv s) : PInv (runFrom s ops).1 := by
  induction ops generalizing s with
  | nil => exact h
  | cons op ops ih => simp only [runFrom]; exact ih (pinv_step op h)

end Poller
end CV
