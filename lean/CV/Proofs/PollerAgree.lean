import CV.Proofs.PollerMain
/-
C10, interchangeability: two pollers driven by the same history fire the same events for every
open descriptor that is not hung up, in every round that is not blind, as long as neither has
had to disconnect anything (from then on their abstract registrations legitimately differ).
Derived from the observer's predicate alone: sound + complete pins the event set down.
-/
namespace CV
namespace Poller

/-- what two pollers must have in common in one round -/
def agreeObs (σ : Spec) (op : Op) (o1 o2 : Out) : Prop :=
  match op with
  | .poll fs rd =>
    σ.valid op = true → σ.blind = false →
      ∀ f ∈ fs, ∀ o, σ.w.owner f = some o → (rd f).hup = false → (rd f).err = false →
        ∀ k c, ((⟨k, o, c⟩ : Event) ∈ eventsOf o1 ↔ (⟨k, o, c⟩ : Event) ∈ eventsOf o2)
  | _ => True

def agreeFrom (σ : Spec) : List (Op × Out) → List (Op × Out) → Prop
  | (op, o1) :: t1, (_, o2) :: t2 =>
    agreeObs σ op o1 o2 ∧
    (disconnected (eventsOf o1) = [] → disconnected (eventsOf o2) = [] → agreeFrom (σ.advance op o1) t1 t2)
  | _, _ => True

theorem advance_congr (σ : Spec) (op : Op) (o1 o2 : Out)
    (h : disconnected (eventsOf o1) = disconnected (eventsOf o2)) : σ.advance op o1 = σ.advance op o2 := by
  unfold Spec.advance
  cases op <;> simp only [h]

/-- one direction of the agreement, from "sound for 1" and "complete for 2" -/
theorem agree_dir {σ : Spec} (W : WInv σ.w) {fs : List Nat} {rd : Nat → Bits} {es1 es2 : List Event}
    (h1 : roundFail σ fs rd es1 = none) (h2 : roundFail σ fs rd es2 = none) (nb : σ.blind = false)
    {f : Nat} (hf : f ∈ fs) {o : Obj} (ho : σ.w.owner f = some o) (hh : (rd f).hup = false) (he : (rd f).err = false)
    {k : EvKind} {c : Option Chan} (hm : (⟨k, o, c⟩ : Event) ∈ es1) : (⟨k, o, c⟩ : Event) ∈ es2 := by
  have fo : σ.w.fno o = some f := W.of _ _ ho
  obtain ⟨s1, _⟩ := roundFail_none.mp h1
  obtain ⟨s2, c2⟩ := roundFail_none.mp h2
  have c2 : ∀ f ∈ fs, complFail σ rd es2 f = none := by
    rcases c2 with c2 | c2
    · rw [nb] at c2; cases c2
    · exact c2
  obtain ⟨-, hc, -, h4⟩ := evFail_eq_none.1 (s1 _ hm)
  obtain ⟨cr, -, cw, -⟩ := (complFail_eq_none ho).1 (c2 f hf)
  rw [fo] at h4
  -- `o` gets the same kind of event in `es2`, and an allowed event goes to the one target of `o`
  have same : ∀ c', (⟨k, o, c'⟩ : Event) ∈ es2 → (⟨k, o, c⟩ : Event) ∈ es2 := fun c' hc' => by
    rwa [hc, ← (evFail_eq_none.1 (s2 _ hc')).2.1]
  cases k with
  | read =>
    obtain ⟨a, b⟩ := h4
    have inn : (rd f).inn = true := by simpa [selReadable, hh, he] using b
    obtain ⟨c', hc'⟩ := has_iff.mp (cr (by omega) inn)
    exact same c' hc'
  | write =>
    obtain ⟨a, b⟩ := h4
    have out : (rd f).out = true := by simpa [selWritable, he] using b
    obtain ⟨c', hc'⟩ := has_iff.mp (cw (by omega) out hh he)
    exact same c' hc'
  | disconnect => simp [hh, he] at h4

theorem agree_runFrom {s1 s2 : State} {σ : Spec} (ops : List Op)
    (r1 : Rel s1 σ) (r2 : Rel s2 σ) (p1 : PInv s1) (p2 : PInv s2) :
    agreeFrom σ (runFrom s1 ops).2 (runFrom s2 ops).2 := by
  induction ops generalizing s1 s2 σ with
  | nil => simp [runFrom, agreeFrom]
  | cons op ops ih =>
    obtain ⟨a1, b1⟩ := step_sim op r1 p1
    obtain ⟨a2, b2⟩ := step_sim op r2 p2
    simp only [runFrom, agreeFrom]
    constructor
    · cases op with
      | poll fs rd =>
        intro hv nb f hf o ho hh he k c
        simp only [obsOk, hv, if_true, roundOk, Option.isNone_iff_eq_none] at a1 a2
        have W : WInv σ.w := by rw [← r1.w]; exact p1.W
        exact ⟨agree_dir W a1 a2 nb hf ho hh he, agree_dir W a2 a1 nb hf ho hh he⟩
      | _ => trivial
    · intro d1 d2
      rw [advance_congr σ op _ _ (d2.trans d1.symm)] at b2
      exact ih b1 b2 (pinv_step op p1) (pinv_step op p2)

end Poller
end CV
