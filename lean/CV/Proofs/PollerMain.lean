import CV.Proofs.PollerRound
/-
C10: every operation keeps the simulation and shows the observer only allowed events;
hence every run of every poller model satisfies the trace predicate of PollerSpec.
Silence of discarded and of closed descriptors is read off the observer (`silent_from`, `closed_from`).
-/
namespace CV
namespace Poller

theorem outOf_fst (r : State × Bool) : (outOf r).1 = r.1 := rfl

theorem select_no_disconnect (s : State) (rd) : disconnected (selectRound s rd).2 = [] := by
  apply disconnected_nil_of
  unfold selectRound
  split
  · simp
  · intro e he
    simp only [List.mem_append, List.mem_map] at he
    rcases he with ⟨o, _, rfl⟩ | ⟨o, _, rfl⟩ <;> simp

/-- a registration arm of `step` (a BasePoller call about a known `o` that leaves `s1`, then
    `_updateRegistration(o)`) against the matching arm of the observer, which leaves `σ1` -/
theorem sim_registration {s s1 : State} {σ σ1 : Spec} {o : Obj} (h : Rel s σ)
    (hb : s.w.known o = true → PInvX s1 (some o) ∧ Rel s1 σ1) :
    Rel (if s.w.known o then outOf (updateRegistration s1 o) else (s, Out.bad)).1
      (if σ.w.known o then σ1 else σ) := by
  rw [← h.w]
  split
  · next k => exact rel_registration (hb k).1 (hb k).2
  · exact h

theorem step_sim {s : State} {σ : Spec} (op : Op) (h : Rel s σ) (p : PInv s) :
    obsOk σ op (step s op).2 = true ∧ Rel (step s op).1 (σ.advance op (step s op).2) := by
  cases op with
  | addReader o c => exact ⟨rfl, sim_registration h fun k => ⟨pinvx_addReader p k, rel_addReader o c h k⟩⟩
  | addWriter o c => exact ⟨rfl, sim_registration h fun k => ⟨pinvx_addWriter p k, rel_addWriter o c h k⟩⟩
  | removeReader o => exact ⟨rfl, sim_registration h fun _ => ⟨pinvx_removeReader p, rel_removeReader o h⟩⟩
  | removeWriter o => exact ⟨rfl, sim_registration h fun _ => ⟨pinvx_removeWriter p, rel_removeWriter o h⟩⟩
  | discard o => exact ⟨rfl, sim_registration h fun _ => ⟨pinvx_discard p, rel_discard o h⟩⟩
  | opn o f =>
    refine ⟨rfl, ?_⟩
    simp only [step, Spec.advance, Spec.valid, ← h.w]
    by_cases k : s.w.canOpen o f = true
    · simp only [k, if_true]; rw [h.w]; rw [h.w] at k
      have := rel_opn h p (by rw [h.w]; exact k)
      rw [h.w] at this; exact this
    · simp only [k]; exact h
  | close o =>
    refine ⟨rfl, ?_⟩
    simp only [step, Spec.advance, Spec.valid, ← h.w]
    cases hf : s.w.fno o with
    | none => simp; exact h
    | some f =>
      simp only [Option.isSome_some, if_true]
      have := rel_close h hf
      rw [← h.w] at this; exact this
  | poll fs rd =>
    simp only [step, obsOk, Spec.advance, Spec.valid]
    by_cases nd : fs.Nodup
    · simp only [nd, decide_true, if_true]
      by_cases hk : s.kind = .select
      · have hr : round s fs rd = selectRound s rd := by unfold round; rw [hk]
        rw [hr]
        simp only [eventsOf, select_no_disconnect, List.foldl_nil]
        exact ⟨by simp [roundOk, ok_selectRound fs rd h p hk], rel_selectRound rd h hk⟩
      · have hr : round s fs rd = processAll s (tape s fs rd) := by
          unfold round; cases hkk : s.kind <;> first | rfl | exact absurd hkk hk
        rw [hr]
        simp only [eventsOf]
        exact ⟨by simp [roundOk, ok_pollRound h p hk rd nd], rel_processAll _ (rel_clear_pend h hk)⟩
    · simp only [nd, decide_false, if_false, Bool.false_eq_true]
      exact ⟨trivial, h⟩

theorem spec_runFrom {s : State} {σ : Spec} (ops : List Op) (h : Rel s σ) (p : PInv s) :
    specFrom σ (runFrom s ops).2 = true := by
  induction ops generalizing s σ with
  | nil => rfl
  | cons op ops ih =>
    obtain ⟨a, b⟩ := step_sim op h p
    simp only [runFrom, specFrom, Bool.and_eq_true]
    exact ⟨a, ih b (pinv_step op p)⟩

def adds (o : Obj) : Op → Bool
  | .addReader a _ | .addWriter a _ => a == o
  | _ => false

theorem foldl_discard_registered (l : List Obj) (σ : Spec) (o : Obj) (h : σ.registered o = false) :
    (l.foldl Spec.discard σ).registered o = false := by
  induction l generalizing σ with
  | nil => exact h
  | cons a l ih =>
    apply ih
    simp only [Spec.registered, Spec.discard, upd_apply] at h ⊢
    split
    · rfl
    · exact h

@[simp] theorem foldl_discard_w (l : List Obj) (σ : Spec) : (l.foldl Spec.discard σ).w = σ.w := by
  induction l generalizing σ with
  | nil => rfl
  | cons a l ih => exact ih _

theorem advance_unregistered {σ : Spec} {o : Obj} (op : Op) (out : Out) (h : σ.registered o = false)
    (ha : adds o op = false) : (σ.advance op out).registered o = false := by
  have hh : σ.regR o = 0 ∧ σ.regW o = 0 := by simpa [Spec.registered] using h
  unfold Spec.advance
  split
  · cases op with
    | poll fs rd => exact foldl_discard_registered _ _ _ h
    | opn a f => exact h
    | close a => dsimp only; split <;> simp [Spec.registered, notePend_eq, hh]
    | addReader a c | addWriter a c =>
      have ne : o ≠ a := by intro e; subst e; simp [adds] at ha
      simp [Spec.registered, notePend_eq, upd_other _ _ _ _ ne, hh]
    | removeReader a | removeWriter a | discard a =>
      by_cases e : o = a
      · subst e; simp [Spec.registered, Spec.discard, dropTgt_eq, hh]
      · simp [Spec.registered, Spec.discard, dropTgt_eq, upd_other _ _ _ _ e, hh]
  · exact h

theorem eventsOf_outOf (r : State × Bool) : eventsOf (outOf r).2 = [] := by
  unfold outOf; split <;> rfl

theorem events_allowed {s : State} {σ : Spec} (op : Op) (h : Rel s σ) (p : PInv s) :
    ∀ e ∈ eventsOf (step s op).2, σ.registered e.obj = true ∧ (e.kind ≠ .disconnect → (σ.w.fno e.obj).isSome = true) := by
  have ok := (step_sim op h p).1
  cases op with
  | poll fs rd =>
    by_cases nd : fs.Nodup
    · simp only [obsOk, Spec.valid, nd, decide_true, if_true, roundOk, Option.isNone_iff_eq_none] at ok
      rintro ⟨k, o, c⟩ he
      obtain ⟨h1, -, -, h4⟩ := evFail_eq_none.1 ((roundFail_none.mp ok).1 _ he)
      refine ⟨h1, fun hk => ?_⟩
      cases hf : σ.w.fno o
      · rw [hf] at h4; cases k <;> first | exact h4.elim | exact absurd rfl hk
      · rfl
    · simp [step, nd, eventsOf]
  | opn o f => simp only [step]; split <;> exact fun _ he => nomatch he
  | close o => simp only [step]; split <;> exact fun _ he => nomatch he
  | _ =>
    simp only [step]; split
    · rw [eventsOf_outOf]; exact fun _ he => nomatch he
    · exact fun _ he => nomatch he

theorem silent_from {s : State} {σ : Spec} (ops : List Op) (h : Rel s σ) (p : PInv s) (o : Obj)
    (hr : σ.registered o = false) (hadd : ∀ op ∈ ops, adds o op = false) :
    ∀ x ∈ (runFrom s ops).2, ∀ e ∈ eventsOf x.2, e.obj ≠ o := by
  induction ops generalizing s σ with
  | nil => simp [runFrom]
  | cons op ops ih =>
    intro x hx e he
    simp only [runFrom, List.mem_cons] at hx
    rcases hx with hx | hx
    · subst hx
      intro eq
      have := (events_allowed op h p e he).1
      rw [eq, hr] at this; cases this
    · exact ih (step_sim op h p).2 (pinv_step op p)
        (advance_unregistered op _ hr (hadd op (by simp))) (fun op' h' => hadd op' (by simp [h'])) x hx e he

/-- once closed, always closed -/
theorem advance_closed {σ : Spec} {o : Obj} (op : Op) (out : Out)
    (h : σ.w.fno o = none ∧ (σ.w.orig o).isSome = true) :
    (σ.advance op out).w.fno o = none ∧ ((σ.advance op out).w.orig o).isSome = true := by
  unfold Spec.advance
  split
  · next hv =>
    cases op with
    | opn a f =>
      have hv := World.canOpen_iff.1 hv
      have ne : o ≠ a := by intro e; subst e; rw [hv.1] at h; simp at h
      simp only [World.opn, upd_other _ _ _ _ ne]; exact h
    | close a =>
      dsimp only
      split
      · simp only [notePend_eq, World.close, upd_apply]
        split <;> simp [h.1, h.2]
      · exact h
    | poll fs rd => simp only [foldl_discard_w]; exact h
    | _ => simpa [Spec.discard, notePend_eq, dropTgt_eq] using h  -- the registration arms leave `σ.w` alone
  · exact h

theorem closed_from {s : State} {σ : Spec} (ops : List Op) (h : Rel s σ) (p : PInv s) (o : Obj)
    (hc : σ.w.fno o = none ∧ (σ.w.orig o).isSome = true) :
    ∀ x ∈ (runFrom s ops).2, ∀ e ∈ eventsOf x.2, e.obj = o → e.kind = .disconnect := by
  induction ops generalizing s σ with
  | nil => simp [runFrom]
  | cons op ops ih =>
    intro x hx e he eo
    simp only [runFrom, List.mem_cons] at hx
    rcases hx with hx | hx
    · subst hx
      have := (events_allowed op h p e he).2
      cases hk : e.kind with
      | disconnect => rfl
      | read => have := this (by simp [hk]); rw [eo, hc.1] at this; cases this
      | write => have := this (by simp [hk]); rw [eo, hc.1] at this; cases this
    · exact ih (step_sim op h p).2 (pinv_step op p) (advance_closed op _ hc) x hx e he eo

theorem rel_runFrom {s : State} {σ : Spec} (ops : List Op) (h : Rel s σ) (p : PInv s) :
    ∃ σ', Rel (runFrom s ops).1 σ' := by
  induction ops generalizing s σ with
  | nil => exact ⟨σ, h⟩
  | cons op ops ih => simp only [runFrom]; exact ih (step_sim op h p).2 (pinv_step op p)

end Poller
end CV
