import CV.Proofs.Poller
/-
C10: simulation between a poller model and the abstract observer of PollerSpec (`Rel`):
every BasePoller call moves both in step; `_updateRegistration` does not touch what the observer sees.
-/
namespace CV
namespace Poller

theorem count_snoc (l : List Obj) (o a : Obj) : (l ++ [o]).count a = l.count a + (if a = o then 1 else 0) := by
  rw [List.count_append, List.count_singleton]; congr 1; by_cases e : a = o
  · subst e; simp
  · have : ¬ o = a := fun h => e h.symm
    simp [e, this]

theorem count_erase' (l : List Obj) (o a : Obj) : (l.erase o).count a = if a = o then l.count a - 1 else l.count a := by
  by_cases e : a = o
  · subst e; simp [List.count_erase_self]
  · simp [e, List.count_erase_of_ne e]

theorem count_filter_ne (l : List Obj) (o a : Obj) : (l.filter (· ≠ o)).count a = if a = o then 0 else l.count a := by
  by_cases e : a = o
  · subst e; simp [List.count_eq_zero]
  · rw [List.count_filter (by simp [e])]; simp [e]

/-- The poller `s` and the observer `σ` agree: same world (`w`); the observer's registration counts bound the
    lists (`le`) and equal them, targets included, for every descriptor under Poll/EPoll but only for the open ones
    under Select (`eq`), whose preen drops closed descriptors from the lists without a call the observer could see;
    a closed descriptor still listed under Select is in the observer's `pend` (`pend`).  Nothing is registered
    for an object that was never created (`unk`). -/
structure Rel (s : State) (σ : Spec) : Prop where
  w : s.w = σ.w
  le : ∀ o, s.read.count o ≤ σ.regR o ∧ s.write.count o ≤ σ.regW o
  eq : ∀ o, (s.kind ≠ .select ∨ (s.w.fno o).isSome) →
        s.read.count o = σ.regR o ∧ s.write.count o = σ.regW o ∧ s.targets o = σ.tgt o
  pend : s.kind = .select → ∀ o, s.w.fno o = none → (o ∈ s.read ∨ o ∈ s.write) → o ∈ σ.pend
  unk : ∀ o, s.w.orig o = none → σ.regR o = 0 ∧ σ.regW o = 0 ∧ σ.tgt o = none

theorem Rel.init (k : Kind) : Rel (State.init k) Spec.init := by
  constructor <;> simp [State.init, Spec.init]

theorem updateRegistration_frame {s : State} {o : Obj} (h : PInvX s (some o)) :
    (updateRegistration s o).1.read = s.read ∧ (updateRegistration s o).1.write = s.write ∧
    (updateRegistration s o).1.targets = s.targets ∧ (updateRegistration s o).1.w = s.w ∧
    (updateRegistration s o).1.kind = s.kind := by
  rw [updateRegistration_fst h.T2]
  repeat' split
  all_goals exact ⟨rfl, rfl, rfl, rfl, rfl⟩

theorem rel_of_frame {s s' : State} {σ : Spec} (h : Rel s σ) (a : s'.read = s.read) (b : s'.write = s.write)
    (c : s'.targets = s.targets) (d : s'.w = s.w) (e : s'.kind = s.kind) : Rel s' σ := by
  obtain ⟨w, le, eq, pend, unk⟩ := h
  constructor <;> simp only [a, b, c, d, e] <;> assumption

theorem rel_registration {s : State} {σ : Spec} {o : Obj} (p : PInvX s (some o)) (h : Rel s σ) :
    Rel (updateRegistration s o).1 σ := by
  obtain ⟨a, b, c, d, e⟩ := updateRegistration_frame p
  exact rel_of_frame h a b c d e

/-- The same poller, and the same observer, with the roles of reading and writing exchanged.  The BasePoller calls
    and the observer's bookkeeping treat the two roles alike, so what is shown for the reader calls holds for the
    writer calls: apply it to the exchanged pair and exchange back. -/
def State.swap (s : State) : State := { s with read := s.write, write := s.read, kin := s.kout, kout := s.kin }
def Spec.swap (σ : Spec) : Spec := { σ with regR := σ.regW, regW := σ.regR }

theorem Rel.swap {s : State} {σ : Spec} (h : Rel s σ) : Rel s.swap σ.swap :=
  ⟨h.w, fun o => (h.le o).symm, fun o x => ⟨(h.eq o x).2.1, (h.eq o x).1, (h.eq o x).2.2⟩,
   fun k o f m => h.pend k o f m.symm, fun o u => ⟨(h.unk o u).2.1, (h.unk o u).1, (h.unk o u).2.2⟩⟩

theorem notePend_eq (σ : Spec) (o : Obj) :
    σ.notePend o =
      { σ with pend := if (σ.w.fno o).isNone && σ.registered o then o :: σ.pend else σ.pend } := by
  unfold Spec.notePend; split <;> rfl

theorem mem_pend_of_mem {c : Prop} [Decidable c] {o a : Obj} {l : List Obj} (h : a ∈ l) :
    a ∈ if c then o :: l else l := by
  split
  · exact List.mem_cons_of_mem _ h
  · exact h

theorem mem_pend_self {c : Prop} [Decidable c] {o : Obj} {l : List Obj} (h : c) : o ∈ if c then o :: l else l := by
  simp [h]

theorem dropTgt_eq (σ : Spec) (o : Obj) :
    σ.dropTgt o =
      { σ with tgt := fun a => if a = o ∧ σ.registered o = false then none else σ.tgt a } := by
  unfold Spec.dropTgt
  split
  · next h =>
    rw [show (fun a => if a = o ∧ σ.registered o = false then none else σ.tgt a) = σ.tgt from
      funext fun a => by simp [h]]
  · next h =>
    rw [show (fun a => if a = o ∧ σ.registered o = false then none else σ.tgt a) = upd σ.tgt o none from
      funext fun a => by simp [upd_apply, Bool.not_eq_true _ ▸ h]]

theorem rel_addReader {s : State} {σ : Spec} (o : Obj) (c : Chan) (h : Rel s σ) (k : s.w.known o = true) :
    Rel (baseAddReader s o c)
      (({ σ with regR := upd σ.regR o (σ.regR o + 1), tgt := upd σ.tgt o (some c) } : Spec).notePend o) := by
  obtain ⟨w, le, eq, pend, unk⟩ := h
  constructor <;> simp only [notePend_eq, baseAddReader, count_snoc, upd_apply]
  · exact w
  · intro a
    have := le a
    by_cases e : a = o
    · subst e; simp only [if_true]; omega
    · simp only [e, if_false]; omega
  · intro a ha
    have := eq a ha
    by_cases e : a = o
    · subst e; simp only [if_true]; exact ⟨by omega, by omega, trivial⟩
    · simp only [e, if_false, Nat.add_zero]; exact this
  · intro hk a hf hm
    by_cases e : a = o
    · subst e; exact mem_pend_self (by simp [Spec.registered, ← w, hf])
    · exact mem_pend_of_mem (pend hk a hf (by simpa [e] using hm))
  · intro a ha
    have e : a ≠ o := by intro e; subst e; simp [World.known, ha] at k
    simpa [e] using unk a ha

theorem rel_addWriter {s : State} {σ : Spec} (o : Obj) (c : Chan) (h : Rel s σ) (k : s.w.known o = true) :
    Rel (baseAddWriter s o c)
      (({ σ with regW := upd σ.regW o (σ.regW o + 1), tgt := upd σ.tgt o (some c) } : Spec).notePend o) := by
  refine Eq.mp ?_ (rel_addReader o c h.swap k).swap
  simp only [baseAddReader, baseAddWriter, State.swap, notePend_eq, Spec.swap, Spec.registered, Bool.or_comm]
  congr

theorem registered_iff (σ : Spec) (o : Obj) : σ.registered o = true ↔ 0 < σ.regR o ∨ 0 < σ.regW o := by
  simp [Spec.registered]

/-! what the observer knows of a descriptor whose counts it shares: any one under Poll/EPoll, an open one under Select -/

theorem Rel.mem_read {s : State} {σ : Spec} (h : Rel s σ) {o : Obj} (ho : s.kind ≠ .select ∨ (s.w.fno o).isSome) :
    o ∈ s.read ↔ 0 < σ.regR o := by rw [← List.count_pos_iff, (h.eq o ho).1]

theorem Rel.mem_write {s : State} {σ : Spec} (h : Rel s σ) {o : Obj} (ho : s.kind ≠ .select ∨ (s.w.fno o).isSome) :
    o ∈ s.write ↔ 0 < σ.regW o := by rw [← List.count_pos_iff, (h.eq o ho).2.1]

/-- an event about a listed descriptor that goes to its target passes the observer's checks that do not depend on
    the kind of the event -/
theorem Rel.listed {s : State} {σ : Spec} (h : Rel s σ) (p : PInv s) {o : Obj}
    (ho : s.kind ≠ .select ∨ (s.w.fno o).isSome) (hl : o ∈ s.read ∨ o ∈ s.write) :
    σ.registered o = true ∧ s.targets o = σ.tgt o ∧ (σ.tgt o).isSome = true :=
  ⟨(registered_iff σ o).2 (hl.imp (h.mem_read ho).1 (h.mem_write ho).1), (h.eq o ho).2.2, (h.eq o ho).2.2 ▸ p.T o hl⟩

theorem rel_removeReader {s : State} {σ : Spec} (o : Obj) (h : Rel s σ) :
    Rel (baseRemoveReader s o) (({ σ with regR := upd σ.regR o (σ.regR o - 1) } : Spec).dropTgt o) := by
  obtain ⟨w, le, eq, pend, unk⟩ := h
  constructor <;> simp only [baseRemoveReader, dropTgt_eq, dropTargetIfUnused_eq, count_erase', upd_apply]
  · exact w
  · intro a; have := le a
    by_cases e : a = o
    · subst e; simp only [if_true]; omega
    · simp only [e, if_false]; exact this
  · intro a ha
    have ea := eq a ha
    by_cases e : a = o
    · subst e
      simp only [if_true, true_and]
      refine ⟨ea.1 ▸ rfl, ea.2.1, ?_⟩
      have hr : (a ∉ s.read.erase a ∧ a ∉ s.write) ↔
          (({ σ with regR := upd σ.regR a (σ.regR a - 1) } : Spec).registered a = false) := by
        rw [← Bool.not_eq_true, registered_iff]
        simp only [← List.count_pos_iff, count_erase', if_true, upd_same, ea.1, ea.2.1]
        omega
      by_cases c : a ∉ s.read.erase a ∧ a ∉ s.write
      · rw [if_pos c, if_pos (hr.mp c)]
      · rw [if_neg c, if_neg (fun x => c (hr.mpr x))]; exact ea.2.2
    · simp only [e, if_false, false_and]; exact ea
  · intro hk a hf hm
    apply pend hk a hf
    rcases hm with hm | hm
    · exact Or.inl (List.mem_of_mem_erase hm)
    · exact Or.inr hm
  · intro a ha
    have := unk a ha
    by_cases e : a = o
    · subst e; simp only [if_true, this]; exact ⟨trivial, trivial, ite_self _⟩
    · simp only [e, if_false, false_and]; exact this

theorem rel_removeWriter {s : State} {σ : Spec} (o : Obj) (h : Rel s σ) :
    Rel (baseRemoveWriter s o) (({ σ with regW := upd σ.regW o (σ.regW o - 1) } : Spec).dropTgt o) := by
  refine Eq.mp ?_ (rel_removeReader o h.swap).swap
  simp only [baseRemoveReader, baseRemoveWriter, dropTargetIfUnused_eq, dropTgt_eq, Spec.swap, State.swap,
    Spec.registered, Bool.or_comm, and_comm]
  congr

theorem rel_discard {s : State} {σ : Spec} (o : Obj) (h : Rel s σ) : Rel (baseDiscard s o) (σ.discard o) := by
  obtain ⟨w, le, eq, pend, unk⟩ := h
  constructor <;> simp only [baseDiscard, Spec.discard, count_filter_ne, upd_apply]
  · exact w
  · intro a
    by_cases e : a = o
    · simp only [e, if_true]; exact ⟨Nat.le_refl _, Nat.le_refl _⟩
    · simp only [e, if_false]; exact le a
  · intro a ha
    by_cases e : a = o
    · simp only [e, if_true]; exact ⟨trivial, trivial, trivial⟩
    · simp only [e, if_false]; exact eq a ha
  · intro hk a hf hm
    apply pend hk a hf
    simp only [mem_filter_ne] at hm
    rcases hm with hm | hm
    · exact Or.inl hm.1
    · exact Or.inr hm.1
  · intro a ha
    by_cases e : a = o
    · simp only [e, if_true]; exact ⟨trivial, trivial, trivial⟩
    · simp only [e, if_false]; exact unk a ha

theorem rel_opn {s : State} {σ : Spec} {o : Obj} {f : Nat} (h : Rel s σ) (p : PInv s) (c : s.w.canOpen o f = true) :
    Rel { s with w := s.w.opn o f } { σ with w := σ.w.opn o f } := by
  obtain ⟨w, le, eq, pend, unk⟩ := h
  have c' := World.canOpen_iff.1 c
  have notin : ¬ (o ∈ s.read ∨ o ∈ s.write) := fun hm => by
    have := p.B _ hm; rw [c'.1] at this; cases this
  constructor
  · simp [w]
  · exact le
  · intro a ha
    by_cases e : a = o
    · subst e
      have u := unk a c'.1
      have h1 : s.read.count a = 0 := List.count_eq_zero.mpr (fun x => notin (Or.inl x))
      have h2 : s.write.count a = 0 := List.count_eq_zero.mpr (fun x => notin (Or.inr x))
      have h3 := p.T2 a (fun x => notin (Or.inl x)) (fun x => notin (Or.inr x))
      simp [h1, h2, h3, u]
    · simp only [World.opn, upd_other _ _ _ _ e] at ha; exact eq a ha
  · intro hk a hf hm
    have e : a ≠ o := by intro e; subst e; exact notin hm
    simp only [World.opn, upd_other _ _ _ _ e] at hf
    exact pend hk a hf hm
  · intro a ha
    have e : a ≠ o := by intro e; subst e; simp [World.opn] at ha
    simp only [World.opn, upd_other _ _ _ _ e] at ha
    exact unk a ha

theorem rel_close {s : State} {σ : Spec} {o : Obj} {f : Nat} (h : Rel s σ) (hf : s.w.fno o = some f) :
    Rel (close s o f) (({ σ with w := σ.w.close o f } : Spec).notePend o) := by
  obtain ⟨w, le, eq, pend, unk⟩ := h
  have key : ∀ a, (s.w.close o f).fno a = if a = o then none else s.w.fno a := by
    intro a; simp [World.close, upd_apply]
  constructor <;> simp only [close_eq, notePend_eq]
  · simp [w]
  · exact le
  · intro a ha
    rw [key] at ha
    by_cases e : a = o
    · subst e; simp only [if_true, Option.isSome_none] at ha
      exact eq a (Or.inl (by simpa using ha))
    · simp only [e, if_false] at ha; exact eq a ha
  · intro hk a hfa hm
    rw [key] at hfa
    by_cases e : a = o
    · subst e
      have := eq a (Or.inr (by simp [hf]))
      refine mem_pend_self (Bool.and_eq_true_iff.2 ⟨by simp [World.close], (registered_iff _ _).2 ?_⟩)
      show 0 < σ.regR a ∨ 0 < σ.regW a; simp only [← List.count_pos_iff] at hm; omega
    · simp only [e, if_false] at hfa; exact mem_pend_of_mem (pend hk a hfa hm)
  · intro a ha; exact unk a (by simpa [World.close] using ha)

end Poller
end CV
