import CV.Model.Core.Step
import CV.Proofs.PresAttr
import CV.Proofs.CoreFacts
/-
How a relation `R` on `St` is shown to be respected by all of `step` (`St.Le` in `CoreStep.lean`, the relations of
`Inv*.lean`).

`R` is reflexive (and transitive, except `St.Sil` of InvRunSil.lean, which has no `trans`) with one lemma per primitive of
`Pure.lean` (`R s t → R s (t.modEv e f)`, possibly under a side condition on `f`), from which one lemma per helper follows
(`R s t → R s (t.fireRaw …)`).  All carry the attribute
`st_pres`, tagged `↓` so that `simp` tries them on `R s E` before it looks into `E`: a goal `R s E`, with `E` built from
helper applications, `if` and `match`, is closed by rewriting from the outside in, each lemma turning `R s (E'.op args)`
into `True` once its premise `R s E'` and its side conditions have been rewritten to `True` in the same way (the tactic
`st_pres`).  A helper with deep control flow has a lemma for an arbitrary predicate, whose hypotheses are the helper's own
updates (`St.onWaitTick_pres` and its like).  The arms of `step` are walked once, for an arbitrary predicate: `Op` names
the operations the arms perform, `Frame.ops` those of one arm, and `stepFrame_pres` shows that a predicate which survives
the operations of an arm survives the arm.  A relation says once which operations it survives (`R.keeps`) and needs a
lemma of its own only for the arms that use another.
-/
namespace CV.Core

section
variable (c : Cfg) (k : List Frame) (s : St) (v : Ret) (ex : Exn) (fs : List Frame)
@[simp] theorem Cfg.pop_st : (c.pop k s).st = s := rfl
@[simp] theorem Cfg.pop_stack : (c.pop k s).stack = k := rfl
@[simp] theorem Cfg.pop_ret : (c.pop k s).ret = c.ret := rfl
@[simp] theorem Cfg.pop_exn : (c.pop k s).exn = c.exn := rfl
@[simp] theorem Cfg.popRet_st : (c.popRet k s v).st = s := rfl
@[simp] theorem Cfg.popRet_stack : (c.popRet k s v).stack = k := rfl
@[simp] theorem Cfg.popRet_ret : (c.popRet k s v).ret = v := rfl
@[simp] theorem Cfg.popRet_exn : (c.popRet k s v).exn = c.exn := rfl
@[simp] theorem Cfg.raise_st : (c.raise k s ex).st = s := rfl
@[simp] theorem Cfg.raise_stack : (c.raise k s ex).stack = k := rfl
@[simp] theorem Cfg.raise_ret : (c.raise k s ex).ret = c.ret := rfl
@[simp] theorem Cfg.raise_exn : (c.raise k s ex).exn = some ex := rfl
@[simp] theorem Cfg.goto_st : (c.goto k s fs).st = s := rfl
@[simp] theorem Cfg.goto_stack : (c.goto k s fs).stack = fs ++ k := rfl
@[simp] theorem Cfg.goto_ret : (c.goto k s fs).ret = c.ret := rfl
@[simp] theorem Cfg.goto_exn : (c.goto k s fs).exn = c.exn := rfl

theorem Cfg.dispatcher_st (r e rem : Nat) : (c.dispatcher k r e rem).st = (c.st.dispatchPre r e rem).2 := by
  unfold Cfg.dispatcher; split <;> rfl

theorem Cfg.effectDone_st (r e : Nat) (a : Bool) : (c.effectDone k r e a).st = (c.st.effectDone1 r e a).2 := by
  unfold Cfg.effectDone; split <;> rfl

theorem Cfg.eventDone_st (r e : Nat) (err : Bool) : (c.eventDone k r e err).st = (c.st.eventDonePre r e err).2 := by
  unfold Cfg.eventDone; split <;> rfl

theorem Cfg.contStop_st (r : Nat) (x : Task) : (c.contStop k s r x).st = (s.stopIteration r x).2 := by
  unfold Cfg.contStop; split <;> rfl

theorem Cfg.contError_st (r : Nat) (x : Task) (b : Bool) : (c.contError k s r x b).st = (s.errorBranch r x b).2 := by
  unfold Cfg.contError; split <;> rfl
end

attribute [st_pres] Cfg.pop_st Cfg.popRet_st Cfg.raise_st Cfg.goto_st
  ite_self eq_self implies_true and_self and_true true_and or_true true_or

theorem pred_ite {α} {P : α → Prop} {c : Prop} [Decidable c] {a b : α} (ha : P a) (hb : P b) :
    P (if c then a else b) := by
  split <;> assumption

theorem pred_ite_snd {α β} {P : β → Prop} {c : Prop} [Decidable c] {a b : α × β} (ha : P a.2) (hb : P b.2) :
    P (if c then a else b).2 := by
  split <;> assumption

theorem pred_ite_of {α} {P : α → Prop} {c : Prop} [Decidable c] {a b : α} (ha : c → P a) (hb : ¬ c → P b) :
    P (if c then a else b) := by
  split
  · exact ha ‹_›
  · exact hb ‹_›

theorem pred_ite_snd_of {α β} {P : β → Prop} {c : Prop} [Decidable c] {a b : α × β} (ha : c → P a.2)
    (hb : ¬ c → P b.2) : P (if c then a else b).2 := by
  split
  · exact ha ‹_›
  · exact hb ‹_›

theorem pred_ite_st {P : St → Prop} {c : Prop} [Decidable c] {a b : Cfg} (ha : P a.st) (hb : P b.st) :
    P (if c then a else b).st := by
  split <;> assumption


/-- Discharges a hypothesis of an `st_pres` lemma: the premise `R s E'` in the same way as `st_pres`; a side condition on
an update function or a new table row (`∀ y, (f y).tasks = y.tasks`, `ev.waiting = 0`) by `rfl`, since `f` is a record
update of other fields (`exact id rfl` under `with_unfolding_all`: `simp` runs its discharger with reducible
transparency and accepts a proof only if its type is syntactically the hypothesis).  A relation whose side conditions
need more adds its own closers with `macro_rules`; such a block must end in `| fail`, because the last alternative of a
`first` runs with error recovery. -/
syntax "st_pres_side" : tactic

/-- Closes `R s E` from the `st_pres` lemmas and the hypotheses.  A layer `E'.op args` is removed by the lemma for
`op` (one `simp` call, which finds it by its head symbol); an `if` at the top of `E` is taken apart by `pred_ite`,
which never looks at the condition (`split` would rewrite the whole goal); a `match` by `split`, whose impossible cases
go by `contradiction`.  `iota := false`: a `simp` call that cannot close a goal with a `match` in it would otherwise try
the matcher's equations, each through the discharger, before giving up. -/
macro "st_pres" : tactic => `(tactic| repeat' (first
  | with_reducible assumption
  | (simp (config := { iota := false }) (disch := st_pres_side) only [st_pres]; done)
  | with_reducible refine pred_ite ?_ ?_
  | with_reducible refine pred_ite_snd ?_ ?_
  | contradiction
  | split))

macro_rules | `(tactic| st_pres_side) => `(tactic| first
  | with_reducible assumption
  | (simp (config := { iota := false }) (disch := st_pres_side) only [st_pres]; done)
  | (with_reducible refine pred_ite ?_ ?_) <;> st_pres_side
  | (with_reducible refine pred_ite_snd ?_ ?_) <;> st_pres_side
  | with_unfolding_all (intros; and_intros <;> exact id rfl)
  | with_unfolding_all (intros; split <;> exact id rfl)
  | split <;> st_pres_side
  | fail)

/-- `st_pres_unfold h`: the `st_pres` lemma of a helper `h` whose body is built from operations that have theirs: unfold `h`,
reduce the `let`s and pair projections this exposes, then `st_pres`. -/
macro "st_pres_unfold" ids:ident+ : tactic => `(tactic| (unfold $[$ids]*; (try dsimp only); st_pres))

/-! The larger helpers, for any property of states.  The hypotheses are the smaller operations the helper performs, with the
very update functions, so that a relation with side conditions on an update can discharge them.  A relation of the
`st_pres` kind instantiates `P` instead of unfolding the helper: unfolded, these definitions repeat their intermediate
states in every branch. -/

section
variable {P : St → Prop}

theorem foldl_pres {σ α} {P : σ → Prop} (g : σ → α → σ) (hg : ∀ a x, P a → P (g a x)) (l : List α) {t : σ} (h : P t) :
    P (l.foldl g t) := by
  induction l generalizing t with
  | nil => exact h
  | cons x l ih => exact ih (hg _ _ h)

/-- `addHandler` in two phases: the tables of the owner grow by entries for `h` (`P` through each update), then the cache
    of the owner's root is flagged (from `P` to `Q`) -/
theorem St.addHandler_phases {P Q : St → Prop} (s : St) (h : Nat) (h0 : P s)
    (hg : ∀ t, P t → P (t.modComp (s.handler h).owner fun x => { x with globals := addUniq x.globals h }))
    (hh : ∀ t k, P t → P (t.modComp (s.handler h).owner fun x => { x with htab := addUniq x.htab (k, h) }))
    (hd : ∀ t, P t → Q (t.modComp (t.rootOf (s.handler h).owner) fun x => { x with dirty := true })) :
    Q (s.addHandler h) := by
  unfold St.addHandler
  exact hd _ (pred_ite (hg _ h0) (pred_ite (hh _ _ h0) (foldl_pres _ (fun _ _ ha => hh _ _ ha) _ h0)))

theorem St.removeHandler_phases {P Q : St → Prop} (s : St) (h : Nat) (byName : Option Name) (h0 : P s)
    (hg : ∀ t, P t → P (t.modComp (s.handler h).owner fun x => { x with globals := x.globals.erase h }))
    (hh : ∀ t l, P t → l.Sublist (t.comp (s.handler h).owner).htab →
      P (t.modComp (s.handler h).owner fun x => { x with htab := l }))
    (hd : ∀ t, P t → Q (t.modComp (t.rootOf (s.handler h).owner) fun x => { x with dirty := true })) :
    Q (s.removeHandler h byName).2 := by
  unfold St.removeHandler
  exact hd _ (hh _ _ (pred_ite (hg _ h0) h0) (rmKeys_sublist _ _ _))

theorem St.addHandler_pres (s : St) (h : Nat) (h0 : P s)
    (hg : ∀ t, P t → P (t.modComp (s.handler h).owner fun x => { x with globals := addUniq x.globals h }))
    (hh : ∀ t k, P t → P (t.modComp (s.handler h).owner fun x => { x with htab := addUniq x.htab (k, h) }))
    (hd : ∀ t r, P t → P (t.modComp r fun x => { x with dirty := true })) : P (s.addHandler h) :=
  s.addHandler_phases h h0 hg hh fun t => hd t _

theorem St.updateRootAll_pres (root : Nat) (hP : ∀ t x, P t → P (t.modComp x fun y => { y with root := root })) :
    ∀ (fuel : Nat) (todo : List Nat) (s : St), P s → P (St.updateRootAll fuel todo root s) := by
  intro fuel
  induction fuel with
  | zero => intro todo s h; exact h
  | succ n ih =>
    intro todo s h
    cases todo with
    | nil => exact h
    | cons x rest => exact ih _ _ (hP _ _ h)

theorem St.effectDone1_pres (s : St) (r e : Nat) (announce : Bool) (h0 : P s)
    (hm1 : ∀ k, P (s.modEv e fun x => { x with effects := k }))
    (hc : ∀ t ch, P t → P (t.fireChild r e sfxComplete ch))
    (hm2 : ∀ t, P t → P (t.modEv e fun x => { x with cause := none, effects := 0 })) :
    P (s.effectDone1 r e announce).2 := by
  unfold St.effectDone1
  dsimp only
  split
  · exact h0
  · refine pred_ite_snd (hm1 _) (pred_ite_snd ?_ ?_) <;> exact hm2 _ (pred_ite (hc _ _ (hm1 _)) (hm1 _))

/-- `hf`: a timer that is due fires the event it has, or one that it creates and keeps -/
theorem St.timerTick_pres_ev (s : St) (i e : Nat) (h0 : P s) (hl : ∀ t d, P t → P (t.reduceTimeLeft e d))
    (hf : ∀ tm c ch, s.timers[i]? = some tm → P (match tm.ev with
      | some te => s.fireRaw c te ch 0
      | none => ((s.addEv (mkEvOfTmpl s tm.tmpl)).modTimer i fun x => { x with ev := some s.evs.length }).fireRaw c
          s.evs.length ch 0))
    (hm : ∀ t k, P t → P (t.modTimer i fun x => { x with expiry := k + x.interval }))
    (hu : ∀ t c, P t → P (t.unregister c)) : P (s.timerTick i e) := by
  unfold St.timerTick
  split
  · exact h0
  · rename_i tm htm
    dsimp only
    have hf := fun c ch => hf tm c ch htm
    refine pred_ite h0 (pred_ite (pred_ite h0 (hl _ _ ?_)) (hl _ _ h0))
    cases hev : tm.ev <;> rw [hev] at hf <;> exact pred_ite (hm _ _ (hf _ _)) (hu _ _ (hf _ _))

theorem St.timerTick_pres (s : St) (i e : Nat) (h0 : P s) (hl : ∀ t d, P t → P (t.reduceTimeLeft e d))
    (he : ∀ tm, P ((s.addEv (mkEvOfTmpl s tm)).modTimer i fun x => { x with ev := some s.evs.length }))
    (hf : ∀ t c x ch, P t → P (t.fireRaw c x ch 0))
    (hm : ∀ t k, P t → P (t.modTimer i fun x => { x with expiry := k + x.interval }))
    (hu : ∀ t c, P t → P (t.unregister c)) : P (s.timerTick i e) :=
  St.timerTick_pres_ev s i e h0 hl (fun tm c ch _ => by
    split
    · exact hf _ _ _ _ h0
    · exact hf _ _ _ _ (he _)) hm hu

theorem St.startWait_pres (s : St) (w : Nat) (h0 : P s)
    (hf : ∀ i target, P (s.fireTmplEv (s.wait w).owner (mkEvOfTmpl s i) target 0))
    (hh : ∀ t names chan kind, kind = .waitEvent w ∨ kind = .waitDone w ∨ kind = .waitTick w → P t →
      P ((t.addH { owner := (s.wait w).owner, names := names, chan := chan, kind := kind }).addHandler t.hs.length))
    (hm : ∀ t evObj hEvent hDone hTick, P t → P (t.modWait w fun x =>
      { x with evObj := evObj, hEvent := hEvent, hDone := hDone, hTick := hTick, started := true })) :
    P (s.startWait w) := by
  unfold St.startWait
  extract_lets ws self s1 evObj chan hEvent s2 hDone s3 hTick s4
  have h1 : P s1 := by
    dsimp only [s1]
    split
    · exact hf _ _
    · exact h0
  have h3 : P s3 := hh _ _ _ _ (.inr (.inl rfl)) (hh _ _ _ _ (.inl rfl) h1)
  exact hm _ _ _ _ _ (pred_ite (hh _ _ _ _ (.inr (.inr rfl)) h3) h3 : P s4)

theorem St.stopIteration_pres (s : St) (r : Nat) (x : Task)
    (h1 : P ((s.modEv x.e fun y => { y with waiting := y.waiting - 1 }).unregisterTask r x))
    (ht : ∀ t p, P t → P (t.registerTask r ⟨x.e, p, none⟩)) (hi : ∀ t, P t → P (t.inform x.e true)) :
    P (s.stopIteration r x).2 := by
  unfold St.stopIteration
  dsimp only
  split
  · exact ht _ _ h1
  · exact pred_ite_snd (hi _ h1) h1

theorem St.errorBranch_pres (s : St) (r : Nat) (x : Task) (resumed : Bool) (h1 : P (s.unregisterTask r x))
    (hm1 : ∀ t, P t → P (t.modEv x.e fun y => { y with val := y.val.set .err }))
    (hm2 : ∀ t, P t → P (t.modEv x.e fun y => { y with val := { y.val with errors := true } }))
    (hi : ∀ t b, P t → P (t.inform x.e b)) (hc : ∀ t ch, P t → P (t.fireChild r x.e sfxFailure ch))
    (hx : ∀ t, P t → P (t.fireException r x.e))
    (hm3 : ∀ t k, P t → P (t.modEv x.e fun y => { y with waiting := y.waiting - k })) :
    P (s.errorBranch r x resumed).2 := by
  unfold St.errorBranch
  dsimp only
  have h3 := hi _ true (hm2 _ (hi _ false (hm1 _ h1)))
  refine pred_ite_snd (hm3 _ _ (hx _ ?_)) (hx _ ?_) <;> exact pred_ite (hc _ _ h3) h3

theorem St.onWaitDone_pres (s : St) (w e : Nat) (h0 : P s) (hrm : ∀ t x n, P t → P (t.removeHandler x n).2)
    (h1 : (s.wait w).flag = false → (s.wait w).timedOut = false →
      P ((s.modWait w fun x => { x with flag := true }).registerTask (s.wait w).owner
        ⟨(s.wait w).taskEvent, (s.wait w).task, some (s.wait w).parentGen⟩)) : P (s.onWaitDone w e).2 := by
  unfold St.onWaitDone
  dsimp only
  refine pred_ite_snd_of (fun hc => ?_) (fun _ => h0)
  simp only [Bool.and_eq_true, Bool.not_eq_true'] at hc
  have h1 := h1 hc.1.1 hc.1.2
  refine pred_ite_snd ?_ h1
  split
  · exact pred_ite_snd (hrm _ _ _ h1) (hrm _ _ _ h1)
  · exact h1

/-- after its first `removeHandler`, `tickDrop` only removes more -/
theorem St.tickDrop_pres (ws : WaitSt) (u : St) (hrm : ∀ t x n, P t → P (t.removeHandler x n).2)
    (h1 : P (u.removeHandler ws.hDone (some (ws.evName.child sfxDone))).2) : P (St.tickDrop ws u).2 := by
  unfold St.tickDrop St.tickDropEvent
  dsimp only
  refine pred_ite_snd h1 ?_
  cases ws.hTick
  case' some ht => replace h1 := hrm _ ht (some Name.generateEvents) h1
  all_goals exact pred_ite_snd h1 (pred_ite_snd (pred_ite_snd (hrm _ _ _ h1) (hrm _ _ _ h1)) h1)

theorem St.onWaitTick_pres (s : St) (w : Nat) (h0 : P s)
    (hrm : ∀ t x n, P t → P (t.removeHandler x n).2)
    (h1 : (s.wait w).flag = false → (s.wait w).timedOut = false → (s.wait w).timeout = 0 →
      P (((s.modWait w fun x => { x with timedOut := true }).addGen (.exc w false)).registerTask (s.wait w).owner
        ⟨(s.wait w).taskEvent, s.gens.length, some (s.wait w).parentGen⟩))
    (h2 : P (s.modWait w fun x => { x with timeout := x.timeout - 1 })) : P (s.onWaitTick w).2 := by
  rw [St.onWaitTick_eq]
  refine pred_ite_snd_of (fun _ => h0) fun hc => pred_ite_snd_of (fun ht => ?_) fun _ => pred_ite_snd h2 h0
  rw [Bool.or_eq_true, not_or, Bool.not_eq_true, Bool.not_eq_true] at hc
  exact St.tickDrop_pres _ _ hrm (hrm _ _ _ (h1 hc.1 hc.2 (beq_iff_eq.1 ht)))

/-- The intermediate states are generalised as soon as they are known to satisfy `P`: the queue update at the end mentions
them several times. -/
theorem St.registerPre_pres {t : St} (h : P t) (c p : Nat)
    (h1 : ∀ r, P (t.modComp c fun x => { x with parent := p, root := r }))
    (h2 : ∀ a r, P a → P ((a.modComp r fun x => { x with executing := true }).modComp c
      fun x => { x with executing := false }))
    (h3 : ∀ a, P a → P (a.modComp p fun x => { x with children := addUniq x.children c }))
    (h4 : ∀ a r q q', P a → P ((a.modComp r fun x => { x with eq := q, dirty := true }).modComp c
      fun x => { x with eq := q' })) : P (t.registerPre c p).2 := by
  unfold St.registerPre
  dsimp only
  have h1 := h1 (t.comp p).root
  generalize St.modComp t c _ = s1 at h1 ⊢
  refine pred_ite_snd (pred_ite_snd h1 ?_) h1
  have h3 : P ((if (s1.comp c).executing then
        (s1.modComp (t.comp p).root fun x => { x with executing := true }).modComp c fun x => { x with executing := false }
      else s1).modComp p fun x => { x with children := addUniq x.children c }) :=
    h3 _ (pred_ite (h2 _ _ h1) h1)
  generalize St.modComp _ p _ = s3 at h3 ⊢
  exact pred_ite (h4 _ _ _ _ h3) h3

/-- `fireContext` does nothing, or notes the cause of `e` (`hC`, `hE`), or wakes a sleeping `generate_events` (`hW`) -/
theorem St.fireContext_pres (s : St) (r e : Nat) (h0 : P s)
    (hC : ∀ t h, P t → P (t.modEv e fun x => { x with cause := some h, effects := 1, selfDone := false }))
    (hE : ∀ t h, P t → P (t.modEv h fun x => { x with effects := x.effects + 1 }))
    (hW : ∀ t h, P t → P (t.modEv h fun x =>
      { x with timeLeft := if x.timeLeft < 0 || x.timeLeft > 0 then 0 else x.timeLeft })) :
    P (s.fireContext r e) := by
  unfold St.fireContext
  refine pred_ite ?_ ?_ <;> split
  · exact pred_ite (hE _ _ (hC _ _ h0)) h0
  · exact h0
  · exact pred_ite (hW _ _ h0) h0
  · exact h0

end

theorem unwind_pres {P : Cfg → Prop} (c : Cfg) (k : List Frame) (ex : Exn) (f : Frame) (hpop : P (c.pop k c.st))
    (h1 : ∀ r h, P (c.ptFin k r h)) (h2 : ∀ e h, P (c.invokeFin k e h)) (h3 : ∀ r old, P (c.flushFin k r old))
    (h4 : ∀ x old, P (c.tickFin k x old)) (h5 : ∀ x, P (c.runCatchExn k x ex)) (h6 : ∀ ex0, P (c.runRethrow k ex0)) :
    P (unwind c k ex f) := by
  cases f
  case ptFin => exact h1 _ _
  case invokeFin => exact h2 _ _
  case flushFin => exact h3 _ _
  case tickFin => exact h4 _ _
  case runCatch => exact h5 _
  case runRethrow => exact h6 _
  all_goals exact hpop

/-- What the arms of `step` do to the state: a helper (with any arguments), or a primitive with the one kind of update
the arms themselves make (`logE` is split by the entry logged, since relations on the log tell the entries apart).
`.modCompEq` is the write of the queue that `popEvent` returned, and `Op.Keeps` says so in a hypothesis; `.actStep` stands for
the actions of user code that change the state (`actFire`, `actStopEv`, `addHandler`, `removeHandler`, `unregister`,
`timerReset`). -/
inductive Op
  | modCompCurrently | modCompEq | modCompFlushing | modEvGeHandler
  | logTask | logResumed | logTimeout | logHinv | logInv | logExit
  | addGenUser | setGenDead | setGenUser | setGenExc | setGenOne
  | effectDone1 | eventDonePre | updateRootAll | registerPre | registerFin | prepUnregPre | prepUnregFin
  | stopBegin | stopSetCode | timerCreate | actStep | genCall | genWait | resumeGenPre | stopIteration | errorBranch
  | removeHandler | unregisterTask | setValueOpt | ownSub | parentSub | parentPlain | dispatchPre
  | onWaitEvent | onWaitDone | onWaitTick | timerTick | onFallbackGE | handlerRaised | applyValue | geTasksCheck
  | flushBegin | tickGenerate | runBegin | runEnd
  deriving DecidableEq

@[reducible] def Op.Keeps (P : St → Prop) : Op → Prop
  | .modCompCurrently => ∀ {t}, P t → ∀ r v, P (t.modComp r fun x => { x with currently := v })
  | .modCompEq => ∀ {t}, P t → ∀ r it q, t.popEvent r = some (it, q) → P (t.modComp r fun x => { x with eq := q })
  | .modCompFlushing => ∀ {t}, P t → ∀ r b, P (t.modComp r fun x => { x with flushing := b })
  | .modEvGeHandler => ∀ {t}, P t → ∀ e v, P (t.modEv e fun x => { x with geHandler := v })
  | .logTask => ∀ {t}, P t → ∀ e g, P (t.logE (.task e g))
  | .logResumed => ∀ {t}, P t → ∀ e h src v b, P (t.logE (.resumed e h src v b))
  | .logTimeout => ∀ {t}, P t → ∀ e h b, P (t.logE (.timeout e h b))
  | .logHinv => ∀ {t}, P t → ∀ e k o, P (t.logE (.hinv e k o))
  | .logInv => ∀ {t}, P t → ∀ e h, P (t.logE (.inv e h 0))
  | .logExit => ∀ {t}, P t → ∀ e h, P (t.logE (.exit e h))
  | .addGenUser => ∀ {t}, P t → ∀ e h owner prog, P (t.addGen (.user e h owner prog 0 none false))
  | .setGenDead => ∀ {t}, P t → ∀ g, P (t.setGen g .dead)
  | .setGenUser => ∀ {t}, P t → ∀ g e h owner rest step pc sd, P (t.setGen g (.user e h owner rest step pc sd))
  | .setGenExc => ∀ {t}, P t → ∀ g w, P (t.setGen g (.exc w true))
  | .setGenOne => ∀ {t}, P t → ∀ g v, P (t.setGen g (.one v true))
  | .effectDone1 => ∀ {t}, P t → ∀ r e a, P (t.effectDone1 r e a).2
  | .eventDonePre => ∀ {t}, P t → ∀ r e err, P (t.eventDonePre r e err).2
  | .updateRootAll => ∀ {t}, P t → ∀ fuel todo root, P (St.updateRootAll fuel todo root t)
  | .registerPre => ∀ {t}, P t → ∀ x p, P (t.registerPre x p).2
  | .registerFin => ∀ {t}, P t → ∀ x, P (t.registerFin x)
  | .prepUnregPre => ∀ {t}, P t → ∀ x, P (t.prepUnregPre x)
  | .prepUnregFin => ∀ {t}, P t → ∀ x, P (t.prepUnregFin x)
  | .stopBegin => ∀ {t}, P t → ∀ x, P (t.stopBegin x)
  | .stopSetCode => ∀ {t}, P t → ∀ r code, P (t.stopSetCode r code)
  | .timerCreate => ∀ {t}, P t → ∀ i, P (t.timerCreate i)
  | .actStep => ∀ {t}, P t → ∀ ctx a, P (CV.Core.actStep t ctx a).st
  | .genCall => ∀ {t}, P t → ∀ owner i target timeout, P (t.genCall owner i target timeout)
  | .genWait => ∀ {t}, P t → ∀ owner name target timeout, P (t.genWait owner name target timeout)
  | .resumeGenPre => ∀ {t}, P t → ∀ g silent, P (t.resumeGenPre g silent)
  | .stopIteration => ∀ {t}, P t → ∀ r x, P (t.stopIteration r x).2
  | .errorBranch => ∀ {t}, P t → ∀ r x resumed, P (t.errorBranch r x resumed).2
  | .removeHandler => ∀ {t}, P t → ∀ x n, P (t.removeHandler x n).2
  | .unregisterTask => ∀ {t}, P t → ∀ r x, P (t.unregisterTask r x)
  | .setValueOpt => ∀ {t}, P t → ∀ e v, P (t.setValueOpt e v)
  | .ownSub => ∀ {t}, P t → ∀ r x w, P (t.ownSub r x w)
  | .parentSub => ∀ {t}, P t → ∀ r x p w viaThrow, P (t.parentSub r x p w viaThrow)
  | .parentPlain => ∀ {t}, P t → ∀ r x p v viaThrow, P (t.parentPlain r x p v viaThrow)
  | .dispatchPre => ∀ {t}, P t → ∀ r e remaining, P (t.dispatchPre r e remaining).2
  | .onWaitEvent => ∀ {t}, P t → ∀ w e, P (t.onWaitEvent w e).2
  | .onWaitDone => ∀ {t}, P t → ∀ w e, P (t.onWaitDone w e).2
  | .onWaitTick => ∀ {t}, P t → ∀ w, P (t.onWaitTick w).2
  | .timerTick => ∀ {t}, P t → ∀ i e, P (t.timerTick i e)
  | .onFallbackGE => ∀ {t}, P t → ∀ e, P (t.onFallbackGE e).2
  | .handlerRaised => ∀ {t}, P t → ∀ r e, P (t.handlerRaised r e)
  | .applyValue => ∀ {t}, P t → ∀ r e value, P (t.applyValue r e value)
  | .geTasksCheck => ∀ {t}, P t → ∀ r e, P (t.geTasksCheck r e)
  | .flushBegin => ∀ {t}, P t → ∀ r, P (t.flushBegin r)
  | .tickGenerate => ∀ {t}, P t → ∀ x, P (t.tickGenerate x)
  | .runBegin => ∀ {t}, P t → ∀ x, P (t.runBegin x)
  | .runEnd => ∀ {t}, P t → ∀ x, P (t.runEnd x).2

/-- the operations the arm of a frame may perform (normal execution) -/
def Frame.ops : Frame → List Op
  | .effectDone .. => [.effectDone1]
  | .eventDone .. => [.eventDonePre]
  | .updateRoot .. => [.updateRootAll]
  | .register .. => [.registerPre, .updateRootAll]
  | .registerFin .. => [.registerFin]
  | .prepUnregFin .. => [.prepUnregFin]
  | .stopMgr .. => [.stopBegin, .stopSetCode]
  | .timerNew .. => [.timerCreate]
  | .acts .. => [.actStep]
  | .stepGen .. => [.setGenDead, .setGenUser, .genCall, .genWait, .actStep]
  | .processTask .. => [.logTask, .modCompCurrently]
  | .ptBody .. => [.resumeGenPre, .removeHandler, .unregisterTask, .logResumed, .logTimeout, .setGenExc, .setGenDead,
      .setGenOne, .setValueOpt, .stopIteration, .errorBranch]
  | .ptOwn .. => [.setValueOpt, .ownSub, .stopIteration, .errorBranch]
  | .ptParent .. => [.parentSub, .parentPlain, .stopIteration, .errorBranch]
  | .ptFin .. => [.modCompCurrently]
  | .dispatcher .. => [.dispatchPre]
  | .hLoop .. => [.modEvGeHandler]
  | .invoke .. => [.logHinv, .logInv, .logExit, .addGenUser, .prepUnregPre, .updateRootAll, .onWaitEvent, .onWaitDone,
      .onWaitTick, .timerTick, .onFallbackGE]
  | .invokeFin .. => [.logExit]
  | .hAfter .. => [.handlerRaised]
  | .hApply .. => [.applyValue, .geTasksCheck]
  | .dispFin .. => [.modCompCurrently]
  | .dispatchLoop .. => [.modCompEq]
  | .flush .. => [.flushBegin]
  | .flushFin .. => [.modCompFlushing]
  | .tick .. => [.modCompFlushing]
  | .tickFin .. => [.modCompFlushing]
  | .tickGen .. => [.tickGenerate]
  | .run .. => [.runBegin]
  | .runFin .. => [.runEnd]
  | _ => []

section
variable {P : St → Prop} (c : Cfg) (k : List Frame)

theorem Cfg.contStop_pres (H : Op.stopIteration.Keeps P) {s : St} (h : P s) (r : Nat) (x : Task) :
    P (c.contStop k s r x).st :=
  pred_ite_st (H h r x) (H h r x)

theorem Cfg.contError_pres (H : Op.errorBranch.Keeps P) {s : St} (h : P s) (r : Nat) (x : Task) (resumed : Bool) :
    P (c.contError k s r x resumed).st :=
  pred_ite_st (H h r x resumed) (H h r x resumed)

theorem Cfg.ptBodyWait_pres
    (H : ∀ o ∈ [Op.errorBranch, .stopIteration, .unregisterTask, .logResumed, .resumeGenPre], Op.Keeps P o)
    (r : Nat) (x : Task) (w : Nat)
    (h : P (c.st.removeHandler (c.st.wait w).hDone (some ((c.st.wait w).evName.child sfxDone))).2) :
    P (c.ptBodyWait k r x w).st := by
  unfold Cfg.ptBodyWait
  dsimp only
  refine pred_ite_st (Cfg.contError_pres c k (H .errorBranch (by decide)) h ..) ?_
  split
  · split
    · exact H .resumeGenPre (by decide) (H .logResumed (by decide) (H .unregisterTask (by decide) h ..) ..) ..
    · exact H .unregisterTask (by decide) h ..
  · exact Cfg.contStop_pres c k (H .stopIteration (by decide)) h ..

/-- `hD` is the detaching branch (`_on_prepare_unregister_complete`), which alone changes the tree. -/
theorem Cfg.invoke_pres (r hd e : Nat)
    (H : ∀ o ∈ [Op.logHinv, .logInv, .logExit, .addGenUser, .onWaitEvent, .onWaitDone, .onWaitTick, .timerTick,
      .onFallbackGE], o.Keeps P)
    (hD : (c.st.handler hd).kind = .prepUnregComplete → ∀ s x, P s → P (s.detach x))
    (h : P c.st) : P (c.invoke k r hd e).st := by
  have hs : P (c.w6_invokeSt hd e) := pred_ite (H .logHinv (by decide) h ..) h
  rw [Cfg.invoke_eq]
  generalize c.w6_invokeSt hd e = s at hs ⊢
  split
  · have h1 := H .logInv (by decide) hs e hd
    exact pred_ite_st (H .logExit (by decide) (H .addGenUser (by decide) h1 ..) ..) h1
  · exact hD ‹_› _ _ hs
  · exact H .onWaitEvent (by decide) hs ..
  · exact H .onWaitDone (by decide) hs ..
  · exact H .onWaitTick (by decide) hs ..
  · exact H .timerTick (by decide) hs ..
  · exact pred_ite_st (H .onFallbackGE (by decide) hs _) (H .onFallbackGE (by decide) hs _)
  · exact hs

theorem Cfg.invoke_pres_ne (r hd e : Nat) (hk : (c.st.handler hd).kind ≠ .prepUnregComplete)
    (H : ∀ o ∈ [Op.logHinv, .logInv, .logExit, .addGenUser, .onWaitEvent, .onWaitDone, .onWaitTick, .timerTick,
      .onFallbackGE], o.Keeps P) (h : P c.st) : P (c.invoke k r hd e).st :=
  Cfg.invoke_pres c k r hd e H (fun hd' => absurd hd' hk) h

theorem stepFrame_pres (f : Frame) (H : ∀ o ∈ f.ops, o.Keeps P) (h : P c.st) : P (stepFrame c k f).st := by
  cases f <;> dsimp only [Frame.ops] at H
  case effectDone r e a =>
    dsimp only [stepFrame, Cfg.effectDone]
    split
    all_goals exact H .effectDone1 (by decide) h ..
  case eventDone r e err => exact pred_ite_st (H .eventDonePre (by decide) h ..) (H .eventDonePre (by decide) h ..)
  case updateRoot todo root => exact H .updateRootAll (by decide) h ..
  case register x p =>
    have h1 := H .updateRootAll (by decide) (H .registerPre (by decide) h x p) (c.st.comps.length + 1) [x] (c.st.comp p).root
    exact pred_ite_st h (pred_ite_st (pred_ite_st h1 h1) (H .registerPre (by decide) h x p))
  case registerFin x => exact H .registerFin (by decide) h x
  case prepUnregFin x => exact H .prepUnregFin (by decide) h x
  case stopMgr x code =>
    have h1 := H .stopBegin (by decide) h x
    exact pred_ite_st h (pred_ite_st h1 (H .stopSetCode (by decide) h1 ..))
  case ticks x n =>
    cases n
    all_goals exact h
  case stopFin code => exact pred_ite_st h h
  case timerNew i =>
    dsimp only [stepFrame, Cfg.timerNew]
    split
    · exact h
    · exact pred_ite_st h (H .timerCreate (by decide) h i)
  case acts ctx prog =>
    cases prog with
    | nil => exact h
    | cons a rest =>
      dsimp only [stepFrame, Cfg.acts]
      split
      all_goals exact H .actStep (by decide) h ctx a
  case doFin x =>
    dsimp only [stepFrame, Cfg.doFin]
    split
    all_goals exact h
  case drainQ x => exact pred_ite_st h h
  case stepGen g =>
    have hu := fun e hd owner rest step pc sd => H .setGenUser (by decide) h g e hd owner rest step pc sd
    dsimp only [stepFrame, Cfg.stepGen]
    split
    · split
      · exact H .setGenDead (by decide) h g
      · split
        · exact hu ..
        · exact H .setGenUser (by decide) (H .genCall (by decide) h ..) ..
        · exact H .setGenUser (by decide) (H .genWait (by decide) h ..) ..
        · exact H .setGenDead (by decide) h g
        · split
          · exact H .actStep (by decide) (hu ..) ..
          · exact H .setGenDead (by decide) (H .actStep (by decide) (hu ..) ..) g
          · exact H .actStep (by decide) (hu ..) ..
    · exact h
  case processTask r x => exact H .modCompCurrently (by decide) (H .logTask (by decide) h ..) ..
  case ptBody r x =>
    have hS : Op.stopIteration.Keeps P := H .stopIteration (by decide)
    have hE : Op.errorBranch.Keeps P := H .errorBranch (by decide)
    have hU : Op.unregisterTask.Keeps P := H .unregisterTask (by decide)
    have hR : Op.resumeGenPre.Keeps P := H .resumeGenPre (by decide)
    dsimp only [stepFrame, Cfg.ptBody]
    split
    · exact hR h ..
    · exact Cfg.ptBodyWait_pres c k (fun o ho => H o (by revert o; decide)) _ _ _ (H .removeHandler (by decide) h ..)
    ·
      have h1 := hU (H .setGenExc (by decide) h x.g ‹_›) r x
      dsimp only [Cfg.ptBodyExc]
      refine pred_ite_st (Cfg.contStop_pres c k hS h ..) ?_
      split
      · split
        · have h2 := H .logTimeout (by decide) h1
          exact pred_ite_st (hR (h2 ..) ..) (Cfg.contError_pres c k hE (H .setGenDead (by decide) (h2 ..) _) ..)
        · exact h1
      · exact Cfg.contError_pres c k hE h1 ..
    · exact Cfg.contStop_pres c k hS h ..
    · exact pred_ite_st (Cfg.contStop_pres c k hS h ..)
        (H .setValueOpt (by decide) (H .setGenOne (by decide) h ..) ..)
  case ptOwn r x =>
    dsimp only [stepFrame, Cfg.ptOwn]
    split
    · exact H .setValueOpt (by decide) h ..
    · exact H .ownSub (by decide) h ..
    · exact Cfg.contStop_pres c k (H .stopIteration (by decide)) h ..
    · exact Cfg.contError_pres c k (H .errorBranch (by decide)) h ..
    · exact h
    · exact h
  case ptParent r x p viaThrow =>
    dsimp only [stepFrame, Cfg.ptParent]
    split
    · exact H .parentSub (by decide) h ..
    · exact H .parentPlain (by decide) h ..
    · exact Cfg.contStop_pres c k (H .stopIteration (by decide)) h ..
    · exact Cfg.contError_pres c k (H .errorBranch (by decide)) h ..
    · exact h
    · exact h
  case ptFin r handling => exact H .modCompCurrently (by decide) h ..
  case dispatcher r e remaining =>
    dsimp only [stepFrame]
    rw [Cfg.dispatcher_st]
    exact H .dispatchPre (by decide) h ..
  case hLoop r e hs err stale =>
    cases hs
    · exact h
    · exact H .modEvGeHandler (by decide) h ..
  case invoke r hd e =>
    exact Cfg.invoke_pres c k r hd e (fun o ho => H o (by revert o; decide))
      (fun _ s x hs => H .updateRootAll (by decide) (H .prepUnregPre (by decide) hs x) ..) h
  case invokeFin e hd => exact H .logExit (by decide) h ..
  case hAfter r e rest err stale =>
    dsimp only [stepFrame, Cfg.hAfter]
    split
    all_goals first | exact h | exact H .handlerRaised (by decide) h ..
  case hApply r e rest err value =>
    have h1 := H .geTasksCheck (by decide) (H .applyValue (by decide) h r e value) r e
    exact pred_ite_st h1 h1
  case dispFin r e err => exact H .modCompCurrently (by decide) h ..
  case dispatchLoop r =>
    dsimp only [stepFrame, Cfg.dispatchLoop]
    split
    · exact h
    · exact H .modCompEq (by decide) h _ _ _ ‹_›
  case flush x => exact H .flushBegin (by decide) h _
  case flushFin r old => exact H .modCompFlushing (by decide) h ..
  case tick x => exact pred_ite_st (H .modCompFlushing (by decide) h ..) h
  case taskLoop x ts =>
    cases ts
    all_goals exact h
  case tickFin x old => exact H .modCompFlushing (by decide) h ..
  case tickGen x => exact pred_ite_st (H .tickGenerate (by decide) h x) (H .tickGenerate (by decide) h x)
  case run x => exact H .runBegin (by decide) h x
  case runLoop x => exact pred_ite_st h h
  case runCatch x => exact h
  case runRethrow ex => exact h
  case runFin x =>
    dsimp only [stepFrame, Cfg.runFin]
    split
    all_goals exact H .runEnd (by decide) h x

def unwindOps : List Op := [.modCompCurrently, .modCompFlushing, .logExit]

theorem unwind_pres_st (ex : Exn) (f : Frame) (H : ∀ o ∈ unwindOps, o.Keeps P) (h : P c.st) : P (unwind c k ex f).st := by
  refine unwind_pres (P := fun d => P d.st) c k ex f h (fun _ _ => H .modCompCurrently (by decide) h ..)
    (fun _ _ => H .logExit (by decide) h ..) (fun _ _ => H .modCompFlushing (by decide) h ..)
    (fun _ _ => H .modCompFlushing (by decide) h ..) (fun _ => ?_) (fun _ => h)
  cases ex <;> exact h

theorem step_pres (H : ∀ o, Op.Keeps P o) (h : P c.st) : P (step c).st := by
  unfold step
  split
  · exact h
  · split
    · exact unwind_pres_st c _ _ _ (fun o _ => H o) h
    · exact stepFrame_pres c _ _ (fun o _ => H o) h

/-! A property that survives every operation but those of a list `bad` survives the arms that use none of them; for a
given frame `avoids` is decided by `rfl`. -/

def avoids (ops bad : List Op) : Bool := ops.all fun o => !bad.contains o

theorem avoids_keeps {ops bad : List Op} (hf : avoids ops bad = true) (K : ∀ o, o ∉ bad → o.Keeps P) :
    ∀ o ∈ ops, o.Keeps P :=
  fun o ho => K o (by simpa using List.all_eq_true.1 hf o ho)

theorem stepFrame_pres_avoiding {bad : List Op} (K : ∀ o, o ∉ bad → o.Keeps P) (f : Frame) (hf : avoids f.ops bad = true)
    (h : P c.st) : P (stepFrame c k f).st :=
  stepFrame_pres c k f (avoids_keeps hf K) h

theorem unwind_pres_avoiding {bad : List Op} (K : ∀ o, o ∉ bad → o.Keeps P) (ex : Exn) (f : Frame)
    (hf : avoids unwindOps bad = true) (h : P c.st) : P (unwind c k ex f).st :=
  unwind_pres_st c k ex f (avoids_keeps hf K) h

end

/-! Operations from a walk already made: a predicate that a reflexive relation `R` carries along (`R s t → P s → P t`)
survives every operation that all `R s` survive; so does a transitive relation that contains `R`. -/

theorem Op.Keeps.of_rel {R : St → St → Prop} {P : St → Prop} (hP : ∀ {s t}, R s t → P s → P t) (hrefl : ∀ t, R t t)
    {o : Op} (K : ∀ s, o.Keeps (R s)) : o.Keeps P := by
  cases o
  case modCompEq => exact fun {t} h r it q hp => hP (K t (hrefl t) r it q hp) h
  all_goals (intro t h; intros; exact hP (K t (hrefl t) ..) h)

theorem Op.Keeps.of_trans {R Q : St → St → Prop} (hrefl : ∀ t, R t t) (hsub : ∀ {a b}, R a b → Q a b)
    (htrans : ∀ {a b c}, Q a b → Q b c → Q a c) {o : Op} (K : ∀ t, o.Keeps (R t)) (s : St) : o.Keeps (Q s) :=
  .of_rel (fun hr hq => htrans hq (hsub hr)) hrefl K

end CV.Core
