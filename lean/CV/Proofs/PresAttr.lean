import Lean.Meta.Tactic.Simp.RegisterCommand

/-- Lemmas `R s t → R s (t.op args)` (or `R c.st (c.arm args).st`): the relation `R` between an earlier and a
later state of the core machine survives the operation `op`.  Used by the tactic `st_pres` (`CV/Proofs/Pres.lean`). -/
register_simp_attr st_pres
