import CV.Model.Ranges
import CV.Proofs.ListFacts
/- Lemmas for C16 (ranges): the code-shaped loop of `get_ranges` computes the de-duplicated list of satisfiable
   intervals of the RFC reading of the header (`getRanges_spec`); what `serve_file` answers satisfies the spec (`serveRange_ok`). -/
namespace CV.Ranges
open StaticPath (Str split)

/-- what one spec of the header does to the loop -/
def satStep (len : Nat) (sp : RSpec) : Step :=
  match satisfy len sp with
  | none => .skip
  | some (a, b) => .range a b

theorem satStep_suffix (len n : Nat) :
    satStep len (.suffix n) = if n = 0 ∨ len = 0 then .skip else .range (len - n) len := by
  simp only [satStep, satisfy]
  by_cases h : n = 0 ∨ len = 0
  · rw [if_pos h, if_neg (by omega)]
  · rw [if_neg h, if_pos (by omega)]

theorem satStep_fromOn (len st : Nat) :
    satStep len (.fromOn st) = if st ≥ len then .skip else .range st (len - 1 + 1) := by
  simp only [satStep, satisfy]
  by_cases h : st ≥ len
  · rw [if_pos h, if_neg (by omega)]
  · rw [if_neg h, if_pos (by omega), Nat.sub_add_cancel (by omega)]

theorem satStep_fromTo (len st sp : Nat) (hle : ¬ sp < st) :
    satStep len (.fromTo st sp) = if st ≥ len then .skip else .range st (min sp (len - 1) + 1) := by
  simp only [satStep, satisfy]
  by_cases h : st ≥ len
  · rw [if_pos h, if_neg (by omega)]
  · rw [if_neg h, if_pos (by omega), ← Nat.add_min_add_right, Nat.sub_add_cancel (by omega)]

theorem parseOne_eq (md len : Nat) (br : Str) :
    parseOne md len br = match parseSpec md br with | none => .malformed | some sp => satStep len sp := by
  unfold parseOne parseSpec
  cases hsf : splitFirst '-' br with
  | mk a ob =>
    cases ob with
    | none => rfl
    | some b =>
      dsimp only
      cases ha : strip a with
      | nil =>
        cases hb : strip b with
        | nil => rfl
        | cons y ys =>
          dsimp only
          rw [if_neg (by simp), if_neg (by simp)]
          cases hr : rangeInt md (y :: ys) with
          | none => rfl
          | some n => exact (satStep_suffix len n).symm
      | cons x xs =>
        rw [if_pos (by simp)]
        cases hb : strip b with
        | nil =>
          dsimp only
          cases hr : rangeInt md (x :: xs) with
          | none => rfl
          | some st => exact (satStep_fromOn len st).symm
        | cons y ys =>
          dsimp only
          cases hr : rangeInt md (x :: xs) with
          | none => rfl
          | some st =>
            dsimp only
            rw [if_pos (by simp)]
            cases hr2 : rangeInt md (y :: ys) with
            | none => rfl
            | some sp =>
              dsimp only
              by_cases hlt : sp < st
              · rw [if_pos hlt, if_pos hlt]
              · rw [if_neg hlt, if_neg hlt]; exact (satStep_fromTo len st sp hlt).symm

def addAll (acc : List (Nat × Nat)) (rs : List (Nat × Nat)) : List (Nat × Nat) := rs.foldl addRange acc

theorem loop_eq (md len : Nat) (brs : List Str) (acc : List (Nat × Nat)) :
    loop md len brs acc =
      match brs.mapM (parseSpec md) with
      | none => .none
      | some specs => finish (addAll acc (specs.filterMap (satisfy len))) := by
  induction brs generalizing acc with
  | nil => simp [loop, addAll]
  | cons br rest ih =>
    unfold loop
    rw [parseOne_eq]
    unfold satStep
    cases hp : parseSpec md br with
    | none => simp [hp]
    | some sp =>
      cases hs : satisfy len sp with
      | none =>
        simp only [ih]
        cases hm : rest.mapM (parseSpec md) with
        | none => simp [hp, hm, hs]
        | some specs => simp [hp, hm, hs]
      | some r =>
        obtain ⟨a, b⟩ := r
        simp only [ih]
        cases hm : rest.mapM (parseSpec md) with
        | none => simp [hp, hm, hs]
        | some specs => simp [hp, hm, hs, addAll]

theorem addRange_mem (acc : List (Nat × Nat)) (r x : Nat × Nat) :
    x ∈ addRange acc r ↔ x ∈ acc ∨ x = r := by
  unfold addRange
  split
  · constructor
    · intro h; exact Or.inl h
    · rintro (h | rfl) <;> assumption
  · simp

theorem addRange_nodup (acc : List (Nat × Nat)) (r : Nat × Nat) (h : acc.Nodup) : (addRange acc r).Nodup := by
  unfold addRange
  split
  · exact h
  · next hn => exact nodup_concat h hn

theorem addAll_mem (rs acc : List (Nat × Nat)) (x : Nat × Nat) : x ∈ addAll acc rs ↔ x ∈ acc ∨ x ∈ rs := by
  induction rs generalizing acc with
  | nil => simp [addAll]
  | cons r t ih =>
    simp only [addAll, List.foldl_cons]
    have := ih (addRange acc r)
    simp only [addAll] at this
    rw [this, addRange_mem, List.mem_cons, or_assoc]

theorem addAll_nodup (rs acc : List (Nat × Nat)) (h : acc.Nodup) : (addAll acc rs).Nodup :=
  List.foldlRecOn rs addRange h fun acc h r _ => addRange_nodup acc r h

theorem satisfy_bounds (len : Nat) (sp : RSpec) (a b : Nat) (h : satisfy len sp = some (a, b)) :
    a < b ∧ b ≤ len := by
  cases sp with
  | fromTo x y =>
    simp only [satisfy] at h
    split at h
    · simp at h; omega
    · simp at h
  | fromOn x =>
    simp only [satisfy] at h
    split at h
    · simp at h; omega
    · simp at h
  | suffix n =>
    simp only [satisfy] at h
    split at h
    · simp at h; omega
    · simp at h

theorem getRanges_eq (md : Nat) (hv : Option Str) (len : Nat) :
    getRanges md hv len =
      match parseHeader md hv with
      | none => .none
      | some specs => finish (addAll [] (specs.filterMap (satisfy len))) := by
  unfold getRanges parseHeader
  cases hv with
  | none => simp
  | some h =>
    simp only
    by_cases he : h = []
    · subst he; simp [splitFirst]
    · simp only [he, if_false]
      cases hsf : splitFirst '=' h with
      | mk u ob =>
        cases ob with
        | none => simp
        | some brs =>
          simp only
          by_cases hu : isBytesUnit u = true
          · simp only [hu, if_true]; exact loop_eq md len _ []
          · simp [hu]

theorem readAt_eq_slice (file : Bytes) (a b : Nat) : readAt file a b = slice file a b := by
  unfold readAt slice
  rw [List.drop_take]

theorem partOf_exact (file : Bytes) (r : Nat × Nat) (hb : r.1 < r.2 ∧ r.2 ≤ file.length) :
    (partOf file r).first = r.1 ∧ (partOf file r).last + 1 = r.2 ∧ (partOf file r).first ≤ (partOf file r).last ∧
    (partOf file r).last < file.length ∧ (partOf file r).total = file.length ∧
    (partOf file r).body = slice file (partOf file r).first ((partOf file r).last + 1) := by
  have h1 : r.2 - 1 + 1 = r.2 := by omega
  simp only [partOf, h1, readAt_eq_slice, and_true, true_and]
  omega

theorem partOk_of_mem (file : Bytes) (sat : List (Nat × Nat)) (r : Nat × Nat) (hm : r ∈ sat)
    (hb : r.1 < r.2 ∧ r.2 ≤ file.length) : partOk file sat (partOf file r) = true := by
  obtain ⟨e1, e2, h2, h3, h4, h5⟩ := partOf_exact file r hb
  simp only [partOk, e2, Bool.and_eq_true, decide_eq_true_eq]
  exact ⟨⟨⟨⟨h2, h3⟩, h4⟩, e1 ▸ hm⟩, e2 ▸ h5⟩

theorem getRanges_spec (md : Nat) (hv : Option Str) (len : Nat) :
    (parseHeader md hv = none ∧ getRanges md hv len = .none) ∨
    ∃ specs R, parseHeader md hv = some specs ∧ getRanges md hv len = finish R ∧ R.Nodup ∧
      (∀ x, x ∈ R ↔ x ∈ specs.filterMap (satisfy len)) ∧ ∀ x ∈ R, x.1 < x.2 ∧ x.2 ≤ len := by
  rw [getRanges_eq]
  cases hh : parseHeader md hv with
  | none => exact .inl ⟨rfl, rfl⟩
  | some specs =>
    have hmem : ∀ x, x ∈ addAll [] (specs.filterMap (satisfy len)) ↔ x ∈ specs.filterMap (satisfy len) :=
      fun x => by simp [addAll_mem]
    exact .inr ⟨specs, _, rfl, rfl, addAll_nodup _ [] List.nodup_nil, hmem, fun x hx => by
      obtain ⟨sp, _, hs⟩ := List.mem_filterMap.1 ((hmem x).1 hx)
      exact satisfy_bounds len sp x.1 x.2 hs⟩

theorem finish_cases (R : List (Nat × Nat)) : (finish R = .unsat ∧ 1 < R.length) ∨ finish R = .ranges R := by
  unfold finish
  split
  · next h => exact .inl ⟨rfl, h.1⟩
  · exact .inr rfl

theorem serveRange_ok (md : Nat) (http11 : Bool) (hv : Option Str) (file : Bytes) :
    respOk md http11 hv file (serveRange md http11 hv file) = true := by
  cases http11 with
  | false => simp [respOk, serveRange]
  | true =>
  unfold respOk serveRange
  simp only [not_true_eq_false, if_false]
  rcases getRanges_spec md hv file.length with ⟨hh, hg⟩ | ⟨specs, R, hh, hg, hnd, hmem, hbd⟩ <;> rw [hh, hg]
  · simp
  simp only
  generalize specs.filterMap (satisfy file.length) = sat at hmem
  rcases finish_cases R with ⟨e, h2⟩ | e <;> rw [e]
  · -- refused: two members of a duplicate-free list are distinct satisfiable intervals
    match R, h2, hnd, hmem with
    | x :: y :: t, _, hnd, hmem =>
      have hxy : x ≠ y := by intro e; subst e; simp at hnd
      simp only [Bool.or_eq_true, Bool.and_eq_true, decide_eq_true_eq, List.any_eq_true]
      exact ⟨Or.inl trivial, Or.inr ⟨x, (hmem x).1 (by simp), y, (hmem y).1 (by simp), hxy⟩⟩
  · -- answered: every part is the exact part of a satisfiable interval, and every such interval has its part
    have hpart : ∀ r ∈ R, partOk file sat (partOf file r) = true := fun r hr =>
      partOk_of_mem file sat r ((hmem r).1 hr) (hbd r hr)
    have hcov : ∀ x ∈ sat, ∃ p ∈ R.map (partOf file), x = (p.first, p.last + 1) := fun x hx => by
      obtain ⟨e1, e2, -⟩ := partOf_exact file x (hbd x ((hmem x).2 hx))
      exact ⟨_, List.mem_map.2 ⟨x, (hmem x).2 hx, rfl⟩, by rw [e1, e2]⟩
    match R, hmem, hpart, hcov with
    | [], hmem, _, _ =>
      have : sat = [] := List.eq_nil_iff_forall_not_mem.2 fun x hx => by simpa using (hmem x).2 hx
      simp [this]
    | [r], _, hpart, hcov =>
      obtain ⟨e1, e2, -⟩ := partOf_exact file r (hbd r (by simp))
      simp only [hpart r (by simp), e1, e2, Bool.true_and, Bool.and_eq_true, decide_eq_true_eq, List.all_eq_true]
      refine ⟨trivial, fun x hx => ?_⟩
      obtain ⟨p, hp, rfl⟩ := hcov x hx
      rw [List.map_singleton, List.mem_singleton] at hp
      rw [hp, e1, e2]
    | r1 :: r2 :: t, _, hpart, hcov =>
      simp only [Bool.and_eq_true, decide_eq_true_eq, List.all_eq_true, List.any_eq_true]
      exact ⟨⟨by simp, fun p hp => by obtain ⟨r, hr, rfl⟩ := List.mem_map.1 hp; exact hpart r hr⟩,
        fun x hx => by obtain ⟨p, hp, e⟩ := hcov x hx; exact ⟨p, hp, by simpa using e⟩⟩
end CV.Ranges
