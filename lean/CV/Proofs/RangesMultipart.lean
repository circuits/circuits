import CV.Model.RangesMultipart
import CV.Model.MultipartSpec
/- For C16 (multipart/byteranges): the RFC reader of `CV.Multipart` reads the byte
   stream of `CV.Ranges.multipartBody` back part by part. -/
namespace CV.Multipart
open CV.Ranges (natDec decFuel digitByte)

theorem digitByte_isDigit (d : Nat) : isDigitB (digitByte d) = true := by
  unfold digitByte; split <;> decide

theorem digitByte_val : ∀ d, d < 10 → (digitByte d).toNat - 48 = d
  | 0, _ => rfl | 1, _ => rfl | 2, _ => rfl | 3, _ => rfl | 4, _ => rfl
  | 5, _ => rfl | 6, _ => rfl | 7, _ => rfl | 8, _ => rfl | 9, _ => rfl
  | n + 10, h => by omega

theorem decFuel_digits (f n : Nat) : ∀ c ∈ decFuel f n, isDigitB c = true := by
  induction f generalizing n with
  | zero => simp [decFuel]
  | succ f ih =>
    unfold decFuel
    split
    · simp [digitByte_isDigit]
    · intro c hc
      rw [List.mem_append] at hc
      rcases hc with hc | hc
      · exact ih _ c hc
      · simp only [List.mem_singleton] at hc; subst hc; exact digitByte_isDigit _

theorem decFuel_ne_nil (f n : Nat) : decFuel (f + 1) n ≠ [] := by
  unfold decFuel; split <;> simp

theorem valDigits_snoc (s : Bytes) (c : UInt8) : valDigits (s ++ [c]) = valDigits s * 10 + (c.toNat - 48) := by
  simp [valDigits, List.foldl_append]

theorem valDigits_decFuel (f n : Nat) (h : n < f) : valDigits (decFuel f n) = n := by
  induction f generalizing n with
  | zero => omega
  | succ f ih =>
    unfold decFuel
    split
    · rename_i h10
      simp [valDigits, digitByte_val n h10]
    · rename_i h10
      rw [valDigits_snoc, ih (n / 10) (by omega), digitByte_val _ (Nat.mod_lt _ (by omega))]
      omega

theorem natDec_val (n : Nat) : valDigits (natDec n) = n := valDigits_decFuel _ _ (by omega)
theorem natDec_digits (n : Nat) : ∀ c ∈ natDec n, isDigitB c = true := decFuel_digits _ _
theorem natDec_ne_nil (n : Nat) : natDec n ≠ [] := decFuel_ne_nil _ _

theorem natDec_ne13 (n : Nat) : ∀ c ∈ natDec n, c ≠ 13 := by
  intro c hc h; subst h; exact absurd (natDec_digits n _ hc) (by decide)

/-- a rendered number is read back in front of anything that does not start with a digit -/
theorem spanNum_natDec (n : Nat) (r : Bytes) (hr : ∀ c, r.head? = some c → isDigitB c = false) :
    spanNum (natDec n ++ r) = some (n, r) := by
  have h0 : r.takeWhile isDigitB = [] ∧ r.dropWhile isDigitB = r := by
    cases r with
    | nil => exact ⟨rfl, rfl⟩
    | cons c r => simp [List.takeWhile, List.dropWhile, hr c rfl]
  unfold spanNum
  rw [List.takeWhile_append_of_pos (natDec_digits n), List.dropWhile_append_of_pos (natDec_digits n), h0.1, h0.2]
  simp only [List.append_nil, natDec_ne_nil, if_false, natDec_val]

theorem findSub_spec (pat : Bytes) : ∀ (s a b : Bytes), findSub pat s = some (a, b) → s = a ++ pat ++ b := by
  intro s
  induction s with
  | nil =>
    intro a b h
    unfold findSub at h
    split at h
    · rename_i hp; simp only [Option.some.injEq, Prod.mk.injEq] at h; obtain ⟨rfl, rfl⟩ := h; simp [hp]
    · simp at h
  | cons c r ih =>
    intro a b h
    unfold findSub at h
    split at h
    · rename_i hp
      simp only [Option.some.injEq, Prod.mk.injEq] at h
      obtain ⟨rfl, rfl⟩ := h
      rw [List.isPrefixOf_iff_prefix] at hp
      obtain ⟨t, ht⟩ := hp
      rw [← ht]; simp
    · cases hr : findSub pat r with
      | none => simp [hr] at h
      | some q =>
        obtain ⟨a', b'⟩ := q
        simp only [hr, Option.map_some, Option.some.injEq, Prod.mk.injEq] at h
        obtain ⟨rfl, rfl⟩ := h
        rw [ih a' b' hr]; simp

theorem findSub_none_of_not_infix (pat s : Bytes) (h : ¬ pat <:+: s) : findSub pat s = none := by
  cases hf : findSub pat s with
  | none => rfl
  | some q =>
    obtain ⟨a, b⟩ := q
    exact absurd ⟨a, b, (findSub_spec pat s a b hf).symm⟩ h

theorem findSub_length (pat s a b : Bytes) (hp : pat ≠ []) (h : findSub pat s = some (a, b)) :
    b.length < s.length := by
  have := findSub_spec pat s a b h
  subst this
  have : 0 < pat.length := List.length_pos_iff.mpr hp
  simp only [List.length_append]; omega

theorem findSub_cons_of_not_prefix (pat : Bytes) (c : UInt8) (r : Bytes) (h : ¬ pat <+: c :: r) :
    findSub pat (c :: r) = (findSub pat r).map (fun p => (c :: p.1, p.2)) := by
  rw [← List.isPrefixOf_iff_prefix] at h
  rw [findSub]; simp [h]

theorem findSub_here (pat k : Bytes) (hp : pat ≠ []) : findSub pat (pat ++ k) = some ([], k) := by
  cases pat with
  | nil => exact absurd rfl hp
  | cons c p =>
    have : (c :: p).isPrefixOf (c :: (p ++ k)) = true := by
      rw [List.isPrefixOf_iff_prefix]; exact ⟨k, rfl⟩
    rw [List.cons_append, findSub, if_pos this]
    simp

theorem findSub_skip (p seg s : Bytes) (h : ∀ c ∈ seg, c ≠ 13) :
    findSub (13 :: p) (seg ++ s) = (findSub (13 :: p) s).map (fun q => (seg ++ q.1, q.2)) := by
  induction seg with
  | nil => simp
  | cons c seg ih =>
    have hc : c ≠ 13 := h c (by simp)
    rw [List.cons_append, findSub_cons_of_not_prefix _ _ _ (by
      intro hp; exact hc (List.cons_prefix_cons.1 hp).1.symm),
      ih (fun x hx => h x (by simp [hx]))]
    cases findSub (13 :: p) s <;> simp

theorem findSub_cr (p s : Bytes) (h : ¬ p <+: s) :
    findSub (13 :: p) (13 :: s) = (findSub (13 :: p) s).map (fun q => (13 :: q.1, q.2)) :=
  findSub_cons_of_not_prefix _ _ _ (fun hp => h (List.cons_prefix_cons.1 hp).2)

theorem findSub_nil_none (pat : Bytes) (hp : pat ≠ []) : findSub pat [] = none := by
  simp [findSub, hp]

theorem findSub_none_skip (p seg s : Bytes) (h : ∀ c ∈ seg, c ≠ 13) (hs : findSub (13 :: p) s = none) :
    findSub (13 :: p) (seg ++ s) = none := by
  rw [findSub_skip p seg s h, hs]; rfl

theorem findSub_none_cr (p s : Bytes) (h : ¬ p <+: s) (hs : findSub (13 :: p) s = none) :
    findSub (13 :: p) (13 :: s) = none := by
  rw [findSub_cr p s h, hs]; rfl

theorem findSub_none_cons (pat : Bytes) (c : UInt8) (r : Bytes) (h : findSub pat (c :: r) = none) :
    ¬ pat <+: c :: r ∧ findSub pat r = none := by
  rw [findSub] at h
  split at h
  · simp at h
  · rename_i hp
    rw [List.isPrefixOf_iff_prefix] at hp
    refine ⟨hp, ?_⟩
    cases hr : findSub pat r with
    | none => rfl
    | some q => simp [hr] at h

/-- an occurrence cannot straddle the end of `x` and the pattern that follows it, because the
    pattern starts with its only CR -/
theorem no_straddle (t x k : Bytes) (ht : (13 : UInt8) ∉ t) (hx : x ≠ []) (h1 : ¬ (13 :: t) <+: x) :
    ¬ (13 :: t) <+: x ++ (13 :: t) ++ k := by
  intro h
  rw [List.append_assoc] at h
  rcases List.prefix_or_prefix_of_prefix h (List.prefix_append x ((13 :: t) ++ k)) with h2 | h2
  · exact h1 h2
  · obtain ⟨u, hu⟩ := h2
    have h' : x ++ u <+: x ++ ((13 :: t) ++ k) := by rw [hu]; exact h
    rw [List.prefix_append_right_inj] at h'
    cases u with
    | nil => rw [List.append_nil] at hu; exact h1 (hu ▸ List.prefix_refl _)
    | cons a u =>
      have ha : a = 13 := (List.cons_prefix_cons.1 h').1
      subst ha
      cases x with
      | nil => exact hx rfl
      | cons c x =>
        rw [List.cons_append, List.cons.injEq] at hu
        exact ht (hu.2 ▸ (by simp))

theorem findSub_first (t x k : Bytes) (ht : (13 : UInt8) ∉ t) (hx : findSub (13 :: t) x = none) :
    findSub (13 :: t) (x ++ (13 :: t) ++ k) = some (x, k) := by
  induction x with
  | nil => simpa using findSub_here (13 :: t) k (by simp)
  | cons c x ih =>
    obtain ⟨hnp, hrest⟩ := findSub_none_cons _ c x hx
    have := no_straddle t (c :: x) k ht (by simp) hnp
    rw [List.cons_append, List.cons_append] at this ⊢
    rw [findSub_cons_of_not_prefix _ _ _ this, ih hrest]
    rfl

theorem splitFuel_enough (pat : Bytes) (hp : pat ≠ []) :
    ∀ (f g : Nat) (s : Bytes), s.length ≤ f → s.length ≤ g → splitFuel pat f s = splitFuel pat g s := by
  intro f
  induction f with
  | zero =>
    intro g s hf _
    have hs : s = [] := List.eq_nil_of_length_eq_zero (by omega)
    subst hs
    cases g with
    | zero => rfl
    | succ g => simp [splitFuel, findSub_nil_none pat hp]
  | succ f ih =>
    intro g s hf hg
    cases g with
    | zero =>
      have hs : s = [] := List.eq_nil_of_length_eq_zero (by omega)
      subst hs
      simp [splitFuel, findSub_nil_none pat hp]
    | succ g =>
      simp only [splitFuel]
      cases hfs : findSub pat s with
      | none => rfl
      | some q =>
        obtain ⟨a, b⟩ := q
        have := findSub_length pat s a b hp hfs
        simp only
        rw [ih g b (by omega) (by omega)]

theorem splitAll_hit (pat s a b : Bytes) (hp : pat ≠ []) (h : findSub pat s = some (a, b)) :
    splitAll pat s = a :: splitAll pat b := by
  have hl := findSub_length pat s a b hp h
  unfold splitAll
  obtain ⟨n, hn⟩ : ∃ n, s.length = n + 1 := ⟨s.length - 1, by omega⟩
  rw [hn]
  simp only [splitFuel, h]
  rw [splitFuel_enough pat hp n b.length b (by omega) (Nat.le_refl _)]

theorem splitAll_miss (pat s : Bytes) (h : findSub pat s = none) : splitAll pat s = [s] := by
  unfold splitAll
  cases s.length with
  | zero => rfl
  | succ n => simp [splitFuel, h]

open CV.Ranges

/-- first "-" last "/" length -/
def nums (a b n : Nat) : Bytes := natDec a ++ 45 :: (natDec b ++ 47 :: natDec n)

/-- what lies between two delimiters: the rest of the delimiter line, the fields, the empty line, the octets -/
def partChunk (file ctype : Bytes) (r : Nat × Nat) : Bytes :=
  13 :: 10 :: (sContentType ++ ctype ++ 13 :: 10 :: (sContentRange ++ nums r.1 (r.2 - 1) file.length ++
    13 :: 10 :: 13 :: 10 :: readAt file r.1 r.2))

/-- delimiter, part, delimiter, part, ..., delimiter, `tail` (with `tail` = `--` CRLF the last one is the close-delimiter) -/
def stream (file ctype bnd tail : Bytes) : List (Nat × Nat) → Bytes
  | [] => delimiter bnd ++ tail
  | r :: rest => delimiter bnd ++ partChunk file ctype r ++ stream file ctype bnd tail rest

/-- the position the file object is left at does not matter: every part seeks first -/
theorem genParts_eq (file ctype bnd : Bytes) (clen : Nat) (rs : List (Nat × Nat)) :
    ∀ f : FileObj, f.data = file →
      genParts ctype bnd clen f rs = rs.flatMap (fun r =>
        [dashBoundary bnd, typeLine ctype, rangeLine r.1 r.2 clen, readAt file r.1 r.2, Ranges.crlf]) := by
  induction rs with
  | nil => intro f _; rfl
  | cons r rs ih =>
    intro f hf
    obtain ⟨a, b⟩ := r
    simp only [genParts, FileObj.seek, FileObj.read, List.flatMap_cons, List.cons_append, List.nil_append]
    have h := fun p => ih ⟨f.data, p⟩ hf
    rw [h]
    simp [readAt, hf]

theorem flatten_parts (file ctype bnd : Bytes) (rs : List (Nat × Nat)) (tail : Bytes) :
    [13, 10] ++ ((rs.flatMap (fun r =>
        [dashBoundary bnd, typeLine ctype, rangeLine r.1 r.2 file.length, readAt file r.1 r.2, Ranges.crlf])).flatten ++
      (dashBoundary bnd ++ tail)) = stream file ctype bnd tail rs := by
  induction rs with
  | nil => simp [stream, delimiter, dashBoundary]
  | cons r rs ih =>
    simp only [List.flatMap_cons, List.flatten_append, stream, List.append_assoc]
    rw [← ih]
    simp only [delimiter, dashBoundary, partChunk, typeLine, rangeLine, Ranges.crlf, nums, List.flatten_cons,
      List.flatten_nil, List.append_assoc, List.cons_append, List.nil_append, List.append_nil]

/-- the body as the reader sees it (`CRLF ++ body`) is: CRLF, then delimiters and parts -/
theorem body_stream (file ctype bnd : Bytes) (rs : List (Nat × Nat)) :
    Multipart.crlf ++ multipartBody file ctype bnd rs = [13, 10] ++ stream file ctype bnd [45, 45, 13, 10] rs := by
  unfold multipartBody multipartChunks
  rw [genParts_eq file ctype bnd file.length rs ⟨file, 0⟩ rfl,
    ← flatten_parts file ctype bnd rs [45, 45, 13, 10]]
  simp [Multipart.crlf, Ranges.crlf, List.append_assoc]

theorem part_length (file ctype bnd : Bytes) (r : Nat × Nat) :
    ([dashBoundary bnd, typeLine ctype, rangeLine r.1 r.2 file.length, readAt file r.1 r.2,
        Ranges.crlf].flatten).length =
      49 + bnd.length + ctype.length + (natDec r.1).length + (natDec (r.2 - 1)).length +
        (natDec file.length).length + (readAt file r.1 r.2).length := by
  simp only [List.flatten_cons, List.flatten_nil, List.length_append, dashBoundary, typeLine, rangeLine,
    Ranges.crlf, sContentType, sContentRange, List.length_cons, List.length_nil]
  omega

theorem multipartBody_length (file ctype bnd : Bytes) (rs : List (Nat × Nat)) :
    (multipartBody file ctype bnd rs).length = 8 + bnd.length +
      (rs.map (fun r => 49 + bnd.length + ctype.length + (natDec r.1).length + (natDec (r.2 - 1)).length +
        (natDec file.length).length + (readAt file r.1 r.2).length)).sum := by
  unfold multipartBody multipartChunks
  rw [genParts_eq file ctype bnd file.length rs ⟨file, 0⟩ rfl, List.flatten_cons, List.flatten_append,
    List.length_append, List.length_append]
  have hparts : ((rs.flatMap fun r => [dashBoundary bnd, typeLine ctype, rangeLine r.1 r.2 file.length,
      readAt file r.1 r.2, Ranges.crlf]).flatten).length =
      (rs.map (fun r => 49 + bnd.length + ctype.length + (natDec r.1).length + (natDec (r.2 - 1)).length +
        (natDec file.length).length + (readAt file r.1 r.2).length)).sum := by
    induction rs with
    | nil => rfl
    | cons r rs ih =>
      rw [List.flatMap_cons, List.flatten_append, List.length_append, part_length, ih, List.map_cons,
        List.sum_cons]
  rw [hparts]
  simp only [List.flatten_cons, List.flatten_nil, List.length_append, dashBoundary, Ranges.crlf,
    List.length_cons, List.length_nil]
  omega

theorem findSub_none_ne (p : Bytes) (c : UInt8) (s : Bytes) (hc : c ≠ 13) (hs : findSub (13 :: p) s = none) :
    findSub (13 :: p) (c :: s) = none :=
  findSub_none_skip p [c] s (by simpa using hc) hs

theorem sContentType_ne13 : ∀ c ∈ sContentType, c ≠ 13 := by decide

theorem sContentRange_ne13 : ∀ c ∈ sContentRange, c ≠ 13 := by decide

theorem nums_ne13 (a b n : Nat) : ∀ c ∈ nums a b n, c ≠ 13 := by
  intro c hc
  simp only [nums, List.mem_append, List.mem_cons] at hc
  rcases hc with hc | rfl | hc | rfl | hc
  · exact natDec_ne13 _ c hc
  · decide
  · exact natDec_ne13 _ c hc
  · decide
  · exact natDec_ne13 _ c hc

/-- a field line does not start with the byte that continues a delimiter or an empty line -/
theorem sContentType_head (b : UInt8) (p x y : Bytes) (hb : b ≠ 67) : ¬ (b :: p) <+: sContentType ++ x ++ y :=
  fun h => hb (List.cons_prefix_cons.1 h).1

theorem sContentRange_head (b : UInt8) (p x y : Bytes) (hb : b ≠ 67) : ¬ (b :: p) <+: sContentRange ++ x ++ y :=
  fun h => hb (List.cons_prefix_cons.1 h).1

theorem partChunk_no_delimiter (file ctype bnd : Bytes) (r : Nat × Nat) (hct : (13 : UInt8) ∉ ctype)
    (hfree : ¬ dashBoundary bnd <:+: readAt file r.1 r.2) :
    findSub (delimiter bnd) (partChunk file ctype r) = none := by
  unfold delimiter partChunk
  have hpay : findSub (13 :: 10 :: 45 :: 45 :: bnd) (readAt file r.1 r.2) = none := by
    apply findSub_none_of_not_infix
    intro h
    exact hfree (List.IsInfix.trans ⟨[13, 10], [], by simp [dashBoundary]⟩ h)
  apply findSub_none_cr _ _ fun h => sContentType_head _ _ _ _ (by decide) (List.cons_prefix_cons.1 h).2
  apply findSub_none_ne _ _ _ (by decide)
  rw [List.append_assoc]
  apply findSub_none_skip _ _ _ sContentType_ne13
  apply findSub_none_skip _ _ _ (fun c hc h => hct (h ▸ hc))
  apply findSub_none_cr _ _ fun h => sContentRange_head _ _ _ _ (by decide) (List.cons_prefix_cons.1 h).2
  apply findSub_none_ne _ _ _ (by decide)
  rw [List.append_assoc]
  apply findSub_none_skip _ _ _ sContentRange_ne13
  apply findSub_none_skip _ _ _ (nums_ne13 _ _ _)
  apply findSub_none_cr
  · intro h
    have := (List.cons_prefix_cons.1 h).2
    simp at this
  apply findSub_none_ne _ _ _ (by decide)
  apply findSub_none_cr
  · intro h
    have h2 : dashBoundary bnd <+: readAt file r.1 r.2 := (List.cons_prefix_cons.1 h).2
    exact hfree h2.isInfix
  apply findSub_none_ne _ _ _ (by decide)
  exact hpay

theorem preamble_no_delimiter (bnd : Bytes) : findSub (delimiter bnd) [13, 10] = none := by
  unfold delimiter
  apply findSub_none_cr
  · intro h; have := List.IsPrefix.length_le h; simp at this
  apply findSub_none_ne _ _ _ (by decide)
  exact findSub_nil_none _ (by simp)

theorem closing_no_delimiter (bnd : Bytes) : findSub (delimiter bnd) [45, 45, 13, 10] = none := by
  unfold delimiter
  apply findSub_none_ne _ _ _ (by decide)
  apply findSub_none_ne _ _ _ (by decide)
  exact preamble_no_delimiter bnd

theorem split_stream (file ctype bnd : Bytes) (hb : (13 : UInt8) ∉ bnd) (rs : List (Nat × Nat))
    (hclean : ∀ r ∈ rs, findSub (delimiter bnd) (partChunk file ctype r) = none) :
    ∀ pre, findSub (delimiter bnd) pre = none →
      splitAll (delimiter bnd) (pre ++ stream file ctype bnd [45, 45, 13, 10] rs) =
        pre :: (rs.map (partChunk file ctype) ++ [[45, 45, 13, 10]]) := by
  have ht : (13 : UInt8) ∉ (10 :: 45 :: 45 :: bnd) := by
    simp only [List.mem_cons, not_or]; exact ⟨by decide, by decide, by decide, hb⟩
  induction rs with
  | nil =>
    intro pre hpre
    have h : findSub (delimiter bnd) (pre ++ delimiter bnd ++ [45, 45, 13, 10]) = some (pre, [45, 45, 13, 10]) :=
      findSub_first (10 :: 45 :: 45 :: bnd) pre [45, 45, 13, 10] ht hpre
    simp only [stream]
    rw [← List.append_assoc, splitAll_hit _ _ _ _ (by simp [delimiter]) h, splitAll_miss _ _ (closing_no_delimiter bnd)]
    rfl
  | cons r rs ih =>
    intro pre hpre
    have h : findSub (delimiter bnd)
        (pre ++ delimiter bnd ++ (partChunk file ctype r ++ stream file ctype bnd [45, 45, 13, 10] rs)) =
        some (pre, partChunk file ctype r ++ stream file ctype bnd [45, 45, 13, 10] rs) :=
      findSub_first (10 :: 45 :: 45 :: bnd) pre
        (partChunk file ctype r ++ stream file ctype bnd [45, 45, 13, 10] rs) ht hpre
    simp only [stream, List.append_assoc]
    rw [← List.append_assoc]
    rw [splitAll_hit _ _ _ _ (by simp [delimiter]) h,
      ih (fun x hx => hclean x (by simp [hx])) _ (hclean r (by simp))]
    rfl

theorem takeParts_stream (file ctype : Bytes) (rs : List (Nat × Nat)) :
    takeParts (rs.map (partChunk file ctype) ++ [[45, 45, 13, 10]]) = some (rs.map (partChunk file ctype)) := by
  induction rs with
  | nil => simp [takeParts, List.isPrefixOf]
  | cons r rs ih =>
    simp only [List.map_cons, List.cons_append, takeParts, ih]
    simp [partChunk, List.isPrefixOf]

/-- the header block of a part as the reader isolates it (everything before the empty line) -/
def headBlock (ctype : Bytes) (a b n : Nat) : Bytes :=
  13 :: 10 :: (sContentType ++ ctype ++ 13 :: 10 :: (sContentRange ++ nums a b n))

theorem findSub_ne (p : Bytes) (c : UInt8) (s : Bytes) (hc : c ≠ 13) :
    findSub (13 :: p) (c :: s) = (findSub (13 :: p) s).map (fun q => (c :: q.1, q.2)) :=
  findSub_skip p [c] s (by simpa using hc)

theorem findSub_here2 (l : Bytes) : findSub [13, 10] (13 :: 10 :: l) = some ([], l) :=
  findSub_here [13, 10] l (by simp)

theorem findSub_here4 (l : Bytes) : findSub [13, 10, 13, 10] (13 :: 10 :: 13 :: 10 :: l) = some ([], l) :=
  findSub_here [13, 10, 13, 10] l (by simp)

theorem find_empty_line (file ctype : Bytes) (r : Nat × Nat) (hct : (13 : UInt8) ∉ ctype) :
    findSub [13, 10, 13, 10] (partChunk file ctype r) =
      some (headBlock ctype r.1 (r.2 - 1) file.length, readAt file r.1 r.2) := by
  unfold partChunk headBlock
  rw [findSub_cr _ _ fun h => sContentType_head _ _ _ _ (by decide) (List.cons_prefix_cons.1 h).2]
  rw [findSub_ne _ _ _ (by decide)]
  rw [List.append_assoc, findSub_skip _ _ _ sContentType_ne13, findSub_skip _ _ _ (fun c hc h => hct (h ▸ hc))]
  rw [findSub_cr _ _ fun h => sContentRange_head _ _ _ _ (by decide) (List.cons_prefix_cons.1 h).2]
  rw [findSub_ne _ _ _ (by decide)]
  rw [List.append_assoc, findSub_skip _ _ _ sContentRange_ne13, findSub_skip _ _ _ (nums_ne13 _ _ _)]
  rw [findSub_here4]
  simp [List.append_assoc]

theorem split_headBlock (ctype : Bytes) (a b n : Nat) (hct : (13 : UInt8) ∉ ctype) :
    splitAll Multipart.crlf (headBlock ctype a b n) = [[], sContentType ++ ctype, sContentRange ++ nums a b n] := by
  unfold headBlock Multipart.crlf
  have h1 : findSub [13, 10] (13 :: 10 :: (sContentType ++ ctype ++ 13 :: 10 :: (sContentRange ++ nums a b n))) =
      some ([], sContentType ++ ctype ++ 13 :: 10 :: (sContentRange ++ nums a b n)) :=
    findSub_here [13, 10] _ (by simp)
  have h2 : findSub [13, 10] (sContentType ++ ctype ++ 13 :: 10 :: (sContentRange ++ nums a b n)) =
      some (sContentType ++ ctype, sContentRange ++ nums a b n) := by
    rw [List.append_assoc, findSub_skip _ _ _ sContentType_ne13, findSub_skip _ _ _ (fun c hc h => hct (h ▸ hc))]
    rw [findSub_here2]
    simp
  have h3 : findSub [13, 10] (sContentRange ++ nums a b n) = none := by
    apply findSub_none_skip _ _ _ sContentRange_ne13
    have := findSub_none_skip [10] (nums a b n) [] (nums_ne13 a b n) (findSub_nil_none _ (by simp))
    simpa using this
  rw [splitAll_hit _ _ _ _ (by simp) h1, splitAll_hit _ _ _ _ (by simp) h2, splitAll_miss _ _ h3]

theorem parseField_type (ctype : Bytes) :
    parseField (sContentType ++ ctype) = some (nContentType, ctype.dropWhile isLWSP) := by
  simp [parseField, sContentType, splitFirstB, nContentType, lowerByte, List.dropWhile, isLWSP]

theorem parseField_range (v : Bytes) :
    parseField (sContentRange ++ v) = some (nContentRange, 98 :: 121 :: 116 :: 101 :: 115 :: 32 :: v) := by
  simp [parseField, sContentRange, splitFirstB, nContentRange, lowerByte, List.dropWhile, isLWSP]

theorem parsePart_chunk (file ctype : Bytes) (r : Nat × Nat) (hct : (13 : UInt8) ∉ ctype) :
    parsePart (partChunk file ctype r) =
      some ⟨[(nContentType, ctype.dropWhile isLWSP),
             (nContentRange, 98 :: 121 :: 116 :: 101 :: 115 :: 32 :: nums r.1 (r.2 - 1) file.length)],
            readAt file r.1 r.2⟩ := by
  unfold parsePart
  rw [find_empty_line file ctype r hct]
  simp only [split_headBlock ctype _ _ _ hct]
  simp [parseField_type, parseField_range]

theorem parseContentRange_nums (a b n : Nat) :
    parseContentRange (98 :: 121 :: 116 :: 101 :: 115 :: 32 :: nums a b n) = some (a, b, n) := by
  unfold parseContentRange nums
  simp only [stripPrefix, if_true]
  rw [spanNum_natDec a (45 :: _) (by simp; decide)]
  simp only
  rw [spanNum_natDec b (47 :: _) (by simp; decide)]
  simp only
  rw [← List.append_nil (natDec n), spanNum_natDec n [] (by simp)]
  simp

theorem toRangePart_chunk (file ctype : Bytes) (r : Nat × Nat) :
    toRangePart ⟨[(nContentType, ctype.dropWhile isLWSP),
             (nContentRange, 98 :: 121 :: 116 :: 101 :: 115 :: 32 :: nums r.1 (r.2 - 1) file.length)],
            readAt file r.1 r.2⟩ = some (some (ctype.dropWhile isLWSP), partOf file r) := by
  have hne : nContentType ≠ nContentRange := by decide
  simp [toRangePart, lookupField, hne, parseContentRange_nums, partOf]

theorem mapM_map_some {α β γ : Type} (f : β → Option γ) (g : α → β) (h : α → γ) (l : List α)
    (hl : ∀ x ∈ l, f (g x) = some (h x)) : (l.map g).mapM f = some (l.map h) := by
  induction l with
  | nil => rfl
  | cons x l ih =>
    simp only [List.map_cons, List.mapM_cons, hl x (by simp), ih (fun y hy => hl y (by simp [hy]))]
    rfl

end CV.Multipart

namespace CV.Ranges

theorem serveMultipart_some {md : Nat} {http11 : Bool} {hv : Option StaticPath.Str} {file ctype bnd : Bytes}
    {w : MultiResp} (h : serveMultipart md http11 hv file ctype bnd = some w) :
    http11 = true ∧ ∃ r1 r2 rest, getRanges md hv file.length = .ranges (r1 :: r2 :: rest) ∧
      w = mkMulti file ctype bnd (r1 :: r2 :: rest) := by
  unfold serveMultipart at h
  split at h
  · cases h
  · next h11 =>
    split at h
    · next r1 r2 rest hg => exact ⟨by simpa using h11, r1, r2, rest, hg, (Option.some.inj h).symm⟩
    · cases h

end CV.Ranges
