import CV.Model.Session
import CV.Model.SessionCookie
import CV.Proofs.ListFacts
/-
C20: session binding; then cookie name / Set-Cookie (CV/Model/SessionCookie.lean): `runJ` is `run` on
what `Sessions(name)` reads of each request, `jarSet` is a dict assignment.
-/
namespace CV.Session

/-- text in front of the first '/' (the uuid part of an id) -/
def pre (s : Str) : Str := s.takeWhile (· ≠ '/')

theorem afterSlash_append {u w : Str} (h : '/' ∉ u) : afterSlash (u ++ '/' :: w) = some w := by
  induction u with
  | nil => simp [afterSlash]
  | cons c cs ih =>
    have hc : c ≠ '/' := by
      intro e; apply h; simp [e]
    have hcs : '/' ∉ cs := by
      intro e; apply h; simp [e]
    simp [afterSlash, hc, ih hcs]

theorem pre_append {u w : Str} (h : '/' ∉ u) : pre (u ++ '/' :: w) = u :=
  takeWhile_append_stop _ u '/' w (fun c hc => decide_eq_true fun (e : c = '/') => h (e ▸ hc)) (by simp)

/-- the id settled on is the cookie's, which then ends in the requester's fingerprint, or a fresh one -/
theorem chooseSid_cases (W : Str → Str) (u : Str) (r : Req) :
    (r.cookie = some (chooseSid W u r) ∧ afterSlash (chooseSid W u r) = some (who W r)) ∨
      chooseSid W u r = createSession W u r := by
  unfold chooseSid
  cases hc : r.cookie with
  | none => exact Or.inr rfl
  | some sid =>
    simp only [verifySession]
    cases ha : afterSlash sid with
    | none => exact Or.inr rfl
    | some user =>
      by_cases hu : user = who W r
      · left; simp [hu, ha]
      · right; simp [hu]

theorem chooseSid_sfx (W : Str → Str) {u : Str} (r : Req) (h : '/' ∉ u) :
    afterSlash (chooseSid W u r) = some (who W r) := by
  rcases chooseSid_cases W u r with ⟨_, h'⟩ | h'
  · exact h'
  · rw [h', createSession, afterSlash_append h]

/-- every datum lies under the id it was written with, and that id ends in the writer's
    fingerprint -/
def Inv (st : Store) : Prop :=
  ∀ k d, st.lookup k = some d → ∀ e ∈ d, e.wsid = k ∧ afterSlash k = some e.wfp

theorem lookup_setKey {st : Store} {sid k : Str} {d : List Entry} :
    (setKey st sid d).lookup k = if k = sid then some d else st.lookup k := by
  rw [setKey, lookup_cons_ite, lookup_filter (fun a => a ≠ sid)]
  by_cases h : k = sid <;> simp [h]

theorem lookup_delKey {st : Store} {sid k : Str} :
    (delKey st sid).lookup k = if k = sid then none else st.lookup k := by
  rw [delKey, lookup_filter (fun a => a ≠ sid)]
  by_cases h : k = sid <;> simp [h]

theorem mem_dictSet {d : List Entry} {e x : Entry} (h : x ∈ dictSet d e) : x ∈ d ∨ x = e := by
  unfold dictSet at h
  split at h
  · simp only [List.mem_map] at h
    obtain ⟨y, hy, hxy⟩ := h
    split at hxy
    · exact Or.inr hxy.symm
    · exact Or.inl (hxy ▸ hy)
  · simp only [List.mem_append, List.mem_singleton] at h
    exact h

theorem inv_nil : Inv [] := by
  intro k d h
  simp at h

theorem step_lookup (W : Str → Str) (st : Store) (s : Step) (k : Str) :
    (step W st s).1.lookup k =
      if k = chooseSid W s.u s.req then
        match s.act with
        | .get => st.lookup k
        | .put key v => some (dictSet ((st.lookup k).getD []) ⟨key, v, k, who W s.req⟩)
        | .expire => none
      else st.lookup k := by
  unfold step
  cases s.act <;> simp only [lookup_setKey, lookup_delKey]
  · split <;> rfl
  · split
    · rename_i h; rw [h]
    · rfl

theorem inv_step (W : Str → Str) {st : Store} (s : Step) (hu : '/' ∉ s.u) (hi : Inv st) :
    Inv (step W st s).1 := by
  intro k d hk e he
  rw [step_lookup] at hk
  split at hk
  · rename_i hks
    cases hact : s.act with
    | get => exact hi k d (by simpa only [hact] using hk) e he
    | expire => simp [hact] at hk
    | put key v =>
      simp only [hact, Option.some.injEq] at hk
      subst hk
      rcases mem_dictSet he with hcur | rfl
      · cases hl : st.lookup k with
        | none => simp [hl] at hcur
        | some d0 => exact hi _ d0 hl e (by simpa [hl] using hcur)
      · exact ⟨rfl, hks ▸ chooseSid_sfx W s.req hu⟩
  · exact hi k d hk e he

theorem obs_step (W : Str → Str) {st : Store} (s : Step) (hu : '/' ∉ s.u) (hi : Inv st) :
    ∀ e ∈ (step W st s).2.contents, e.wsid = (step W st s).2.sid ∧ e.wfp = who W s.req := by
  intro e he
  unfold step at he ⊢
  simp only [] at he ⊢
  cases hl : st.lookup (chooseSid W s.u s.req) with
  | none => simp [hl] at he
  | some d0 =>
    simp [hl] at he
    obtain ⟨h1, h2⟩ := hi _ d0 hl e he
    refine ⟨h1, ?_⟩
    rw [chooseSid_sfx W s.req hu] at h2
    exact (Option.some.inj h2).symm

theorem step_sid (W : Str → Str) (st : Store) (s : Step) :
    (step W st s).2.sid = chooseSid W s.u s.req := rfl

/-- what is observed of one request: its id is the cookie's and ends in the requester's fingerprint, or is a fresh
    one; whatever it reads was written under that id by a request with the same fingerprint -/
def Bound (W : Str → Str) (s : Step) (o : Obs) : Prop :=
  ((s.req.cookie = some o.sid ∧ afterSlash o.sid = some (who W s.req)) ∨
    o.sid = createSession W s.u s.req) ∧
  ∀ e ∈ o.contents, e.wsid = o.sid ∧ e.wfp = who W s.req

theorem bound_step (W : Str → Str) {st : Store} (s : Step) (hu : '/' ∉ s.u) (hi : Inv st) :
    Bound W s (step W st s).2 := by
  refine ⟨?_, obs_step W s hu hi⟩
  rw [step_sid]
  exact chooseSid_cases W s.u s.req

theorem run_length (W : Str → Str) (steps : List Step) :
    ∀ st, (run W st steps).2.length = steps.length := by
  induction steps with
  | nil => intro st; rfl
  | cons s ss ih => intro st; simp [run, ih]

theorem run_bound (W : Str → Str) (steps : List Step) :
    ∀ st, Inv st → (∀ s ∈ steps, '/' ∉ s.u) →
      ∀ p ∈ steps.zip (run W st steps).2, Bound W p.1 p.2 := by
  induction steps with
  | nil => intro st _ _ p hp; simp [run] at hp
  | cons s ss ih =>
    intro st hi hu p hp
    have hs : '/' ∉ s.u := hu s (by simp)
    simp only [run, List.zip_cons_cons, List.mem_cons] at hp
    rcases hp with rfl | hp
    · exact bound_step W s hs hi
    · exact ih _ (inv_step W s hs hi) (fun t ht => hu t (by simp [ht])) p hp

/-! ### fresh ids are new -/

theorem run_keys (W : Str → Str) (Q : Str → Prop) (steps : List Step) :
    ∀ st, (∀ k d, st.lookup k = some d → Q k) →
      (∀ t ∈ steps, Q (chooseSid W t.u t.req)) →
      (∀ k d, (run W st steps).1.lookup k = some d → Q k) ∧ ∀ o ∈ (run W st steps).2, Q o.sid := by
  induction steps with
  | nil =>
    intro st hst _
    exact ⟨hst, by simp [run]⟩
  | cons s ss ih =>
    intro st hst hq
    have hs : Q (chooseSid W s.u s.req) := hq s (by simp)
    have hst' : ∀ k d, (step W st s).1.lookup k = some d → Q k := by
      intro k d hk
      rw [step_lookup] at hk
      split at hk
      · rename_i hks; exact hks ▸ hs
      · exact hst k d hk
    obtain ⟨h1, h2⟩ := ih _ hst' (fun t ht => hq t (by simp [ht]))
    simp only [run]
    refine ⟨h1, ?_⟩
    intro o ho
    simp only [List.mem_cons] at ho
    rcases ho with rfl | ho
    · exact hs
    · exact h2 o ho

theorem pre_chooseSid_ne (W : Str → Str) {t : Step} {u : Str} (ht : '/' ∉ t.u)
    (h1 : t.u ≠ u) (h2 : t.req.cookie.map pre ≠ some u) :
    pre (chooseSid W t.u t.req) ≠ u := by
  rcases chooseSid_cases W t.u t.req with ⟨h, _⟩ | h
  · intro e
    apply h2
    rw [h]
    simp [e]
  · rw [h, createSession, pre_append ht]
    exact h1

theorem runJ_eq (W : Str → Str) (name : Str) (steps : List StepJ) :
    ∀ st, (runJ W name st steps).1 = (run W st (steps.map (StepJ.toStep name))).1 ∧
      (runJ W name st steps).2.map ObsJ.toObs = (run W st (steps.map (StepJ.toStep name))).2 := by
  induction steps with
  | nil => intro st; exact ⟨rfl, rfl⟩
  | cons s ss ih =>
    intro st
    obtain ⟨h1, h2⟩ := ih (step W st (s.toStep name)).1
    simp only [runJ, run, stepJ, List.map_cons]
    exact ⟨h1, by simp [ObsJ.toObs, h2]⟩

theorem any_key_eq (jar : Jar) (name : Str) : jar.any (fun p => p.1 = name) = (jar.lookup name).isSome := by
  induction jar with
  | nil => rfl
  | cons p ps ih =>
    obtain ⟨a, b⟩ := p
    rw [List.any_cons, ih, lookup_cons_ite]
    by_cases h : a = name
    · simp [h]
    · simp [h, Ne.symm h]

theorem lookup_map_replace (jar : Jar) (name v n : Str) :
    (jar.map fun p => if p.1 = name then (name, v) else p).lookup n =
      if n = name then (jar.lookup name).map fun _ => v else jar.lookup n := by
  induction jar with
  | nil => split <;> rfl
  | cons p ps ih =>
    obtain ⟨a, b⟩ := p
    rw [List.map_cons, lookup_cons_ite]
    by_cases ha : a = name
    · subst ha
      simp only [if_true, lookup_cons_ite, ih]
      split <;> simp [*]
    · simp only [if_neg ha, lookup_cons_ite, ih]
      by_cases hn : n = name
      · subst hn; simp [Ne.symm ha]
      · simp [hn]

theorem lookup_jarSet (jar : Jar) (name v n : Str) :
    (jarSet jar name v).lookup n = if n = name then some v else jar.lookup n := by
  unfold jarSet
  rw [any_key_eq]
  cases h : jar.lookup name with
  | some w => simp only [Option.isSome_some, if_true, lookup_map_replace, h, Option.map_some]
  | none =>
    simp only [Option.isSome_none, Bool.false_eq_true, if_false, List.lookup_append, lookup_cons_ite, List.lookup_nil]
    by_cases hn : n = name <;> simp [hn, h]

end CV.Session
