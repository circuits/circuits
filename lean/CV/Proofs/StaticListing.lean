import CV.Proofs.StaticPath
import CV.Model.StaticListing
import CV.Proofs.ListFacts
/- The directory-listing part of C16 (`CV.StaticListing`): a listed child is looked up below the listed location
   (`child_lookup`, `child_served`); the href written for an entry, put through the request path, decodes to the
   child's path (`entry_href_decodes`): `quote` keeps `/` and the ends of a path, and `unquote` undoes it on ASCII. -/
namespace CV.StaticListing
open CV.StaticPath

theorem entries_names (fs : FS) (cfg : Cfg) (rel : Str) (ls : List Str) :
    (entries fs cfg rel ls).map (·.name) = ls.filter (fun n => !hidden n) := by
  unfold entries
  rw [List.map_map]
  have : ((fun e : Entry => e.name) ∘ entryOf fs cfg rel) = id := by
    funext x; simp [entryOf]
  rw [this, List.map_id]

theorem serveListing_some (unq : Str → Str) (fs : FS) (ls : Str → List Str) (cfg : Cfg) (reqPath : Str)
    (l : Listing) (h : serveListing unq fs ls cfg reqPath = some l) :
    ∃ rel, relOf unq cfg reqPath = some rel ∧ serveRel fs cfg rel = .listing l.loc ∧
      serve unq fs cfg reqPath = .listing l.loc ∧
      l.up = parentLink cfg rel ∧ l.items = entries fs cfg rel (ls l.loc) := by
  unfold serveListing at h
  cases hrel : relOf unq cfg reqPath with
  | none => simp [hrel] at h
  | some rel =>
    simp only [hrel] at h
    cases hs : serveRel fs cfg rel with
    | listing loc =>
      simp only [hs, Option.some.injEq] at h
      subst h
      exact ⟨rel, rfl, hs, by simp [serve, hrel, hs], rfl, rfl⟩
    | pass => simp [hs] at h
    | notfound => simp [hs] at h
    | file x => simp [hs] at h

theorem join_rel_ne (rel item : Str) (hi : item ≠ []) : join rel item ≠ [] := by
  unfold join
  split
  · exact hi
  · split <;> simp [hi]

theorem child_lookup (fs : FS) (cfg : Cfg) (rel item loc : Str) (hd : ProperRoot cfg.docroot)
    (hl : serveRel fs cfg rel = .listing loc) (hr : rel.head? ≠ some '/') (hc : cleanSeg item = true) :
    locOf cfg rel = loc ∧ locOf cfg (join rel item) = loc ++ '/' :: item ∧
      entryLoc cfg rel item = loc ++ '/' :: item ∧
      allowed cfg.docroot (loc ++ '/' :: item) = true ∧ cfg.dirlisting = true := by
  obtain ⟨hi, hine⟩ := clean_head item hc
  have hfacts : allowed cfg.docroot (locOf cfg rel) = true ∧ loc = normpath (join cfg.docroot rel) ∧
      cfg.dirlisting = true := by
    rcases serveRel_cases fs cfg rel with e | e | ⟨ha, e | ⟨c, _, e⟩ | ⟨hdl, e⟩⟩ <;> rw [e] at hl
    · cases hl
    · cases hl
    · cases hl
    · cases hl
    · exact ⟨ha, (Outcome.listing.inj hl).symm, hdl⟩
  obtain ⟨ha, hloc, hdl⟩ := hfacts
  have ha' : allowed cfg.docroot (normpath (join cfg.docroot (if rel = [] then ['.'] else rel))) = true := ha
  have hch := child_location cfg.docroot rel item hd hc ha'
  have hsame : normpath (join cfg.docroot rel) = locOf cfg rel := normpath_join_dot cfg.docroot rel hd
  have hlocOf : locOf cfg rel = loc := by rw [hloc, hsame]
  have hentry : entryLoc cfg rel item = loc ++ '/' :: item := by
    unfold entryLoc
    rw [hch, ← hlocOf]; rfl
  have hchild : locOf cfg (join rel item) = loc ++ '/' :: item := by
    unfold locOf
    simp only [join_rel_ne rel item hine, if_false]
    rw [← join_assoc cfg.docroot rel item (proper_ne_nil _ hd) hr hi]
    exact hentry
  exact ⟨hlocOf, hchild, hentry, hlocOf ▸ allowed_extend _ _ item hd ha, hdl⟩

/-- the child path of a listed directory is answered by the child itself -/
theorem child_served (fs : FS) (cfg : Cfg) (rel item loc : Str) (hd : ProperRoot cfg.docroot)
    (hdef : ∀ c ∈ cfg.defaults, cleanSeg c = true)
    (hl : serveRel fs cfg rel = .listing loc) (hr : rel.head? ≠ some '/') (hc : cleanSeg item = true) :
    (fs (loc ++ '/' :: item) = some .file → serveRel fs cfg (join rel item) = .file (loc ++ '/' :: item)) ∧
    (fs (loc ++ '/' :: item) = some .dir →
      serveRel fs cfg (join rel item) = .listing (loc ++ '/' :: item) ∨
      serveRel fs cfg (join rel item) = .notfound ∨
      ∃ c ∈ cfg.defaults, serveRel fs cfg (join rel item) = .file ((loc ++ '/' :: item) ++ '/' :: c)) := by
  obtain ⟨_, hchild, _, hallow, hdl⟩ := child_lookup fs cfg rel item loc hd hl hr hc
  -- the child path is looked up at `loc/item`, which passes the containment test
  rw [← hchild] at hallow ⊢
  exact ⟨serveRel_file fs cfg _ hallow, fun hf => serveRel_dir fs cfg _ hd hdef hallow hf hdl⟩

theorem hexDigit_ne_slash : ∀ n, n < 16 → hexDigit n ≠ '/' := by decide

theorem quote_append (x y : Str) : quote (x ++ y) = quote x ++ quote y := by
  simp [quote, List.flatMap_append]

theorem quote_cons (c : Char) (r : Str) : quote (c :: r) = quoteChar c ++ quote r := List.flatMap_cons

theorem quote_safe (p : Str) (h : ∀ c ∈ p, safeChar c = true) : quote p = p := by
  rw [quote, flatMap_congr' (f := quoteChar) (g := fun c => [c]) fun c hc => if_pos (h c hc), List.flatMap_singleton']

theorem ite_ne_nil {α : Type} {p : Prop} [Decidable p] {a b : List α} (ha : a ≠ []) (hb : b ≠ []) :
    (if p then a else b) ≠ [] := by split <;> assumption

theorem utf8_ne_nil (c : Char) : utf8 c ≠ [] :=
  ite_ne_nil (List.cons_ne_nil _ _) (ite_ne_nil (List.cons_ne_nil _ _)
    (ite_ne_nil (List.cons_ne_nil _ _) (List.cons_ne_nil _ _)))

theorem utf8_shape (c : Char) : (∃ b bs, utf8 c = b :: bs) ∧ (∃ bs bl, utf8 c = bs ++ [bl]) :=
  ⟨List.exists_cons_of_ne_nil (utf8_ne_nil c),
   ((List.eq_nil_or_concat (utf8 c)).resolve_left (utf8_ne_nil c)).imp fun _ h => h.imp fun _ h => by
    simpa using h⟩

theorem quoteChar_ends (c : Char) (hc : c ≠ '/') :
    (∃ a m, quoteChar c = a :: m ∧ a ≠ '/') ∧ (∃ m z, quoteChar c = m ++ [z] ∧ z ≠ '/') := by
  unfold quoteChar
  by_cases hs : safeChar c = true
  · simp only [hs, if_true]
    exact ⟨⟨c, [], rfl, hc⟩, ⟨[], c, rfl, hc⟩⟩
  · have hs' : safeChar c = false := by simpa using hs
    simp only [hs', Bool.false_eq_true, if_false]
    have key : ∀ b, hexDigit (b % 16) ≠ '/' := fun b => hexDigit_ne_slash _ (Nat.mod_lt _ (by decide))
    obtain ⟨⟨b, bs, e1⟩, ⟨bs', bl, e2⟩⟩ := utf8_shape c
    constructor
    · rw [e1]
      exact ⟨'%', hexDigit (b / 16) :: hexDigit (b % 16) :: bs.flatMap pct, by simp [pct], by decide⟩
    · rw [e2]
      exact ⟨bs'.flatMap pct ++ ['%', hexDigit (bl / 16)], hexDigit (bl % 16),
        by simp [List.flatMap_append, pct], key bl⟩

theorem quote_ends (s : Str) (hne : s ≠ []) (hh : s.head? ≠ some '/') (hl : s.getLast? ≠ some '/') :
    (∃ a m, quote s = a :: m ∧ a ≠ '/') ∧ (∃ m z, quote s = m ++ [z] ∧ z ≠ '/') := by
  constructor
  · cases s with
    | nil => exact absurd rfl hne
    | cons c r =>
      have hc : c ≠ '/' := by intro e; subst e; simp at hh
      obtain ⟨⟨a, m, e, ha⟩, _⟩ := quoteChar_ends c hc
      refine ⟨a, m ++ quote r, ?_, ha⟩
      rw [quote_cons, e]; rfl
  · obtain ⟨r, z, rfl⟩ : ∃ r z, s = r ++ [z] := by
      rcases List.eq_nil_or_concat s with h | ⟨r, z, h⟩
      · exact absurd h hne
      · exact ⟨r, z, by simpa using h⟩
    have hz : z ≠ '/' := by intro e; subst e; simp at hl
    obtain ⟨_, ⟨m, z', e, hz'⟩⟩ := quoteChar_ends z hz
    refine ⟨quote r ++ m, z', ?_, hz'⟩
    rw [quote_append, quote_cons, e]; simp [quote]

theorem stripSlash_pad (t q sfx : Str) (ht : t = [] ∨ t = ['/']) (hs : sfx = [] ∨ sfx = ['/'])
    (h1 : ∃ a m, q = a :: m ∧ a ≠ '/') (h2 : ∃ m z, q = m ++ [z] ∧ z ≠ '/') :
    stripSlash (t ++ q ++ sfx) = q := by
  obtain ⟨a, m, e1, ha⟩ := h1
  obtain ⟨m2, z, e2, hz⟩ := h2
  have hlead : (t ++ q ++ sfx).dropWhile (· = '/') = q ++ sfx := by
    rcases ht with rfl | rfl
    · rw [e1]; simp [ha]
    · rw [e1]; simp [ha]
  unfold stripSlash
  rw [hlead, e2]
  rcases hs with rfl | rfl
  · simp [hz]
  · simp [hz]

/-- the prefix the hrefs start with: `/`, or the mount prefix closed by a slash -/
def hrefLead (cfg : Cfg) : Str :=
  match cfg.pfx with
  | none => ['/']
  | some p => if p = [] then ['/'] else closeSlash p

/-- `url = os.path.join('/', path, cur_dir, item)` is the lead followed by the child path -/
theorem entryUrl_eq (cfg : Cfg) (rel item : Str) (hp : ∀ p, cfg.pfx = some p → p ≠ [] → p.head? = some '/')
    (hr : rel.head? ≠ some '/') (hi : item.head? ≠ some '/') :
    entryUrl cfg rel item = hrefLead cfg ++ join rel item := by
  have hjh := join_head_rel rel item hr hi
  have hx : join ['/'] rel ≠ [] := by
    rw [join_closeSlash _ _ (List.cons_ne_nil _ _) hr]
    exact List.append_ne_nil_of_left_ne_nil (closeSlash_ne_nil _) _
  have hroot : join (join (join ['/'] rel) []) item = ['/'] ++ join rel item := by
    rw [join_assoc _ [] item hx (by simp) hi, join_nil_left, join_assoc _ rel item (List.cons_ne_nil _ _) hr hi,
      join_closeSlash _ _ (List.cons_ne_nil _ _) hjh]
    rfl
  unfold entryUrl curDir hrefLead
  cases hpf : cfg.pfx with
  | none => exact hroot
  | some p =>
    by_cases hpe : p = []
    · simp only [hpe, if_true]; exact hroot
    · simp only [hpe, if_false]
      have hcur : (join p rel).head? = some '/' := join_head p rel (hp p hpf hpe)
      rw [show join (join ['/'] rel) (join p rel) = join p rel from if_pos hcur,
        join_assoc p rel item hpe hr hi, join_closeSlash p _ hpe hjh]

/-- mount prefixes a listing can link to: none / empty, or an absolute path made of characters
    that `quote` leaves alone (a request line cannot carry the others undecoded anyway) -/
def LinkablePrefix (pfx : Option Str) : Prop :=
  ∀ p, pfx = some p → p ≠ [] → (p.head? = some '/' ∧ ∀ c ∈ p, safeChar c = true)

theorem join_rel_ends (rel item : Str) (hr : rel.head? ≠ some '/') (hc : cleanSeg item = true) :
    (join rel item).head? ≠ some '/' ∧ (join rel item).getLast? ≠ some '/' := by
  obtain ⟨hi, hine⟩ := clean_head item hc
  have hil : item.getLast? ≠ some '/' := fun e => ((cleanSeg_iff item).1 hc).2.2.2 (List.mem_of_getLast? e)
  refine ⟨join_head_rel rel item hr hi, ?_⟩
  cases rel with
  | nil => rwa [join_nil_left]
  | cons b r => rwa [join_closeSlash _ _ (List.cons_ne_nil b r) hi, getLast?_append_of_ne_nil _ hine]

/-- the dispatcher's own prefix test takes the lead of an href off again, up to one slash -/
theorem relOf_hrefLead (unq : Str → Str) (cfg : Cfg) (hp : LinkablePrefix cfg.pfx) :
    ∃ t, (t = [] ∨ t = ['/']) ∧
      ∀ x, relOf unq cfg (quote (hrefLead cfg) ++ x) = some (unq (stripSlash (t ++ x))) := by
  have hq1 : quote ['/'] = ['/'] := quote_safe _ (by decide)
  unfold relOf hrefLead
  cases hpf : cfg.pfx with
  | none => exact ⟨['/'], .inr rfl, fun x => by rw [hq1]⟩
  | some p =>
    by_cases hpe : p = []
    · subst hpe; exact ⟨['/'], .inr rfl, fun x => by simp [hq1, startsWith]⟩
    · obtain ⟨_, hsafe⟩ := hp p hpf hpe
      -- the quoted lead is the prefix itself, closed by a slash if it has none
      obtain ⟨t, ht, e⟩ : ∃ t, (t = [] ∨ t = ['/']) ∧ quote (closeSlash p) = p ++ t := by
        unfold closeSlash
        split
        · exact ⟨[], .inl rfl, by rw [quote_safe p hsafe]; simp⟩
        · exact ⟨['/'], .inr rfl, by rw [quote_append, quote_safe p hsafe, hq1]⟩
      refine ⟨t, ht, fun x => ?_⟩
      simp only [hpe, if_false, e, List.append_assoc]
      rw [if_pos ((startsWith_iff _ _).2 ⟨_, rfl⟩), List.drop_left' rfl]

/-- The href the code writes for an entry (`quote(url)`, plus `/` for a directory), put through the
    dispatcher's own prefix test, `strip('/')` and percent-decoding, is the child path
    `join rel item` - provided the decoder undoes `quote` on that path. -/
theorem entry_href_decodes (unq : Str → Str) (fs : FS) (cfg : Cfg) (rel item : Str) (hp : LinkablePrefix cfg.pfx)
    (hr : rel.head? ≠ some '/') (hc : cleanSeg item = true)
    (hrt : unq (quote (join rel item)) = join rel item) :
    relOf unq cfg (entryOf fs cfg rel item).href = some (join rel item) := by
  obtain ⟨hi, hine⟩ := clean_head item hc
  obtain ⟨hh, hl⟩ := join_rel_ends rel item hr hc
  obtain ⟨h1, h2⟩ := quote_ends (join rel item) (join_rel_ne rel item hine) hh hl
  obtain ⟨t, ht, hlead⟩ := relOf_hrefLead unq cfg hp
  -- the href: the lead, the quoted child path, a slash for a directory
  show relOf unq cfg (quote (entryUrl cfg rel item) ++ _) = _
  rw [entryUrl_eq cfg rel item (fun p a b => (hp p a b).1) hr hi, quote_append, List.append_assoc, hlead,
    ← List.append_assoc, stripSlash_pad t _ _ ht (by split <;> simp) h1 h2, hrt]

theorem hexv_hexDigit : ∀ k, k < 16 → hexv (hexDigit k) = some k := by decide

theorem safe_ne_pct (c : Char) (h : safeChar c = true) : c ≠ '%' := by
  intro e; subst e; exact absurd h (by decide)

theorem utf8_ascii (c : Char) (h : c.toNat < 128) : utf8 c = [c.toNat] := by
  unfold utf8; simp [h]

theorem items_quoteChar (c : Char) (r : Str) (h : c.toNat < 128) :
    items (quoteChar c ++ r) = .byte c.toNat :: items r := by
  unfold quoteChar
  by_cases hs : safeChar c = true
  · have hne := safe_ne_pct c hs
    simp only [hs, if_true, List.singleton_append]
    rw [items.eq_def]
    split
    · rename_i heq; simp at heq
    · rename_i heq; simp at heq; exact absurd heq.1 hne
    · rename_i c' r' _ heq
      simp at heq
      obtain ⟨rfl, rfl⟩ := heq
      simp [h]
  · have hs' : safeChar c = false := by simpa using hs
    simp only [hs', Bool.false_eq_true, if_false, utf8_ascii c h, List.flatMap_cons, List.flatMap_nil,
      List.append_nil, pct, List.cons_append, List.nil_append]
    have h1 : hexv (hexDigit (c.toNat / 16)) = some (c.toNat / 16) := hexv_hexDigit _ (by omega)
    have h2 : hexv (hexDigit (c.toNat % 16)) = some (c.toNat % 16) := hexv_hexDigit _ (by omega)
    rw [items]
    simp only [h1, h2]
    congr 2
    omega

theorem items_quote_ascii (s : Str) (h : ∀ c ∈ s, c.toNat < 128) :
    items (quote s) = s.map (fun c => Item.byte c.toNat) := by
  induction s with
  | nil => simp [quote, items]
  | cons c r ih =>
    rw [quote_cons, items_quoteChar c _ (h c (by simp)), ih (fun x hx => h x (by simp [hx]))]
    rfl

theorem decodeF_ascii (s : Str) (h : ∀ c ∈ s, c.toNat < 128) (f : Nat) (hf : s.length ≤ f) :
    decodeF f (s.map (fun c => Item.byte c.toNat)) = s := by
  induction s generalizing f with
  | nil => cases f <;> simp [decodeF]
  | cons c r ih =>
    cases f with
    | zero => simp at hf
    | succ f =>
      have hc : c.toNat < 128 := h c (by simp)
      simp only [List.map_cons, decodeF, hc, if_true]
      rw [ih (fun x hx => h x (by simp [hx])) f (by simpa using hf)]
      simp

theorem quote_no_pct (s : Str) (h : '%' ∉ quote s) : quote s = s := by
  apply quote_safe
  intro c hc
  cases hs' : safeChar c with
  | true => rfl
  | false =>
  exfalso
  apply h
  obtain ⟨b, bs, e⟩ := (utf8_shape c).1
  have : '%' ∈ quoteChar c := by
    unfold quoteChar
    simp [hs', e, pct]
  unfold quote
  rw [List.mem_flatMap]
  exact ⟨c, hc, this⟩

/-- the decoder model undoes the encoder model on ASCII strings (any characters: `%`, `#`, `?`,
    quotes, spaces, controls) -/
theorem unquote_quote_ascii (s : Str) (h : ∀ c ∈ s, c.toNat < 128) : unquote (quote s) = s := by
  unfold unquote
  split
  · simp only
    rw [items_quote_ascii s h, decodeF_ascii s h _ (by simp)]
  · rename_i hc
    exact quote_no_pct s (by simpa using hc)

theorem join_mem (a b : Str) (c : Char) (h : c ∈ join a b) : c ∈ a ∨ c ∈ b ∨ c = '/' := by
  unfold join at h
  split at h
  · exact Or.inr (Or.inl h)
  · split at h
    · rw [List.mem_append] at h
      rcases h with h | h
      · exact Or.inl h
      · exact Or.inr (Or.inl h)
    · rw [List.mem_append, List.mem_cons] at h
      rcases h with h | h | h
      · exact Or.inl h
      · exact Or.inr (Or.inr h)
      · exact Or.inr (Or.inl h)

end CV.StaticListing
