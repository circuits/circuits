import CV.Model.StaticPath
import CV.Proofs.ListFacts
/- Lemmas for C16 (paths): `split` is a monoid-like homomorphism, `normpath` of an
   absolute path is "slashes ++ clean components", containment by prefix implies containment
   as a tree node, `join` below a proper root, and the dispatcher `serveRel` case by case (`serve_specOk`). -/
namespace CV.StaticPath

theorem split_ne_nil (sep : Char) (s : Str) : split sep s ≠ [] := by
  induction s with
  | nil => simp [split]
  | cons c r ih =>
    unfold split
    split
    · simp
    · split <;> simp

theorem split_append_sep (sep : Char) (a b : Str) :
    split sep (a ++ sep :: b) = split sep a ++ split sep b := by
  induction a with
  | nil => simp [split]
  | cons c r ih =>
    simp only [List.cons_append]
    by_cases h : c = sep
    · simp [split, h, ih]
    · obtain ⟨x, xs, hr⟩ := List.exists_cons_of_ne_nil (split_ne_nil sep r)
      simp [split, h, ih, hr]

theorem split_noSep (sep : Char) (s : Str) (h : sep ∉ s) : split sep s = [s] := by
  induction s with
  | nil => simp [split]
  | cons c r ih =>
    have h1 : c ≠ sep := by intro e; apply h; simp [e]
    have h2 : sep ∉ r := by intro e; apply h; simp [e]
    simp [split, h1, ih h2]

theorem split_mem_noSep (sep : Char) (s : Str) : ∀ x ∈ split sep s, sep ∉ x := by
  induction s with
  | nil => simp [split]
  | cons c r ih =>
    intro x hx
    by_cases h : c = sep
    · simp [split, h] at hx
      rcases hx with rfl | hx
      · simp
      · exact ih x hx
    · obtain ⟨y, ys, hr⟩ := List.exists_cons_of_ne_nil (split_ne_nil sep r)
      simp [split, h, hr] at hx
      rw [hr] at ih
      rcases hx with rfl | hx
      · intro hm
        simp at hm
        rcases hm with e | hm
        · exact h e.symm
        · exact ih y (by simp) hm
      · exact ih x (by simp [hx])

theorem cleanSeg_iff (s : Str) :
    cleanSeg s = true ↔ s ≠ [] ∧ s ≠ ['.'] ∧ s ≠ dotdot ∧ '/' ∉ s := by
  simp [cleanSeg, and_assoc]

theorem clean_head (c : Str) (hc : cleanSeg c = true) : c.head? ≠ some '/' ∧ c ≠ [] := by
  have hc' := (cleanSeg_iff c).1 hc
  exact ⟨fun e => hc'.2.2.2 (List.mem_of_head? e), hc'.1⟩

theorem joinSlash_append_single (cs : List Str) (c : Str) (h : cs ≠ []) :
    joinSlash (cs ++ [c]) = joinSlash cs ++ '/' :: c := by
  induction cs with
  | nil => exact absurd rfl h
  | cons x xs ih =>
    cases xs with
    | nil => simp [joinSlash]
    | cons y ys =>
      have := ih (by simp)
      simp only [List.cons_append] at this ⊢
      simp [joinSlash, this]

theorem split_joinSlash (cs : List Str) (h : cs ≠ []) (hc : ∀ c ∈ cs, '/' ∉ c) :
    split '/' (joinSlash cs) = cs := by
  induction cs with
  | nil => exact absurd rfl h
  | cons x xs ih =>
    cases xs with
    | nil => simpa [joinSlash] using split_noSep '/' x (hc x (by simp))
    | cons y ys =>
      simp only [joinSlash]
      rw [split_append_sep, split_noSep '/' x (hc x (by simp)), ih (by simp) (fun c hm => hc c (by simp [hm]))]
      rfl

theorem split_replicate_slash (k : Nat) (t : Str) :
    split '/' (List.replicate k '/' ++ t) = List.replicate k [] ++ split '/' t := by
  induction k with
  | zero => simp
  | succ n ih => simp [List.replicate_succ, split, ih]

def AllClean (st : List Str) : Prop := ∀ c ∈ st, cleanSeg c = true

theorem startsWith_iff (s p : Str) : startsWith s p = true ↔ ∃ t, s = p ++ t := by
  unfold startsWith
  rw [List.isPrefixOf_iff_prefix]
  exact ⟨fun ⟨t, h⟩ => ⟨t, h.symm⟩, fun ⟨t, h⟩ => ⟨t, h.symm⟩⟩

theorem inRoot_iff (d loc : Str) :
    inRoot d loc = true ↔ loc = d ∨ ∃ tail, loc = d ++ '/' :: tail ∧ AllClean (split '/' tail) := by
  have hdrop : ∀ t : Str, (d ++ '/' :: t).drop (d.length + 1) = t := fun t => by
    rw [show d ++ '/' :: t = (d ++ ['/']) ++ t by simp, List.drop_left' (by simp)]
  simp only [inRoot, Bool.or_eq_true, Bool.and_eq_true, decide_eq_true_eq, startsWith_iff, List.all_eq_true]
  refine or_congr_right ⟨?_, ?_⟩
  · rintro ⟨⟨t, rfl⟩, h⟩
    rw [List.append_assoc, List.singleton_append, hdrop] at h
    exact ⟨t, by simp, h⟩
  · rintro ⟨t, rfl, h⟩
    exact ⟨⟨t, by simp⟩, by rw [hdrop]; exact h⟩

theorem stepR_clean (st : List Str) (c : Str) (h : AllClean st) (hc : '/' ∉ c) : AllClean (stepR st c) := by
  unfold stepR
  split
  · exact h
  · split
    · intro x hx; exact h x (List.mem_of_mem_tail hx)
    · rename_i h1 h2
      intro x hx
      simp at hx
      rcases hx with rfl | hx
      · rw [cleanSeg_iff]; simp at h1; exact ⟨h1.1, h1.2, h2, hc⟩
      · exact h x hx

theorem pushComp_abs (st : List Str) (c : Str) (h : AllClean st) : pushComp true st c = stepR st c := by
  have hh : st.head? ≠ some dotdot := by
    intro e
    cases st with
    | nil => simp at e
    | cons x xs =>
      simp at e
      have := h x (by simp)
      rw [cleanSeg_iff] at this
      exact this.2.2.1 e
  unfold pushComp stepR
  by_cases h1 : c = [] ∨ c = ['.']
  · simp [h1]
  · by_cases h2 : c = dotdot
    · simp [h2, hh]
    · simp [h1, h2]

theorem foldl_pushComp_abs (segs : List Str) (st : List Str) (h : AllClean st) (hs : ∀ c ∈ segs, '/' ∉ c) :
    segs.foldl (pushComp true) st = segs.foldl stepR st ∧ AllClean (segs.foldl stepR st) := by
  induction segs generalizing st with
  | nil => exact ⟨rfl, h⟩
  | cons c r ih =>
    simp only [List.foldl_cons]
    rw [pushComp_abs st c h]
    exact ih (stepR st c) (stepR_clean st c h (hs c (by simp))) (fun x hx => hs x (by simp [hx]))

theorem resolveSegs_clean (segs : List Str) (hs : ∀ c ∈ segs, '/' ∉ c) : AllClean (resolveSegs [] segs) := by
  unfold resolveSegs
  exact fun c hc => (foldl_pushComp_abs segs [] (by intro c hc; simp at hc) hs).2 c (List.mem_reverse.1 hc)

theorem initialSlashes_one (b : Char) (r : Str) (hb : b ≠ '/') : initialSlashes ('/' :: b :: r) = 1 :=
  initialSlashes.eq_3 _ (fun _ h => hb (List.cons.inj h).1) (fun _ h => hb (List.cons.inj h).1)

theorem initialSlashes_two (b : Char) (r3 : List Char) (hb : b ≠ '/') : initialSlashes ('/' :: '/' :: b :: r3) = 2 :=
  initialSlashes.eq_2 _ (fun _ h => hb (List.cons.inj h).1)

theorem initialSlashes_zero (a : Char) (r : Str) (ha : a ≠ '/') : initialSlashes (a :: r) = 0 :=
  initialSlashes.eq_4 _ (fun _ h => ha (List.cons.inj h).1) (fun _ h => ha (List.cons.inj h).1)
    (fun _ h => ha (List.cons.inj h).1)

theorem initialSlashes_slash (r : Str) : initialSlashes ('/' :: r) = 1 ∨ initialSlashes ('/' :: r) = 2 := by
  cases r with
  | nil => exact Or.inl rfl
  | cons b r2 =>
    by_cases hb : b = '/'
    · subst hb
      cases r2 with
      | nil => exact Or.inr rfl
      | cons c r3 =>
        by_cases hc : c = '/'
        · subst hc; exact Or.inl rfl
        · exact Or.inr (initialSlashes_two c r3 hc)
    · exact Or.inl (initialSlashes_one b r2 hb)

theorem initialSlashes_pos (x : Str) (h : x.head? = some '/') : 1 ≤ initialSlashes x ∧ initialSlashes x ≤ 2 := by
  cases x with
  | nil => cases h
  | cons a r =>
    cases Option.some.inj h
    rcases initialSlashes_slash r with h | h <;> rw [h] <;> decide

theorem normpath_abs (x : Str) (h : x.head? = some '/') :
    normpath x = List.replicate (initialSlashes x) '/' ++ joinSlash (resolveSegs [] (split '/' x)) := by
  have hk := initialSlashes_pos x h
  have hx : x ≠ [] := by intro e; simp [e] at h
  have hb : (initialSlashes x != 0) = true := by simp; omega
  have hf := (foldl_pushComp_abs (split '/' x) [] (by intro c hc; simp at hc) (split_mem_noSep '/' x)).1
  unfold normpath normComps resolveSegs
  rw [hb, hf]
  simp only [hx, if_false]
  have : List.replicate (initialSlashes x) '/' ++ joinSlash (List.foldl stepR [] (split '/' x)).reverse ≠ [] := by
    intro e
    have := congrArg List.length e
    simp at this
    omega
  simp [this]

theorem foldl_stepR_clean (cs st : List Str) (h : AllClean cs) : cs.foldl stepR st = cs.reverse ++ st := by
  induction cs generalizing st with
  | nil => simp
  | cons c r ih =>
    have hc := h c (by simp)
    rw [cleanSeg_iff] at hc
    have : stepR st c = c :: st := by simp [stepR, hc.1, hc.2.1, hc.2.2.1]
    simp only [List.foldl_cons, this]
    rw [ih (c :: st) (fun x hx => h x (by simp [hx]))]
    simp

theorem foldl_stepR_empties (k : Nat) (st : List Str) : (List.replicate k ([] : Str)).foldl stepR st = st := by
  induction k with
  | zero => simp
  | succ n ih => simp [List.replicate_succ, stepR, ih]

theorem resolve_empties_clean (k : Nat) (cs : List Str) (h : AllClean cs) :
    resolveSegs [] (List.replicate k [] ++ cs) = cs := by
  simp [resolveSegs, List.foldl_append, foldl_stepR_empties, foldl_stepR_clean cs [] h]

theorem split_normal (k : Nat) (cs : List Str) (h : AllClean cs) :
    split '/' (List.replicate k '/' ++ joinSlash cs) =
      List.replicate k [] ++ (if cs = [] then [[]] else cs) := by
  rw [split_replicate_slash]
  by_cases hc : cs = []
  · simp [hc, joinSlash, split]
  · simp only [hc, if_false]
    rw [split_joinSlash cs hc (fun c hm => ((cleanSeg_iff c).1 (h c hm)).2.2.2)]

theorem resolve_normal (k : Nat) (cs : List Str) (h : AllClean cs) :
    resolveSegs [] (split '/' (List.replicate k '/' ++ joinSlash cs)) = cs := by
  rw [split_normal k cs h]
  by_cases hc : cs = []
  · simp [hc, resolveSegs, List.foldl_append, foldl_stepR_empties, stepR]
  · simp only [hc, if_false]; exact resolve_empties_clean k cs h

theorem resolve_normpath (x : Str) (h : x.head? = some '/') :
    resolveSegs [] (split '/' (normpath x)) = resolveSegs [] (split '/' x) := by
  rw [normpath_abs x h]
  exact resolve_normal _ _ (resolveSegs_clean _ (split_mem_noSep '/' x))

/-- a document root as `abspath` produces it, other than `/` itself and `//…` -/
def ProperRoot (d : Str) : Prop :=
  ∃ c r, d = '/' :: c :: r ∧ c ≠ '/' ∧ d.getLast? ≠ some '/'

theorem rootDir_proper (d : Str) (h : ProperRoot d) : rootDir d = d ++ ['/'] := by
  obtain ⟨c, r, hd, _, hl⟩ := h
  have : d ≠ [] := by simp [hd]
  simp [rootDir, join, this, hl]

theorem allowed_iff (d loc : Str) (hd : ProperRoot d) :
    allowed d loc = true ↔ loc = d ∨ ∃ tail, loc = d ++ '/' :: tail := by
  simp only [allowed, rootDir_proper d hd, Bool.or_eq_true, decide_eq_true_eq, startsWith_iff,
    List.append_assoc, List.singleton_append]

theorem split_proper (d : Str) (h : ProperRoot d) : ∃ c h' t, split '/' d = [] :: (c :: h') :: t := by
  obtain ⟨c, r, hd, hc, _⟩ := h
  subst hd
  obtain ⟨y, ys, hr⟩ := List.exists_cons_of_ne_nil (split_ne_nil '/' r)
  exact ⟨c, y, ys, by simp [split, hc, hr]⟩

theorem inRoot_of_allowed (d loc : Str) (k : Nat) (cs : List Str) (hd : ProperRoot d)
    (hloc : loc = List.replicate k '/' ++ joinSlash cs) (hk : 1 ≤ k) (hcs : AllClean cs)
    (ha : allowed d loc = true) : inRoot d loc = true ∧ k = 1 ∧ cs ≠ [] := by
  obtain ⟨c0, h0, t0, hsd⟩ := split_proper d hd
  have hsl := split_normal k cs hcs
  rw [← hloc] at hsl
  -- the components of `loc` are those of `d` followed by those of what comes behind `d/`
  obtain ⟨X, hX, hin⟩ : ∃ X, split '/' loc = split '/' d ++ X ∧ (AllClean X → inRoot d loc = true) := by
    rcases (allowed_iff d loc hd).1 ha with rfl | ⟨tail, rfl⟩
    · exact ⟨[], by simp, fun _ => (inRoot_iff ..).2 (Or.inl rfl)⟩
    · exact ⟨_, split_append_sep .., fun h => (inRoot_iff ..).2 (Or.inr ⟨tail, rfl, h⟩)⟩
  rw [hX, hsd] at hsl
  -- the second component of `d` is not empty: one slash is kept, and `cs` starts with that component
  obtain ⟨k', rfl⟩ : ∃ k', k = k' + 1 := ⟨k - 1, by omega⟩
  cases k' with
  | succ n => simp [List.replicate_succ] at hsl
  | zero =>
    by_cases hc : cs = []
    · simp [hc, List.replicate_succ] at hsl
    · simp only [hc, if_false, List.replicate_succ, List.replicate_zero, List.cons_append,
        List.nil_append, List.cons.injEq, true_and] at hsl
      exact ⟨hin fun x hx => hcs x (by rw [← hsl]; simp [hx]), rfl, hc⟩

theorem inRoot_extend (d loc c : Str) (h : inRoot d loc = true) (hc : cleanSeg c = true) :
    inRoot d (loc ++ '/' :: c) = true := by
  have hs : split '/' c = [c] := split_noSep '/' c ((cleanSeg_iff c).1 hc).2.2.2
  rw [inRoot_iff] at h ⊢
  right
  rcases h with rfl | ⟨tail, rfl, ht⟩
  · exact ⟨c, rfl, by rw [hs]; intro x hx; rw [List.mem_singleton.1 hx]; exact hc⟩
  · refine ⟨tail ++ '/' :: c, by simp, ?_⟩
    rw [split_append_sep, hs]
    intro x hx
    rcases List.mem_append.1 hx with hx | hx
    · exact ht x hx
    · rw [List.mem_singleton.1 hx]; exact hc

theorem allowed_extend (d loc c : Str) (hd : ProperRoot d) (h : allowed d loc = true) :
    allowed d (loc ++ '/' :: c) = true := by
  rw [allowed_iff _ _ hd] at h ⊢
  right
  rcases h with rfl | ⟨tail, rfl⟩
  · exact ⟨c, rfl⟩
  · exact ⟨tail ++ '/' :: c, by simp⟩

theorem proper_ne_nil (d : Str) (h : ProperRoot d) : d ≠ [] := by
  obtain ⟨c, r, hd, _, _⟩ := h; simp [hd]

theorem proper_head (d : Str) (h : ProperRoot d) : d.head? = some '/' := by
  obtain ⟨c, r, hd, _, _⟩ := h; simp [hd]

theorem join_head (x y : Str) (hx : x.head? = some '/') : (join x y).head? = some '/' := by
  have hne : x ≠ [] := by intro e; simp [e] at hx
  unfold join
  split
  · assumption
  · split
    · simp [List.head?_append, hx]
    · simp [List.head?_append, hx]

/-- `a` closed by a slash: what `join a ·` puts in front of a relative argument -/
def closeSlash (a : Str) : Str := if a.getLast? = some '/' then a else a ++ ['/']

theorem join_closeSlash (a x : Str) (ha : a ≠ []) (hx : x.head? ≠ some '/') : join a x = closeSlash a ++ x := by
  unfold join closeSlash
  rw [if_neg hx]
  by_cases hl : a.getLast? = some '/'
  · rw [if_pos (Or.inr hl), if_pos hl]
  · rw [if_neg (not_or.mpr ⟨ha, hl⟩), if_neg hl, List.append_assoc]; rfl

theorem closeSlash_last (a : Str) : (closeSlash a).getLast? = some '/' := by
  unfold closeSlash
  split
  · assumption
  · exact List.getLast?_concat

theorem closeSlash_ne_nil (a : Str) : closeSlash a ≠ [] := fun e => by
  have := closeSlash_last a
  rw [e] at this
  cases this

theorem closeSlash_idem (a : Str) : closeSlash (closeSlash a) = closeSlash a := by
  rw [closeSlash, if_pos (closeSlash_last a)]

theorem closeSlash_append (x a : Str) (ha : a ≠ []) : closeSlash (x ++ a) = x ++ closeSlash a := by
  unfold closeSlash
  rw [getLast?_append_of_ne_nil x ha]
  split
  · rfl
  · rw [List.append_assoc]

theorem join_nil_left (x : Str) : join [] x = x := by
  unfold join
  split
  · rfl
  · rw [if_pos (Or.inl rfl)]; rfl

theorem join_head_rel (rel item : Str) (hr : rel.head? ≠ some '/') (hi : item.head? ≠ some '/') :
    (join rel item).head? ≠ some '/' := by
  cases rel with
  | nil => rw [join_nil_left]; exact hi
  | cons b r =>
    rw [join_closeSlash _ _ (List.cons_ne_nil b r) hi, closeSlash]
    split <;> exact hr

theorem join_assoc (a rel item : Str) (ha : a ≠ []) (hr : rel.head? ≠ some '/')
    (hi : item.head? ≠ some '/') : join (join a rel) item = join a (join rel item) := by
  rw [join_closeSlash a rel ha hr, join_closeSlash a _ ha (join_head_rel rel item hr hi)]
  cases rel with
  | nil =>
    rw [join_nil_left, List.append_nil, join_closeSlash _ _ (closeSlash_ne_nil a) hi, closeSlash_idem]
  | cons b r =>
    rw [join_closeSlash _ item (by simp) hi, closeSlash_append _ _ (List.cons_ne_nil b r),
      join_closeSlash _ item (List.cons_ne_nil b r) hi, List.append_assoc]

theorem split_join_root (d rel : Str) (hd : ProperRoot d) : split '/' (join d rel) = relSegs d rel := by
  obtain ⟨c, r, hdd, _, hl⟩ := hd
  have hne : d ≠ [] := by simp [hdd]
  unfold join relSegs
  by_cases h : rel.head? = some '/'
  · simp [h]
  · simp only [h, if_false, hne, hl, false_or]
    exact split_append_sep '/' d rel

theorem resolve_skip_last (segs : List Str) (c : Str) (hc : c = [] ∨ c = ['.']) :
    resolveSegs [] (segs ++ [c]) = resolveSegs [] segs := by
  simp [resolveSegs, List.foldl_append, stepR, hc]

theorem resolve_push_last (segs : List Str) (c : Str) (hc : cleanSeg c = true) :
    resolveSegs [] (segs ++ [c]) = resolveSegs [] segs ++ [c] := by
  rw [cleanSeg_iff] at hc
  simp [resolveSegs, List.foldl_append, stepR, hc.1, hc.2.1, hc.2.2.1]

theorem resolve_first (d rel : Str) (hd : ProperRoot d) :
    resolveSegs [] (split '/' (join d (if rel = [] then ['.'] else rel))) = resolveSegs [] (relSegs d rel) := by
  by_cases h : rel = []
  · subst h
    simp only [if_true]
    rw [split_join_root d ['.'] hd]
    have h1 : relSegs d ['.'] = split '/' d ++ [['.']] := by simp [relSegs, split]
    have h2 : relSegs d [] = split '/' d ++ [[]] := by simp [relSegs, split]
    rw [h1, h2, resolve_skip_last _ _ (Or.inr rfl), resolve_skip_last _ _ (Or.inl rfl)]
  · simp only [h, if_false]
    rw [split_join_root d rel hd]

theorem resolve_join_clean (x c : Str) (hx : x ≠ []) (hc : cleanSeg c = true) :
    resolveSegs [] (split '/' (join x c)) = resolveSegs [] (split '/' x) ++ [c] := by
  have hc' := (cleanSeg_iff c).1 hc
  have hh := (clean_head c hc).1
  unfold join
  simp only [hh, if_false, hx, false_or]
  by_cases hl : x.getLast? = some '/'
  · simp only [hl, if_true]
    obtain ⟨y, rfl⟩ : ∃ y, x = y ++ ['/'] := by
      rw [List.getLast?_eq_some_iff] at hl
      exact hl
    have e1 : y ++ ['/'] ++ c = y ++ '/' :: c := by simp
    have e2 : split '/' (y ++ ['/']) = split '/' y ++ [[]] := by
      rw [split_append_sep]; simp [split]
    rw [e1, split_append_sep, split_noSep '/' c hc'.2.2.2, e2, resolve_push_last _ _ hc,
      resolve_skip_last _ _ (Or.inl rfl)]
  · simp only [hl, if_false]
    rw [split_append_sep, split_noSep '/' c hc'.2.2.2, resolve_push_last _ _ hc]

theorem initialSlashes_proper (d y : Str) (hd : ProperRoot d) : initialSlashes (d ++ y) = 1 := by
  obtain ⟨c, r, rfl, hc, _⟩ := hd
  exact initialSlashes_one c (r ++ y) hc

/-- only the first three characters count -/
theorem initialSlashes_append (x y : Str) (h : initialSlashes x = 1) (hx : x ≠ ['/']) : initialSlashes (x ++ y) = 1 := by
  cases x with
  | nil => cases h
  | cons a r =>
    by_cases ha : a = '/'
    · subst ha
      cases r with
      | nil => exact absurd rfl hx
      | cons b r2 =>
        by_cases hb : b = '/'
        · subst hb
          cases r2 with
          | nil => cases h
          | cons c r3 =>
            by_cases hc : c = '/'
            · subst hc; rfl
            · rw [initialSlashes_two c r3 hc] at h; cases h
        · exact initialSlashes_one b (r2 ++ y) hb
    · rw [initialSlashes_zero a r ha] at h; cases h

theorem initialSlashes_join (x c : Str) (hx : x.head? = some '/') (hk : initialSlashes x = 1)
    (hc : cleanSeg c = true) : initialSlashes (join x c) = 1 := by
  obtain ⟨hh, hne⟩ := clean_head c hc
  obtain ⟨e, cr, rfl⟩ := List.exists_cons_of_ne_nil hne
  have he : e ≠ '/' := fun h => hh (congrArg some h)
  unfold join
  rw [if_neg hh]
  by_cases h1 : x = ['/']
  · subst h1
    have hl : (['/'] : Str) = [] ∨ (['/'] : Str).getLast? = some '/' := Or.inr rfl
    rw [if_pos hl]
    exact initialSlashes_one e cr he
  · split <;> exact initialSlashes_append x _ hk h1

/-- the two spellings of the first location: `join d rel` and `join d (rel or '.')` -/
theorem normpath_join_dot (d rel : Str) (hd : ProperRoot d) :
    normpath (join d rel) = normpath (join d (if rel = [] then ['.'] else rel)) := by
  by_cases h : rel = []
  · subst h
    have hp := proper_head d hd
    have hdot : join d ['.'] = d ++ ['/', '.'] := by
      obtain ⟨c, r, hdd, _, hl⟩ := hd
      simp [join, show d ≠ [] by simp [hdd], hl]
    have r1 := resolve_first d [] hd
    rw [if_pos rfl] at r1 ⊢
    rw [normpath_abs _ (join_head _ _ hp), normpath_abs _ (join_head _ _ hp), r1, split_join_root _ _ hd,
      show join d [] = d ++ ['/'] from rootDir_proper d hd, hdot,
      initialSlashes_proper _ _ hd, initialSlashes_proper _ _ hd]
  · rw [if_neg h]

theorem first_location (d rel : Str) (hd : ProperRoot d)
    (ha : allowed d (normpath (join d (if rel = [] then ['.'] else rel))) = true) :
    let x := join d (if rel = [] then ['.'] else rel)
    let cs := resolveSegs [] (relSegs d rel)
    normpath x = '/' :: joinSlash cs ∧ cs ≠ [] ∧ AllClean cs ∧ initialSlashes x = 1 ∧
      inRoot d (normpath x) = true ∧ denotes (relSegs d rel) (normpath x) = true := by
  intro x cs
  have hx : x.head? = some '/' := join_head d _ (proper_head d hd)
  have hn := normpath_abs x hx
  have hcs : resolveSegs [] (split '/' x) = cs := resolve_first d rel hd
  rw [hcs] at hn
  have hclean : AllClean cs := by
    rw [← hcs]; exact resolveSegs_clean _ (split_mem_noSep '/' x)
  have hk := initialSlashes_pos x hx
  obtain ⟨hin, hk1, hne⟩ := inRoot_of_allowed d (normpath x) (initialSlashes x) cs hd hn hk.1 hclean ha
  refine ⟨by rw [hn, hk1]; rfl, hne, hclean, hk1, hin, ?_⟩
  unfold denotes
  rw [resolve_normpath x hx, hcs]
  exact beq_self_eq_true _

theorem child_location (d rel c : Str) (hd : ProperRoot d) (hc : cleanSeg c = true)
    (ha : allowed d (normpath (join d (if rel = [] then ['.'] else rel))) = true) :
    normpath (join (join d rel) c) = normpath (join d (if rel = [] then ['.'] else rel)) ++ '/' :: c := by
  obtain ⟨hn, hne, hclean, hk1, hin, _⟩ := first_location d rel hd ha
  have hxd : (join d rel).head? = some '/' := join_head d rel (proper_head d hd)
  have hxdne : join d rel ≠ [] := by intro e; simp [e] at hxd
  have hx' : (join (join d rel) c).head? = some '/' := join_head _ _ hxd
  have hkd : initialSlashes (join d rel) = 1 := by
    by_cases h : rel = []
    · subst h
      have : join d [] = d ++ ['/'] := rootDir_proper d hd
      rw [this]; exact initialSlashes_proper d _ hd
    · simpa [h] using hk1
  have hk' := initialSlashes_join (join d rel) c hxd hkd hc
  have hr : resolveSegs [] (split '/' (join (join d rel) c)) = resolveSegs [] (relSegs d rel) ++ [c] := by
    rw [resolve_join_clean _ _ hxdne hc, split_join_root d rel hd]
  rw [normpath_abs _ hx', hk', hr, hn, joinSlash_append_single _ _ hne]
  rfl

theorem default_location (d rel c : Str) (hd : ProperRoot d) (hc : cleanSeg c = true)
    (ha : allowed d (normpath (join d (if rel = [] then ['.'] else rel))) = true) :
    let loc' := normpath (join (join d rel) c)
    inRoot d loc' = true ∧ denotes (relSegs d rel ++ [c]) loc' = true := by
  intro loc'
  obtain ⟨_, _, _, _, hin, _⟩ := first_location d rel hd ha
  have hxd : (join d rel).head? = some '/' := join_head d rel (proper_head d hd)
  have hxdne : join d rel ≠ [] := by intro e; simp [e] at hxd
  refine ⟨by rw [show loc' = _ from child_location d rel c hd hc ha]; exact inRoot_extend d _ c hin hc, ?_⟩
  unfold denotes
  show (resolveSegs [] (relSegs d rel ++ [c]) == resolveSegs [] (split '/' (normpath (join (join d rel) c)))) = true
  rw [resolve_normpath _ (join_head _ _ hxd), resolve_join_clean _ _ hxdne hc, split_join_root d rel hd,
    resolve_push_last _ _ hc]
  exact beq_self_eq_true _

theorem serveFile_cases (fs : FS) (loc : Str) : serveFile fs loc = .notfound ∨ serveFile fs loc = .file loc := by
  unfold serveFile
  split <;> simp

theorem tryDefaults_some (fs : FS) (cfg : Cfg) (rel : Str) (dfl : List Str) (o : Outcome)
    (h : tryDefaults fs cfg rel dfl = some o) :
    o = .notfound ∨ ∃ c ∈ dfl, o = .file (normpath (join (join cfg.docroot rel) c)) := by
  induction dfl with
  | nil => simp [tryDefaults] at h
  | cons c r ih =>
    unfold tryDefaults at h
    simp only at h
    split at h
    · simp only [Option.some.injEq] at h
      rcases serveFile_cases fs (normpath (join (join cfg.docroot rel) c)) with e | e
      · left; rw [← h, e]
      · right; exact ⟨c, by simp, by rw [← h, e]⟩
    · rcases ih h with e | ⟨c', hm, e⟩
      · exact Or.inl e
      · exact Or.inr ⟨c', by simp [hm], e⟩

/-- What the dispatcher can answer for `rel`, and when: nothing of its own (pass / 404), or - the
    first location passing the containment test - that location as a file, a default document
    below it, or its listing. -/
theorem serveRel_cases (fs : FS) (cfg : Cfg) (rel : Str) :
    serveRel fs cfg rel = .pass ∨ serveRel fs cfg rel = .notfound ∨
    (allowed cfg.docroot (locOf cfg rel) = true ∧
      (serveRel fs cfg rel = .file (locOf cfg rel) ∨
       (∃ c ∈ cfg.defaults, serveRel fs cfg rel = .file (normpath (join (join cfg.docroot rel) c))) ∨
       (cfg.dirlisting = true ∧ serveRel fs cfg rel = .listing (normpath (join cfg.docroot rel))))) := by
  unfold serveRel
  simp only
  split
  · exact .inl rfl
  · next k _ =>
    by_cases ha : allowed cfg.docroot (locOf cfg rel) = true
    · rw [if_neg (fun h => h ha)]
      cases k with
      | file => exact .inr ((serveFile_cases fs _).imp_right fun e => ⟨ha, .inl e⟩)
      | other => exact .inl rfl
      | dir =>
        simp only
        cases htd : tryDefaults fs cfg rel cfg.defaults with
        | some o =>
          rcases tryDefaults_some fs cfg rel _ o htd with e | ⟨c, hm, e⟩
          · exact .inr (.inl e)
          · exact .inr (.inr ⟨ha, .inr (.inl ⟨c, hm, e⟩)⟩)
        | none =>
          simp only
          split
          · next hdl => exact .inr (.inr ⟨ha, .inr (.inr ⟨hdl, rfl⟩)⟩)
          · exact .inl rfl
    · rw [if_pos ha]; exact .inl rfl

theorem serveRel_file (fs : FS) (cfg : Cfg) (rel : Str) (ha : allowed cfg.docroot (locOf cfg rel) = true)
    (hf : fs (locOf cfg rel) = some .file) : serveRel fs cfg rel = .file (locOf cfg rel) := by
  simp [serveRel, hf, ha, serveFile]

/-- an allowed first location that is a directory, with listings on: its listing, or a default document
    directly below it (404 if that is a directory itself) -/
theorem serveRel_dir (fs : FS) (cfg : Cfg) (rel : Str) (hd : ProperRoot cfg.docroot)
    (hdef : ∀ c ∈ cfg.defaults, cleanSeg c = true) (ha : allowed cfg.docroot (locOf cfg rel) = true)
    (hf : fs (locOf cfg rel) = some .dir) (hdl : cfg.dirlisting = true) :
    serveRel fs cfg rel = .listing (locOf cfg rel) ∨ serveRel fs cfg rel = .notfound ∨
      ∃ c ∈ cfg.defaults, serveRel fs cfg rel = .file (locOf cfg rel ++ '/' :: c) := by
  have hs : serveRel fs cfg rel = match tryDefaults fs cfg rel cfg.defaults with
      | some o => o
      | none => .listing (locOf cfg rel) := by
    simp only [serveRel, hf, ha, hdl, not_true_eq_false, if_false, if_true, normpath_join_dot cfg.docroot rel hd]
    rfl
  rw [hs]
  cases htd : tryDefaults fs cfg rel cfg.defaults with
  | none => exact .inl rfl
  | some o =>
    rcases tryDefaults_some fs cfg rel cfg.defaults o htd with e | ⟨c, hm, e⟩
    · exact .inr (.inl e)
    · exact .inr (.inr ⟨c, hm, e.trans (congrArg _ (child_location cfg.docroot rel c hd (hdef c hm) ha))⟩)

theorem serve_specOk (unq : Str → Str) (fs : FS) (cfg : Cfg) (reqPath : Str)
    (hd : ProperRoot cfg.docroot) (hdef : ∀ c ∈ cfg.defaults, cleanSeg c = true) :
    specOk unq cfg reqPath (serve unq fs cfg reqPath) = true := by
  unfold serve
  cases hrel : relOf unq cfg reqPath with
  | none => rfl
  | some rel =>
    simp only
    rcases serveRel_cases fs cfg rel with e | e | ⟨ha, e | ⟨c, hm, e⟩ | ⟨-, e⟩⟩ <;> rw [e]
    · rfl
    · rfl
    all_goals obtain ⟨_, _, _, _, hin, hden⟩ := first_location cfg.docroot rel hd ha
    · simp [specOk, hrel, locOf, hin, hden]
    · obtain ⟨hin', hden'⟩ := default_location cfg.docroot rel c hd (hdef c hm) ha
      simp only [specOk, hrel, hin', Bool.true_and, Bool.or_eq_true, List.any_eq_true]
      exact .inr ⟨c, hm, hden'⟩
    · rw [normpath_join_dot cfg.docroot rel hd]
      simp [specOk, hrel, hin, hden]
end CV.StaticPath
