import CV.Model.StreamSpec
/-
C11: facts about the spec fold alone, the simulation between the
stream model and the spec, then facts about the model alone (registration of writer interest, closed
endpoints).
-/
namespace CV
namespace Stream

theorem specRun_append (σ : SpecSt) (a b : List Ev) :
    specRun σ (a ++ b) = specRun (specRun σ a) b :=
  List.foldl_append ..

@[simp] theorem specRun_nil (σ : SpecSt) : specRun σ [] = σ := rfl

@[simp] theorem specRun_cons (σ : SpecSt) (e : Ev) (r : List Ev) :
    specRun σ (e :: r) = specRun (specStep σ e) r := rfl

theorem specRun_keeps_of {P : SpecSt → Prop} {Q : Ev → Prop} (hP : ∀ σ e, Q e → P σ → P (specStep σ e))
    (σ : SpecSt) (evs : List Ev) (hQ : ∀ e ∈ evs, Q e) (h : P σ) : P (specRun σ evs) := by
  induction evs generalizing σ with
  | nil => exact h
  | cons e r ih => exact ih _ (fun x hx => hQ x (.tail _ hx)) (hP σ e (hQ e (.head _)) h)

theorem specRun_keeps {P : SpecSt → Prop} (hP : ∀ σ e, P σ → P (specStep σ e)) (σ : SpecSt)
    (evs : List Ev) (h : P σ) : P (specRun σ evs) :=
  specRun_keeps_of (Q := fun _ => True) (fun σ e _ => hP σ e) σ evs (fun _ _ => trivial) h

theorem fail_eq (σ : SpecSt) (c : Clause) : σ.fail c = { σ with bad := some (σ.bad.getD c) } := by
  obtain ⟨_, _, _, _, bad, _, _, _⟩ := σ
  cases bad <;> rfl

theorem fail_bad (σ : SpecSt) (c : Clause) : (σ.fail c).bad ≠ none := by
  simp [fail_eq]

theorem fail_of_bad {σ : SpecSt} (c : Clause) (h : σ.bad ≠ none) : σ.fail c = σ := by
  obtain ⟨_, _, _, _, bad, _, _, _⟩ := σ
  cases bad
  · exact absurd rfl h
  · rfl

theorem specStep_bad_mono (σ : SpecSt) (e : Ev) (h : σ.bad ≠ none) : (specStep σ e).bad ≠ none := by
  cases e <;> simp [specStep, fail_of_bad, apply_ite SpecSt.bad, h]

theorem specStep_osBad_mono (σ : SpecSt) (e : Ev) (h : σ.osBad = true) : (specStep σ e).osBad = true := by
  cases e <;> simp [specStep, fail_eq, apply_ite SpecSt.osBad, h]

theorem specStep_closed (σ : SpecSt) (e : Ev) :
    (specStep σ e).closed = true ↔ σ.closed = true ∨ e = .sockClose := by
  cases e <;> simp [specStep, fail_eq, apply_ite SpecSt.closed]

theorem specRun_bad_mono (σ : SpecSt) (evs : List Ev) (h : σ.bad ≠ none) : (specRun σ evs).bad ≠ none :=
  specRun_keeps specStep_bad_mono σ evs h

theorem specRun_osBad_mono (σ : SpecSt) (evs : List Ev) (h : σ.osBad = true) : (specRun σ evs).osBad = true :=
  specRun_keeps specStep_osBad_mono σ evs h

theorem specRun_closed_mono (σ : SpecSt) (evs : List Ev) (h : σ.closed = true) : (specRun σ evs).closed = true :=
  specRun_keeps (fun σ e h => (specStep_closed σ e).2 (.inl h)) σ evs h

theorem sockClose_closed (σ : SpecSt) : (specStep σ .sockClose).closed = true :=
  (specStep_closed σ _).2 (.inr rfl)

theorem no_close_closed (σ : SpecSt) (evs : List Ev) (hn : Ev.sockClose ∉ evs) (hc : σ.closed = false) :
    (specRun σ evs).closed = false :=
  specRun_keeps_of (P := fun σ => σ.closed = false) (Q := (· ≠ .sockClose))
    (fun σ e he hc => Bool.eq_false_iff.2 fun h =>
      ((specStep_closed σ e).1 h).elim (fun h => by rw [hc] at h; cases h) he)
    σ evs (fun _ he h => hn (h ▸ he)) hc

theorem bad_none_of_run {σ : SpecSt} {evs : List Ev} (h : (specRun σ evs).bad = none) : σ.bad = none :=
  Decidable.by_contra fun hb => specRun_bad_mono σ evs hb h

theorem os_false_of_run {σ : SpecSt} {evs : List Ev} (h : (specRun σ evs).osBad = false) : σ.osBad = false :=
  Bool.eq_false_iff.2 fun hb => by rw [specRun_osBad_mono σ evs hb] at h; cases h

theorem specRun_clean_prefix (σ : SpecSt) (a b : List Ev)
    (hb : (specRun σ (a ++ b)).bad = none) : (specRun σ a).bad = none := by
  rw [specRun_append] at hb
  exact bad_none_of_run hb

theorem specRun_os_prefix (σ : SpecSt) (a b : List Ev)
    (hb : (specRun σ (a ++ b)).osBad = false) : (specRun σ a).osBad = false := by
  rw [specRun_append] at hb
  exact os_false_of_run hb

/-- the ghost totals of the spec state are the totals read off the observation -/
theorem specRun_written (σ : SpecSt) (evs : List Ev) :
    (specRun σ evs).written = σ.written ++ writtenOf σ.closed evs := by
  induction evs generalizing σ with
  | nil => simp [writtenOf]
  | cons e r ih =>
    rw [specRun_cons, ih]
    cases e <;> simp [specStep, writtenOf, fail_eq, apply_ite SpecSt.written, apply_ite SpecSt.closed]
    split <;> simp

theorem specRun_accepted (σ : SpecSt) (evs : List Ev)
    (hbad : (specRun σ evs).bad = none) (hos : (specRun σ evs).osBad = false) :
    (specRun σ evs).accepted = σ.accepted ++ acceptedOf evs := by
  induction evs generalizing σ with
  | nil => simp [acceptedOf]
  | cons e r ih =>
    rw [specRun_cons] at hbad hos ⊢
    rw [ih _ hbad hos]
    have h1 : (specStep σ e).bad = none := bad_none_of_run hbad
    have h2 : (specStep σ e).osBad = false := os_false_of_run hos
    cases e
    case acc b =>
      -- a clean step that accepts bytes is the one that moves them from `pending` to `accepted`
      simp only [specStep] at h1 h2 ⊢
      split at h1
      · exact absurd h1 (fail_bad _ _)
      · next hc =>
        rw [if_neg hc] at h2 ⊢
        split at h1
        · next hd => rw [if_pos hd] at h2; cases h2
        · next hd =>
          rw [if_neg hd]
          split at h1
          · next hp => simp [hp, acceptedOf]
          · exact absurd h1 (fail_bad _ _)
    all_goals simp [specStep, fail_eq, apply_ite SpecSt.accepted, acceptedOf]

theorem specStep_balance (σ : SpecSt) (e : Ev) (h : σ.accepted ++ σ.pending = σ.written) :
    (specStep σ e).accepted ++ (specStep σ e).pending = (specStep σ e).written := by
  cases e
  case wr p => simp only [specStep]; split <;> simp [h, ← List.append_assoc]
  case acc b =>
    simp only [specStep, fail_eq]
    repeat' split
    all_goals try exact h
    next hp => simp only [List.append_assoc, List.prefix_iff_eq_append.1 (List.isPrefixOf_iff_prefix.1 hp)]; exact h
  all_goals simpa [specStep, fail_eq, apply_ite SpecSt.accepted, apply_ite SpecSt.pending,
    apply_ite SpecSt.written] using h

theorem specRun_balance (σ : SpecSt) (evs : List Ev) (h : σ.accepted ++ σ.pending = σ.written) :
    (specRun σ evs).accepted ++ (specRun σ evs).pending = (specRun σ evs).written :=
  specRun_keeps specStep_balance σ evs h

theorem specRun_totals (evs : List Ev) (hb : (specRun {} evs).bad = none) (ho : (specRun {} evs).osBad = false) :
    acceptedOf evs ++ (specRun {} evs).pending = writtenOf false evs := by
  have h := specRun_balance {} evs rfl
  rwa [specRun_accepted {} evs hb ho, specRun_written] at h

theorem closed_no_acc (σ : SpecSt) (evs : List Ev) (hc : σ.closed = true)
    (hb : (specRun σ evs).bad = none) : ∀ x, Ev.acc x ∉ evs := by
  intro x hx
  -- the socket is still closed when the bytes are accepted, so that step fails, for good
  obtain ⟨a, b, rfl⟩ := List.append_of_mem hx
  rw [specRun_append, specRun_cons] at hb
  refine absurd (bad_none_of_run hb) ?_
  simp only [specStep, specRun_closed_mono σ a hc, if_true]
  exact fail_bad _ _

theorem no_fatal (σ : SpecSt) (evs : List Ev) (hn : ∀ e, Ev.refuse e ∈ evs → specTransient e = true)
    (hd : σ.dead = false) (ho : σ.osBad = false) :
    (specRun σ evs).dead = false ∧ (specRun σ evs).osBad = false := by
  refine specRun_keeps_of (P := fun σ => σ.dead = false ∧ σ.osBad = false)
    (Q := fun e => ∀ n, e = .refuse n → specTransient n = true) (fun σ e he ⟨hd, ho⟩ => ?_)
    σ evs (fun e h n hn' => hn n (hn' ▸ h)) ⟨hd, ho⟩
  cases e
  case refuse n => simp [specStep, he n rfl, hd, ho]
  all_goals simp [specStep, fail_eq, apply_ite SpecSt.dead, apply_ite SpecSt.osBad, hd, ho]

/-- a fatal error that is owed a signal gets it before the op ends -/
theorem owed_signalled (σ : SpecSt) (c : List Ev) (i : Bool) (d : List Ev) (ho : σ.owed = true)
    (hb : (specRun σ (c ++ .bd i :: d)).bad = none) (hn : ∀ j, Ev.bd j ∉ c) :
    Ev.evErr ∈ c ∨ Ev.evDisc ∈ c := by
  apply Decidable.by_contra
  intro hc
  -- only `evErr`, `evDisc` and the end of the op settle the signal: it is still owed at the marker
  have ho' : (specRun σ c).owed = true := by
    refine specRun_keeps_of (P := fun σ => σ.owed = true)
      (Q := fun e => e ≠ .evErr ∧ e ≠ .evDisc ∧ ∀ j, e ≠ .bd j) (fun σ e he ho => ?_) σ c
      (fun e h => ⟨fun x => hc (.inl (x ▸ h)), fun x => hc (.inr (x ▸ h)), fun j x => hn j (x ▸ h)⟩) ho
    cases e
    case bd j => exact absurd rfl (he.2.2 j)
    case evErr => exact absurd rfl he.1
    case evDisc => exact absurd rfl he.2.1
    all_goals simp [specStep, fail_eq, apply_ite SpecSt.owed, ho]
  rw [specRun_append, specRun_cons] at hb
  refine absurd (bad_none_of_run hb) ?_
  simp only [specStep, ho', if_true]
  split
  · exact fail_bad _ _
  · exact fail_bad _ .fatalUnsignalled

/-- relation between a model state and the spec state at an op boundary -/
structure R (s : State) (σ : SpecSt) : Prop where
  bad : σ.bad = none
  os : σ.osBad = false
  owed : σ.owed = false
  closed : σ.closed = !s.isOpen
  pendOpen : s.isOpen = true → σ.dead = false → σ.pending = s.buf.flatten
  pendClosed : s.isOpen = false → σ.dead = false → σ.pending = []
  inter : s.isOpen = true → s.buf ≠ [] → s.interest = true

theorem R.congr {s s' : State} {σ : SpecSt} (h : R s σ) (ho : s'.isOpen = s.isOpen)
    (hb : s'.buf = s.buf) (hi : s'.interest = s.interest) : R s' σ :=
  ⟨h.bad, h.os, h.owed, ho ▸ h.closed, ho ▸ hb ▸ h.pendOpen, ho ▸ h.pendClosed, ho ▸ hb ▸ hi ▸ h.inter⟩

theorem R.of_closed {s s' : State} {σ : SpecSt} (h : R s σ) (hc : s.isOpen = false)
    (hc' : s'.isOpen = false) : R s' σ :=
  ⟨h.bad, h.os, h.owed, by rw [h.closed, hc, hc'], (fun ho => nomatch hc'.symm.trans ho),
    fun _ => h.pendClosed hc, fun ho => nomatch hc'.symm.trans ho⟩

theorem R.clear_owed {s : State} {σ : SpecSt} (h : R s σ) : R s { σ with owed := false } :=
  ⟨h.bad, h.os, rfl, h.closed, h.pendOpen, h.pendClosed, h.inter⟩

theorem R.bd {s : State} {σ : SpecSt} (h : R s σ) : specStep σ (.bd s.interest) = σ := by
  simp only [specStep, h.owed, Bool.false_eq_true, if_false]
  refine if_neg fun hst => ?_
  simp only [Bool.and_eq_true, Bool.not_eq_true', h.closed, Bool.not_eq_false',
    List.isEmpty_eq_false_iff] at hst
  obtain ⟨⟨⟨hi, ho⟩, hd⟩, hp⟩ := hst
  rw [h.pendOpen ho hd] at hp
  have := h.inter ho (fun e => hp (by rw [e]; rfl))
  rw [hi] at this; cases this

theorem doClose_of_closed {s : State} (h : s.isOpen = false) : doClose s = (s, []) := by
  simp [doClose, h]

/-- closing is legal once nothing is pending or the endpoint is dead; the disconnect event
    also settles a signal still owed -/
theorem sim_doClose {s : State} {σ : SpecSt} (ho : s.isOpen = true) (h : R s { σ with owed := false })
    (hp : σ.dead = false → s.buf = []) : R (doClose s).1 (specRun σ (doClose s).2) := by
  have hc : σ.closed = false := by rw [h.closed, ho]; rfl
  have hq : (!σ.dead && !σ.pending.isEmpty) = false := by
    cases hd : σ.dead
    · have : σ.pending = [] := by rw [h.pendOpen ho hd, hp hd]; rfl
      simp [this]
    · rfl
  simp only [doClose, ho, if_true, specRun_cons, specRun_nil, specStep, hc, Bool.false_eq_true, if_false, hq]
  exact ⟨h.bad, h.os, rfl, rfl, (fun ho => nomatch ho), fun _ hd => by rw [h.pendOpen ho hd, hp hd]; rfl,
    fun ho => nomatch ho⟩

/-- `R` also holds inside `_on_write`, between the send and this second half -/
theorem sim_afterWrite {s : State} {σ : SpecSt} (h : R s σ) :
    R (afterWrite s).1 (specRun σ (afterWrite s).2) := by
  unfold afterWrite
  split
  · exact h
  · next hb =>
    split
    · generalize hs' : (if s.kind = Kind.server then { s with closeReq := false } else s) = s'
      have h' : R s' σ := by subst hs'; split <;> exact h.congr rfl rfl rfl
      have hb' : s'.buf = [] := by subst hs'; split <;> exact hb
      cases ho : s'.isOpen
      · rw [doClose_of_closed ho]; exact h'
      · exact sim_doClose ho h'.clear_owed fun _ => hb'
    · exact ⟨h.bad, h.os, h.owed, h.closed, h.pendOpen, h.pendClosed, fun _ hn => absurd hb hn⟩

theorem good_transient {act : Nat → ErrAct} (hg : GoodActs act) {e : Nat} (h : specTransient e = true) :
    (act e).requeue = true ∧ (act e).close = false := by
  have := hg e; simp [goodAct, h] at this; exact this

theorem good_fatal {act : Nat → ErrAct} (hg : GoodActs act) {e : Nat} (h : specTransient e = false) :
    (act e).error = true ∨ (act e).close = true := by
  have := hg e; simp [goodAct, h] at this; exact this

theorem take_prefix (n : Nat) (p f : Bytes) : (p.take n).isPrefixOf (p ++ f) = true :=
  List.isPrefixOf_iff_prefix.2 ((List.take_prefix n p).trans (List.prefix_append p f))

theorem specStep_acc {σ : SpecSt} {b : Bytes} (hc : σ.closed = false) (hd : σ.dead = false)
    (hp : b.isPrefixOf σ.pending = true) :
    specStep σ (.acc b) = { σ with pending := σ.pending.drop b.length, accepted := σ.accepted ++ b } := by
  simp only [specStep, hc, hd, hp, Bool.false_eq_true, if_false, if_true]

theorem specStep_refuse_ignored {σ : SpecSt} {e : Nat} (h : σ.closed = true ∨ specTransient e = true) :
    specStep σ (.refuse e) = σ := by
  have : (σ.closed || specTransient e) = true := by simpa using h
  simp only [specStep, this, if_true]

theorem specStep_refuse_fatal {σ : SpecSt} {e : Nat} (hc : σ.closed = false) (ht : specTransient e = false) :
    specStep σ (.refuse e) = { σ with dead := true, owed := true } := by
  simp only [specStep, hc, ht, Bool.or_self, Bool.false_eq_true, if_false]

theorem specStep_wr_closed {σ : SpecSt} {p : Bytes} (hc : σ.closed = true) : specStep σ (.wr p) = σ :=
  if_pos hc

theorem specStep_wr_open {σ : SpecSt} {p : Bytes} (hc : σ.closed = false) :
    specStep σ (.wr p) = { σ with pending := σ.pending ++ p, written := σ.written ++ p } :=
  if_neg (by simp [hc])

/-- the send is answered: the endpoint is open, and unless the socket was dead already the bytes taken are the
    front of what is pending -/
theorem sim_attempt_accept (act : Nat → ErrAct) {s : State} {σ : SpecSt} {p : Bytes} {rest : List Bytes}
    {o : Outcome} {k : Nat} (h : R s σ) (hbuf : s.isOpen = true → s.buf = p :: rest)
    (he : effective { s with buf := rest } o = .accept k) :
    (specRun σ (attempt act { s with buf := rest } p o).2).osBad = true ∨
      R (attempt act { s with buf := rest } p o).1 (specRun σ (attempt act { s with buf := rest } p o).2) := by
  -- only an open endpoint gets an answer other than EBADF
  have ho : s.isOpen = true := by
    cases ho : s.isOpen
    · simp [effective, ho] at he
    · rfl
  have hc : σ.closed = false := by rw [h.closed, ho]; rfl
  have hi : s.interest = true := h.inter ho (by simp [hbuf ho])
  simp only [attempt, he]
  cases hd : σ.dead
  · right
    have hp : σ.pending = p ++ rest.flatten := by rw [h.pendOpen ho hd, hbuf ho]; rfl
    rw [specRun_cons, specRun_nil, specStep_acc hc hd (hp ▸ take_prefix ..), hp]
    refine ⟨h.bad, h.os, h.owed, ?_, fun _ _ => ?_, ?_, ?_⟩
    · split <;> exact h.closed
    · have : (p ++ rest.flatten).drop (p.take (min k p.length)).length
          = p.drop (min k p.length) ++ rest.flatten := by
        rw [List.length_take, Nat.min_assoc, Nat.min_self, List.drop_append_of_le_length (Nat.min_le_right ..)]
      rw [this]
      split
      · rfl
      · next hlt => rw [List.drop_eq_nil_of_le (Nat.le_of_not_lt hlt)]; rfl
    · split <;> exact fun hcl => nomatch hcl.symm.trans ho
    · split <;> exact fun _ _ => hi
  · left
    simp [specStep, hc, hd]

/-- the send is refused: a closed endpoint is left alone; a transient errno puts the payload back; a fatal one is
    signalled by `error`, or by the disconnect event when `_close` is called -/
theorem sim_attempt_refuse (act : Nat → ErrAct) (hg : GoodActs act) {s : State} {σ : SpecSt} {p : Bytes}
    {rest : List Bytes} {o : Outcome} {e : Nat} (h : R s σ) (hbuf : s.isOpen = true → s.buf = p :: rest)
    (he : effective { s with buf := rest } o = .refuse e) :
    R (attempt act { s with buf := rest } p o).1 (specRun σ (attempt act { s with buf := rest } p o).2) := by
  simp only [attempt, he]
  generalize hs1 : (if (act e).requeue = true then ({ s with buf := p :: rest } : State)
    else { s with buf := rest }) = s1
  have ho1 : s1.isOpen = s.isOpen := by subst hs1; split <;> rfl
  have hi1 : s1.interest = s.interest := by subst hs1; split <;> rfl
  have hev (τ : SpecSt) : specRun τ (if (act e).error = true then [Ev.evErr] else [])
      = if (act e).error = true then { τ with owed := false } else τ := by
    split <;> rfl
  rw [List.cons_append, specRun_cons, specRun_append, hev]
  cases ho : s.isOpen
  · have h1 : R s1 σ := h.of_closed ho (ho1.trans ho)
    rw [specStep_refuse_ignored (.inl (by rw [h.closed, ho]; rfl)), doClose_of_closed (ho1.trans ho), ite_self]
    split
    · exact h1.clear_owed
    · exact h1
  · have hc : σ.closed = false := by rw [h.closed, ho]; rfl
    have hi : s.interest = true := h.inter ho (by simp [hbuf ho])
    cases ht : specTransient e
    · have hdead : R s1 { σ with dead := true, owed := false } :=
        ⟨h.bad, h.os, rfl, by rw [ho1]; exact h.closed, (fun _ hd => nomatch hd), (fun _ hd => nomatch hd),
          fun _ _ => hi1.trans hi⟩
      rw [specStep_refuse_fatal hc ht]
      cases hcl : (act e).close
      · have herr : (act e).error = true := (good_fatal hg ht).resolve_right (by simp [hcl])
        simp only [herr, if_true, Bool.false_eq_true, if_false, specRun_nil]
        exact hdead
      · simp only [if_true]
        refine sim_doClose (ho1.trans ho) ?_ (fun hd => ?_)
        · split <;> exact hdead
        · split at hd <;> cases hd
    · obtain ⟨hrq, hcl⟩ := good_transient hg ht
      have h1 : R s1 σ := by
        subst hs1
        rw [if_pos hrq]
        exact h.congr rfl (hbuf ho).symm rfl
      simp only [specStep_refuse_ignored (.inr ht), hcl, Bool.false_eq_true, if_false, specRun_nil]
      split
      · exact h1.clear_owed
      · exact h1

theorem sim_attempt (act : Nat → ErrAct) (hg : GoodActs act) {s : State} {σ : SpecSt} (p : Bytes)
    (rest : List Bytes) (o : Outcome) (h : R s σ) (hbuf : s.isOpen = true → s.buf = p :: rest) :
    (specRun σ (attempt act { s with buf := rest } p o).2).osBad = true ∨
      R (attempt act { s with buf := rest } p o).1 (specRun σ (attempt act { s with buf := rest } p o).2) := by
  cases he : effective { s with buf := rest } o with
  | accept k => exact sim_attempt_accept act h hbuf he
  | refuse e => exact .inr (sim_attempt_refuse act hg h hbuf he)

theorem sim_stepCore (act : Nat → ErrAct) (hg : GoodActs act) {s : State} {σ : SpecSt} (op : Op)
    (h : R s σ) :
    (specRun σ (stepCore act s op).2).osBad = true ∨
      R (stepCore act s op).1 (specRun σ (stepCore act s op).2) := by
  cases op with
  | write p =>
    right
    simp only [stepCore]
    rcases Bool.eq_false_or_eq_true s.isOpen with ho | ho
    · rw [if_neg (by simp [ho]), specRun_cons, specRun_nil, specStep_wr_open (by rw [h.closed, ho]; rfl)]
      exact ⟨h.bad, h.os, h.owed, h.closed, fun _ hd => by simp [h.pendOpen ho hd],
        (fun hc => nomatch hc.symm.trans ho), fun _ _ => rfl⟩
    · -- the spec ignores a write to a closed endpoint; so does the server, the others only buffer it
      rw [apply_ite Prod.snd, ite_self, specRun_cons, specRun_nil, specStep_wr_closed (by rw [h.closed, ho]; rfl)]
      split
      · exact h
      · exact h.of_closed ho ho
  | close =>
    right
    simp only [stepCore]
    split
    · next hb =>
      show R (doClose s).1 (specRun σ (.closeReq :: (doClose s).2))
      rw [specRun_cons]
      cases ho : s.isOpen
      · rw [doClose_of_closed ho]; exact h
      · exact sim_doClose ho h.clear_owed fun _ => hb
    · exact h.congr rfl rfl rfl
  | writable o =>
    simp only [stepCore]
    split
    · exact .inr (sim_afterWrite h)
    · next p rest hb =>
      split
      · next hk =>
        show (specRun σ ((attempt act { s with buf := rest } p o).2
            ++ (afterWrite (attempt act { s with buf := rest } p o).1).2)).osBad = true ∨
          R (afterWrite (attempt act { s with buf := rest } p o).1).1
            (specRun σ ((attempt act { s with buf := rest } p o).2
              ++ (afterWrite (attempt act { s with buf := rest } p o).1).2))
        rw [specRun_append]
        exact (sim_attempt act hg p rest o h fun _ => hb).imp (specRun_osBad_mono _ _) sim_afterWrite
      · next hk =>
        have ho : s.isOpen = false := by cases ho : s.isOpen <;> simp [ho] at hk ⊢
        have h0 : R { s with buf := rest } σ := h.of_closed ho ho
        split
        · exact .inr (sim_afterWrite h0)
        · exact .inr h0

theorem sim_step (act : Nat → ErrAct) (hg : GoodActs act) (s : State) (σ : SpecSt) (op : Op) (h : R s σ) :
    (specRun σ (step act s op).2).osBad = true ∨ R (step act s op).1 (specRun σ (step act s op).2) := by
  show (specRun σ ((stepCore act s op).2 ++ [.bd (stepCore act s op).1.interest])).osBad = true ∨
    R (stepCore act s op).1 (specRun σ ((stepCore act s op).2 ++ [.bd (stepCore act s op).1.interest]))
  rw [specRun_append]
  refine (sim_stepCore act hg op h).imp (specRun_osBad_mono _ _) fun hR => ?_
  rw [specRun_cons, specRun_nil, hR.bd]
  exact hR

theorem sim_run (act : Nat → ErrAct) (hg : GoodActs act) (ops : List Op) (s : State) (σ : SpecSt) (h : R s σ) :
    (specRun σ (run act s ops).2).osBad = true ∨ R (run act s ops).1 (specRun σ (run act s ops).2) := by
  induction ops generalizing s σ with
  | nil => exact Or.inr h
  | cons op ops ih =>
    simp only [run, specRun_append]
    rcases sim_step act hg s σ op h with hos | hR
    · exact Or.inl (specRun_osBad_mono _ _ hos)
    · exact ih _ _ hR

theorem R_init (k : Kind) : R (init k) {} := by
  constructor <;> simp [init]

theorem doClose_closed (s : State) : (doClose s).1.isOpen = false := by
  unfold doClose; split <;> simp_all

theorem afterWrite_closed (s : State) (h : s.isOpen = false) : (afterWrite s).1.isOpen = false := by
  unfold afterWrite; split
  · exact h
  · split
    · exact doClose_closed _
    · exact h

theorem attempt_closed (act : Nat → ErrAct) (s : State) (p : Bytes) (o : Outcome) (h : s.isOpen = false) :
    (attempt act s p o).1.isOpen = false := by
  unfold attempt; split
  · simp only; split <;> simp_all
  · simp only
    split <;> split <;> first | exact doClose_closed _ | simp_all

theorem step_closed (act : Nat → ErrAct) (s : State) (op : Op) (h : s.isOpen = false) :
    (step act s op).1.isOpen = false := by
  cases op with
  | write p => simp only [step, stepCore]; split <;> simpa using h
  | close =>
    simp only [step, stepCore]; split
    · exact doClose_closed _
    · exact h
  | writable o =>
    simp only [step, stepCore]; split
    · exact afterWrite_closed _ h
    · split
      · exact afterWrite_closed _ (attempt_closed _ _ _ _ h)
      · split
        · exact afterWrite_closed _ h
        · exact h

/-- writer interest is registered exactly while the open endpoint has something buffered -/
def InterestInv (s : State) : Prop := s.isOpen = true → (s.interest = true ↔ s.buf ≠ [])

theorem InterestInv.of_closed {s : State} (h : s.isOpen = false) : InterestInv s :=
  fun h' => nomatch h.symm.trans h'

/-- the second half of `_on_write` drops the interest that an emptied buffer no longer needs:
    before it, only "buffered implies registered" (`R.inter`) is to be expected -/
theorem afterWrite_interest (s : State) (h : s.isOpen = true → s.buf ≠ [] → s.interest = true) :
    InterestInv (afterWrite s).1 := by
  unfold afterWrite
  split
  · next hb => intro ho; simp [h ho (by simp [hb]), hb]
  · next hb =>
    split
    · exact .of_closed (doClose_closed _)
    · intro _; simp [hb]

theorem attempt_interest (act : Nat → ErrAct) (s : State) (p : Bytes) (o : Outcome) :
    (attempt act s p o).1.isOpen = false ∨ (attempt act s p o).1.interest = s.interest := by
  unfold attempt
  cases effective s o with
  | accept k => right; dsimp only; split <;> rfl
  | refuse e =>
    dsimp only
    cases (act e).close with
    | true => exact .inl (doClose_closed _)
    | false => right; simp only [Bool.false_eq_true, if_false]; split <;> rfl

theorem interest_step (act : Nat → ErrAct) (s : State) (op : Op) (h : InterestInv s) :
    InterestInv (step act s op).1 := by
  cases hopen : s.isOpen with
  | false => exact .of_closed (step_closed act s op hopen)
  | true =>
    have hi := (h hopen).2
    cases op with
    | write p => intro _; simp [step, stepCore, hopen]
    | close =>
      simp only [step, stepCore]; split
      · exact .of_closed (doClose_closed _)
      · exact h
    | writable o =>
      simp only [step, stepCore]; split
      · exact afterWrite_interest s fun _ => hi
      · next hb =>
        rw [if_pos (by simp [hopen])]
        apply afterWrite_interest
        intro ho _
        rcases attempt_interest act { s with buf := _ } _ o with hc | hc
        · exact nomatch hc.symm.trans ho
        · exact hc.trans (hi (by simp [hb]))

theorem interest_run (act : Nat → ErrAct) (ops : List Op) (s : State) (h : InterestInv s) :
    InterestInv (run act s ops).1 := by
  induction ops generalizing s with
  | nil => exact h
  | cons op ops ih => exact ih _ (interest_step act s op h)

/-- a closed server connection: no send is even attempted (and it stays closed: `step_closed`) -/
theorem server_closed_step (act : Nat → ErrAct) (s : State) (op : Op)
    (hk : s.kind = .server) (hc : s.isOpen = false) :
    (step act s op).1.kind = .server ∧
      ∀ ev ∈ (step act s op).2, (∀ b, ev ≠ .acc b) ∧ (∀ e, ev ≠ .refuse e) ∧ ev ≠ .sockClose := by
  obtain ⟨kind, buf, closeReq, isOpen, interest⟩ := s
  simp only at hk hc
  subst hk hc
  cases op with
  | write p => simp [step, stepCore]
  | close => cases buf <;> simp [step, stepCore, doClose]
  | writable o =>
    cases buf with
    | nil => cases closeReq <;> simp [step, stepCore, afterWrite, doClose]
    | cons p rest => cases rest <;> cases closeReq <;> simp [step, stepCore, afterWrite, doClose]

theorem server_closed_run (act : Nat → ErrAct) (ops : List Op) (s : State)
    (hk : s.kind = .server) (hc : s.isOpen = false) :
    ∀ ev ∈ (run act s ops).2, (∀ b, ev ≠ .acc b) ∧ (∀ e, ev ≠ .refuse e) ∧ ev ≠ .sockClose := by
  induction ops generalizing s with
  | nil => simp [run]
  | cons op ops ih =>
    have ⟨h1, h3⟩ := server_closed_step act s op hk hc
    intro ev hev
    simp only [run, List.mem_append] at hev
    rcases hev with h | h
    · exact h3 ev h
    · exact ih _ h1 (step_closed act s op hc) ev h

end Stream
end CV
