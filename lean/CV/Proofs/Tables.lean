import CV.Model.Core.Pure
/-
The table algebra of the core machine: what `St.ev/wait/gen/handler/comp` and the tables themselves read after each
primitive of `Pure.lean` (`modEv/modWait/modComp/modTimer/setGen/logE/tick1/addEv/addH/addGen/addWait`): the other tables
are untouched (`rfl`, tagged `simp`), the row written is `f` of the old row if it exists, a new row has the old length as
its id, a row out of range reads as the default.  Every proof that looks into a table after an update starts here.
(Most of the lemmas carry the prefix `w6_`, which here does not mean C06.)
-/
namespace CV.Core

theorem w6_getD_modify {α} (l : List α) (i j : Nat) (f : α → α) (d : α) (hd : f d = d) :
    (l.modify i f).getD j d = if j = i then f (l.getD j d) else l.getD j d := by
  simp only [List.getD_eq_getElem?_getD, List.getElem?_modify]
  by_cases h : i = j
  · subst h
    simp only [if_true]
    cases hl : l[i]? <;> simp [hd]
  · have h' : ¬ j = i := fun e => h e.symm
    simp [h, h']

theorem w6_getD_modify_ne {α} (l : List α) (i j : Nat) (f : α → α) (d : α) (h : j ≠ i) :
    (l.modify i f).getD j d = l.getD j d := by
  simp only [List.getD_eq_getElem?_getD, List.getElem?_modify]
  have h' : ¬ i = j := fun e => h e.symm
  simp [h']

theorem w6_getD_modify_lt {α} (l : List α) (i : Nat) (f : α → α) (d : α) (h : i < l.length) :
    (l.modify i f).getD i d = f (l.getD i d) := by
  simp only [List.getD_eq_getElem?_getD, List.getElem?_modify]
  simp [List.getElem?_eq_getElem h]

theorem w6_getD_modify_ge {α} (l : List α) (i j : Nat) (f : α → α) (d : α) (h : l.length ≤ i) :
    (l.modify i f).getD j d = l.getD j d := by
  simp only [List.getD_eq_getElem?_getD, List.getElem?_modify]
  by_cases hij : i = j
  · subst hij; simp [List.getElem?_eq_none h]
  · simp [hij]

theorem w6_getD_modify_eq {α} (l : List α) (i j : Nat) (f : α → α) (d : α) :
    (l.modify i f).getD j d = if j = i ∧ j < l.length then f (l.getD j d) else l.getD j d := by
  by_cases h1 : j = i
  · subst h1
    by_cases h2 : j < l.length
    · rw [if_pos ⟨rfl, h2⟩]; exact w6_getD_modify_lt _ _ _ _ h2
    · rw [if_neg fun h => h2 h.2]; exact w6_getD_modify_ge _ _ _ _ _ (Nat.le_of_not_lt h2)
  · rw [if_neg fun h => h1 h.1]; exact w6_getD_modify_ne _ _ _ _ _ h1

theorem mem_modify {α} {l : List α} {i : Nat} {f : α → α} {a : α} (h : a ∈ l.modify i f) : a ∈ l ∨ ∃ b ∈ l, a = f b := by
  obtain ⟨j, hj, rfl⟩ := List.getElem_of_mem h
  rw [List.length_modify] at hj
  rw [List.getElem_modify]
  split
  · exact Or.inr ⟨_, List.getElem_mem hj, rfl⟩
  · exact Or.inl (List.getElem_mem hj)

theorem w6_getD_append_single {α} (l : List α) (x d : α) (j : Nat) :
    (l ++ [x]).getD j d = if j = l.length then x else l.getD j d := by
  simp only [List.getD_eq_getElem?_getD]
  by_cases h : j < l.length
  · have : j ≠ l.length := Nat.ne_of_lt h
    simp [List.getElem?_append_left h, this]
  · by_cases h2 : j = l.length
    · subst h2; simp
    · have h3 : l.length < j := by omega
      have h4 : l.length ≤ j := by omega
      rw [List.getElem?_append_right h4]
      have : j - l.length ≠ 0 := by omega
      simp [h2, List.getElem?_eq_none h4]
      cases hh : j - l.length with
      | zero => omega
      | succ n => rfl

theorem o2_getD_append (hs l : List Handler) {x : Nat} (hx : x < hs.length) :
    (hs ++ l).getD x dfltHandler = hs.getD x dfltHandler := by
  rw [List.getD_eq_getElem?_getD, List.getD_eq_getElem?_getD, List.getElem?_append_left hx]

theorem modify_append_length {α} (f : α → α) (a : α) (l : List α) : (l ++ [a]).modify l.length f = l ++ [f a] := by
  induction l with
  | nil => rfl
  | cons x l ih => simp [ih]

namespace St
variable (t : St)

@[simp] theorem w6_modEv_waits (e : Nat) (f : Ev → Ev) : (t.modEv e f).waits = t.waits := rfl
@[simp] theorem w6_modEv_gens (e : Nat) (f : Ev → Ev) : (t.modEv e f).gens = t.gens := rfl
@[simp] theorem w6_modEv_hs (e : Nat) (f : Ev → Ev) : (t.modEv e f).hs = t.hs := rfl
@[simp] theorem w6_modEv_comps (e : Nat) (f : Ev → Ev) : (t.modEv e f).comps = t.comps := rfl
@[simp] theorem w6_modEv_log (e : Nat) (f : Ev → Ev) : (t.modEv e f).log = t.log := rfl
@[simp] theorem w6_modEv_progs (e : Nat) (f : Ev → Ev) : (t.modEv e f).progs = t.progs := rfl
@[simp] theorem w6_modEv_tmpls (e : Nat) (f : Ev → Ev) : (t.modEv e f).tmpls = t.tmpls := rfl

@[simp] theorem w6_modEv_evs_length (e : Nat) (f : Ev → Ev) : (t.modEv e f).evs.length = t.evs.length := by
  simp [modEv]

@[simp] theorem w6_modEv_wait (e : Nat) (f : Ev → Ev) (w : Nat) : (t.modEv e f).wait w = t.wait w := rfl
@[simp] theorem w6_modEv_gen (e : Nat) (f : Ev → Ev) (g : Nat) : (t.modEv e f).gen g = t.gen g := rfl
@[simp] theorem w6_modEv_handler (e : Nat) (f : Ev → Ev) (h : Nat) : (t.modEv e f).handler h = t.handler h := rfl
@[simp] theorem w6_modEv_comp (e : Nat) (f : Ev → Ev) (c : Nat) : (t.modEv e f).comp c = t.comp c := rfl

theorem w6_modEv_ev_ne (e : Nat) (f : Ev → Ev) (e' : Nat) (h : e' ≠ e) : (t.modEv e f).ev e' = t.ev e' :=
  w6_getD_modify_ne _ _ _ _ _ h

theorem w6_modEv_ev_lt (e : Nat) (f : Ev → Ev) (h : e < t.evs.length) : (t.modEv e f).ev e = f (t.ev e) :=
  w6_getD_modify_lt _ _ _ _ h

theorem w6_modEv_ev_ge (e : Nat) (f : Ev → Ev) (e' : Nat) (h : t.evs.length ≤ e) : (t.modEv e f).ev e' = t.ev e' :=
  w6_getD_modify_ge _ _ _ _ _ h

theorem w6_modEv_ev_eq (e : Nat) (f : Ev → Ev) (e' : Nat) :
    (t.modEv e f).ev e' = if e' = e ∧ e' < t.evs.length then f (t.ev e') else t.ev e' :=
  w6_getD_modify_eq _ _ _ _ _

theorem w6_modEv_ev_pres {β} (p : Ev → β) (e : Nat) (f : Ev → Ev) (hf : ∀ x, p (f x) = p x) (e' : Nat) :
    p ((t.modEv e f).ev e') = p (t.ev e') := by
  rw [w6_modEv_ev_eq]; split
  · exact hf _
  · rfl

@[simp] theorem w6_modWait_evs (w : Nat) (f : WaitSt → WaitSt) : (t.modWait w f).evs = t.evs := rfl
@[simp] theorem w6_modWait_gens (w : Nat) (f : WaitSt → WaitSt) : (t.modWait w f).gens = t.gens := rfl
@[simp] theorem w6_modWait_hs (w : Nat) (f : WaitSt → WaitSt) : (t.modWait w f).hs = t.hs := rfl
@[simp] theorem w6_modWait_comps (w : Nat) (f : WaitSt → WaitSt) : (t.modWait w f).comps = t.comps := rfl
@[simp] theorem w6_modWait_log (w : Nat) (f : WaitSt → WaitSt) : (t.modWait w f).log = t.log := rfl
@[simp] theorem w6_modWait_progs (w : Nat) (f : WaitSt → WaitSt) : (t.modWait w f).progs = t.progs := rfl

@[simp] theorem w6_modWait_waits_length (w : Nat) (f : WaitSt → WaitSt) : (t.modWait w f).waits.length = t.waits.length := by
  simp [modWait]

@[simp] theorem w6_modWait_ev (w : Nat) (f : WaitSt → WaitSt) (e : Nat) : (t.modWait w f).ev e = t.ev e := rfl
@[simp] theorem w6_modWait_gen (w : Nat) (f : WaitSt → WaitSt) (g : Nat) : (t.modWait w f).gen g = t.gen g := rfl
@[simp] theorem w6_modWait_handler (w : Nat) (f : WaitSt → WaitSt) (h : Nat) : (t.modWait w f).handler h = t.handler h := rfl
@[simp] theorem w6_modWait_comp (w : Nat) (f : WaitSt → WaitSt) (c : Nat) : (t.modWait w f).comp c = t.comp c := rfl

theorem w6_modWait_wait_ne (w : Nat) (f : WaitSt → WaitSt) (w' : Nat) (h : w' ≠ w) : (t.modWait w f).wait w' = t.wait w' :=
  w6_getD_modify_ne _ _ _ _ _ h

theorem w6_modWait_wait_lt (w : Nat) (f : WaitSt → WaitSt) (h : w < t.waits.length) : (t.modWait w f).wait w = f (t.wait w) :=
  w6_getD_modify_lt _ _ _ _ h

theorem w6_modWait_wait_ge (w : Nat) (f : WaitSt → WaitSt) (w' : Nat) (h : t.waits.length ≤ w) : (t.modWait w f).wait w' = t.wait w' :=
  w6_getD_modify_ge _ _ _ _ _ h

theorem w6_modWait_wait_eq (w : Nat) (f : WaitSt → WaitSt) (w' : Nat) :
    (t.modWait w f).wait w' = if w' = w ∧ w' < t.waits.length then f (t.wait w') else t.wait w' :=
  w6_getD_modify_eq _ _ _ _ _

theorem w6_modWait_wait_pres {β} (p : WaitSt → β) (w : Nat) (f : WaitSt → WaitSt) (hf : ∀ x, p (f x) = p x) (w' : Nat) :
    p ((t.modWait w f).wait w') = p (t.wait w') := by
  rw [w6_modWait_wait_eq]; split
  · exact hf _
  · rfl

@[simp] theorem w6_modComp_evs (c : Nat) (f : Comp → Comp) : (t.modComp c f).evs = t.evs := rfl
@[simp] theorem w6_modComp_gens (c : Nat) (f : Comp → Comp) : (t.modComp c f).gens = t.gens := rfl
@[simp] theorem w6_modComp_hs (c : Nat) (f : Comp → Comp) : (t.modComp c f).hs = t.hs := rfl
@[simp] theorem w6_modComp_waits (c : Nat) (f : Comp → Comp) : (t.modComp c f).waits = t.waits := rfl
@[simp] theorem w6_modComp_log (c : Nat) (f : Comp → Comp) : (t.modComp c f).log = t.log := rfl
@[simp] theorem w6_modComp_progs (c : Nat) (f : Comp → Comp) : (t.modComp c f).progs = t.progs := rfl

@[simp] theorem w6_modComp_comps_length (c : Nat) (f : Comp → Comp) : (t.modComp c f).comps.length = t.comps.length := by
  simp [modComp]

@[simp] theorem w6_modComp_ev (c : Nat) (f : Comp → Comp) (e : Nat) : (t.modComp c f).ev e = t.ev e := rfl
@[simp] theorem w6_modComp_gen (c : Nat) (f : Comp → Comp) (g : Nat) : (t.modComp c f).gen g = t.gen g := rfl
@[simp] theorem w6_modComp_handler (c : Nat) (f : Comp → Comp) (h : Nat) : (t.modComp c f).handler h = t.handler h := rfl
@[simp] theorem w6_modComp_wait (c : Nat) (f : Comp → Comp) (w : Nat) : (t.modComp c f).wait w = t.wait w := rfl

theorem w6_modComp_ge (c : Nat) (f : Comp → Comp) (h : t.comps.length ≤ c) : t.modComp c f = t := by
  unfold modComp; rw [List.modify_eq_self h]

theorem w6_modComp_comp_ne (c : Nat) (f : Comp → Comp) (c' : Nat) (h : c' ≠ c) : (t.modComp c f).comp c' = t.comp c' :=
  w6_getD_modify_ne _ _ _ _ _ h

theorem w6_modComp_comp_lt (c : Nat) (f : Comp → Comp) (h : c < t.comps.length) : (t.modComp c f).comp c = f (t.comp c) :=
  w6_getD_modify_lt _ _ _ _ h

theorem w6_modComp_comp_ge (c : Nat) (f : Comp → Comp) (c' : Nat) (h : t.comps.length ≤ c) : (t.modComp c f).comp c' = t.comp c' :=
  w6_getD_modify_ge _ _ _ _ _ h

theorem w6_modComp_comp_eq (c : Nat) (f : Comp → Comp) (c' : Nat) :
    (t.modComp c f).comp c' = if c' = c ∧ c' < t.comps.length then f (t.comp c') else t.comp c' :=
  w6_getD_modify_eq _ _ _ _ _

/-- the same with the test written `c = c'`, as the statements that name the written row first have it -/
theorem comp_modComp (c : Nat) (f : Comp → Comp) (c' : Nat) :
    (t.modComp c f).comp c' = if c = c' ∧ c' < t.comps.length then f (t.comp c') else t.comp c' := by
  simp only [w6_modComp_comp_eq, eq_comm (a := c)]

theorem w6_modComp_comp_pres {β} (p : Comp → β) (c : Nat) (f : Comp → Comp) (hf : ∀ x, p (f x) = p x) (c' : Nat) :
    p ((t.modComp c f).comp c') = p (t.comp c') := by
  rw [w6_modComp_comp_eq]; split
  · exact hf _
  · rfl

theorem w6_modComp_comp_htab (c : Nat) (f : Comp → Comp) (hf : ∀ x, (f x).htab = x.htab) (c' : Nat) :
    ((t.modComp c f).comp c').htab = (t.comp c').htab := w6_modComp_comp_pres t (fun x => x.htab) c f hf c'

theorem w6_modComp_comp_root (c : Nat) (f : Comp → Comp) (hf : ∀ x, (f x).root = x.root) (c' : Nat) :
    ((t.modComp c f).comp c').root = (t.comp c').root := w6_modComp_comp_pres t (fun x => x.root) c f hf c'

theorem w6_modComp_comp_tasks (c : Nat) (f : Comp → Comp) (hf : ∀ x, (f x).tasks = x.tasks) (c' : Nat) :
    ((t.modComp c f).comp c').tasks = (t.comp c').tasks := w6_modComp_comp_pres t (fun x => x.tasks) c f hf c'

/-- rewriting form: any record update that copies `htab` -/
theorem w6_modComp_mk_htab (c c' : Nat) (a1 a2 : Comp → Nat) (a3 : Comp → List Nat) (a4 : Comp → Chan)
    (a6 : Comp → List Nat) (a7 : Comp → Bool) (a8 : Comp → EQ) (a9 : Comp → List Task)
    (a10 : Comp → List ((Name × List Chan) × List Nat)) (a11 a12 a13 a14 : Comp → Bool) (a15 : Comp → Option Nat)
    (a16 : Comp → Code) :
    ((t.modComp c fun x => ⟨a1 x, a2 x, a3 x, a4 x, x.htab, a6 x, a7 x, a8 x, a9 x, a10 x, a11 x, a12 x, a13 x, a14 x,
      a15 x, a16 x⟩).comp c').htab = (t.comp c').htab :=
  w6_modComp_comp_htab t c _ (by intro x; rfl) c'

/-- rewriting form: any record update that copies `tasks` -/
theorem w6_modComp_mk_tasks (c c' : Nat) (a1 a2 : Comp → Nat) (a3 : Comp → List Nat) (a4 : Comp → Chan)
    (a5 : Comp → List (HKey × Nat))
    (a6 : Comp → List Nat) (a7 : Comp → Bool) (a8 : Comp → EQ)
    (a10 : Comp → List ((Name × List Chan) × List Nat)) (a11 a12 a13 a14 : Comp → Bool) (a15 : Comp → Option Nat)
    (a16 : Comp → Code) :
    ((t.modComp c fun x => ⟨a1 x, a2 x, a3 x, a4 x, a5 x, a6 x, a7 x, a8 x, x.tasks, a10 x, a11 x, a12 x, a13 x, a14 x,
      a15 x, a16 x⟩).comp c').tasks = (t.comp c').tasks :=
  w6_modComp_comp_tasks t c _ (by intro x; rfl) c'

theorem w6_modComp_comp_cases (c : Nat) (f : Comp → Comp) (c' : Nat) :
    (t.modComp c f).comp c' = t.comp c' ∨ (c' = c ∧ (t.modComp c f).comp c' = f (t.comp c')) := by
  rw [w6_modComp_comp_eq]; split
  · rename_i h; exact Or.inr ⟨h.1, rfl⟩
  · exact Or.inl rfl

@[simp] theorem w6_modTimer_evs (i : Nat) (f : TimerSt → TimerSt) : (t.modTimer i f).evs = t.evs := rfl
@[simp] theorem w6_modTimer_gens (i : Nat) (f : TimerSt → TimerSt) : (t.modTimer i f).gens = t.gens := rfl
@[simp] theorem w6_modTimer_hs (i : Nat) (f : TimerSt → TimerSt) : (t.modTimer i f).hs = t.hs := rfl
@[simp] theorem w6_modTimer_waits (i : Nat) (f : TimerSt → TimerSt) : (t.modTimer i f).waits = t.waits := rfl
@[simp] theorem w6_modTimer_comps (i : Nat) (f : TimerSt → TimerSt) : (t.modTimer i f).comps = t.comps := rfl
@[simp] theorem w6_modTimer_log (i : Nat) (f : TimerSt → TimerSt) : (t.modTimer i f).log = t.log := rfl
@[simp] theorem w6_modTimer_progs (i : Nat) (f : TimerSt → TimerSt) : (t.modTimer i f).progs = t.progs := rfl
@[simp] theorem w6_modTimer_ev (i : Nat) (f : TimerSt → TimerSt) (e : Nat) : (t.modTimer i f).ev e = t.ev e := rfl
@[simp] theorem w6_modTimer_gen (i : Nat) (f : TimerSt → TimerSt) (g : Nat) : (t.modTimer i f).gen g = t.gen g := rfl
@[simp] theorem w6_modTimer_handler (i : Nat) (f : TimerSt → TimerSt) (h : Nat) : (t.modTimer i f).handler h = t.handler h := rfl
@[simp] theorem w6_modTimer_wait (i : Nat) (f : TimerSt → TimerSt) (w : Nat) : (t.modTimer i f).wait w = t.wait w := rfl
@[simp] theorem w6_modTimer_comp (i : Nat) (f : TimerSt → TimerSt) (c : Nat) : (t.modTimer i f).comp c = t.comp c := rfl

@[simp] theorem w6_logE_evs (x : Entry) : (t.logE x).evs = t.evs := rfl
@[simp] theorem w6_logE_gens (x : Entry) : (t.logE x).gens = t.gens := rfl
@[simp] theorem w6_logE_hs (x : Entry) : (t.logE x).hs = t.hs := rfl
@[simp] theorem w6_logE_waits (x : Entry) : (t.logE x).waits = t.waits := rfl
@[simp] theorem w6_logE_comps (x : Entry) : (t.logE x).comps = t.comps := rfl
@[simp] theorem w6_logE_log (x : Entry) : (t.logE x).log = x :: t.log := rfl
@[simp] theorem w6_logE_progs (x : Entry) : (t.logE x).progs = t.progs := rfl
@[simp] theorem w6_logE_ev (x : Entry) (e : Nat) : (t.logE x).ev e = t.ev e := rfl
@[simp] theorem w6_logE_gen (x : Entry) (g : Nat) : (t.logE x).gen g = t.gen g := rfl
@[simp] theorem w6_logE_handler (x : Entry) (h : Nat) : (t.logE x).handler h = t.handler h := rfl
@[simp] theorem w6_logE_wait (x : Entry) (w : Nat) : (t.logE x).wait w = t.wait w := rfl
@[simp] theorem w6_logE_comp (x : Entry) (c : Nat) : (t.logE x).comp c = t.comp c := rfl

@[simp] theorem w6_tick1_evs (d : Int) : (t.tick1 d).evs = t.evs := rfl
@[simp] theorem w6_tick1_gens (d : Int) : (t.tick1 d).gens = t.gens := rfl
@[simp] theorem w6_tick1_hs (d : Int) : (t.tick1 d).hs = t.hs := rfl
@[simp] theorem w6_tick1_waits (d : Int) : (t.tick1 d).waits = t.waits := rfl
@[simp] theorem w6_tick1_comps (d : Int) : (t.tick1 d).comps = t.comps := rfl
@[simp] theorem w6_tick1_log (d : Int) : (t.tick1 d).log = t.log := rfl
@[simp] theorem w6_tick1_progs (d : Int) : (t.tick1 d).progs = t.progs := rfl
@[simp] theorem w6_tick1_ev (d : Int) (e : Nat) : (t.tick1 d).ev e = t.ev e := rfl
@[simp] theorem w6_tick1_gen (d : Int) (g : Nat) : (t.tick1 d).gen g = t.gen g := rfl
@[simp] theorem w6_tick1_handler (d : Int) (h : Nat) : (t.tick1 d).handler h = t.handler h := rfl
@[simp] theorem w6_tick1_wait (d : Int) (w : Nat) : (t.tick1 d).wait w = t.wait w := rfl
@[simp] theorem w6_tick1_comp (d : Int) (c : Nat) : (t.tick1 d).comp c = t.comp c := rfl

@[simp] theorem w6_setGen_evs (g : Nat) (x : GenRec) : (t.setGen g x).evs = t.evs := rfl
@[simp] theorem w6_setGen_hs (g : Nat) (x : GenRec) : (t.setGen g x).hs = t.hs := rfl
@[simp] theorem w6_setGen_waits (g : Nat) (x : GenRec) : (t.setGen g x).waits = t.waits := rfl
@[simp] theorem w6_setGen_comps (g : Nat) (x : GenRec) : (t.setGen g x).comps = t.comps := rfl
@[simp] theorem w6_setGen_log (g : Nat) (x : GenRec) : (t.setGen g x).log = t.log := rfl
@[simp] theorem w6_setGen_progs (g : Nat) (x : GenRec) : (t.setGen g x).progs = t.progs := rfl

@[simp] theorem w6_setGen_gens_length (g : Nat) (x : GenRec) : (t.setGen g x).gens.length = t.gens.length := by
  simp [setGen]

@[simp] theorem w6_setGen_ev (g : Nat) (x : GenRec) (e : Nat) : (t.setGen g x).ev e = t.ev e := rfl
@[simp] theorem w6_setGen_handler (g : Nat) (x : GenRec) (h : Nat) : (t.setGen g x).handler h = t.handler h := rfl
@[simp] theorem w6_setGen_wait (g : Nat) (x : GenRec) (w : Nat) : (t.setGen g x).wait w = t.wait w := rfl
@[simp] theorem w6_setGen_comp (g : Nat) (x : GenRec) (c : Nat) : (t.setGen g x).comp c = t.comp c := rfl

theorem w6_setGen_gen_ne (g : Nat) (x : GenRec) (g' : Nat) (h : g' ≠ g) : (t.setGen g x).gen g' = t.gen g' := by
  simp only [gen, setGen, List.getD_eq_getElem?_getD, List.getElem?_set]
  have : ¬ g = g' := fun e => h e.symm
  simp [this]

theorem w6_setGen_gen_lt (g : Nat) (x : GenRec) (h : g < t.gens.length) : (t.setGen g x).gen g = x := by
  simp [gen, setGen, List.getD_eq_getElem?_getD, h]

theorem w6_setGen_gen_ge (g : Nat) (x : GenRec) (g' : Nat) (h : t.gens.length ≤ g) : (t.setGen g x).gen g' = t.gen g' := by
  simp only [gen, setGen, List.getD_eq_getElem?_getD, List.getElem?_set]
  by_cases hg : g = g'
  · subst hg
    have : ¬ g < t.gens.length := by omega
    simp [this]
  · simp [hg]

theorem w6_setGen_gen_cases (g : Nat) (x : GenRec) (g' : Nat) :
    (t.setGen g x).gen g' = t.gen g' ∨ (g' = g ∧ g < t.gens.length ∧ (t.setGen g x).gen g' = x) := by
  by_cases h1 : g' = g
  · subst h1
    by_cases h2 : g' < t.gens.length
    · exact Or.inr ⟨rfl, h2, w6_setGen_gen_lt _ _ _ h2⟩
    · exact Or.inl (w6_setGen_gen_ge _ _ _ _ (by omega))
  · exact Or.inl (w6_setGen_gen_ne _ _ _ _ h1)

@[simp] theorem w6_addEv_waits (e : Ev) : (t.addEv e).waits = t.waits := rfl
@[simp] theorem w6_addEv_gens (e : Ev) : (t.addEv e).gens = t.gens := rfl
@[simp] theorem w6_addEv_hs (e : Ev) : (t.addEv e).hs = t.hs := rfl
@[simp] theorem w6_addEv_comps (e : Ev) : (t.addEv e).comps = t.comps := rfl
@[simp] theorem w6_addEv_log (e : Ev) : (t.addEv e).log = t.log := rfl
@[simp] theorem w6_addEv_progs (e : Ev) : (t.addEv e).progs = t.progs := rfl
@[simp] theorem w6_addEv_evs_length (e : Ev) : (t.addEv e).evs.length = t.evs.length + 1 := by simp [addEv]
@[simp] theorem w6_addEv_wait (e : Ev) (w : Nat) : (t.addEv e).wait w = t.wait w := rfl
@[simp] theorem w6_addEv_gen (e : Ev) (g : Nat) : (t.addEv e).gen g = t.gen g := rfl
@[simp] theorem w6_addEv_handler (e : Ev) (h : Nat) : (t.addEv e).handler h = t.handler h := rfl
@[simp] theorem w6_addEv_comp (e : Ev) (c : Nat) : (t.addEv e).comp c = t.comp c := rfl

theorem w6_addEv_ev (x : Ev) (e : Nat) : (t.addEv x).ev e = if e = t.evs.length then x else t.ev e :=
  w6_getD_append_single _ _ _ _

@[simp] theorem w6_addH_waits (x : Handler) : (t.addH x).waits = t.waits := rfl
@[simp] theorem w6_addH_gens (x : Handler) : (t.addH x).gens = t.gens := rfl
@[simp] theorem w6_addH_evs (x : Handler) : (t.addH x).evs = t.evs := rfl
@[simp] theorem w6_addH_comps (x : Handler) : (t.addH x).comps = t.comps := rfl
@[simp] theorem w6_addH_log (x : Handler) : (t.addH x).log = t.log := rfl
@[simp] theorem w6_addH_progs (x : Handler) : (t.addH x).progs = t.progs := rfl
@[simp] theorem w6_addH_hs_length (x : Handler) : (t.addH x).hs.length = t.hs.length + 1 := by simp [addH]
@[simp] theorem w6_addH_wait (x : Handler) (w : Nat) : (t.addH x).wait w = t.wait w := rfl
@[simp] theorem w6_addH_gen (x : Handler) (g : Nat) : (t.addH x).gen g = t.gen g := rfl
@[simp] theorem w6_addH_ev (x : Handler) (e : Nat) : (t.addH x).ev e = t.ev e := rfl
@[simp] theorem w6_addH_comp (x : Handler) (c : Nat) : (t.addH x).comp c = t.comp c := rfl

theorem w6_addH_handler (x : Handler) (h : Nat) : (t.addH x).handler h = if h = t.hs.length then x else t.handler h :=
  w6_getD_append_single _ _ _ _

@[simp] theorem w6_addGen_waits (x : GenRec) : (t.addGen x).waits = t.waits := rfl
@[simp] theorem w6_addGen_hs (x : GenRec) : (t.addGen x).hs = t.hs := rfl
@[simp] theorem w6_addGen_evs (x : GenRec) : (t.addGen x).evs = t.evs := rfl
@[simp] theorem w6_addGen_comps (x : GenRec) : (t.addGen x).comps = t.comps := rfl
@[simp] theorem w6_addGen_log (x : GenRec) : (t.addGen x).log = t.log := rfl
@[simp] theorem w6_addGen_progs (x : GenRec) : (t.addGen x).progs = t.progs := rfl
@[simp] theorem w6_addGen_gens_length (x : GenRec) : (t.addGen x).gens.length = t.gens.length + 1 := by simp [addGen]
@[simp] theorem w6_addGen_wait (x : GenRec) (w : Nat) : (t.addGen x).wait w = t.wait w := rfl
@[simp] theorem w6_addGen_handler (x : GenRec) (h : Nat) : (t.addGen x).handler h = t.handler h := rfl
@[simp] theorem w6_addGen_ev (x : GenRec) (e : Nat) : (t.addGen x).ev e = t.ev e := rfl
@[simp] theorem w6_addGen_comp (x : GenRec) (c : Nat) : (t.addGen x).comp c = t.comp c := rfl

theorem w6_addGen_gen (x : GenRec) (g : Nat) : (t.addGen x).gen g = if g = t.gens.length then x else t.gen g :=
  w6_getD_append_single _ _ _ _

@[simp] theorem w6_addWait_gens (x : WaitSt) : (t.addWait x).gens = t.gens := rfl
@[simp] theorem w6_addWait_hs (x : WaitSt) : (t.addWait x).hs = t.hs := rfl
@[simp] theorem w6_addWait_evs (x : WaitSt) : (t.addWait x).evs = t.evs := rfl
@[simp] theorem w6_addWait_comps (x : WaitSt) : (t.addWait x).comps = t.comps := rfl
@[simp] theorem w6_addWait_log (x : WaitSt) : (t.addWait x).log = t.log := rfl
@[simp] theorem w6_addWait_progs (x : WaitSt) : (t.addWait x).progs = t.progs := rfl
@[simp] theorem w6_addWait_waits_length (x : WaitSt) : (t.addWait x).waits.length = t.waits.length + 1 := by simp [addWait]
@[simp] theorem w6_addWait_gen (x : WaitSt) (g : Nat) : (t.addWait x).gen g = t.gen g := rfl
@[simp] theorem w6_addWait_handler (x : WaitSt) (h : Nat) : (t.addWait x).handler h = t.handler h := rfl
@[simp] theorem w6_addWait_ev (x : WaitSt) (e : Nat) : (t.addWait x).ev e = t.ev e := rfl
@[simp] theorem w6_addWait_comp (x : WaitSt) (c : Nat) : (t.addWait x).comp c = t.comp c := rfl

theorem w6_addWait_wait (x : WaitSt) (w : Nat) : (t.addWait x).wait w = if w = t.waits.length then x else t.wait w :=
  w6_getD_append_single _ _ _ _

theorem w6_gen_ge (g : Nat) (h : t.gens.length ≤ g) : t.gen g = dfltGen := by
  simp [gen, List.getD_eq_getElem?_getD, List.getElem?_eq_none h]

theorem w6_wait_ge (w : Nat) (h : t.waits.length ≤ w) : t.wait w = dfltWait := by
  simp [wait, List.getD_eq_getElem?_getD, List.getElem?_eq_none h]

theorem w6_ev_ge (e : Nat) (h : t.evs.length ≤ e) : t.ev e = dfltEv := by
  simp [ev, List.getD_eq_getElem?_getD, List.getElem?_eq_none h]

theorem w6_handler_ge (x : Nat) (h : t.hs.length ≤ x) : t.handler x = dfltHandler := by
  simp [handler, List.getD_eq_getElem?_getD, List.getElem?_eq_none h]

theorem w6_comp_ge (c : Nat) (h : t.comps.length ≤ c) : t.comp c = dfltComp := by
  simp [comp, List.getD_eq_getElem?_getD, List.getElem?_eq_none h]

/-! A row that differs from the default row is in range: how a fact about `t.ev e` that fails of `dfltEv` (a flag set, a list
with a member) shows `e < t.evs.length`. -/
variable {t}
theorem ev_lt_of_ne {e : Nat} (h : t.ev e ≠ dfltEv) : e < t.evs.length := Nat.lt_of_not_le fun hn => h (t.w6_ev_ge e hn)
theorem wait_lt_of_ne {w : Nat} (h : t.wait w ≠ dfltWait) : w < t.waits.length := Nat.lt_of_not_le fun hn => h (t.w6_wait_ge w hn)
theorem gen_lt_of_ne {g : Nat} (h : t.gen g ≠ dfltGen) : g < t.gens.length := Nat.lt_of_not_le fun hn => h (t.w6_gen_ge g hn)

theorem handler_lt_of_ne {x : Nat} (h : t.handler x ≠ dfltHandler) : x < t.hs.length :=
  Nat.lt_of_not_le fun hn => h (t.w6_handler_ge x hn)

theorem comp_lt_of_ne {c : Nat} (h : t.comp c ≠ dfltComp) : c < t.comps.length := Nat.lt_of_not_le fun hn => h (t.w6_comp_ge c hn)
variable (t)
theorem w6_gen_lt_of_user (g : Nat) {e h o : Nat} {rest : Prog} {st : Nat} {pc : Option Bool} {sd : Bool}
    (hg : t.gen g = .user e h o rest st pc sd) : g < t.gens.length :=
  gen_lt_of_ne fun hd => by rw [hd] at hg; cases hg

end St

end CV.Core
