import CV.Model.ValueTree
import CV.Proofs.ListFacts
/-
The nested-Value layer (C04): frame properties of `update` (it writes `errors` / `result` / the log only),
monotonicity of the flags, the storing branches, ancestors and acyclic parent chains, the notifications of a walk.
-/
namespace CV.VT

@[simp] theorem upd_cells (s : St) (i : Nat) (f : Cell → Cell) (j : Nat) :
    (s.upd i f).cells j = if j = i then f (s.cells j) else s.cells j := rfl

@[simp] theorem upd_n (s : St) (i : Nat) (f : Cell → Cell) : (s.upd i f).n = s.n := rfl
@[simp] theorem upd_log (s : St) (i : Nat) (f : Cell → Cell) : (s.upd i f).log = s.log := rfl
@[simp] theorem upd_crashed (s : St) (i : Nat) (f : Cell → Cell) : (s.upd i f).crashed = s.crashed := rfl

theorem inform_eq (s : St) (c : Nat) (f : Bool) : inform s c f = { s with log := (inform s c f).log } := by
  simp only [inform]; split <;> (try rfl); split <;> (try rfl); split <;> rfl

theorem inform_cells (s : St) (c : Nat) (f : Bool) : (inform s c f).cells = s.cells :=
  (congrArg St.cells (inform_eq s c f) :)

theorem inform_crashed (s : St) (c : Nat) (f : Bool) : (inform s c f).crashed = s.crashed :=
  (congrArg St.crashed (inform_eq s c f) :)

theorem inform_n (s : St) (c : Nat) (f : Bool) : (inform s c f).n = s.n :=
  (congrArg St.n (inform_eq s c f) :)

theorem inform_log (s : St) (c : Nat) (f : Bool) :
    (inform s c f).log = s.log ∨ ∃ x, x.cell = c ∧ (inform s c f).log = x :: s.log := by
  simp only [inform]; split
  · exact .inl rfl
  · split
    · exact .inl rfl
    · split
      · exact .inl rfl
      · exact .inr ⟨.changed c, rfl, rfl⟩
      · rename_i k _; exact .inr ⟨.named k c, rfl, rfl⟩

/-- a relation between cells that every write of `update` respects -/
structure FlagStep (R : Cell → Cell → Prop) : Prop where
  refl : ∀ x, R x x
  trans : ∀ x y z, R x y → R y z → R x z
  flags : ∀ x e r, R x { x with errors := x.errors || e, result := x.result || r }
  res : ∀ x, R x { x with result := true }

theorem touch_rel {R} (h : FlagStep R) (s : St) (o : Nat) (a : Arg) (j : Nat) : R (s.cells j) ((touch s o a).cells j) := by
  cases a with
  | none => exact h.refl _
  | lit n =>
    simp only [touch, inform_cells, upd_cells]
    split
    · exact h.res _
    · exact h.refl _
  | ref d =>
    simp only [touch, upd_cells]
    split
    · exact h.flags _ _ _
    · exact h.refl _

theorem update_rel {R} (h : FlagStep R) (f : Nat) : ∀ (s : St) (o : Nat) (a : Arg) (j : Nat),
    R (s.cells j) ((update f s o a).cells j) := by
  induction f with
  | zero => intro s o a j; exact h.refl _
  | succ f ih =>
    intro s o a j
    simp only [update]
    split
    · exact touch_rel h s o a j
    · refine h.trans _ _ _ (touch_rel h s o a j) (h.trans _ _ _ ?_ (ih _ _ _ _))
      simp only [liftFlags, upd_cells]
      split
      · exact h.flags _ _ _
      · exact h.refl _

/-- two cells agree on everything but the flags `errors` / `result` -/
def sameRest (x y : Cell) : Prop :=
  x.value = y.value ∧ x.parent = y.parent ∧ x.promise = y.promise ∧ x.notify = y.notify ∧ x.evNotify = y.evNotify ∧ x.hasMgr = y.hasMgr

theorem sameRest_step : FlagStep sameRest where
  refl _ := ⟨rfl, rfl, rfl, rfl, rfl, rfl⟩
  trans _ _ _ a b := ⟨a.1.trans b.1, a.2.1.trans b.2.1, a.2.2.1.trans b.2.2.1, a.2.2.2.1.trans b.2.2.2.1,
    a.2.2.2.2.1.trans b.2.2.2.2.1, a.2.2.2.2.2.trans b.2.2.2.2.2⟩
  flags _ _ _ := ⟨rfl, rfl, rfl, rfl, rfl, rfl⟩
  res _ := ⟨rfl, rfl, rfl, rfl, rfl, rfl⟩

def flagsMono (x y : Cell) : Prop := (x.errors = true → y.errors = true) ∧ (x.result = true → y.result = true)

theorem flagsMono_step : FlagStep flagsMono where
  refl _ := ⟨id, id⟩
  trans _ _ _ a b := ⟨fun h => b.1 (a.1 h), fun h => b.2 (a.2 h)⟩
  flags _ _ _ := ⟨fun h => by simp [h], fun h => by simp [h]⟩
  res _ := ⟨id, fun _ => rfl⟩

theorem update_value (f : Nat) (s : St) (o : Nat) (a : Arg) (j : Nat) :
    ((update f s o a).cells j).value = (s.cells j).value := ((update_rel sameRest_step f s o a j).1).symm

theorem update_parent (f : Nat) (s : St) (o : Nat) (a : Arg) (j : Nat) :
    ((update f s o a).cells j).parent = (s.cells j).parent := ((update_rel sameRest_step f s o a j).2.1).symm

theorem setParent_value (s : St) (c : Nat) (a : Arg) (j : Nat) : ((setParent s c a).cells j).value = (s.cells j).value := by
  cases a <;> simp only [setParent, upd_cells]
  split <;> rfl

theorem setParent_result (s : St) (c : Nat) (a : Arg) (j : Nat) : ((setParent s c a).cells j).result = (s.cells j).result := by
  cases a <;> simp only [setParent, upd_cells]
  split <;> rfl

theorem setParent_errors (s : St) (c : Nat) (a : Arg) (j : Nat) : ((setParent s c a).cells j).errors = (s.cells j).errors := by
  cases a <;> simp only [setParent, upd_cells]
  split <;> rfl

theorem setParent_n (s : St) (c : Nat) (a : Arg) : (setParent s c a).n = s.n := by
  cases a <;> rfl

/-- the state `setValue` runs `update` on (parent link set, argument stored) has the `errors` flags of the state before -/
theorem preUpdate_errors (s : St) (c : Nat) (a : Arg) (j : Nat) :
    (((setParent s c a).upd c (fun x => { x with value := storeArg x a })).cells j).errors = (s.cells j).errors := by
  simp only [upd_cells]; split <;> simp [setParent_errors]

theorem storeArg_congr (x y : Cell) (a : Arg) (hv : x.value = y.value) (hr : x.result = y.result) : storeArg x a = storeArg y a := by
  simp [storeArg, held, hv, hr]

theorem setValue_value (s : St) (c : Nat) (a : Arg) (j : Nat) :
    ((setValue s c a).cells j).value = if j = c then storeArg (s.cells c) a else (s.cells j).value := by
  simp only [setValue, update_value, upd_cells]
  split
  · rename_i h; subst h
    exact storeArg_congr _ _ _ (setParent_value ..) (setParent_result ..)
  · exact setParent_value ..

theorem setValue_flags_mono (s : St) (c : Nat) (a : Arg) (j : Nat) : flagsMono (s.cells j) ((setValue s c a).cells j) := by
  have h := update_rel flagsMono_step (s.n + 1) ((setParent s c a).upd c (fun x => { x with value := storeArg x a })) c a j
  refine ⟨fun he => h.1 ?_, fun hr => h.2 ?_⟩
  · rw [preUpdate_errors]; exact he
  · simp only [upd_cells]; split <;> simp [setParent_result, hr]

def items : Stored → List Arg
  | .one a => [a]
  | .many l => l

/-- the non-None entries -/
def nn (l : List Arg) : List Arg := l.filter (· ≠ .none)

theorem nn_append (a b : List Arg) : nn (a ++ b) = nn a ++ nn b := List.filter_append ..

theorem storeArg_held (x : Cell) (a : Arg) (hh : held x = true) : storeArg x a = .many (items x.value ++ [a]) := by
  unfold storeArg
  rw [if_pos hh]
  split
  · rename_i l hl; simp [items, hl]
  · rename_i b hb; simp [items, hb]

theorem storeArg_nn (x : Cell) (a : Arg) : nn (items (storeArg x a)) = nn (items x.value) ++ nn [a] := by
  by_cases hh : held x = true
  · rw [storeArg_held x a hh]; exact nn_append ..
  · have : x.value = .one .none := by
      simp only [held, Bool.or_eq_true, not_or] at hh
      simpa using hh.2
    unfold storeArg
    simp [hh, items, this, nn]

def setsOn (c : Nat) : List Op → List Arg
  | [] => []
  | .set c' a :: os => if c' = c then a :: setsOn c os else setsOn c os
  | _ :: os => setsOn c os

theorem apply_value_other (s : St) (o : Op) (j : Nat) (h : ∀ c a, o = .set c a → False) :
    ((o.apply s).cells j).value = (s.cells j).value := by
  cases o with
  | set c a => exact (h c a rfl).elim
  | new a b m => simp only [Op.apply, newCell, upd_cells]; split <;> rfl
  | errors c b => simp only [Op.apply, setErrors, upd_cells]; split <;> rfl
  | promise c b => simp only [Op.apply, setPromise, upd_cells]; split <;> rfl
  | notify c t => simp only [Op.apply, setNotify, upd_cells]; split <;> rfl
  | inform c f => simp only [Op.apply, inform_cells]

theorem runOps_nn (ops : List Op) : ∀ (s : St) (c : Nat),
    nn (items ((runOps s ops).cells c).value) = nn (items (s.cells c).value) ++ nn (setsOn c ops) := by
  induction ops with
  | nil => intro s c; simp [runOps, setsOn, nn]
  | cons o os ih =>
    intro s c
    rw [runOps, ih]
    cases o with
    | set c' a =>
      simp only [Op.apply, setValue_value, setsOn]
      by_cases h : c' = c
      · subst h
        simp only [if_true, storeArg_nn, List.append_assoc]
        rw [← nn_append]; rfl
      · have h' : ¬ c = c' := fun e => h e.symm
        simp [h, h']
    | _ => rw [apply_value_other _ _ _ (by intro _ _ h; cases h)]; rfl

theorem storeArg_fresh (x : Cell) (a : Arg) (h : held x = false) : storeArg x a = .one a := by
  unfold storeArg; simp [h]

theorem runOps_items (ops : List Op) : ∀ (s : St) (c : Nat), (s.cells c).value ≠ .one .none →
    ((runOps s ops).cells c).value =
      if setsOn c ops = [] then (s.cells c).value else .many (items (s.cells c).value ++ setsOn c ops) := by
  induction ops with
  | nil => intro s c _; simp [runOps, setsOn]
  | cons o os ih =>
    intro s c hne
    rw [runOps]
    cases o with
    | set c' a =>
      by_cases h : c' = c
      · subst h
        have hv : (((Op.set c' a).apply s).cells c').value = .many (items (s.cells c').value ++ [a]) := by
          simp only [Op.apply, setValue_value, if_true]; exact storeArg_held _ _ (by simp [held, hne])
        rw [ih _ _ (by rw [hv]; intro h; cases h), hv]
        simp only [setsOn, if_true, items]
        split
        · rename_i he; simp [he]
        · simp
      · have h' : ¬ c = c' := fun e => h e.symm
        have hv : (((Op.set c' a).apply s).cells c).value = (s.cells c).value := by
          simp only [Op.apply, setValue_value, if_neg h']
        rw [ih _ _ (by rw [hv]; exact hne), hv]; simp [setsOn, h]
    | _ =>
      rw [ih _ _ (by rw [apply_value_other _ _ _ (by intro _ _ h; cases h)]; exact hne),
        apply_value_other _ _ _ (by intro _ _ h; cases h)]
      rfl

theorem getRec_mono (f : Nat) : ∀ (s : St) (v r : Stored), getRec f s v = some r → getRec (f + 1) s v = some r := by
  induction f with
  | zero => intro s v r h; simp [getRec] at h
  | succ f ih =>
    intro s v r h
    cases v with
    | many l => simpa [getRec] using h
    | one a =>
      cases a with
      | none => simpa [getRec] using h
      | lit n => simpa [getRec] using h
      | ref d =>
        simp only [getRec] at h ⊢
        exact ih _ _ _ h

theorem liftFlags_parent (s : St) (o j : Nat) : ((liftFlags s o).cells j).parent = (s.cells j).parent := by
  simp only [liftFlags, upd_cells]; split <;> rfl

theorem liftFlags_log (s : St) (o : Nat) : (liftFlags s o).log = s.log := rfl
theorem liftFlags_crashed (s : St) (o : Nat) : (liftFlags s o).crashed = s.crashed := rfl

/-- no Value of the store has its `errors` flag set -/
def NoErr (s : St) : Prop := ∀ j, (s.cells j).errors = false

theorem touch_noErr (s : St) (o : Nat) (a : Arg) (h : NoErr s) : NoErr (touch s o a) := by
  intro j
  cases a with
  | none => exact h j
  | lit n => simp only [touch, inform_cells, upd_cells]; split <;> simp [h j]
  | ref d => simp only [touch, upd_cells]; split <;> simp [h j, h d]

theorem update_noErr (f : Nat) : ∀ (s : St) (o : Nat) (a : Arg), NoErr s → NoErr (update f s o a) := by
  induction f with
  | zero => intro s o a h j; exact h j
  | succ f ih =>
    intro s o a h
    simp only [update]
    split
    · exact touch_noErr s o a h
    · apply ih
      intro j
      have h1 := touch_noErr s o a h
      simp only [liftFlags, upd_cells]; split <;> simp [h1 j, h1 o]

/-- `Anc s o q`: `q` is `o` or lies on `o`'s parent chain; a Value that is its own parent is a root -/
inductive Anc (s : St) : Nat → Nat → Prop
  | refl (o : Nat) : Anc s o o
  | step {o q : Nat} : (s.cells o).parent ≠ o → Anc s (s.cells o).parent q → Anc s o q

theorem Anc.congr {s s' : St} (h : ∀ j, (s'.cells j).parent = (s.cells j).parent) {o q : Nat} (a : Anc s o q) : Anc s' o q := by
  induction a with
  | refl o => exact .refl o
  | step hne _ ih => exact .step (by rw [h]; exact hne) (by rw [h]; exact ih)

theorem touch_parent (s : St) (o : Nat) (a : Arg) (j : Nat) : ((touch s o a).cells j).parent = (s.cells j).parent :=
  ((touch_rel sameRest_step s o a j).2.1).symm

theorem update_crashed_mono (f : Nat) : ∀ (s : St) (o : Nat) (a : Arg), s.crashed = true → (update f s o a).crashed = true := by
  induction f with
  | zero => intro s o a _; rfl
  | succ f ih =>
    intro s o a h
    have ht : (touch s o a).crashed = true := by
      cases a <;> simp [touch, inform_crashed, h]
    simp only [update]
    split
    · exact ht
    · exact ih _ _ _ (by rw [liftFlags_crashed]; exact ht)

/-- the walk carries an error seen at the cell it starts from to every ancestor it reaches -/
theorem update_anc_errors (f : Nat) : ∀ (s : St) (o : Nat) (a : Arg) (q : Nat), Anc s o q →
    (update f s o a).crashed = false → ((touch s o a).cells o).errors = true → ((update f s o a).cells q).errors = true := by
  induction f with
  | zero => intro s o a q _ hc _; simp [update] at hc
  | succ f ih =>
    intro s o a q hanc hc he
    simp only [update] at hc ⊢
    split
    · rename_i hp
      cases hanc with
      | refl => exact he
      | step hne _ => rw [touch_parent] at hp; exact (hne hp).elim
    · rename_i hp
      rw [if_neg hp] at hc
      cases hanc with
      | refl =>
        refine (update_rel flagsMono_step f _ _ a o).1 ?_
        simp only [liftFlags, upd_cells]; split <;> simp [he]
      | step hne hrest =>
        apply ih _ _ _ _ ?_ hc
        · refine (touch_rel flagsMono_step _ _ a _).1 ?_
          simp [liftFlags, he]
        · rw [touch_parent]
          exact hrest.congr (fun j => by rw [liftFlags_parent, touch_parent])

theorem setValue_parent (s : St) (c : Nat) (a : Arg) (j : Nat) :
    ((setValue s c a).cells j).parent = if a = .ref j then c else (s.cells j).parent := by
  simp only [setValue, update_parent, upd_cells]
  cases a with
  | none => simp [setParent]; split <;> rfl
  | lit n => simp [setParent]; split <;> rfl
  | ref d =>
    simp only [setParent, upd_cells]
    by_cases h : j = d
    · subst h; simp; split <;> rfl
    · have : ¬ (Arg.ref d = Arg.ref j) := by intro e; cases e; exact h rfl
      simp [h, this]; split <;> rfl

theorem touch_ref_errors (s : St) (o d : Nat) (h : (s.cells d).errors = true) :
    ((touch s o (.ref d)).cells o).errors = true := by
  simp [touch, h]

/-- every parent chain ends in a root: a rank falls along it -/
def Acyclic (s : St) : Prop := ∃ rank : Nat → Nat, ∀ j, (s.cells j).parent ≠ j → rank (s.cells j).parent < rank j

theorem acyclic_of_parents {s s' : St} (h : ∀ j, (s'.cells j).parent = (s.cells j).parent) (a : Acyclic s) : Acyclic s' := by
  obtain ⟨rank, hr⟩ := a
  exact ⟨rank, fun j hj => by rw [h] at hj ⊢; exact hr j hj⟩

theorem update_log_quiet (f : Nat) : ∀ (s : St) (o : Nat) (a : Arg), (∀ n, a ≠ .lit n) → (update f s o a).log = s.log := by
  induction f with
  | zero => intro s o a _; rfl
  | succ f ih =>
    intro s o a ha
    have ht : (touch s o a).log = s.log := by
      cases a with
      | none => rfl
      | ref d => rfl
      | lit n => exact (ha n rfl).elim
    simp only [update]
    split
    · exact ht
    · rw [ih _ _ _ ha]; exact ht

theorem update_log_lit (rank : Nat → Nat) (n : Nat) (f : Nat) : ∀ (s : St) (o : Nat),
    (∀ j, (s.cells j).parent ≠ j → rank (s.cells j).parent < rank j) →
    ∃ new : List Note, (update f s o (.lit n)).log = new ++ s.log ∧ (∀ x ∈ new, rank x.cell ≤ rank o) ∧
      (new.map Note.cell).Nodup := by
  -- the walk goes up the parent chain, along which `rank` falls: what it notes above `o` is about cells of smaller rank
  induction f with
  | zero => intro s o _; exact ⟨[], rfl, by simp, by simp⟩
  | succ f ih =>
    intro s o hr
    have hlog : (touch s o (.lit n)).log = s.log ∨ ∃ x, x.cell = o ∧ (touch s o (.lit n)).log = x :: s.log :=
      inform_log (s.upd o (fun x => { x with result := true })) o false
    have hpar : ((touch s o (.lit n)).cells o).parent = (s.cells o).parent := touch_parent ..
    simp only [update]
    split
    · rcases hlog with h | ⟨x, hx, h⟩
      · exact ⟨[], h, by simp, by simp⟩
      · exact ⟨[x], h, by simp [hx], by simp⟩
    · rename_i hp
      rw [hpar] at hp ⊢
      obtain ⟨new, h1, h2, h3⟩ := ih (liftFlags (touch s o (.lit n)) o) (s.cells o).parent
          (by intro j; rw [liftFlags_parent, touch_parent]; exact hr j)
      rw [liftFlags_log] at h1
      have hlt := hr o hp
      rcases hlog with h | ⟨x, hx, h⟩
      · exact ⟨new, by rw [h1, h], fun x hx => Nat.le_of_lt (Nat.lt_of_le_of_lt (h2 x hx) hlt), h3⟩
      · refine ⟨new ++ [x], by rw [h1, h]; simp, ?_, ?_⟩
        · intro y hy
          rcases List.mem_append.1 hy with hy | hy
          · exact Nat.le_of_lt (Nat.lt_of_le_of_lt (h2 y hy) hlt)
          · simp at hy; subst hy; rw [hx]; exact Nat.le_refl _
        · rw [List.map_append]
          refine nodup_concat h3 fun ha => ?_
          obtain ⟨y, hy, e⟩ := List.mem_map.1 ha
          have := h2 y hy
          rw [e, hx] at this
          omega

theorem touch_log_suffix (s : St) (o : Nat) (a : Arg) : ∃ new, (touch s o a).log = new ++ s.log := by
  cases a with
  | none => exact ⟨[], rfl⟩
  | ref d => exact ⟨[], rfl⟩
  | lit n =>
    rcases inform_log (s.upd o (fun x => { x with result := true })) o false with h | ⟨x, _, h⟩
    · exact ⟨[], h⟩
    · exact ⟨[x], h⟩

theorem update_log_suffix (f : Nat) : ∀ (s : St) (o : Nat) (a : Arg), ∃ new, (update f s o a).log = new ++ s.log := by
  induction f with
  | zero => intro s o a; exact ⟨[], rfl⟩
  | succ f ih =>
    intro s o a
    obtain ⟨n1, h1⟩ := touch_log_suffix s o a
    simp only [update]
    split
    · exact ⟨n1, h1⟩
    · obtain ⟨n2, h2⟩ := ih (liftFlags (touch s o a) o) ((touch s o a).cells o).parent a
      exact ⟨n2 ++ n1, by rw [h2, liftFlags_log, h1, List.append_assoc]⟩

theorem update_succ_log (f : Nat) (s : St) (o : Nat) (a : Arg) : ∃ new, (update (f + 1) s o a).log = new ++ (touch s o a).log := by
  simp only [update]
  split
  · exact ⟨[], rfl⟩
  · obtain ⟨n2, h2⟩ := update_log_suffix f (liftFlags (touch s o a) o) ((touch s o a).cells o).parent a
    exact ⟨n2, by rw [h2, liftFlags_log]⟩

theorem inform_on (s : St) (c : Nat) (hp : (s.cells c).promise = false) (hm : (s.cells c).hasMgr = true)
    (hn : (s.cells c).evNotify.orElse (s.cells c).notify = .on) : (inform s c false).log = .changed c :: s.log := by
  simp [inform, hp, hm, hn]

end CV.VT
