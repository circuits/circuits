import CV.Proofs.Wake
/-
C03: the Timer handler's part of the wake-up protocol (`hsetWnoResume`, `lAcq` at `tAcq`,
`tlwOther`, `lRel` at `tChk`/`tRel` of CV.Model.Wake) and the mutated protocol of seed C03-d (the patch
/verif/seeded/C03-d: `reduce_time_left` testing the time left outside the lock) for CV/Props/C03.lean.
-/
namespace CV
namespace Wake

/-- the loop thread is inside a Timer's `generate_events` handler (handler slot written, before the
    next handler's `event.handler = ...`) -/
def LPc.inTimer : LPc → Bool
  | .tAcq | .tChk | .tRel => true
  | _ => false

def Lab.isAppGe : Lab → Bool
  | .lAppGe _ _ => true
  | _ => false

def Lab.isPop : Lab → Bool
  | .pop _ _ => true
  | _ => false

theorem lowerTgt_tl_zero (s : St) (f : Firer) (h : s.tl = .zero) : (s.lowerTgt f).tl = .zero := by
  unfold St.lowerTgt; split <;> simp [h]

theorem lowerTgt_sig (s : St) (f : Firer) : (s.lowerTgt f).sig = s.sig := by
  unfold St.lowerTgt; split <;> rfl

theorem step_zero_stays {s s' : St} {l : Lab} (hs : step s l = some s') (hl : l.isAppGe = false)
    (hz : s.tl = .zero) : s'.tl = .zero := by
  rcases step_spec hs with hs | hs
  · cases hs with
    | fTlwZero => exact lowerTgt_tl_zero _ _ hz
    | _ => exact hz
  · cases hs with
    | lAppGe => cases hl
    | tlwZero_arm | tlwZero_red => rfl
    | tlwOther _ hnz => exact absurd hz hnz   -- writes only over a non-zero time left
    | _ => exact hz

theorem step_timer_sig {s s' : St} {l : Lab} (hs : step s l = some s') (hp : s.lpc.inTimer = true) :
    s.sig ≤ s'.sig := by
  rcases step_spec hs with hs | hs
  · cases hs with
    | fSig => exact Nat.le_succ _
    | fTlwZero => exact Nat.le_of_eq (lowerTgt_sig ..).symm
    | _ => exact Nat.le_refl _
  · cases hs with
    | sigSetL => exact Nat.le_succ _
    -- the steps that take from the signal are the waiter's, at `wClr` and `pRd`
    | clr hpc | pipeRd hpc => rw [hpc] at hp; cases hp
    | _ => exact Nat.le_refl _

theorem loop_step_cs {s s' : St} {l : Lab} (hs : stepLoop s l = some s') (hc : s.cs = none) :
    s'.cs = none := by
  cases stepLoop_spec hs with
  | lAppGe => exact congrArg (Option.map ageSaw) hc
  | _ => exact hc

theorem step_pending {s s' : St} {l : Lab} (hs : step s l = some s') (hl : l.isPop = false)
    (hq : s.q.pending ≠ []) : s'.q.pending ≠ [] := by
  rcases step_q hs with he | ⟨_, he⟩ | ⟨_, _, _, he⟩ | ⟨_, he⟩ | ⟨_, _, _, rfl, -⟩
  · exact he ▸ hq
  · exact he ▸ hq
  · exact pending_qApp he
  · exact pending_qSnap he ▸ hq
  · cases hl

/-- With an event queued and every `fire()` returned, no step of the loop thread ends in an idle wait:
    the time-out of a wait is the time left read at a `checked` program point, which is 0 by `k1`. -/
theorem loop_step_awake {s s' : St} {l : Lab} (w : WInv s) (hc : s.cs = none) (hq : s.q.pending ≠ [])
    (hs : stepLoop s l = some s') : s'.blocked = false := by
  have hz : s.lpc.checked = true → s.tl = .zero := fun hk => w.tl_zero hc hk hq
  cases stepLoop_spec hs with
  | tlr_posArg hv hp | tlr_pRead hv hp | tlr_wRead2 hv hp =>
    have := hz (by rw [hp]; rfl)
    simp [St.blocked, hv, this]
  -- the next program point is an `if`, neither branch a wait
  | pop | lHsetR_red | hsetW | tlr_wRead1 | selRet | selTimeout => split <;> rfl
  | _ => rfl

/-! ### the mutated protocol of seed C03-d

    # most calls do not reduce anything: only take the lock if there is work
    if time_left >= 0 and (self._time_left < 0 or self._time_left > time_left):     <- the test, outside
        with self._lock:
            self._time_left = time_left                                              <- unconditional

`will` records the outcome of the unlocked test (evaluated right after the handler slot was written);
the write under the lock happens iff `will`, whatever the time left is by then.  Everything else is
`CV.Wake.step`.  (When the test is false the mutant does not take the lock at all; the machine keeps the
`lAcq`/`lRel` pair there, which no other thread can tell from not taking it - the witness below does not
use that path.) -/

structure MSt where
  s : St
  will : Bool

def stepD (m : MSt) (l : Lab) : Option MSt :=
  match l with
  | .hsetWnoResume => (step m.s l).map (fun s' => ⟨s', decide (m.s.tl ≠ .zero)⟩)
  | .tlwOther =>
    if m.s.lpc = .tChk ∧ m.will = true then some ⟨{ m.s with tl := .pos, lpc := .tRel }, false⟩ else none
  | .lRel =>
    if m.s.lpc = .tChk then
      (if m.will = false ∧ m.s.lockL = true then some ⟨{ m.s with lockL := false, lpc := .setH }, false⟩ else none)
    else (step m.s l).map (fun s' => ⟨s', m.will⟩)
  | _ => (step m.s l).map (fun s' => ⟨s', m.will⟩)

def runD (m : MSt) : List Lab → Option MSt
  | [] => some m
  | l :: ls => match stepD m l with
    | some m' => runD m' ls
    | none => none

/-- first tick of the fallback variant with a Timer registered; the loop thread has written the handler slot
    and evaluated the test (time left < 0: "there is work") -/
def mutPrefix : List Lab :=
  [.lIncr, .lAppGe 1 .neg, .snap 2, .pop 0 0, .hwOther, .hwNone, .pop 0 1, .lAcq, .hwGe, .lRel, .hsetWnoResume]

/-- a foreign `fire()` runs completely: it lowers the time left to 0 and finds no `resume` to call -/
def mutFire : List Lab :=
  [.fAcq 1, .fHr 1 .ge, .fIncr 1, .fApp 1 0, .fTlwZero 1, .fHsetR 1 false, .fRel 1]

/-- the Timer handler continues (write under the lock), then the fallback waiter up to its `wait(T)` -/
def mutRest : List Lab :=
  [.lAcq, .tlwOther, .lRel, .hsetW, .lAcq, .tlr .pos, .clr, .lRel, .tlr .pos, .tlr .pos]

end Wake
end CV
