import CV.Model.WebSocketSpec
import CV.Proofs.Feed
/-
For C17: the frame analysis of the codec as two cuts off the front of
the buffer (`parseFrame_eq`: extended length, then key and payload), so that stability under
extension of the buffer and the round trip with the RFC encoder are facts about cuts; the decoder
is a framing homomorphism (segmentation invariance); big-endian numbers and masking; the decoder's
state against the message the specification assembles from a frame list (`applyFrame_expected`, the
simulation step); the encoder against the strict RFC decoder; closing; fragmented messages with
interleaved control frames.
-/
namespace CV
namespace WS

/-- the first `n` bytes and what follows them; `none` = they are not all there yet -/
def cut (n : Nat) (x : Bytes) : Option (Bytes × Bytes) :=
  if x.length < n then none else some (x.take n, x.drop n)

theorem cut_eq_some {n : Nat} {x a r : Bytes} : cut n x = some (a, r) ↔ x = a ++ r ∧ a.length = n := by
  unfold cut
  constructor
  · intro h
    split at h
    · cases h
    · obtain ⟨rfl, rfl⟩ := Prod.mk.inj (Option.some.inj h)
      exact ⟨(List.take_append_drop n x).symm, by rw [List.length_take]; omega⟩
  · rintro ⟨rfl, rfl⟩
    rw [if_neg (by simp), List.take_left' rfl, List.drop_left' rfl]

theorem cut_append {n : Nat} {x a r : Bytes} (y : Bytes) (h : cut n x = some (a, r)) :
    cut n (x ++ y) = some (a, r ++ y) := by
  obtain ⟨rfl, hn⟩ := cut_eq_some.1 h
  exact cut_eq_some.2 ⟨List.append_assoc .., hn⟩

/-- a cut behind a prefix `P`, in the words of the code (`len(data) - offset < n`, `data[offset : offset + n]`) -/
theorem cut_at (P r : Bytes) (n : Nat) :
    cut n r = if (P ++ r).length < P.length + n then none
      else some (((P ++ r).drop P.length).take n, (P ++ r).drop (P.length + n)) := by
  rw [← List.drop_drop, List.drop_left' rfl, List.length_append, cut]
  by_cases h : r.length < n
  · rw [if_pos h, if_pos (by omega)]
  · rw [if_neg h, if_neg (by omega)]

/-- number of extended-length bytes the second header byte announces -/
def extOf (b1 : UInt8) : Nat := if (b1 &&& 0x7F).toNat ≥ 126 then extLen (b1 &&& 0x7F).toNat else 0

def mkHdr (b0 b1 : UInt8) (E : Bytes) : Hdr :=
  ⟨(b0 &&& 0x80) != 0, (b0 &&& 0xF).toNat, (b1 &&& 0x80) != 0,
   if (b1 &&& 0x7F).toNat ≥ 126 then beFold E else (b1 &&& 0x7F).toNat, 2 + E.length⟩

theorem parseHdr_eq (b0 b1 : UInt8) (t : Bytes) :
    parseHdr (b0 :: b1 :: t) = (cut (extOf b1) t).map fun p => mkHdr b0 b1 p.1 := by
  unfold parseHdr extOf mkHdr cut
  simp only [List.length_cons, List.drop_succ_cons, List.drop_zero]
  by_cases h : (b1 &&& 0x7F).toNat ≥ 126
  · simp only [h, if_true]
    by_cases hl : t.length < extLen (b1 &&& 0x7F).toNat
    · rw [if_pos (by omega), if_pos hl]; rfl
    · rw [if_neg (by omega), if_neg hl]
      simp only [Option.map_some, List.length_take]
      rw [Nat.min_eq_left (by omega)]
  · simp only [h, if_false, Nat.not_lt_zero, Option.map_some, List.take_zero, List.length_nil]

def frameOf (hd : Hdr) (KB : Bytes) : Frame :=
  ⟨hd.fin, hd.opcode, if hd.masking then xorKey (KB.take 4) 0 (KB.drop 4) else KB⟩

theorem parseFrame_eq (b0 b1 : UInt8) (t : Bytes) :
    parseFrame (b0 :: b1 :: t) =
      (cut (extOf b1) t).bind fun p =>
        (cut ((if (mkHdr b0 b1 p.1).masking then 4 else 0) + (mkHdr b0 b1 p.1).plen) p.2).map fun w =>
          (frameOf (mkHdr b0 b1 p.1) w.1, w.2) := by
  unfold parseFrame
  rw [parseHdr_eq]
  cases hc : cut (extOf b1) t with
  | none => rfl
  | some p =>
    obtain ⟨E, r0⟩ := p
    obtain ⟨rfl, -⟩ := cut_eq_some.1 hc
    simp only [Option.map_some, Option.bind_some]
    generalize hhd : mkHdr b0 b1 E = hd
    have hoff : hd.off = (b0 :: b1 :: E).length := by
      rw [← hhd]; simp only [mkHdr, List.length_cons]; omega
    rw [show b0 :: b1 :: (E ++ r0) = (b0 :: b1 :: E) ++ r0 from rfl, cut_at (b0 :: b1 :: E) r0, hoff]
    generalize b0 :: b1 :: E = P
    unfold frameOf
    cases hd.masking
    · simp only [Bool.false_eq_true, if_false, Nat.zero_add]
      split <;> rfl
    · simp only [if_true, Nat.add_assoc]
      split
      · rfl
      · simp only [Option.map_some, List.take_take, List.drop_take, Nat.add_sub_cancel_left,
          List.drop_drop, Nat.min_eq_left (Nat.le_add_right 4 _)]

theorem parseFrame_stable {x : Bytes} {f : Frame} {r : Bytes} (y : Bytes)
    (h : parseFrame x = some (f, r)) : parseFrame (x ++ y) = some (f, r ++ y) := by
  match x, h with
  | [], h => cases h
  | [_], h => cases h
  | b0 :: b1 :: t, h =>
    rw [parseFrame_eq] at h
    obtain ⟨p, hp, h⟩ := Option.bind_eq_some_iff.1 h
    obtain ⟨w, hw, h⟩ := Option.map_eq_some_iff.1 h
    obtain ⟨rfl, rfl⟩ := Prod.mk.inj h
    rw [List.cons_append, List.cons_append, parseFrame_eq, cut_append y hp]
    simp only [Option.bind_some]
    rw [cut_append y hw]; rfl

theorem parseLoop_none {s : St} {d : Bytes} (h : parseFrame d = none) :
    parseLoop s d = ({ s with buffer := d }, []) := by
  rw [parseLoop]
  split
  · rfl
  · rename_i h2; rw [h] at h2; exact absurd h2 (by simp)

theorem parseLoop_some {s : St} {d : Bytes} {f : Frame} {rest : Bytes}
    (h : parseFrame d = some (f, rest)) :
    parseLoop s d =
      (if (applyFrame { s with buffer := [] } f).2.2 then
        ((applyFrame { s with buffer := [] } f).1, (applyFrame { s with buffer := [] } f).2.1)
       else
        ((parseLoop (applyFrame { s with buffer := [] } f).1 rest).1,
         (applyFrame { s with buffer := [] } f).2.1 ++
           (parseLoop (applyFrame { s with buffer := [] } f).1 rest).2)) := by
  rw [parseLoop]
  split
  · rename_i h2; rw [h] at h2; exact absurd h2 (by simp)
  · rename_i f' rest' h2
    rw [h] at h2
    have := Option.some.inj h2
    have h3 : f = f' := congrArg Prod.fst this
    have h4 : rest = rest' := congrArg Prod.snd this
    subst h3; subst h4
    rfl

/-- Induction along `parseLoop`, on its result: no complete frame in the data; a frame that stops the loop;
    a frame after which the loop goes on with the rest. -/
theorem parseLoop_induct {P : St → Bytes → St × List Out → Prop}
    (none : ∀ s d, parseFrame d = none → P s d ({ s with buffer := d }, []))
    (stop : ∀ s d f rest, parseFrame d = some (f, rest) → (applyFrame { s with buffer := [] } f).2.2 = true →
      P s d ((applyFrame { s with buffer := [] } f).1, (applyFrame { s with buffer := [] } f).2.1))
    (more : ∀ s d f rest, parseFrame d = some (f, rest) → (applyFrame { s with buffer := [] } f).2.2 = false →
      P (applyFrame { s with buffer := [] } f).1 rest (parseLoop (applyFrame { s with buffer := [] } f).1 rest) →
      P s d ((parseLoop (applyFrame { s with buffer := [] } f).1 rest).1,
        (applyFrame { s with buffer := [] } f).2.1 ++ (parseLoop (applyFrame { s with buffer := [] } f).1 rest).2))
    (s : St) (d : Bytes) : P s d (parseLoop s d) := by
  induction hn : d.length using Nat.strongRecOn generalizing s d with
  | _ n ih =>
    cases h : parseFrame d with
    | none => rw [parseLoop_none h]; exact none s d h
    | some p =>
      obtain ⟨f, rest⟩ := p
      have hlt := parseFrame_shrink h
      rw [parseLoop_some h]
      cases hstop : (applyFrame { s with buffer := [] } f).2.2
      · rw [if_neg Bool.false_ne_true]
        exact more s d f rest h hstop (ih rest.length (by omega) _ rest rfl)
      · rw [if_pos rfl]
        exact stop s d f rest h hstop

theorem parseLoop_buffer (s : St) (b d : Bytes) :
    parseLoop { s with buffer := b } d = parseLoop s d := by
  cases h : parseFrame d with
  | none => rw [parseLoop_none h, parseLoop_none h]
  | some p =>
    obtain ⟨f, rest⟩ := p
    rw [parseLoop_some h, parseLoop_some h]

/-- only a final close frame stops the loop: it sets `closeRecv` and emits the close event; every
    other frame leaves `closeRecv` alone and emits no close event -/
theorem applyFrame_cases (s : St) (f : Frame) :
    applyFrame s f = ({ s with closeRecv := true }, [Out.closeEvt], true) ∨
    ((applyFrame s f).2.2 = false ∧ (applyFrame s f).1.closeRecv = s.closeRecv ∧
      Out.closeEvt ∉ (applyFrame s f).2.1 ∧ (applyFrame s f).1.buffer = s.buffer) := by
  unfold applyFrame
  dsimp only
  by_cases h1 : f.fin = true
  · rw [if_pos h1]
    by_cases h2 : f.opcode < 8
    · rw [if_pos h2]; exact .inr ⟨rfl, rfl, by simp, rfl⟩
    · rw [if_neg h2]
      by_cases h3 : (f.opcode == 8) = true
      · rw [if_pos h3]; exact .inl rfl
      · rw [if_neg h3]
        by_cases h4 : (f.opcode == 9) = true
        · rw [if_pos h4]
          refine .inr ⟨rfl, rfl, ?_, rfl⟩
          dsimp only
          split <;> simp
        · rw [if_neg h4]; exact .inr ⟨rfl, rfl, by simp, rfl⟩
  · rw [if_neg h1]; exact .inr ⟨rfl, rfl, by simp, rfl⟩

theorem applyFrame_stop {s : St} {f : Frame} (h : (applyFrame s f).2.2 = true) :
    (applyFrame s f).1.closeRecv = true := by
  rcases applyFrame_cases s f with e | ⟨e, -, -, -⟩
  · rw [e]
  · rw [e] at h; cases h

theorem applyFrame_nostop {s : St} {f : Frame} (h : (applyFrame s f).2.2 = false) :
    (applyFrame s f).1.closeRecv = s.closeRecv := by
  rcases applyFrame_cases s f with e | ⟨-, e, -, -⟩
  · rw [e] at h; cases h
  · exact e

theorem applyFrame_close_flag {s : St} {f : Frame} (h : Out.closeEvt ∈ (applyFrame s f).2.1) :
    (applyFrame s f).2.2 = true := by
  rcases applyFrame_cases s f with e | ⟨-, -, e, -⟩
  · rw [e]
  · exact absurd h e

theorem applyFrame_buffer (s : St) (f : Frame) : (applyFrame s f).1.buffer = s.buffer := by
  rcases applyFrame_cases s f with e | ⟨-, -, -, e⟩
  · rw [e]
  · exact e

/-- the loop is a homomorphism for `++` on the input (outputs concatenate, the carried
    buffer is exactly what the second half is prefixed with) -/
theorem parseLoop_hom (s : St) (x y : Bytes) (hs : s.closeRecv = false) :
    parseLoop s (x ++ y) =
      (if (parseLoop s x).1.closeRecv then parseLoop s x
       else ((parseLoop (parseLoop s x).1 ((parseLoop s x).1.buffer ++ y)).1,
             (parseLoop s x).2 ++ (parseLoop (parseLoop s x).1 ((parseLoop s x).1.buffer ++ y)).2)) := by
  revert hs
  refine parseLoop_induct (P := fun s x r => s.closeRecv = false → parseLoop s (x ++ y) =
      if r.1.closeRecv then r else ((parseLoop r.1 (r.1.buffer ++ y)).1, r.2 ++ (parseLoop r.1 (r.1.buffer ++ y)).2))
    (fun s x h hs => ?_) (fun s x f rest h hstop _ => ?_) (fun s x f rest h hstop ih hs => ?_) s x
  · dsimp only
    rw [if_neg (by rw [hs]; simp), parseLoop_buffer s x, List.nil_append]
  · rw [parseLoop_some (parseFrame_stable y h), hstop, if_pos rfl, if_pos (applyFrame_stop hstop)]
  · rw [parseLoop_some (parseFrame_stable y h), hstop, if_neg Bool.false_ne_true,
      ih ((applyFrame_nostop hstop).trans hs)]
    dsimp only
    split
    · rfl
    · simp only [List.append_assoc]

/-- the carried buffer never holds a complete frame -/
def St.wf (s : St) : Prop := parseFrame s.buffer = none

theorem parseFrame_nil : parseFrame [] = none := rfl

theorem St.wf_of_buffer_nil {s : St} (h : s.buffer = []) : s.wf := (congrArg parseFrame h).trans parseFrame_nil

theorem wf_init : St.wf {} := St.wf_of_buffer_nil rfl

theorem parseLoop_wf (s : St) (d : Bytes) : (parseLoop s d).1.wf := by
  refine parseLoop_induct (P := fun _ _ r => r.1.wf) (fun _ _ h => h) (fun s _ f _ _ _ => ?_)
    (fun _ _ _ _ _ _ ih => ih) s d
  show parseFrame (applyFrame { s with buffer := [] } f).1.buffer = none
  rw [applyFrame_buffer]; rfl

theorem feed_wf (s : St) (d : Bytes) (h : s.wf) : (feed s d).1.wf := by
  unfold feed
  split
  · exact h
  · exact parseLoop_wf _ _

theorem feedAll_eq_runAll : ∀ (ds : List Bytes) (s : St), feedAll s ds = Feed.runAll feed s ds :=
  Feed.eq_runAll (fun _ => rfl) fun _ _ _ => rfl

theorem feed_nil (s : St) (h : s.wf) : feed s [] = (s, []) := by
  unfold feed
  split
  · rfl
  · rw [List.append_nil, parseLoop_none h]

theorem beOctets_length (k n : Nat) : (beOctets k n).length = k := by
  induction k with
  | zero => rfl
  | succ k ih => simp [beOctets, ih]

theorem beValue_beOctets (k n : Nat) : beValue (beOctets k n) = n % 256 ^ k := by
  induction k with
  | zero => simp [beOctets, beValue, Nat.mod_one]
  | succ k ih =>
    simp only [beOctets, beValue, ih, beOctets_length, UInt8.toNat_ofNat']
    rw [Nat.mod_pow_succ (x := n) (b := 256) (k := k)]
    have : n / 256 ^ k % 256 % 2 ^ 8 = n / 256 ^ k % 256 := by omega
    rw [this]
    generalize n / 256 ^ k % 256 = q
    generalize n % 256 ^ k = r
    generalize 256 ^ k = P
    grind

/-- the codec's and the specification's reading of a big-endian number agree -/
theorem foldl_beValue (bs : Bytes) (a : Nat) :
    bs.foldl (fun acc b => acc * 256 + b.toNat) a = a * 256 ^ bs.length + beValue bs := by
  induction bs generalizing a with
  | nil => simp [beValue]
  | cons b r ih =>
    simp only [List.foldl_cons, ih, beValue, List.length_cons, Nat.pow_succ]
    generalize 256 ^ r.length = P
    grind

theorem beFold_beOctets (k n : Nat) (h : n < 256 ^ k) : beFold (beOctets k n) = n := by
  rw [beFold, foldl_beValue, beValue_beOctets, Nat.mod_eq_of_lt h]; simp

theorem beBytes_eq (k n : Nat) : beBytes k n = beOctets k n := by
  induction k with
  | zero => rfl
  | succ k ih =>
    simp only [beBytes, beOctets, ih]
    congr 2
    rw [Nat.shiftRight_eq_div_pow, show (0xFF : Nat) = 2 ^ 8 - 1 from rfl, Nat.and_two_pow_sub_one_eq_mod,
      Nat.mul_comm, Nat.pow_mul]

theorem Key.getD_toBytes (k : Key) (i : Nat) : k.toBytes.getD (i % 4) 0 = k.get i := by
  unfold Key.get Key.toBytes
  have h : i % 4 < 4 := Nat.mod_lt _ (by decide)
  generalize i % 4 = j at *
  match j, h with
  | 0, _ => rfl
  | 1, _ => rfl
  | 2, _ => rfl
  | 3, _ => rfl

theorem xorKey_eq_maskFrom (k : Key) (i : Nat) (p : Bytes) : xorKey k.toBytes i p = maskFrom k i p := by
  induction p generalizing i with
  | nil => rfl
  | cons c cs ih =>
    have h := ih (i + 1)
    unfold xorKey at h ⊢
    simp only [Key.getD_toBytes] at h
    simp only [List.zipIdx_cons, List.map_cons, maskFrom, Key.getD_toBytes, h]

theorem maskFrom_invol (k : Key) (i : Nat) (p : Bytes) : maskFrom k i (maskFrom k i p) = p := by
  induction p generalizing i with
  | nil => rfl
  | cons c cs ih => simp only [maskFrom, ih, UInt8.xor_assoc, UInt8.xor_self, UInt8.xor_zero]

theorem maskFrom_length (k : Key) (i : Nat) (p : Bytes) : (maskFrom k i p).length = p.length := by
  induction p generalizing i with
  | nil => rfl
  | cons c cs ih => simp only [maskFrom, List.length_cons, ih]

theorem hdr0_bits : ∀ (fin : Bool) (op : Fin 16),
    (((UInt8.ofNat ((if fin then 128 else 0) + op.val)) &&& 0x80) != 0) = fin ∧
    ((UInt8.ofNat ((if fin then 128 else 0) + op.val)) &&& 0xF).toNat = op.val := by decide

theorem hdr1_bits : ∀ (m : Bool) (l : Fin 128),
    (((UInt8.ofNat ((if m then 128 else 0) + l.val)) &&& 0x80) != 0) = m ∧
    ((UInt8.ofNat ((if m then 128 else 0) + l.val)) &&& 0x7F).toNat = l.val := by decide

theorem Key.toBytes_length (k : Key) : k.toBytes.length = 4 := rfl

/-- the frame `_parse_messages` sees for a peer's frame -/
def RFrame.seen (f : RFrame) : Frame := ⟨f.fin, f.opcode, f.payload⟩

/-- the length field of the encoder, as the codec's header analysis reads it -/
theorem lenField_spec (n : Nat) (hn : n < 2 ^ 64) :
    (lenField n).1 < 128 ∧
    (lenField n).2.length = (if (lenField n).1 ≥ 126 then extLen (lenField n).1 else 0) ∧
    (if (lenField n).1 ≥ 126 then beFold (lenField n).2 else (lenField n).1) = n := by
  unfold lenField
  by_cases c1 : n ≤ 125
  · simp only [c1, if_true]; exact ⟨by omega, by rw [if_neg (by omega)]; rfl, by rw [if_neg (by omega)]⟩
  · by_cases c2 : n < 65536
    · simp only [c1, c2, if_true, if_false, beOctets_length, beFold_beOctets 2 n (by omega)]
      exact ⟨by omega, rfl, by simp⟩
    · simp only [c1, c2, if_false, beOctets_length, beFold_beOctets 8 n (by omega)]
      exact ⟨by omega, rfl, by simp⟩

theorem parseFrame_encode (f : RFrame) (hop : f.opcode < 16) (hn : f.payload.length < 2 ^ 64)
    (rest : Bytes) : parseFrame (rfcEncodeFrame f ++ rest) = some (f.seen, rest) := by
  obtain ⟨fin, op, key, payload⟩ := f
  obtain ⟨hl, hext, hplen⟩ := lenField_spec payload.length hn
  have h0 := hdr0_bits fin ⟨op, hop⟩
  -- two header bytes, the length bytes, then key and payload bytes `KB`
  have main : ∀ (m : Bool) (KB : Bytes), KB.length = (if m then 4 else 0) + payload.length →
      parseFrame (UInt8.ofNat ((if fin then 128 else 0) + op) ::
        UInt8.ofNat ((if m then 128 else 0) + (lenField payload.length).1) ::
          ((lenField payload.length).2 ++ (KB ++ rest))) =
        some (frameOf ⟨fin, op, m, payload.length, 2 + (lenField payload.length).2.length⟩ KB, rest) := by
    intro m KB hKB
    have h1 := hdr1_bits m ⟨_, hl⟩
    simp only at h0 h1
    have hhd : mkHdr (UInt8.ofNat ((if fin then 128 else 0) + op))
        (UInt8.ofNat ((if m then 128 else 0) + (lenField payload.length).1)) (lenField payload.length).2 =
        ⟨fin, op, m, payload.length, 2 + (lenField payload.length).2.length⟩ := by
      simp only [mkHdr, h0.1, h0.2, h1.1, h1.2, hplen]
    rw [parseFrame_eq, cut_eq_some.2 ⟨rfl, by rw [extOf, h1.2, hext]⟩]
    simp only [Option.bind_some, hhd]
    rw [cut_eq_some.2 ⟨rfl, hKB⟩]; rfl
  cases key with
  | none =>
    have := main false payload (by simp)
    simpa [rfcEncodeFrame, RFrame.seen, frameOf] using this
  | some k =>
    have := main true (k.toBytes ++ maskFrom k 0 payload) (by simp [maskFrom_length, Key.toBytes_length])
    simp only [frameOf, if_true, List.take_left' (Key.toBytes_length k), List.drop_left' (Key.toBytes_length k),
      xorKey_eq_maskFrom, maskFrom_invol] at this
    simpa [rfcEncodeFrame, RFrame.seen] using this

/-- decoder state vs. the message being assembled in the specification -/
def Rel (s : St) : Option (Bool × Bytes) → Prop
  | none => s.pending = []
  | some (t, acc) => s.pending = acc ∧ s.ptype = some (if t then 1 else 2)

def curTag : Option (Bool × Bytes) → Option Unit
  | none => none
  | some _ => some ()

theorem rfcEncodeFrames_cons (f : RFrame) (fs : List RFrame) (tail : Bytes) :
    rfcEncodeFrames (f :: fs) ++ tail = rfcEncodeFrame f ++ (rfcEncodeFrames fs ++ tail) := by
  simp [rfcEncodeFrames, List.flatMap_cons, List.append_assoc]

theorem conforming_cons {cur : Option Unit} {f : RFrame} {fs : List RFrame}
    (h : conforming cur (f :: fs) = true) :
    f.payload.length < 2 ^ 63 ∧
    (if f.opcode = 8 then f.fin = true
     else if f.opcode = 9 ∨ f.opcode = 10 then f.fin = true ∧ conforming cur fs = true
     else match cur with
       | none => (f.opcode = 1 ∨ f.opcode = 2) ∧ conforming (if f.fin then none else some ()) fs = true
       | some _ => f.opcode = 0 ∧ conforming (if f.fin then none else some ()) fs = true) := by
  unfold conforming at h
  simp only [Bool.and_eq_true, decide_eq_true_eq] at h
  refine ⟨h.1, ?_⟩
  have h2 := h.2
  split
  · rename_i h8; rw [if_pos h8] at h2; simp only [Bool.and_eq_true, decide_eq_true_eq] at h2; exact h2.1
  · rename_i h8
    rw [if_neg h8] at h2
    split
    · rename_i h9; rw [if_pos h9] at h2; simp only [Bool.and_eq_true, decide_eq_true_eq] at h2
      exact ⟨h2.1.1, h2.2⟩
    · rename_i h9
      rw [if_neg h9] at h2
      cases cur with
      | none => simpa using h2
      | some u => simpa using h2

/-- Simulation step.  For the next frame of a conforming peer, in a state that holds the message the
    specification is assembling (`Rel`): a close frame stops the loop with the close event; any other
    frame does not stop it, leaves the closing flags alone, emits what `expected` emits for it, and
    leads to a state that again holds the specification's message. -/
theorem applyFrame_expected {s : St} {cur : Option (Bool × Bytes)} {f : RFrame} {fs : List RFrame}
    (hr : Rel s cur) (hc : conforming (curTag cur) (f :: fs) = true) :
    f.opcode < 16 ∧ f.payload.length < 2 ^ 63 ∧
    if f.opcode = 8 then
      applyFrame s f.seen = ({ s with closeRecv := true }, [Out.closeEvt], true) ∧
      expected s.closeSent cur (f :: fs) = [Out.closeEvt]
    else ∃ cur', (applyFrame s f.seen).2.2 = false ∧ Rel (applyFrame s f.seen).1 cur' ∧
      conforming (curTag cur') fs = true ∧ (applyFrame s f.seen).1.closeSent = s.closeSent ∧
      (applyFrame s f.seen).1.closeRecv = s.closeRecv ∧
      expected s.closeSent cur (f :: fs) = (applyFrame s f.seen).2.1 ++ expected s.closeSent cur' fs := by
  obtain ⟨hlen, hcase⟩ := conforming_cons hc
  by_cases h8 : f.opcode = 8
  · rw [if_pos h8] at hcase ⊢
    exact ⟨by omega, hlen, by simp [applyFrame, RFrame.seen, h8, hcase], by simp [expected, h8]⟩
  · rw [if_neg h8] at hcase ⊢
    by_cases h9 : f.opcode = 9 ∨ f.opcode = 10
    · rw [if_pos h9] at hcase
      refine ⟨by omega, hlen, cur, ?_⟩
      -- here and below `simp` computes `applyFrame` and `expected` on the frame's opcode class; both give the same
      -- outputs and `cur'`, and what is left of the goal is the tail of `conforming`, which is `hconf`
      rcases h9 with h9 | h9 <;> simp [applyFrame, RFrame.seen, expected, h9, hcase.1, hcase.2, hr]
    · rw [if_neg h9] at hcase
      cases cur with
      | none =>
        obtain ⟨hop, hconf⟩ := hcase
        have hr0 : s.pending = [] := hr
        refine ⟨by omega, hlen, if f.fin then none else some (decide (f.opcode = 1), f.payload), ?_⟩
        cases hfin : f.fin <;> rw [hfin] at hconf <;>
          rcases hop with h | h <;> simp [applyFrame, RFrame.seen, expected, Rel, curTag, h, hfin, hr0] <;> simpa using hconf
      | some ta =>
        obtain ⟨t, acc⟩ := ta
        obtain ⟨hop, hconf⟩ := hcase
        obtain ⟨hp, hpt⟩ := hr
        refine ⟨by omega, hlen, if f.fin then none else some (t, acc ++ f.payload), ?_⟩
        cases hfin : f.fin <;> rw [hfin] at hconf <;> cases t <;>
          simp [applyFrame, RFrame.seen, expected, Rel, curTag, hop, hfin, hp, hpt] <;> simpa using hconf

theorem parseLoop_frames (cs : Bool) (fs : List RFrame) (tail : Bytes) :
    ∀ (s : St) (cur : Option (Bool × Bytes)),
      conforming (curTag cur) fs = true → Rel s cur → s.closeSent = cs →
      (parseFrame tail = none ∨ fs.any (fun f => f.opcode == 8) = true) →
      (parseLoop s (rfcEncodeFrames fs ++ tail)).2 = expected cs cur fs ∧
      (parseLoop s (rfcEncodeFrames fs ++ tail)).1.closeRecv
        = (s.closeRecv || fs.any (fun f => f.opcode == 8)) := by
  induction fs with
  | nil =>
    intro s cur _ _ _ ht
    have ht' : parseFrame tail = none := by simpa using ht
    simp [rfcEncodeFrames, parseLoop_none ht', expected]
  | cons f fs ih =>
    intro s cur hc hr hcs ht
    subst hcs
    have hr' : Rel { s with buffer := [] } cur := by cases cur <;> exact hr
    obtain ⟨hop, hlen, hstep⟩ := applyFrame_expected hr' hc
    rw [rfcEncodeFrames_cons, parseLoop_some (parseFrame_encode f hop (by omega) _), List.any_cons]
    by_cases h8 : f.opcode = 8
    · rw [if_pos h8] at hstep
      rw [hstep.1, if_pos rfl, show (f.opcode == 8) = true by simpa using h8]
      exact ⟨hstep.2.symm, by simp⟩
    · rw [if_neg h8] at hstep
      obtain ⟨cur', hns, hrel, hconf, hcs, hcr, hexp⟩ := hstep
      obtain ⟨ih1, ih2⟩ := ih _ cur' hconf hrel hcs (ht.imp_right (by simpa [h8] using ·))
      rw [hns, if_neg (by simp), show (f.opcode == 8) = false by simpa using h8, Bool.false_or]
      exact ⟨by rw [ih1]; exact hexp.symm, by rw [ih2, hcr]⟩

theorem or128 : ∀ l : Fin 128, (l.val ||| 0x80) = 128 + l.val := by decide

theorem encodeTail_eq (data : Bytes) (mask : Bool) (k : Key) :
    encodeTail data mask k.toBytes =
      UInt8.ofNat ((if mask then 128 else 0) + (lenField data.length).1) ::
        ((lenField data.length).2 ++ (if mask then k.toBytes ++ maskFrom k 0 data else data)) := by
  unfold encodeTail lenField
  simp only [thr7, thr16, beBytes_eq, xorKey_eq_maskFrom]
  by_cases c1 : data.length ≤ 125
  · have := or128 ⟨data.length, by omega⟩
    simp only at this
    cases mask <;> simp [c1, this, beOctets]
  · by_cases c2 : data.length ≤ 65535
    · have c2' : data.length < 65536 := by omega
      have := or128 ⟨126, by omega⟩
      cases mask <;> simp [c1, c2, c2'] <;> rfl
    · have c2' : ¬ data.length < 65536 := by omega
      cases mask <;> simp [c1, c2, c2'] <;> rfl

theorem pongFrame_eq (client : Bool) (payload : Bytes) (k : Key) :
    pongFrame client payload k.toBytes =
      rfcEncodeFrame ⟨true, 10, if client then some k else none, payload⟩ := by
  unfold pongFrame rfcEncodeFrame
  rw [encodeTail_eq]
  cases client <;> simp <;> rfl

theorem rfcExtLen_encode (n : Nat) (hn : n < 2 ^ 63) (R1 : Bytes) :
    rfcExtLen (lenField n).1 ((lenField n).2 ++ R1) = some (n, R1) := by
  unfold rfcExtLen lenField
  by_cases c1 : n ≤ 125
  · simp [c1]
  · by_cases c2 : n < 65536
    · have hv : beValue (beOctets 2 n) = n := by rw [beValue_beOctets, Nat.mod_eq_of_lt (by omega)]
      simp only [c1, c2, if_true, if_false]
      have hlen : ¬ (beOctets 2 n ++ R1).length < 2 := by simp [beOctets_length]
      rw [if_neg hlen,
        List.take_left' (beOctets_length 2 n), List.drop_left' (beOctets_length 2 n), hv, if_neg c1]
      simp
    · have hv : beValue (beOctets 8 n) = n := by rw [beValue_beOctets, Nat.mod_eq_of_lt (by omega)]
      simp only [c1, c2, if_false]
      have hlen : ¬ (beOctets 8 n ++ R1).length < 8 := by simp [beOctets_length]
      have hc : ¬ (n < 65536 ∨ n ≥ 2 ^ 63) := by omega
      rw [if_neg hlen,
        List.take_left' (beOctets_length 8 n), List.drop_left' (beOctets_length 8 n), hv, if_neg hc]
      simp

theorem rfcBody_unmasked (fin : Bool) (op : Nat) (payload rest : Bytes) :
    rfcBody fin op false payload.length (payload ++ rest) = some (⟨fin, op, none, payload⟩, rest) := by
  unfold rfcBody
  simp

theorem rfcBody_masked (fin : Bool) (op : Nat) (k : Key) (payload rest : Bytes) :
    rfcBody fin op true payload.length (k.toBytes ++ (maskFrom k 0 payload ++ rest))
      = some (⟨fin, op, some k, payload⟩, rest) := by
  unfold rfcBody Key.toBytes
  simp only [if_true, List.cons_append, List.nil_append]
  rw [if_neg (by simp [maskFrom_length]),
    List.take_left' (maskFrom_length k 0 payload), List.drop_left' (maskFrom_length k 0 payload),
    maskFrom_invol]

/-- the strict decoder on two header bytes given by their fields: reserved bits clear, so it goes on with
    the length field and the body -/
theorem rfcDecodeFrame_hdr (fin m : Bool) {op l7 : Nat} (hop : op < 16) (hl : l7 < 128) (r : Bytes) :
    rfcDecodeFrame (UInt8.ofNat ((if fin then 128 else 0) + op) :: UInt8.ofNat ((if m then 128 else 0) + l7) :: r) =
      match rfcExtLen l7 r with
      | none => none
      | some (n, r1) => rfcBody fin op m n r1 := by
  have hb0 : (UInt8.ofNat ((if fin then 128 else 0) + op)).toNat = (if fin then 128 else 0) + op := by
    rw [UInt8.toNat_ofNat']; cases fin <;> simp <;> omega
  have hb1 : (UInt8.ofNat ((if m then 128 else 0) + l7)).toNat = (if m then 128 else 0) + l7 := by
    rw [UInt8.toNat_ofNat']; cases m <;> simp <;> omega
  have e1 : ((if fin then 128 else 0) + op) / 16 % 8 = 0 := by cases fin <;> simp <;> omega
  have e2 : ((if fin then 128 else 0) + op) % 16 = op := by cases fin <;> simp <;> omega
  have e3 : decide (((if fin then 128 else 0) + op) ≥ 128) = fin := by cases fin <;> simp <;> omega
  have e4 : ((if m then 128 else 0) + l7) % 128 = l7 := by cases m <;> simp <;> omega
  have e5 : decide (((if m then 128 else 0) + l7) ≥ 128) = m := by cases m <;> simp <;> omega
  simp only [rfcDecodeFrame, hb0, hb1, e1, e2, e3, e4, e5, ne_eq, not_true, if_false]
  rfl

/-- the strict RFC decoder inverts the RFC encoder (spec-internal sanity + used for
    `encode_conforms`) -/
theorem rfcDecodeFrame_encode (f : RFrame) (hop : f.opcode < 16) (hn : f.payload.length < 2 ^ 63)
    (rest : Bytes) : rfcDecodeFrame (rfcEncodeFrame f ++ rest) = some (f, rest) := by
  obtain ⟨fin, op, key, payload⟩ := f
  simp only at hop hn
  have hl := (lenField_spec payload.length (by omega)).1
  -- two header bytes, the length field, then (key and) payload: each part is read back by its reader
  cases key with
  | none =>
    have := rfcDecodeFrame_hdr fin false hop hl ((lenField payload.length).2 ++ (payload ++ rest))
    rw [rfcExtLen_encode _ hn] at this
    simpa [rfcEncodeFrame] using this.trans (rfcBody_unmasked fin op payload rest)
  | some k =>
    have := rfcDecodeFrame_hdr fin true hop hl ((lenField payload.length).2 ++ (k.toBytes ++ (maskFrom k 0 payload ++ rest)))
    rw [rfcExtLen_encode _ hn] at this
    simpa [rfcEncodeFrame] using this.trans (rfcBody_masked fin op k payload rest)

theorem rfcEncodeFrame_length (f : RFrame) : 2 ≤ (rfcEncodeFrame f).length := by
  unfold rfcEncodeFrame
  cases f.key <;> simp <;> omega

theorem rfcDecodeFuel_single {x : Bytes} {f : RFrame} (m : Nat)
    (hd : rfcDecodeFrame x = some (f, [])) : rfcDecodeFuel (m + 1) x = some [f] := by
  cases x with
  | nil => simp [rfcDecodeFrame] at hd
  | cons b x =>
    simp only [rfcDecodeFuel, hd]

theorem rfcDecodeFrames_single (f : RFrame) (hop : f.opcode < 16) (hn : f.payload.length < 2 ^ 63) :
    rfcDecodeFrames (rfcEncodeFrame f) = some [f] := by
  unfold rfcDecodeFrames
  have h2 := rfcEncodeFrame_length f
  have hd := rfcDecodeFrame_encode f hop hn []
  rw [List.append_nil] at hd
  obtain ⟨m, hm⟩ : ∃ m, (rfcEncodeFrame f).length = m + 1 := ⟨(rfcEncodeFrame f).length - 1, by omega⟩
  rw [hm]
  exact rfcDecodeFuel_single m hd

theorem parseLoop_close_flag (s : St) (d : Bytes) (h : Out.closeEvt ∈ (parseLoop s d).2) :
    (parseLoop s d).1.closeRecv = true := by
  revert h
  refine parseLoop_induct (P := fun _ _ r => Out.closeEvt ∈ r.2 → r.1.closeRecv = true)
    (fun _ _ _ h => by simp at h) (fun _ _ _ _ _ hstop _ => applyFrame_stop hstop)
    (fun _ _ _ _ _ hstop ih h => ?_) s d
  rcases List.mem_append.1 h with h | h
  · rw [applyFrame_close_flag h] at hstop; exact absurd hstop (by simp)
  · exact ih h

theorem expected_ctls (cur : Option (Bool × Bytes)) (cs : List Ctl) (X : List RFrame) :
    expected false cur (cs.map Ctl.frame ++ X) = pongs cs ++ expected false cur X := by
  induction cs with
  | nil => rfl
  | cons c cs ih =>
    cases hp : c.ping <;> simp [expected, Ctl.frame, pongs, hp, ih] <;> rfl

theorem conforming_ctls (cur : Option Unit) (cs : List Ctl) (X : List RFrame)
    (hok : cs.all Ctl.ok = true) (hX : conforming cur X = true) :
    conforming cur (cs.map Ctl.frame ++ X) = true := by
  induction cs with
  | nil => exact hX
  | cons c cs ih =>
    simp only [List.all_cons, Bool.and_eq_true] at hok
    have h1 : c.payload.length ≤ 125 := by simpa [Ctl.ok] using hok.1
    have := ih hok.2
    cases hp : c.ping <;> simp [conforming, Ctl.frame, hp, this] <;> omega

theorem expected_more (t : Bool) (more : List (List Ctl × Frag)) (hne : more ≠ []) :
    ∀ (acc : Bytes) (X : List RFrame),
    expected false (some (t, acc)) (moreFrames more ++ X) =
      more.flatMap (fun p => pongs p.1) ++
        Out.message t (acc ++ (more.map (fun p => p.2.payload)).flatten) :: expected false none X := by
  induction more with
  | nil => exact absurd rfl hne
  | cons p rest ih =>
    intro acc X
    obtain ⟨cs, fr⟩ := p
    simp only [moreFrames, List.append_assoc, List.cons_append, expected_ctls]
    cases rest with
    | nil => simp [expected, moreFrames]
    | cons q rest' =>
      have := ih (by simp) (acc ++ fr.payload) X
      simp [expected, this, List.append_assoc]

theorem conforming_more (more : List (List Ctl × Frag)) (hne : more ≠ []) (hok : moreOk more = true)
    (X : List RFrame) (hX : conforming none X = true) :
    conforming (some ()) (moreFrames more ++ X) = true := by
  induction more with
  | nil => exact absurd rfl hne
  | cons p rest ih =>
    obtain ⟨cs, fr⟩ := p
    simp only [moreOk, List.all_cons, Bool.and_eq_true, decide_eq_true_eq] at hok
    obtain ⟨⟨hcs, hfr⟩, hrest⟩ := hok
    simp only [moreFrames, List.append_assoc, List.cons_append]
    apply conforming_ctls _ _ _ hcs
    cases rest with
    | nil => simp [conforming, moreFrames, hfr, hX]
    | cons q rest' =>
      have := ih (by simp) (by simpa [moreOk] using hrest)
      simp [conforming, hfr, this]

theorem expected_item (it : Item) (X : List RFrame) :
    expected false none (it.frames ++ X) = it.outs ++ expected false none X := by
  cases it with
  | ctl c =>
    have := expected_ctls none [c] X
    simpa [Item.frames, Item.outs] using this
  | msg m =>
    obtain ⟨text, first, more⟩ := m
    cases more with
    | nil => cases text <;> simp [Item.frames, Item.outs, Msg.frames, Msg.payload, moreFrames, expected]
    | cons p rest =>
      have := expected_more text (p :: rest) (by simp) first.payload X
      cases text <;> simp [Item.frames, Item.outs, Msg.frames, Msg.payload, expected, this]

theorem conforming_item (it : Item) (hok : it.ok = true) (X : List RFrame) (hX : conforming none X = true) :
    conforming none (it.frames ++ X) = true := by
  cases it with
  | ctl c =>
    have := conforming_ctls none [c] X (by simpa [Item.ok] using hok) hX
    simpa [Item.frames] using this
  | msg m =>
    obtain ⟨text, first, more⟩ := m
    simp only [Item.ok, Bool.and_eq_true, decide_eq_true_eq] at hok
    cases more with
    | nil => cases text <;> simp [Item.frames, Msg.frames, moreFrames, conforming, hok.1, hX]
    | cons p rest =>
      have := conforming_more (p :: rest) (by simp) hok.2 X hX
      cases text <;> simp [Item.frames, Msg.frames, conforming, hok.1, this]

theorem expected_items (items : List Item) (X : List RFrame) :
    expected false none (items.flatMap Item.frames ++ X) = items.flatMap Item.outs ++ expected false none X := by
  induction items with
  | nil => rfl
  | cons it items ih => simp [List.flatMap_cons, List.append_assoc, expected_item, ih]

theorem conforming_items (items : List Item) (hok : items.all Item.ok = true) (X : List RFrame)
    (hX : conforming none X = true) : conforming none (items.flatMap Item.frames ++ X) = true := by
  induction items with
  | nil => exact hX
  | cons it items ih =>
    simp only [List.all_cons, Bool.and_eq_true] at hok
    simp only [List.flatMap_cons, List.append_assoc]
    exact conforming_item it hok.1 _ (ih hok.2)

end WS
end CV
