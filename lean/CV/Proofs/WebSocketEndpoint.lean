import CV.Model.WebSocketEndpoint
import CV.Proofs.WebSocket
/-
For the endpoint part of C17: the head search is stable under
extension of the buffer, so the reads split at exactly the end of the head, whatever the cuts;
the per-socket table keeps connections apart.
-/
namespace CV
namespace WSE
open CV.WS

theorem splitAfter_some {pat d a b : Bytes} (h : splitAfter pat d = some (a, b)) :
    d = a ++ b ∧ ∃ pre, a = pre ++ pat := by
  induction d generalizing a b with
  | nil => simp [splitAfter] at h
  | cons x xs ih =>
    unfold splitAfter at h
    split at h
    · next hp =>
      obtain ⟨rfl, rfl⟩ := Prod.mk.inj (Option.some.inj h)
      obtain ⟨t, ht⟩ := List.isPrefixOf_iff_prefix.mp hp
      exact ⟨by rw [← ht]; simp, [], rfl⟩
    · split at h
      · next a' b' hr =>
        obtain ⟨rfl, rfl⟩ := Prod.mk.inj (Option.some.inj h)
        obtain ⟨h1, pre, h2⟩ := ih hr
        exact ⟨by rw [h1]; rfl, x :: pre, by rw [h2]; rfl⟩
      · exact absurd h (by simp)

theorem splitAfter_sound {pat d a b : Bytes} (h : splitAfter pat d = some (a, b)) : d = a ++ b :=
  (splitAfter_some h).1

theorem splitAfter_len {pat d a b : Bytes} (h : splitAfter pat d = some (a, b)) : pat.length ≤ d.length := by
  obtain ⟨rfl, pre, rfl⟩ := splitAfter_some h
  simp only [List.length_append]; omega

theorem isPrefixOf_append_of_le {pat d : Bytes} (e : Bytes) (h : pat.length ≤ d.length) :
    pat.isPrefixOf (d ++ e) = pat.isPrefixOf d := by
  rw [Bool.eq_iff_iff, List.isPrefixOf_iff_prefix, List.isPrefixOf_iff_prefix,
    List.prefix_iff_eq_take, List.prefix_iff_eq_take, List.take_append_of_le_length h]

theorem splitAfter_append {pat d a b : Bytes} (e : Bytes) (h : splitAfter pat d = some (a, b)) :
    splitAfter pat (d ++ e) = some (a, b ++ e) := by
  induction d generalizing a b with
  | nil => simp [splitAfter] at h
  | cons x xs ih =>
    have hlen := splitAfter_len h
    unfold splitAfter at h
    rw [List.cons_append]
    unfold splitAfter
    rw [← List.cons_append, isPrefixOf_append_of_le e hlen]
    split at h
    · rename_i hp
      rw [if_pos hp]
      have h' := Option.some.inj h
      have ha : pat = a := congrArg Prod.fst h'
      have hb : (x :: xs).drop pat.length = b := congrArg Prod.snd h'
      rw [List.drop_append_of_le_length hlen, hb, ← ha]
    · rename_i hp
      rw [if_neg hp]
      split at h
      · rename_i a' b' hr
        have h' := Option.some.inj h
        have ha : x :: a' = a := congrArg Prod.fst h'
        have hb : b' = b := congrArg Prod.snd h'
        rw [ih hr, ← ha, ← hb]
      · exact absurd h (by simp)

/-- the head is the first line and what follows it up to the first empty line -/
theorem splitHead_some {d a b : Bytes} (h : splitHead d = some (a, b)) :
    ∃ line r hh, splitAfter crlf d = some (line, r) ∧ splitAfter crlf2 r = some (hh, b) ∧ a = line ++ hh := by
  unfold splitHead at h
  split at h
  · exact absurd h (by simp)
  · rename_i line r h1
    split at h
    · exact absurd h (by simp)
    · rename_i hh rest h2
      obtain ⟨rfl, rfl⟩ := Prod.mk.inj (Option.some.inj h)
      exact ⟨line, r, hh, h1, h2, rfl⟩

theorem splitHead_sound {d a b : Bytes} (h : splitHead d = some (a, b)) : d = a ++ b := by
  obtain ⟨line, r, hh, h1, h2, rfl⟩ := splitHead_some h
  rw [splitAfter_sound h1, splitAfter_sound h2, List.append_assoc]

theorem splitHead_append {d a b : Bytes} (e : Bytes) (h : splitHead d = some (a, b)) :
    splitHead (d ++ e) = some (a, b ++ e) := by
  obtain ⟨line, r, hh, h1, h2, rfl⟩ := splitHead_some h
  simp only [splitHead, splitAfter_append e h1, splitAfter_append e h2]

theorem hsFeed_exact {h tail : Bytes} : ∀ (segs : List Bytes) (buf : Bytes), splitHead buf = none →
    splitHead (buf ++ segs.flatten) = some (h, tail) →
      ∃ left later, hsFeed buf segs = some (h, left, later) ∧ left ++ later.flatten = tail
  | [], buf, hb, hfull => by rw [List.flatten_nil, List.append_nil, hb] at hfull; cases hfull
  | r :: rs, buf, _, hfull => by
    rw [List.flatten_cons, ← List.append_assoc] at hfull
    unfold hsFeed
    cases hsp : splitHead (buf ++ r) with
    | none => exact hsFeed_exact rs (buf ++ r) hsp hfull
    | some p =>
      -- the head found in `buf ++ r` is the head of every extension
      obtain ⟨rfl, rfl⟩ := Prod.mk.inj (Option.some.inj ((splitHead_append rs.flatten hsp).symm.trans hfull))
      exact ⟨p.2, rs, rfl, rfl⟩

theorem splitHead_nil : splitHead [] = none := rfl

theorem hsFeed_append {buf : Bytes} {a : List Bytes} {h left : Bytes} {later : List Bytes} (b : List Bytes)
    (hf : hsFeed buf a = some (h, left, later)) : hsFeed buf (a ++ b) = some (h, left, later ++ b) := by
  induction a generalizing buf with
  | nil => simp [hsFeed] at hf
  | cons r rs ih =>
    rw [List.cons_append]
    unfold hsFeed at hf ⊢
    cases hsp : splitHead (buf ++ r) with
    | none =>
      rw [hsp] at hf
      simp only at hf ⊢
      exact ih hf
    | some p =>
      obtain ⟨h0, l0⟩ := p
      rw [hsp] at hf
      simp only at hf ⊢
      have h' := Option.some.inj hf
      have e1 : h0 = h := congrArg Prod.fst h'
      have e2 : l0 = left := congrArg (fun p => p.2.1) h'
      have e3 : rs = later := congrArg (fun p => p.2.2) h'
      rw [e1, e2, e3]

theorem step_other (t : Table) (e : Ev) (s : Nat) (h : e.sock ≠ s) : (step t e).1 s = t s := by
  cases e with
  | upgrade k => simp [step, Table.set, Ne.symm (show k ≠ s from h)]
  | read k d => cases hk : t k <;> simp [step, hk, Table.set, Ne.symm (show k ≠ s from h)]
  | disconnect k => simp [step, Table.set, Ne.symm (show k ≠ s from h)]

theorem step_same (t t' : Table) (e : Ev) (h : t e.sock = t' e.sock) :
    (step t e).1 e.sock = (step t' e).1 e.sock ∧ (step t e).2 = (step t' e).2 := by
  cases e with
  | upgrade k => simp [step, Table.set, Ev.sock]
  | read k d =>
    simp only [Ev.sock] at h
    cases hk : t k with
    | none =>
      have hk' : t' k = none := by rw [← h]; exact hk
      simp [step, hk, hk', Ev.sock]
    | some st =>
      have hk' : t' k = some st := by rw [← h]; exact hk
      simp [step, hk, hk', Ev.sock, Table.set]
  | disconnect k => simp [step, Table.set, Ev.sock]

theorem step_tagged (t : Table) (e : Ev) : ∀ p ∈ (step t e).2, p.1 = e.sock := by
  cases e with
  | upgrade k => simp [step]
  | read k d =>
    cases hk : t k with
    | none => simp [step, hk]
    | some st =>
      simp only [step, hk]
      intro p hp
      simp only [List.mem_map] at hp
      obtain ⟨o, _, ho⟩ := hp
      rw [← ho]; rfl
  | disconnect k => simp [step]

theorem run_eq_runAll : ∀ (evs : List Ev) (t : Table), run t evs = Feed.runAll step t evs :=
  Feed.eq_runAll (fun _ => rfl) fun _ _ _ => rfl

theorem run_reads (s : Nat) : ∀ (reads : List Bytes) (t : Table),
    (run t (reads.map (Ev.read s))).2 =
      match t s with
      | some st => (feedAll st reads).2.map (fun o => (s, o))
      | none => []
  | [], t => by cases t s <;> rfl
  | d :: ds, t => by
    have ih := run_reads s ds (step t (Ev.read s d)).1
    simp only [List.map_cons, run, ih]
    cases h : t s with
    | none => simp [step, h]
    | some st => simp [step, h, Table.set, feedAll]

end WSE
end CV
