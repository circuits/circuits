import CV.Proofs.CoreMatch
import CV.Proofs.InvCache
import CV.Proofs.InvForest
import CV.Proofs.ClassTable
import CV.Proofs.ClassTableC3
import CV.Proofs.ClassTableAdd
/-
C01 - events reach exactly the matching handlers, once, using the live handler set.
Matching layer: `collect` is the model of `Manager.getHandlers`; the dispatcher calls it with fuel
`comps.length + 1` whenever it rebuilds a cache entry; its result is exactly the handler set of
the property statement, each handler once.
Cache layer (machine level): the set *used* at dispatch is this set, also after handlers and
components were added or removed.
Class layer (CV/Model/ClassTable.lean): the handler table of an instance derived from the class
statements - MRO by C3 (also as a relation: deterministic, refused exactly when stuck), `__new__`,
and `newComponent` against `BaseComponent.__init__`'s `addHandler` calls.
-/
namespace CV.C01
open CV.Core CV.Core.Live

/-- a handler is collected for `(name, target)` from `root` **iff** it belongs to a component
    reachable from `root` through at most `n` child links and either is installed for `name`
    (or for all events) with a matching channel - equal, either side `'*'`, or the target is the
    component itself - or is a global handler of that component -/
theorem collect_iff (s : St) (n root : Nat) (name : Name) (target : Chan) (h : Nat) :
    h ∈ collect s (n + 1) root name target ↔
      ∃ d, ReachIn s n root d ∧ matchesAt s d name target h :=
  mem_collect s name target h n root

/-- ... and exactly once -/
theorem collect_once (s : St) (fuel root : Nat) (name : Name) (target : Chan) :
    (collect s fuel root name target).Nodup :=
  collect_nodup s fuel root name target

/-- the channel rule of the statement, spelled out -/
theorem chanOk_iff (compChan : Chan) (c : Nat) (hd : Handler) (target : Chan) :
    chanOk compChan c hd target = true ↔
      target = .star ∨ hd.chan.getD compChan = .star ∨ hd.chan.getD compChan = target ∨ target = .inst c := by
  simp [chanOk, or_assoc]

/-- non-vacuity: a two-level tree where the grandchild's handler is found through the child -/
example :
    let s : St := { comps := [{ parent := 0, root := 0, children := [1] },
                              { parent := 0, root := 0, children := [2] },
                              { parent := 1, root := 0, htab := [(some ⟨1, []⟩, 0)] }],
                    hs := [{ owner := 2, names := [⟨1, []⟩], chan := none, kind := .user 0 }] }
    collect s 4 0 ⟨1, []⟩ (.named 7) = [0] := by decide +kernel

/-! ### cache layer: the dispatcher never uses a stale handler set

`_dispatcher` memoises the sorted handler list per `(event name, channels)` in the `_cache` of
the component that dispatches and rebuilds it when that component's `_cache_needs_refresh` is
set.  `freshHandlers s r name chans` (CV/Proofs/CoreFacts.lean) is what a rebuild computes
before the framework's fallback handler is appended: `collect` for every channel, concatenated
and sorted by priority; by `collect_iff` that is the handler set of the property statement.

Hypotheses on the initial state: `InitForest s0` (every component a detached root; it gives the
forest invariant of C07 - `FInv.reach` in CV/Proofs/InvForest.lean, i.e. `CV.C07.forest_inv` -, from which the proof uses: all components below a root carry
that root in their `root` field, so `x.root._cache_needs_refresh = True` flags the component that
will dispatch for `x`); further (CV/Proofs/InvCache.lean): `InitHandlers s0` - whatever is
installed in a handler table is a declared handler record and not one of the two framework
fallback records; `InitCache s0` - nothing has been dispatched yet (all caches empty).

Machine-level theorems, for every configuration of every driver session (`Reach`): cached lists
are live (`cache_live_partial`, `cache_live_settled`), hence the list the dispatcher hands to the
handler loop is `freshHandlers` of the state at that very moment (`dispatch_uses_live_set`), i.e.
exactly the statement's set, by priority (`dispatch_exact_set`). -/

/-- every component that is its own parent (a root) and is not exempted by `E` either has
    `_cache_needs_refresh` set or caches only live lists -/
def CacheInvBut (E : Nat → Prop) (s : St) : Prop :=
  ∀ c, c < s.comps.length → (s.comp c).parent = c → ¬ E c →
    (s.comp c).dirty = true ∨
    ∀ key hs, (key, hs) ∈ (s.comp c).cache → nonFallback s hs = freshHandlers s c key.1 key.2

def CacheInv (s : St) : Prop := CacheInvBut (fun _ => False) s

/-- **Cache liveness.**  In every reachable configuration every root component has its refresh
    flag set or caches exactly what a rebuild would compute now - except the one component `x`
    that is in the middle of `_do_prepare_unregister_complete` (`detaching c x`: it has been made
    its own root by `_updateRoot(self)` and `self._cache_needs_refresh = True` is the very next
    step).

    Full statement wanted: `∀ c, Reach s0 c → CacheInv c.st`.  It is false in exactly that one
    kind of configuration (`cache_live_window_witness`): between the two steps `invoke
    prepUnregComplete` (detach + `_updateRoot`) and `prepUnregFin` (set the flag) the detached
    component is a root with a possibly stale cache and no flag.  The same holds between the two
    Python statements; no dispatch can happen there (the flag is set by the next step), so the
    exemption is invisible to `dispatch_uses_live_set`, which is proved at full strength. -/
theorem cache_live_partial (s0 : St) (h0 : InitForest s0) (hH : InitHandlers s0) (hC : InitCache s0) :
    ∀ c, Reach s0 c → CacheInvBut (detaching c) c.st := by
  have hF : ∀ c, Reach s0 c → ForestInv c.st := fun c hc => (FInv.reach h0 c hc).forest
  intro c hc x hx hpar hE
  have hlive := reach_live (K.init s0 hH hC) (fun c hc => (hF c hc).cacheFacts) c hc
  have hroot : (c.st.comp x).root = x := by
    rw [(hF c hc).rootOk x hx, if_pos hpar]
  exact hlive x hroot hE

/-- ... in particular, at full strength, whenever no component is in the middle of being
    detached (every configuration whose top frame is not `prepUnregFin`) -/
theorem cache_live_settled (s0 : St) (h0 : InitForest s0) (hH : InitHandlers s0) (hC : InitCache s0) :
    ∀ c, Reach s0 c → (∀ x, ¬ detaching c x) → CacheInv c.st := by
  intro c hc hno x hx hpar _
  exact cache_live_partial s0 h0 hH hC c hc x hx hpar (hno x)

/-- **Never a stale set.**  When `_dispatcher(e)` runs on a component `r` that is the top of its
    tree (`r.root = r`; by the forest invariant this is the same as `r.parent = r`, and every `r`
    that `flush`/`tick` dispatch on is `x.root` for some `x`) and `e` is not cancelled, the
    handler list `hs` the step puts into the handler loop satisfies: `hs` minus fallback records
    = `freshHandlers` of the state the loop starts in.  This holds however `r` got there - also
    for a component that was a root, became a child, and was detached again. -/
theorem dispatch_uses_live_set (s0 : St) (h0 : InitForest s0) (hH : InitHandlers s0) (hC : InitCache s0)
    (c : Cfg) (hc : Reach s0 c) (r e remaining : Nat) (k : List Frame)
    (hst : c.stack = .dispatcher r e remaining :: k) (hx : c.exn = none)
    (hr : (c.st.comp r).root = r) (hcan : (c.st.ev e).cancelled = false) :
    ∃ hs, (step c).stack = .hLoop r e hs false .none :: k ∧
      nonFallback (step c).st hs = freshHandlers (step c).st r (c.st.ev e).name (c.st.ev e).chans :=
  dispatcher_step_live (K.init s0 hH hC) (fun c hc => (FInv.reach h0 c hc).forest.cacheFacts)
    c hc r e remaining k hst hx hr hcan

/-- **Exactly the statement's set.**  In the situation of `dispatch_uses_live_set`: a non-fallback
    handler is in the list handed to the handler loop **iff** it belongs to a component reachable
    from `r` through child links and is installed for the event's name (or for all events) with a
    matching channel, or is a global handler there - for one of the event's channels; and the
    list is sorted by descending priority.  Handlers added or removed and components registered
    or unregistered before this moment are therefore always reflected. -/
theorem dispatch_exact_set (s0 : St) (h0 : InitForest s0) (hH : InitHandlers s0) (hC : InitCache s0)
    (c : Cfg) (hc : Reach s0 c) (r e remaining : Nat) (k : List Frame)
    (hst : c.stack = .dispatcher r e remaining :: k) (hx : c.exn = none)
    (hr : (c.st.comp r).root = r) (hcan : (c.st.ev e).cancelled = false) :
    ∃ hs, (step c).stack = .hLoop r e hs false .none :: k ∧
      (∀ h, h ∈ nonFallback (step c).st hs ↔
        ∃ ch, ch ∈ (c.st.ev e).chans ∧ ∃ d, ReachIn (step c).st (step c).st.comps.length r d ∧
          matchesAt (step c).st d (c.st.ev e).name ch h) ∧
      (nonFallback (step c).st hs).Pairwise
        (fun a b => ((step c).st.hs.getD a dfltHandler).prio ≥ ((step c).st.hs.getD b dfltHandler).prio) := by
  obtain ⟨hs, h1, h2⟩ := dispatch_uses_live_set s0 h0 hH hC c hc r e remaining k hst hx hr hcan
  refine ⟨hs, h1, ?_, ?_⟩
  · intro h; rw [h2]; exact mem_freshHandlers _ _ _ _ _
  · rw [h2]; exact freshHandlers_sorted _ _ _ _

/-- non-vacuity of the `Init…` hypotheses: one component with one installed user handler -/
example :
    let s : St := { comps := [{ parent := 0, root := 0, htab := [(some ⟨1, []⟩, 0)] }],
                    hs := [{ owner := 0, names := [⟨1, []⟩], chan := none, kind := .user 0 }] }
    InitHandlers s ∧ InitCache s ∧ InitForest s :=
  ⟨plain_tables_of_bounded _ (by decide +kernel), caches_empty_of_bounded _ (by decide +kernel),
   by unfold InitForest; decide +kernel⟩

/-! ### the exempted configuration really fails (witness) -/

abbrev runOp (s : St) (op : ExtOp) (n : Nat) : Cfg := runN n (startOf (envChange s 0 []) op)

/-- witness state: two components with their built-in `prepare_unregister_complete` handlers,
    a declared user handler 2 of component 1 for event name 1 -/
def v0 : St :=
  { comps := [{ parent := 0, root := 0, htab := [(some (Name.prepareUnregister.child sfxComplete), 0)] },
              { parent := 1, root := 1, htab := [(some (Name.prepareUnregister.child sfxComplete), 1)] }],
    hs := [{ owner := 0, names := [Name.prepareUnregister.child sfxComplete], chan := some (.inst 0), kind := .prepUnregComplete },
           { owner := 1, names := [Name.prepareUnregister.child sfxComplete], chan := some (.inst 1), kind := .prepUnregComplete },
           { owner := 1, names := [⟨1, []⟩], chan := none, kind := .user 0 }],
    progs := [[]],
    tmpls := [{ name := ⟨1, []⟩ }] }

/-- component 1 dispatches event 1 as a root (cache entry `[]`) ... -/
abbrev vc1 : Cfg := runOp v0 (.doAct 1 (.fire 0 none 0 false)) 20
abbrev vc2 : Cfg := runOp vc1.st (.flush 1) 40
/-- ... is registered under 0, gets handler 2 (the flag goes to root 0) ... -/
abbrev vc3 : Cfg := runOp vc2.st (.doAct 1 (.reg 1 0)) 20
abbrev vc4 : Cfg := runOp vc3.st (.doAct 1 (.addH 2)) 20
/-- ... and is unregistered; the second flush reaches `_do_prepare_unregister_complete` -/
abbrev vc5 : Cfg := runOp vc4.st (.doAct 1 (.unreg 1)) 20
abbrev vc6 : Cfg := runOp vc5.st (.flush 0) 200
abbrev vc7 : Cfg := runOp vc6.st (.flush 0) 5

/-- why `cache_live_partial` carries the exemption: in the configuration between the detach step
    and `self._cache_needs_refresh = True` the detached component 1 is a root whose cache still
    holds the list of its first life (`[]`, a rebuild gives `[2]`) and its flag is not yet set.
    The flag is set by the very next step, so no dispatch can see this. -/
theorem cache_live_window_witness :
    InitHandlers v0 ∧ InitCache v0 ∧ InitForest v0 ∧ Reach v0 vc7 ∧ detaching vc7 1 ∧ ¬ CacheInv vc7.st := by
  -- everything that is read off the run, in one evaluation: separate ones would each run the session again
  have hrun : (done vc1 && done vc2 && done vc3 && done vc4 && done vc5 && done vc6 && detachingB vc7 1 &&
      decide (1 < vc7.st.comps.length) && decide ((vc7.st.comp 1).parent = 1) && !(vc7.st.comp 1).dirty &&
      decide (((⟨1, []⟩, [.star]), []) ∈ (vc7.st.comp 1).cache) &&
      decide (nonFallback vc7.st [] ≠ freshHandlers vc7.st 1 ⟨1, []⟩ [.star])) = true := by decide +kernel
  simp only [Bool.and_eq_true, decide_eq_true_eq, Bool.not_eq_true'] at hrun
  obtain ⟨⟨⟨⟨⟨⟨⟨⟨⟨⟨⟨d1, d2⟩, d3⟩, d4⟩, d5⟩, d6⟩, hdet⟩, hlen⟩, hpar⟩, hdirty⟩, hmem⟩, hne⟩ := hrun
  refine ⟨plain_tables_of_bounded v0 (by decide +kernel), caches_empty_of_bounded v0 (by decide +kernel),
    by unfold InitForest; decide +kernel, ?_, detaching_of_B _ _ hdet, ?_⟩
  · have h1 : Reach v0 vc1 := Reach.runN (Reach.init 0 [] _) 20
    have h2 : Reach v0 vc2 := Reach.runN (Reach.next 0 [] _ h1 d1) 40
    have h3 : Reach v0 vc3 := Reach.runN (Reach.next 0 [] _ h2 d2) 20
    have h4 : Reach v0 vc4 := Reach.runN (Reach.next 0 [] _ h3 d3) 20
    have h5 : Reach v0 vc5 := Reach.runN (Reach.next 0 [] _ h4 d4) 20
    have h6 : Reach v0 vc6 := Reach.runN (Reach.next 0 [] _ h5 d5) 200
    exact Reach.runN (Reach.next 0 [] _ h6 d6) 5
  · intro h
    rcases h 1 hlen hpar (fun f => f) with hd | he
    · rw [hdirty] at hd; cases hd
    · exact hne (he (⟨1, []⟩, [.star]) [] hmem)

/-! ### class layer: the handler table of an instance, derived from the class statements

`CV/Model/ClassTable.lean` models `handler()`, `HandlerMetaClass`, the C3 linearisation of the `class`
statement, `BaseComponent.__new__` (copies of the direct bases' own handlers as instance attributes
`<Base>_<name>`) and `BaseComponent.__init__` (`getmembers(self)` + `addHandler`).
`effectiveHandlers cs c` is the set of handlers an instance of `c` installs when the class statements `cs`
have been executed.  The theorems below characterise it declaratively and connect it to `collect`. -/

open CV.ClassTable

/-- **Implicit method handlers.**  After the class statement an entry of `C.__dict__` is a handler with data
    `i` iff it was declared with `@handler(...)` carrying exactly `i`, or it is an undecorated callable
    (`plain`; not `handler(False)`, not data) of a class with `Component` among its ancestors whose name does
    not start with `_` - then it listens to its own name, priority 0, the component's channel, no override. -/
theorem class_dict_handler_iff (cs : Classes) (c k : Str) (i : HInfo) :
    (k, Attr.handler i) ∈ ownDict cs c ↔
      ∃ d m, decl? cs c = some d ∧ m ∈ d.members ∧ m.name = k ∧
        (m.kind = .handler i ∨
         (m.kind = .plain ∧ isMeta cs c = true ∧ underscore k = false ∧ i = implicitInfo k)) := by
  unfold ownDict
  cases hd : decl? cs c with
  | none => simp
  | some d =>
    simp only [List.mem_map, Prod.mk.injEq, Option.some.injEq, attrOf_eq_handler_iff]
    constructor
    · rintro ⟨m, hm, rfl, ha⟩; exact ⟨d, m, rfl, hm, rfl, ha⟩
    · rintro ⟨_, m, rfl, hm, rfl, ha⟩; exact ⟨m, hm, rfl, ha⟩

/-- non-vacuity: `class K(Component): def go(self): ...; def _p(self): ...` - `go` is a handler, `_p` is not -/
example :
    let cs : Classes := [{ name := "K".toList, bases := [compName],
                           members := [⟨"go".toList, .plain⟩, ⟨"_p".toList, .plain⟩] }]
    effectiveHandlers cs "K".toList = [mkRecord "K".toList "go".toList (implicitInfo "go".toList)] := by decide +kernel

/-- **The effective handler set, declaratively** (full strength, no hypothesis).  A record is installed on an
    instance of `c` iff it is
    * a handler *visible through the MRO*: `b` is the first class of `c.__mro__` whose own dict has the name
      `k`, that entry is a handler, and no `<Base>_<name>` copy made by `__new__` carries the name `k` (an
      instance attribute would shadow it); or
    * a *copy*: the own handler `k` of a direct base `b`, not overridden by an own handler `k` of `c` with
      `override=True`, and no later copy has the same attribute name `<b>_<k>`.
    Consequences that can be read off: a handler of a grand-base that is shadowed by a non-handler (or by any
    redefinition) in between is not visible and - not being in a *direct* base - not copied: it disappears;
    a direct base's handler stays next to the subclass's own handler of the same name unless `override=True`. -/
theorem effective_iff (cs : Classes) (c : Str) (r : HandlerRecord) :
    r ∈ effectiveHandlers cs c ↔
      (∃ b k i, VisibleIn cs (mro cs c) b k (.handler i) ∧ (∀ p ∈ copies cs c, p.1 ≠ k) ∧ r = mkRecord b k i) ∨
      (∃ b k i, CopiedFrom cs c b k i ∧ LastWrite (copies cs c) (copyName b k) ⟨b, k, .handler i⟩ ∧
        r = mkRecord b k i) := by
  rw [mem_effective]
  constructor
  · rintro ⟨n, f, hg, hr⟩
    obtain ⟨i, hi, rfl⟩ := (record?_eq_some_iff f r).mp hr
    rcases (getAttr_eq_some_iff cs c n f).mp hg with hl | ⟨hno, b, a, hv, rfl⟩
    · right
      obtain ⟨b, k, j, hc, rfl, rfl⟩ := (mem_copies_iff cs c n f).mp hl.mem
      simp only [Attr.handler.injEq] at hi
      subst hi
      exact ⟨b, k, j, hc, hl, rfl⟩
    · left
      simp only at hi
      subst hi
      exact ⟨b, n, i, hv, hno, rfl⟩
  · rintro (⟨b, k, i, hv, hno, rfl⟩ | ⟨b, k, i, _, hl, rfl⟩)
    · exact ⟨k, ⟨b, k, .handler i⟩, (getAttr_eq_some_iff cs c k _).mpr (Or.inr ⟨hno, b, _, hv, rfl⟩),
        (record?_eq_some_iff _ _).mpr ⟨i, rfl, rfl⟩⟩
    · exact ⟨copyName b k, ⟨b, k, .handler i⟩, (getAttr_eq_some_iff cs c _ _).mpr (Or.inl hl),
        (record?_eq_some_iff _ _).mpr ⟨i, rfl, rfl⟩⟩

/-- the attribute names `<Base>_<name>` that `__new__` creates are pairwise different and none of them is an
    attribute of a class of the MRO (true of every hierarchy whose member names do not imitate the pattern) -/
def NoClash (cs : Classes) (c : Str) : Prop :=
  ((copies cs c).map (·.1)).Nodup ∧ ∀ p ∈ copies cs c, ∀ b ∈ mro cs c, ownLookup cs b p.1 = none

/-- **... in the usual case**: visible through the MRO, or own handler of a direct base not overridden.

    `_partial`: carries `NoClash`.  The statement without it is false (`copy_shadows_own_handler_witness`); the
    full-strength characterisation, with the two shadowing clauses spelled out, is `effective_iff`. -/
theorem effective_iff_noclash_partial (cs : Classes) (c : Str) (hc : NoClash cs c) (r : HandlerRecord) :
    r ∈ effectiveHandlers cs c ↔
      (∃ b k i, VisibleIn cs (mro cs c) b k (.handler i) ∧ r = mkRecord b k i) ∨
      (∃ b k i, CopiedFrom cs c b k i ∧ r = mkRecord b k i) := by
  rw [effective_iff]
  constructor
  · rintro (⟨b, k, i, hv, _, hr⟩ | ⟨b, k, i, hcp, _, hr⟩)
    · exact Or.inl ⟨b, k, i, hv, hr⟩
    · exact Or.inr ⟨b, k, i, hcp, hr⟩
  · rintro (⟨b, k, i, hv, hr⟩ | ⟨b, k, i, hcp, hr⟩)
    · refine Or.inl ⟨b, k, i, hv, ?_, hr⟩
      intro p hp hk
      have := hc.2 p hp b hv.mem.1
      obtain ⟨_, _, _, _, hb⟩ := hv
      rw [hk, hb] at this
      cases this
    · refine Or.inr ⟨b, k, i, hcp, ?_, hr⟩
      exact lastWrite_of_nodup hc.1 ((mem_copies_iff cs c _ _).mpr ⟨b, k, i, hcp, rfl, rfl⟩)

/-- hierarchy used for non-vacuity: `G` (foo, bar handlers) <- `M` (redefines `foo` undecorated, own handler
    `bar` without override) <- `C` (own handler `bar` with override) -/
def demo : Classes :=
  [{ name := "G".toList, bases := [bcName],
     members := [⟨"foo".toList, .handler { names := ["foo".toList] }⟩, ⟨"bar".toList, .handler { names := ["x".toList] }⟩] },
   { name := "M".toList, bases := ["G".toList],
     members := [⟨"foo".toList, .plain⟩, ⟨"bar".toList, .handler { names := ["y".toList] }⟩] },
   { name := "C".toList, bases := ["M".toList],
     members := [⟨"bar".toList, .handler { names := ["z".toList], override := true }⟩] }]

example : NoClash demo "M".toList ∧ NoClash demo "C".toList := by
  unfold NoClash; decide +kernel

/-- the quirks, computed: an instance of `M` runs `G.foo` (copy), `G.bar` (copy) and `M.bar`; an instance of
    `C` runs only `C.bar` - `M.bar` is overridden, `G.foo` is shadowed by `M`'s undecorated `foo` and `G` is not
    a direct base, `G.bar` likewise -/
example :
    effectiveHandlers demo "M".toList =
      [mkRecord "G".toList "foo".toList { names := ["foo".toList] }, mkRecord "G".toList "bar".toList { names := ["x".toList] },
       mkRecord "M".toList "bar".toList { names := ["y".toList] }] ∧
    effectiveHandlers demo "C".toList = [mkRecord "C".toList "bar".toList { names := ["z".toList], override := true }] := by
  decide +kernel

/-- why `effective_iff` needs the two shadowing clauses: with `class B: @handler('e') def foo`, and
    `class C(B): @handler('e') def B_foo`, the copy of `B.foo` is stored on the instance under the name `B_foo`
    and hides `C`'s own handler `B_foo`, which is visible through the MRO but never installed -/
theorem copy_shadows_own_handler_witness :
    let cs : Classes :=
      [{ name := "B".toList, bases := [bcName], members := [⟨"foo".toList, .handler { names := ["e".toList] }⟩] },
       { name := "C".toList, bases := ["B".toList], members := [⟨"B_foo".toList, .handler { names := ["e".toList] }⟩] }]
    VisibleIn cs (mro cs "C".toList) "C".toList "B_foo".toList (.handler { names := ["e".toList] }) ∧
    mkRecord "C".toList "B_foo".toList { names := ["e".toList] } ∉ effectiveHandlers cs "C".toList ∧
    ¬ NoClash cs "C".toList := by
  refine ⟨⟨[], ["B".toList, bcName], by decide +kernel, by decide +kernel, by decide +kernel⟩, by decide +kernel, ?_⟩
  intro h
  exact absurd (h.2 _ (by decide +kernel : ("B_foo".toList, (⟨"B".toList, "foo".toList, .handler { names := ["e".toList] }⟩ : Fn)) ∈ _)
    "C".toList (by decide +kernel)) (by decide +kernel)

/-- **No duplicates**: a handler record is installed once (the same function reached under two attribute
    names - as `foo` through the MRO and as the copy `G_foo` - is one bound method in the `_handlers` sets) -/
theorem effective_nodup (cs : Classes) (c : Str) : (effectiveHandlers cs c).Nodup :=
  nodup_eraseDups _ _ (Nat.le_refl _)

/-- every installed record is a handler entry of the class body it names (nothing is invented) -/
theorem effective_sound (cs : Classes) (c : Str) (r : HandlerRecord) (h : r ∈ effectiveHandlers cs c) :
    ∃ i, (r.meth, Attr.handler i) ∈ ownDict cs r.cls ∧ r = mkRecord r.cls r.meth i ∧
      (r.cls ∈ mro cs c ∨ r.cls ∈ basesOf cs c) := by
  rcases (effective_iff cs c r).mp h with ⟨b, k, i, hv, _, rfl⟩ | ⟨b, k, i, hcp, _, rfl⟩
  · exact ⟨i, hv.mem.2, rfl, Or.inl hv.mem.1⟩
  · exact ⟨i, hcp.2.1, rfl, Or.inr hcp.1⟩

/-- **`override=True` removes the base's handler of that name**: if `c` (a successfully created class) has an
    own handler `k` with `override=True`, no function named `k` of any *other* class is installed on an
    instance of `c` - neither through the MRO nor as a copy. -/
theorem override_removes (cs : Classes) (c k : Str) (i : HInfo) (hm : mro cs c ≠ [])
    (hown : ownLookup cs c k = some (.handler i)) (hov : i.override = true)
    (r : HandlerRecord) (hr : r ∈ effectiveHandlers cs c) (hk : r.meth = k) : r.cls = c := by
  obtain ⟨rest, hmro⟩ := mro_head cs c hm
  rcases (effective_iff cs c r).mp hr with ⟨b, k', j, hv, _, rfl⟩ | ⟨b, k', j, hcp, _, rfl⟩
  · simp only [mkRecord] at hk ⊢
    subst hk
    obtain ⟨pre, post, heq, hpre, _⟩ := hv
    rw [hmro] at heq
    cases pre with
    | nil => simp only [List.nil_append, List.cons.injEq] at heq; exact heq.1.symm
    | cons q pre =>
      simp only [List.cons_append, List.cons.injEq] at heq
      have := hpre q (by simp)
      rw [← heq.1, hown] at this
      cases this
  · simp only [mkRecord] at hk
    subst hk
    have : overridden cs c k' = true := by unfold overridden; rw [hown]; exact hov
    rw [hcp.2.2] at this
    cases this

/-- **... and exactly that one**: for a direct base `b ≠ c` of a successfully created class `c` without
    copy-name clashes, the own handler `k` of `b` is installed on an instance of `c` iff `c` has no own handler
    `k` with `override=True`.  (So without `override` both run; other handlers of the base are untouched by an
    override of `k`.)

    `_partial`: `NoClash` is needed for the direction "not overridden -> installed" only (a later copy with the
    same attribute name would replace this one; same witness); "overridden -> not installed" is
    `override_removes`, at full strength. -/
theorem base_handler_iff_not_overridden_partial (cs : Classes) (c b k : Str) (i : HInfo) (hm : mro cs c ≠ [])
    (hc : NoClash cs c) (hb : b ∈ basesOf cs c) (hne : b ≠ c) (hk : (k, Attr.handler i) ∈ ownDict cs b) :
    mkRecord b k i ∈ effectiveHandlers cs c ↔ overridden cs c k = false := by
  constructor
  · intro hr
    cases ho : overridden cs c k with
    | false => rfl
    | true =>
      unfold overridden at ho
      cases hl : ownLookup cs c k with
      | none => rw [hl] at ho; cases ho
      | some a =>
        rw [hl] at ho
        cases a with
        | handler j => exact absurd (override_removes cs c k j hm hl ho _ hr rfl) hne
        | callable => cases ho
        | data => cases ho
  · intro ho
    exact (effective_iff_noclash_partial cs c hc _).mpr (Or.inr ⟨b, k, i, ⟨hb, hk, ho⟩, rfl⟩)

/-- non-vacuity of the two override theorems on `demo` (`C` overrides `bar` of its direct base `M`; `M` does
    not override `bar` of `G`) -/
example :
    mro demo "C".toList ≠ [] ∧ ownLookup demo "C".toList "bar".toList = some (.handler { names := ["z".toList], override := true }) ∧
    NoClash demo "M".toList ∧ "G".toList ∈ basesOf demo "M".toList ∧
    ("bar".toList, Attr.handler { names := ["x".toList] }) ∈ ownDict demo "G".toList ∧ overridden demo "M".toList "bar".toList = false := by
  unfold NoClash; decide +kernel

/-- a created class heads its own MRO (what `override_removes` uses of the linearisation) -/
theorem class_mro_head (cs : Classes) (c : Str) (h : mro cs c ≠ []) : ∃ rest, mro cs c = c :: rest :=
  mro_head cs c h

/-- **C3 guarantees** for every class statement that was executed (all statements of `cs` accepted): the class
    heads its MRO, its direct bases appear behind it in the order written (local precedence), and the MRO of
    every direct base is a subsequence of it (monotonicity) - so "first class of the MRO that defines `k`"
    respects every base's own lookup order. -/
theorem mro_c3 (cs : Classes) (hl : (linearize cs).isSome = true) (d : ClassDecl) (hd : d ∈ cs) :
    ∃ rest, mro cs d.name = d.name :: rest ∧ d.bases.Sublist rest ∧
      ∀ b ∈ d.bases, mro cs b ≠ [] ∧ (mro cs b).Sublist rest := by
  obtain ⟨t, ht⟩ := Option.isSome_iff_exists.mp hl
  obtain ⟨rest, h1, hm, hne⟩ := mro_eq_c3 ht hd
  exact ⟨rest, h1, hm.sublist _ (by simp), fun b hb => ⟨hne b hb, hm.sublist _ (by simp [List.mem_map_of_mem hb])⟩⟩

/-- non-vacuity: `demo` is accepted -/
example : (linearize demo).isSome = true := by decide +kernel

/-- C3 on a diamond and on an inconsistent order (`class X(BaseComponent, Component)` raises TypeError) -/
example :
    let cs : Classes :=
      [{ name := "A".toList, bases := [compName], members := [] }, { name := "B".toList, bases := ["A".toList], members := [] },
       { name := "D".toList, bases := ["A".toList], members := [] }, { name := "E".toList, bases := ["B".toList, "D".toList], members := [] }]
    mro cs "E".toList = ["E".toList, "B".toList, "D".toList, "A".toList, compName, bcName] ∧
    linearize [{ name := "X".toList, bases := [bcName, compName], members := [] }] = none := by decide +kernel

/-- the statement's rule for one class-derived record of component `x` listening on `compChan` -/
def Receives (E : Enc) (compChan : Str) (x : Nat) (r : HandlerRecord) (name : Name) (target : Chan) : Prop :=
  (r.names = [] ∨ name ∈ r.names.map E.name) ∧
  (target = .star ∨ (r.chan.map E.toChan).getD (E.toChan compChan) = .star ∨
   (r.chan.map E.toChan).getD (E.toChan compChan) = target ∨ target = .inst x)

/-- `Receives` in terms of what `addHandler` wrote for the record with id `h`: a `_handlers` row for the
    name or for all events together with the channel test of `getHandlers`, or the `_globals` row (a global
    handler listens on `'*'`, which passes the channel test) -/
theorem receives_iff_rows (E : Enc) (compChan : Str) (x : Nat) (r : HandlerRecord) (name : Name) (target : Chan)
    (h : Nat) :
    Receives E compChan x r name target ↔
      (((none, h) ∈ htabRows E r h ∨ (some name, h) ∈ htabRows E r h) ∧
        chanOk (E.toChan compChan) x (toHandler E x r) target = true) ∨ h ∈ globalRows r h := by
  have hch : chanOk (E.toChan compChan) x (toHandler E x r) target = true ↔
      (target = .star ∨ (r.chan.map E.toChan).getD (E.toChan compChan) = .star ∨
        (r.chan.map E.toChan).getD (E.toChan compChan) = target ∨ target = .inst x) := chanOk_iff ..
  have hrows : ((none, h) ∈ htabRows E r h ∨ (some name, h) ∈ htabRows E r h) ∨ h ∈ globalRows r h ↔
      r.names = [] ∨ name ∈ r.names.map E.name := by
    simp only [mem_htabRows, mem_globalRows, true_and, reduceCtorEq, false_and, false_or,
      Option.some.injEq, List.mem_map]
    by_cases hc : r.chan = some star <;> simp [hc, eq_comm, or_comm]
  have hglob : h ∈ globalRows r h → (r.chan.map E.toChan).getD (E.toChan compChan) = .star := fun hg => by
    rw [((mem_globalRows ..).1 hg).2.2]; simp [Enc.toChan]
  rw [Receives, ← hch, ← hrows]
  constructor
  · rintro ⟨hr | hg, hc⟩
    · exact .inl ⟨hr, hc⟩
    · exact .inr hg
  · rintro (⟨hr, hc⟩ | hg)
    · exact ⟨.inl hr, hc⟩
    · exact ⟨.inr hg, hch.2 (.inr (.inl (hglob hg)))⟩

/-- **Which class-derived handlers receive an event.**  `newComponent E cs c s` is `c()` in state `s`: a new
    component whose `_handlers` / `_globals` hold the `addHandler` rows of `effectiveHandlers cs c`.  `collect`
    (= `getHandlers`, cf. `collect_iff`) on it returns handler id `s.hs.length + i` iff the `i`-th effective
    record is declared for the name (or for all events) and its channel - its own, else the class-derived
    channel of the instance - matches the target by the statement's rule. -/
theorem class_receives_iff (E : Enc) (cs : Classes) (c : Str) (s : St) (n : Nat) (name : Name) (target : Chan) (h : Nat) :
    h ∈ collect (newComponent E cs c s) (n + 1) s.comps.length name target ↔
      ∃ i r, (effectiveHandlers cs c)[i]? = some r ∧ h = s.hs.length + i ∧
        Receives E (instChannel cs c) s.comps.length r name target := by
  rw [collect_iff]
  -- only the new component is reached; a row of its tables is a row of one record, by the record's index
  have hrow : ∀ key, (key, h) ∈ ((newComponent E cs c s).comps.getD s.comps.length dfltComp).htab ↔
      ∃ i r, (effectiveHandlers cs c)[i]? = some r ∧ h = s.hs.length + i ∧ (key, h) ∈ htabRows E r h := by
    intro key; rw [newComponent_comp]; simpa using mem_tableOf E s.hs.length key h (effectiveHandlers cs c) 0
  have hglob : h ∈ ((newComponent E cs c s).comps.getD s.comps.length dfltComp).globals ↔
      ∃ i r, (effectiveHandlers cs c)[i]? = some r ∧ h = s.hs.length + i ∧ h ∈ globalRows r h := by
    rw [newComponent_comp]
    simpa [mem_globalRows] using mem_globalsOf s.hs.length h (effectiveHandlers cs c) 0
  constructor
  · rintro ⟨d, hd, hm⟩
    obtain rfl := newComponent_reach E cs c s hd
    rcases hm with ⟨hin, hch⟩ | hg
    · rw [newComponent_comp] at hch
      rcases hin with hin | hin <;> obtain ⟨i, r, hi, rfl, hr⟩ := (hrow _).1 hin <;>
        rw [newComponent_handler E cs c s hi] at hch
      · exact ⟨i, r, hi, rfl, (receives_iff_rows ..).2 (.inl ⟨.inl hr, hch⟩)⟩
      · exact ⟨i, r, hi, rfl, (receives_iff_rows ..).2 (.inl ⟨.inr hr, hch⟩)⟩
    · obtain ⟨i, r, hi, rfl, hr⟩ := hglob.1 hg
      exact ⟨i, r, hi, rfl, (receives_iff_rows ..).2 (.inr hr)⟩
  · rintro ⟨i, r, hi, rfl, hrec⟩
    refine ⟨_, .here _ _, ?_⟩
    rcases (receives_iff_rows E _ _ r name target (s.hs.length + i)).1 hrec with ⟨hr, hch⟩ | hr
    · refine .inl ⟨hr.imp (fun hr => (hrow _).2 ⟨i, r, hi, rfl, hr⟩) (fun hr => (hrow _).2 ⟨i, r, hi, rfl, hr⟩), ?_⟩
      rw [newComponent_comp, newComponent_handler E cs c s hi]; exact hch
    · exact .inr (hglob.2 ⟨i, r, hi, rfl, hr⟩)

/-- **Corollary: which handlers of which classes receive an event.**  For an instance of a class without
    copy-name clashes: handler id `s.hs.length + i` is collected for `(name, target)` iff the `i`-th effective
    record is the function `b.k` with declaration `info`, where `b.k` is a handler visible through `c`'s MRO or
    an own handler of a direct base of `c` that `c` does not override, and it is declared for the name (or for
    all events) on a matching channel.  `_partial`: `NoClash` as in `effective_iff_noclash_partial`; the statement
    without it is `class_receives_iff` + `effective_iff`. -/
theorem class_delivery_partial (E : Enc) (cs : Classes) (c : Str) (hc : NoClash cs c) (s : St) (n : Nat)
    (name : Name) (target : Chan) (h : Nat) :
    h ∈ collect (newComponent E cs c s) (n + 1) s.comps.length name target ↔
      ∃ i b k info, (effectiveHandlers cs c)[i]? = some (mkRecord b k info) ∧ h = s.hs.length + i ∧
        (VisibleIn cs (mro cs c) b k (.handler info) ∨ CopiedFrom cs c b k info) ∧
        Receives E (instChannel cs c) s.comps.length (mkRecord b k info) name target := by
  rw [class_receives_iff]
  constructor
  · rintro ⟨i, r, hi, rfl, hrec⟩
    have hmem : r ∈ effectiveHandlers cs c := List.mem_of_getElem? hi
    rcases (effective_iff_noclash_partial cs c hc r).mp hmem with ⟨b, k, info, hv, rfl⟩ | ⟨b, k, info, hcp, rfl⟩
    · exact ⟨i, b, k, info, hi, rfl, Or.inl hv, hrec⟩
    · exact ⟨i, b, k, info, hi, rfl, Or.inr hcp, hrec⟩
  · rintro ⟨i, b, k, info, hi, rfl, _, hrec⟩
    exact ⟨i, _, hi, rfl, hrec⟩

/-- non-vacuity / sanity: an instance of `M` (see `demo`) in the empty state, event `foo` on any channel:
    exactly the copy of `G.foo` (record 0) is collected; event `x`: `G.bar` (record 1) -/
example :
    let E : Enc := { name := fun s => ⟨s.length, []⟩, chan := fun s => s.length }
    collect (newComponent E demo "M".toList {}) 2 0 ⟨3, []⟩ .star = [0] ∧
    collect (newComponent E demo "M".toList {}) 2 0 ⟨1, []⟩ (.named 5) = [1, 2] := by decide +kernel

/-! ### C3 exactly: the merge rule as a relation, determinism, refusal

`C3Merge seqs l` / `C3Stuck seqs` (CV/Proofs/ClassTableC3.lean) state CPython's `pmerge` rule without the
executable `merge`: repeatedly take the head of the first sequence whose head is in no tail (`FirstGood`), remove it
from the front of every sequence; finished when all sequences are empty; stuck when sequences are left and no head is
good (CPython: TypeError "Cannot create a consistent method resolution order (MRO)"). -/

/-- the executable merge computes exactly the lists the C3 merge rule allows -/
theorem c3_merge_exact (seqs : List (List Str)) (l : List Str) :
    merge (totalLen seqs) seqs = some l ↔ C3Merge seqs l :=
  merge_some_iff _ seqs (Nat.le_refl _) l

/-- **determinism**: the merge rule allows at most one list -/
theorem c3_merge_deterministic (seqs : List (List Str)) (l l' : List Str) (a : C3Merge seqs l) (b : C3Merge seqs l') :
    l = l' := a.unique b

example : C3Merge [[compName, bcName], [compName]] [compName, bcName] := (c3_merge_exact _ _).mp (by decide +kernel)

/-- **refusal**: the executable merge answers `none` exactly when, after some legal steps, sequences are left and no
    head is a good head -/
theorem c3_refusal_iff (seqs : List (List Str)) : merge (totalLen seqs) seqs = none ↔ C3Stuck seqs :=
  merge_none_iff _ seqs (Nat.le_refl _)

/-- stuck = there is no linearisation at all (so `merge = none → ¬ ∃ l, C3Merge seqs l`, and conversely) -/
theorem c3_stuck_iff_no_linearisation (seqs : List (List Str)) : C3Stuck seqs ↔ ¬ ∃ l, C3Merge seqs l := by
  constructor
  · exact C3Stuck.no_merge
  · intro h
    apply (c3_refusal_iff seqs).mp
    cases hm : merge (totalLen seqs) seqs with
    | none => rfl
    | some l => exact absurd ⟨l, (c3_merge_exact seqs l).mp hm⟩ h

/-- non-vacuity: `class X(BaseComponent, Component)` is stuck at the first step -/
example : C3Stuck [[bcName], [compName, bcName], [bcName, compName]] := (c3_refusal_iff _).mp (by decide +kernel)

/-- **the MRO is THE C3 linearisation**: for every executed class statement the MRO is the class followed by the one
    and only list the merge rule allows for the MROs of the direct bases and the list of direct bases -/
theorem mro_is_c3 (cs : Classes) (hl : (linearize cs).isSome = true) (d : ClassDecl) (hd : d ∈ cs) :
    ∃ rest, mro cs d.name = d.name :: rest ∧ C3Merge (d.bases.map (mro cs) ++ [d.bases]) rest ∧
      ∀ l, C3Merge (d.bases.map (mro cs) ++ [d.bases]) l → l = rest := by
  obtain ⟨t, ht⟩ := Option.isSome_iff_exists.mp hl
  obtain ⟨rest, h1, hm, _⟩ := mro_eq_c3 ht hd
  exact ⟨rest, h1, hm, fun l h => h.unique hm⟩

example : (linearize demo).isSome = true := by decide +kernel

/-- **a class statement is refused exactly when** its name is bound, it has no base, a base is unknown, or the C3
    merge of the bases' MROs gets stuck; it is accepted with exactly the C3 list otherwise -/
theorem class_statement_refused_iff (acc : MroTable) (d : ClassDecl) :
    mroFor acc d = none ↔ (acc.lookup d.name).isSome = true ∨ d.bases = [] ∨ d.bases.mapM (acc.lookup ·) = none ∨
      ∃ ms, d.bases.mapM (acc.lookup ·) = some ms ∧ C3Stuck (ms ++ [d.bases]) :=
  mroFor_none_iff acc d

theorem class_statement_accepted_iff (acc : MroTable) (d : ClassDecl) (l : List Str) :
    mroFor acc d = some l ↔ acc.lookup d.name = none ∧ d.bases ≠ [] ∧
      ∃ ms rest, d.bases.mapM (acc.lookup ·) = some ms ∧ l = d.name :: rest ∧ C3Merge (ms ++ [d.bases]) rest :=
  mroFor_some_iff acc d l

/-- the refusal direction: a well-formed statement (name free, bases known) that is refused → no list satisfies
    the merge rule -/
theorem mro_refused_no_c3 (acc : MroTable) (d : ClassDecl) (ms : List (List Str)) (hn : acc.lookup d.name = none)
    (hb : d.bases ≠ []) (hms : d.bases.mapM (acc.lookup ·) = some ms) (h : mroFor acc d = none) :
    ¬ ∃ l, C3Merge (ms ++ [d.bases]) l := by
  rcases (mroFor_none_iff acc d).mp h with h | h | h | ⟨ms', hm, hs⟩
  · rw [hn] at h; cases h
  · exact absurd h hb
  · rw [hms] at h; cases h
  · rw [hms] at hm; cases hm; exact hs.no_merge

/-- non-vacuity: `class X(BaseComponent, Component)` meets the hypotheses -/
example :
    let d : ClassDecl := { name := "X".toList, bases := [bcName, compName], members := [] }
    builtinMros.lookup d.name = none ∧ d.bases ≠ [] ∧
      d.bases.mapM (builtinMros.lookup ·) = some [[bcName], [compName, bcName]] ∧ mroFor builtinMros d = none := by decide +kernel

/-- **the sequence of class statements is refused exactly when** some statement is refused in the table built by the
    statements before it (which were all accepted) -/
theorem classes_refused_iff (cs : Classes) :
    linearize cs = none ↔ ∃ pre d post t, cs = pre ++ d :: post ∧ linearize pre = some t ∧ mroFor t d = none :=
  linearizeFrom_none_iff cs builtinMros

/-! ### `newComponent` = what `BaseComponent.__init__` builds with `addHandler`

`blankComponent`: the handler objects of the instance exist, its component record is as `Manager.__init__` leaves
it (empty `_handlers` / `_globals`, `_cache_needs_refresh = False`); `installAll`: the core model's `St.addHandler`
(the function both interpreters use for `Manager.addHandler`) for the handler ids `s.hs.length + i` in the order of
`effectiveHandlers`; `markDirty`: the flag set by the closing `addHandler(_on_prepare_unregister_complete)`.
`dedupTables` collapses repeated rows of the new component's tables (the buckets are Python sets; `tableOf` repeats a
row when a record names an event twice or two of its names have the same code under `E`). -/

/-- for every class table, class, encoding and state: installing the effective handlers one by one with the core
    model's `addHandler` gives `newComponent` - same handler objects, same component record incl. `_globals` and the
    cache-invalidation flag - with repeated rows collapsed -/
theorem newComponent_eq_addHandlers (E : Enc) (cs : Classes) (c : Str) (s : St) :
    markDirty (installAll (blankComponent E cs c s) s.hs.length (effectiveHandlers cs c).length) s.comps.length =
      dedupTables (newComponent E cs c s) s.comps.length :=
  init_eq_newComponent E cs c s

/-- collapsing changes no membership: the same rows are in the tables -/
theorem dedup_same_rows {α} [BEq α] [LawfulBEq α] (l : List α) (y : α) : y ∈ dedup l ↔ y ∈ l := mem_dedup l y

/-- exact equality when no record names an event twice (after encoding).  `_partial`: without the hypothesis the two
    states differ in the number of equal rows (`newComponent_repeated_row_witness`); the statement for all inputs is
    `newComponent_eq_addHandlers`.  (Rows of different records never coincide, `_globals` never repeats: proved.) -/
theorem newComponent_eq_addHandlers_partial (E : Enc) (cs : Classes) (c : Str) (s : St)
    (hn : ∀ r ∈ effectiveHandlers cs c, (r.names.map E.name).Nodup) :
    markDirty (installAll (blankComponent E cs c s) s.hs.length (effectiveHandlers cs c).length) s.comps.length =
      newComponent E cs c s := by
  rw [init_eq_newComponent, dedupTables_of_nodup E cs c s (tableOf_nodup E _ _ hn 0) (globalsOf_nodup _ _ 0)]

/-- non-vacuity: no record of `demo`'s class `M` names an event twice -/
example :
    let E : Enc := { name := fun s => ⟨s.length, []⟩, chan := fun s => s.length }
    ∀ r ∈ effectiveHandlers demo "M".toList, (r.names.map E.name).Nodup := by
  decide +kernel

/-- `@handler("a", "a")`: one row in the set, two equal rows in `tableOf` -/
theorem newComponent_repeated_row_witness :
    let E : Enc := { name := fun s => ⟨s.length, []⟩, chan := fun s => s.length }
    let cs : Classes := [{ name := "A".toList, bases := [compName],
                           members := [⟨"f".toList, .handler { names := ["a".toList, "a".toList] }⟩] }]
    ((newComponent E cs "A".toList {}).comp 0).htab = [(some ⟨1, []⟩, 0), (some ⟨1, []⟩, 0)] ∧
    ((markDirty (installAll (blankComponent E cs "A".toList {}) 0 1) 0).comp 0).htab = [(some ⟨1, []⟩, 0)] := by
  decide +kernel

end CV.C01
