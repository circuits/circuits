import CV.Proofs.InvQueue
import CV.Proofs.InvOrderLog
import CV.Proofs.InvOrderPass
/-
C02 — dispatch order.

  "Events queued before a flush pass are dispatched in ascending priority value and, for
   equal priority, in the order they were fired; an event fired from a handler is never
   dispatched before events that were already queued when the current pass began, and fire()
   never runs a handler re-entrantly.  For each event, handlers with different priorities run
   in descending priority order, and once a handler calls stop() on the event no handler of
   lower priority runs for it."

Sections 1-5 (queue layer) are about `CV.Core.EQ` (CV/Model/Core/Queue.lean), the very functions
`fireRaw` / `flush` / `dispatchLoop` of the machine call, under the op language of
CV/Model/Core/QueueSpec.lean (`app` = `EQ.append`, `flushBegin` = `EQ.begin`, `pop` =
`EQ.pop`).  Everything is universally quantified: any queue satisfying the reachability
invariant `QInv`, any `Int` priorities, any interleaving of ops, any choice function `pick`.
`EQ.drainFrom` is not part of the op language: it merges items stamped by two counters, can
create equal `(prio, seq)` keys, and is C07's business.

Section 6 (handler order) is about `CV.Core.chooseNext` / `chooseIter`
(CV/Model/Core/Choose.lean), the restatement of the `group` / `h` / `rest` lines of
`handlerLoop`, for any priority function, any hints, any handler list that is sorted
descending — which `mergeSort` with `≥` (the model of `sorted(..., reverse=True)` in
`dispatcher`) guarantees (`sorted_of_mergeSort`).

Sections 8-10 carry both over to the small-step core machine (CV/Model/Core/Step.lean): the machine
touches a queue only through the layer operations, its handler loop is `chooseNext`, and its own log
satisfies the spec predicates `handlerOrderOk` / `passOrderOk` that the harness evaluates on the
implementation's log.
-/
namespace CV.C02
open CV.Core

/-! ## 1. the invariant -/

theorem qinv_init : QInv {} := qinv_empty

theorem qinv_step {q : EQ} (h : QInv q) (op : QOp) : QInv (op.apply q).1 :=
  CV.Core.qinv_step h op

theorem qinv_run {q : EQ} (h : QInv q) (ops : List QOp) : QInv (runOps q ops).1 :=
  CV.Core.qinv_run ops h

/-- every queue reachable from the empty one satisfies the invariant -/
theorem qinv_reachable (ops : List QOp) : QInv (runOps {} ops).1 :=
  CV.Core.qinv_run ops qinv_empty

/-- `_flush_batch == 0` exactly when the heap is empty -/
theorem batch_zero_iff_heap_empty {q : EQ} (h : QInv q) : q.batch = 0 ↔ q.heap = [] := by
  rw [h.batch_eq]
  exact List.length_eq_zero_iff

/-- `fire()` at the queue layer: nothing is dispatched, the heap and the batch counter are
    untouched, the deque gains exactly the new item at its end. -/
theorem fire_inert (q : EQ) (ev : Nat) (prio : Int) :
    ((QOp.app ev prio).apply q).2 = none ∧
    ((QOp.app ev prio).apply q).1.heap = q.heap ∧
    ((QOp.app ev prio).apply q).1.batch = q.batch ∧
    ((QOp.app ev prio).apply q).1.queue = q.queue ++ [⟨prio, q.counter, ev⟩] :=
  ⟨rfl, rfl, rfl, rfl⟩

/-! ## 2. one pop -/

/-- The popped item is a minimum of the heap by `(prio, seq)`; the heap loses exactly it, the
    batch counter is decremented, the deque is untouched.  (Holds for every queue; `QInv` is
    not even needed.) -/
theorem pop_is_min {q q' : EQ} {pick : List QItem → Option QItem} {it : QItem}
    (hp : q.pop pick = some (it, q')) :
    (∀ x ∈ q.heap, it.le x = true) ∧ it ∈ q.heap ∧ q'.heap = q.heap.erase it ∧
      q'.batch + 1 = q.batch ∧ q'.queue = q.queue ∧ q'.counter = q.counter := by
  obtain ⟨hb, hit, rfl⟩ := pop_spec hp
  refine ⟨minCands_le hit, (mem_minCands hit).1, rfl, ?_, rfl, rfl⟩
  simp only; omega

/-- under `QInv` sequence numbers are unique, so the choice function is irrelevant:
    `heappop` is deterministic -/
theorem pop_pick_irrelevant {q : EQ} (h : QInv q) (pick₁ pick₂ : List QItem → Option QItem) :
    q.pop pick₁ = q.pop pick₂ := by
  by_cases hb : q.batch = 0
  · rw [pop_none_of_batch_zero pick₁ hb, pop_none_of_batch_zero pick₂ hb]
  · have hh : q.heap ≠ [] := fun e => hb ((batch_zero_iff_heap_empty h).mpr e)
    obtain ⟨i₁, q₁, h₁⟩ := pop_isSome pick₁ hb hh
    obtain ⟨i₂, q₂, h₂⟩ := pop_isSome pick₂ hb hh
    obtain ⟨_, hc₁, e₁⟩ := pop_spec h₁
    obtain ⟨_, hc₂, e₂⟩ := pop_spec h₂
    have hi : i₁ = i₂ := by
      refine eq_of_seq_eq h.heap_seq_ne (mem_minCands hc₁).1 (mem_minCands hc₂).1 ?_
      exact (QItem.le_antisymm_key (minCands_le hc₁ _ (mem_minCands hc₂).1)
        (minCands_le hc₂ _ (mem_minCands hc₁).1)).2
    rw [h₁, h₂, e₁, e₂, hi]

/-- a pop never fails while a batch is in progress (the heap cannot be empty then) -/
theorem pop_succeeds {q : EQ} (h : QInv q) (hb : q.batch ≠ 0)
    (pick : List QItem → Option QItem) : ∃ it q', q.pop pick = some (it, q') :=
  pop_isSome pick hb (fun e => hb ((batch_zero_iff_heap_empty h).mpr e))

/-! ## 3. one pass: priority order, FIFO among equals -/

/-- `flushBegin` followed by exactly `|queue|` pops (any picks) dispatches a permutation of
    the snapshot, sorted by `(prio, seq)`, and ends the batch. -/
theorem pass_sorted {q : EQ} (h : QInv q) (hb : q.batch = 0)
    (picks : List (List QItem → Option QItem)) (hn : picks.length = q.queue.length) :
    (runOps q (.flushBegin :: picks.map .pop)).2.Perm q.queue ∧
    (runOps q (.flushBegin :: picks.map .pop)).2.Pairwise (fun a b => a.le b = true) ∧
    (runOps q (.flushBegin :: picks.map .pop)).1.batch = 0 ∧
    (runOps q (.flushBegin :: picks.map .pop)).1.heap = [] ∧
    (runOps q (.flushBegin :: picks.map .pop)).1.queue = [] := by
  have := pass_full h hb (picks.map .pop) (hn ▸ midPass_pops picks)
  rw [appItems_pops] at this
  exact ⟨this.1, this.2.1, this.2.2.2.1, this.2.2.1, this.2.2.2.2⟩

/-- the dispatched list IS the `(prio, seq)`-sort of the snapshot -/
theorem pass_order_spec {q : EQ} (h : QInv q) (hb : q.batch = 0)
    (picks : List (List QItem → Option QItem)) (hn : picks.length = q.queue.length) :
    (runOps q (.flushBegin :: picks.map .pop)).2 = q.queue.mergeSort (fun a b => a.le b) := by
  have := pass_sorted h hb picks hn
  exact sorted_eq_mergeSort this.1 h.queue_seq_ne this.2.1

/-- ascending priority value: if `a` is dispatched before `b` then `a.prio ≤ b.prio` -/
theorem ascending_priority {q : EQ} (h : QInv q) (hb : q.batch = 0)
    (picks : List (List QItem → Option QItem)) (hn : picks.length = q.queue.length)
    {a b : QItem} (hab : [a, b].Sublist (runOps q (.flushBegin :: picks.map .pop)).2) :
    a.prio ≤ b.prio := by
  have := rel_of_sublist_pair (pass_sorted h hb picks hn).2.1 hab
  exact QItem.prio_le_of_le this

/-- lower priority value first, wherever the two were fired -/
theorem lower_priority_first {q : EQ} (h : QInv q) (hb : q.batch = 0)
    (picks : List (List QItem → Option QItem)) (hn : picks.length = q.queue.length)
    {a b : QItem} (ha : a ∈ q.queue) (hbq : b ∈ q.queue) (hlt : a.prio < b.prio) :
    [a, b].Sublist (runOps q (.flushBegin :: picks.map .pop)).2 := by
  have hs := pass_sorted h hb picks hn
  refine sublist_pair_of_sorted hs.2.1 (hs.1.symm.subset ha) (hs.1.symm.subset hbq)
    (fun e => by rw [e] at hlt; omega) fun hle => ?_
  have := QItem.prio_le_of_le hle
  omega

/-- FIFO among equal priorities: `a` fired before `b` (earlier in the deque), same priority
    ⇒ `a` dispatched before `b`.  (The dispatched list has no duplicates, so "`[a, b]` is a
    sublist" means "`a` strictly before `b`".) -/
theorem fifo_equal {q : EQ} (h : QInv q) (hb : q.batch = 0)
    (picks : List (List QItem → Option QItem)) (hn : picks.length = q.queue.length)
    {a b : QItem} (hab : [a, b].Sublist q.queue) (hp : a.prio = b.prio) :
    [a, b].Sublist (runOps q (.flushBegin :: picks.map .pop)).2 ∧
    (runOps q (.flushBegin :: picks.map .pop)).2.Nodup := by
  have hs := pass_sorted h hb picks hn
  have hseq := rel_of_sublist_pair h.queue_inc hab
  exact ⟨sublist_pair_of_sorted hs.2.1 (hs.1.symm.subset (hab.subset (by simp)))
      (hs.1.symm.subset (hab.subset (by simp))) (fun e => by rw [e] at hseq; omega)
      (Bool.eq_false_iff.1 (QItem.not_le_of_seq_lt hp hseq)),
    hs.1.nodup_iff.mpr (nodup_of_seq_ne h.queue_seq_ne)⟩

/-! ## 4. events fired during a pass do not overtake -/

/-- General form: during the pass, appends, pops (any picks) and nested `flushBegin`s (while
    the batch is in progress: `midPass`) may interleave arbitrarily.  The pass dispatches
    exactly the sorted snapshot; every appended item is still in the deque (not the heap)
    when the pass ends, in append order, with its sequence number stamped from the counter. -/
theorem no_overtake_nested {q : EQ} (h : QInv q) (hb : q.batch = 0) (ops : List QOp)
    (hm : midPass q.queue.length ops = true) :
    (runOps q (.flushBegin :: ops)).2 = q.queue.mergeSort (fun a b => a.le b) ∧
    (runOps q (.flushBegin :: ops)).1.queue = appItems q.counter ops ∧
    (runOps q (.flushBegin :: ops)).1.heap = [] ∧
    (runOps q (.flushBegin :: ops)).1.batch = 0 ∧
    (∀ x ∈ appItems q.counter ops, x ∉ (runOps q (.flushBegin :: ops)).2) := by
  have hf := pass_full h hb ops hm
  refine ⟨sorted_eq_mergeSort hf.1 h.queue_seq_ne hf.2.1, hf.2.2.2.2, hf.2.2.1, hf.2.2.2.1, ?_⟩
  intro x hx hx'
  have h1 := appItems_seq_ge ops q.counter x hx
  have h2 := h.seq_lt x (List.mem_append_right _ (hf.1.subset hx'))
  omega

/-- The shape of the property statement: `flushBegin ::` a mix of `app` and `pop` ops containing exactly
    `n = |queue|` pops.  The dispatched items are the same list as without the appends. -/
theorem no_overtake {q : EQ} (h : QInv q) (hb : q.batch = 0) (ops : List QOp)
    (hnf : ∀ o ∈ ops, o.isFlush = false) (hn : ops.countP QOp.isPop = q.queue.length) :
    (runOps q (.flushBegin :: ops)).2 = q.queue.mergeSort (fun a b => a.le b) ∧
    (runOps q (.flushBegin :: ops)).1.queue = appItems q.counter ops ∧
    (runOps q (.flushBegin :: ops)).1.heap = [] ∧
    (runOps q (.flushBegin :: ops)).1.batch = 0 ∧
    (∀ x ∈ appItems q.counter ops, x ∉ (runOps q (.flushBegin :: ops)).2) :=
  no_overtake_nested h hb ops (midPass_of_noFlush ops _ hnf hn)

/-- ... and the events fired during pass k are exactly what pass k+1 dispatches. -/
theorem fired_during_pass_dispatched_next {q : EQ} (h : QInv q) (hb : q.batch = 0)
    (ops : List QOp) (hm : midPass q.queue.length ops = true)
    (picks : List (List QItem → Option QItem))
    (hn : picks.length = (appItems q.counter ops).length) :
    (runOps (runOps q (.flushBegin :: ops)).1 (.flushBegin :: picks.map .pop)).2
      = (appItems q.counter ops).mergeSort (fun a b => a.le b) := by
  have h1 := no_overtake_nested h hb ops hm
  have hi := qinv_run h (.flushBegin :: ops)
  have := pass_order_spec hi h1.2.2.2.1 picks (by rw [h1.2.1]; exact hn)
  rw [this, h1.2.1]

/-! ## 5. nested flush -/

/-- a `flushBegin` while a batch is in progress is the identity: a nested `flush()` from a
    handler continues the current pass and never starts a new one early -/
theorem nested_flush_continues {q : EQ} (hb : q.batch ≠ 0) :
    (QOp.flushBegin.apply q) = (q, none) := by
  simp [QOp.apply, begin_of_batch_ne hb]

/-- conversely, with no batch in progress `flushBegin` snapshots exactly the deque -/
theorem flush_begin_snapshots {q : EQ} (h : QInv q) (hb : q.batch = 0) :
    (QOp.flushBegin.apply q).1 = { q with batch := q.queue.length, heap := q.queue, queue := [] } := by
  simp [QOp.apply, begin_of_batch_zero h.batch_eq hb]

/-- Decrement-FIRST matters.  The mutant that pops first and decrements after the dispatcher
    returns (`popLate` … `decLate`) reaches, through a nested flush in the last handler of a
    batch, a state with `batch ≠ 0` and an empty heap — Python's `heappop` would raise
    IndexError there; `QInv` (a) is broken. -/
def popLate (q : EQ) : EQ := { q with heap := q.heap.erase ((minItem q.heap).getD ⟨0, 0, 0⟩) }
def decLate (q : EQ) : EQ := { q with batch := q.batch - 1 }

theorem decrement_after_witness :
    let q0 : EQ := (EQ.append {} 7 0).begin     -- one event queued, pass started
    let q1 := popLate q0                         -- mutant: popped, not yet decremented
    let q2 := q1.begin                           -- nested flush() from the handler
    q2.batch ≠ 0 ∧ q2.heap = [] ∧ ¬ QInv q2 := by
  refine ⟨by decide, by decide, ?_⟩
  intro h
  exact absurd h.batch_eq (by decide)

/-! ## 6. handler order -/

/-- the list `dispatcher` builds with `mergeSort (prio a ≥ prio b)` is sorted descending -/
theorem sorted_of_mergeSort (prioOf : Nat → Int) (l : List Nat) :
    (l.mergeSort (fun a b => decide (prioOf a ≥ prioOf b))).Pairwise
      (fun a b => prioOf a ≥ prioOf b) :=
  desc_of_mergeSort prioOf l

/-- (a) the chosen handler has the maximal priority of the remaining handlers -/
theorem choose_max {prioOf : Nat → Int} {hint : Option Nat} {hs rest : List Nat} {h : Nat}
    (hd : hs.Pairwise (fun a b => prioOf a ≥ prioOf b))
    (hc : chooseNext prioOf hint hs = some (h, rest)) :
    h ∈ hs ∧ ∀ x ∈ hs, prioOf h ≥ prioOf x :=
  ⟨(chooseNext_spec hc).1, chooseNext_max hd hc⟩

/-- (b) the rest is still sorted descending and is `hs` minus the chosen handler -/
theorem choose_rest {prioOf : Nat → Int} {hint : Option Nat} {hs rest : List Nat} {h : Nat}
    (hd : hs.Pairwise (fun a b => prioOf a ≥ prioOf b))
    (hc : chooseNext prioOf hint hs = some (h, rest)) :
    rest.Pairwise (fun a b => prioOf a ≥ prioOf b) ∧ rest = hs.erase h ∧ hs.Perm (h :: rest) :=
  ⟨(chooseNext_rest hd hc).1, (chooseNext_spec hc).2.1, (chooseNext_rest hd hc).2.1⟩

/-- iterating the choice to the end, for ANY hints: every handler runs exactly once and the
    priorities of the handlers run are non-increasing -/
theorem handlers_desc (prioOf : Nat → Int) (hints : Nat → Option Nat) {hs : List Nat}
    (hd : hs.Pairwise (fun a b => prioOf a ≥ prioOf b)) :
    (chooseIter prioOf hs.length hints hs).Perm hs ∧
    (chooseIter prioOf hs.length hints hs).Pairwise (fun a b => prioOf a ≥ prioOf b) :=
  ⟨chooseIter_perm prioOf _ hints hs hd (Nat.le_refl _), (chooseIter_desc prioOf _ hints hs hd).1⟩

/-- `stop()`: the loop is cut after the `k`-th choice (0-based), `s` being that handler.  What
    ran is the first `k+1` choices of the full iteration; no handler with a priority lower
    than `s`'s has run (before it — and trivially none runs after). -/
theorem stop_cuts (prioOf : Nat → Int) (hints : Nat → Option Nat) {hs : List Nat}
    (hd : hs.Pairwise (fun a b => prioOf a ≥ prioOf b)) (k : Nat) (hk : k < hs.length) {s : Nat}
    (hs' : (chooseIter prioOf (k + 1) hints hs).getLast? = some s) :
    chooseIter prioOf (k + 1) hints hs = (chooseIter prioOf hs.length hints hs).take (k + 1) ∧
    (chooseIter prioOf (k + 1) hints hs).length = k + 1 ∧
    ∀ h ∈ hs, prioOf h < prioOf s → h ∉ chooseIter prioOf (k + 1) hints hs := by
  refine ⟨chooseIter_take prioOf _ _ hints hs (by omega), ?_, ?_⟩
  · rw [chooseIter_length]; omega
  · intro h _ hlt hmem
    have := desc_last_min (chooseIter_desc prioOf (k + 1) hints hs hd).1 hs' h hmem
    omega

/-- ... and every handler with a priority higher than the stopper's HAS run -/
theorem stop_cuts_complete (prioOf : Nat → Int) (hints : Nat → Option Nat) {hs : List Nat}
    (hd : hs.Pairwise (fun a b => prioOf a ≥ prioOf b)) (k : Nat) (hk : k < hs.length) {s : Nat}
    (hs' : (chooseIter prioOf (k + 1) hints hs).getLast? = some s) :
    ∀ h ∈ hs, prioOf h > prioOf s → h ∈ chooseIter prioOf (k + 1) hints hs := by
  intro h hh hgt
  have hfull := handlers_desc prioOf hints hd
  have htk := chooseIter_take prioOf (k + 1) hs.length hints hs (by omega)
  have hsm : s ∈ (chooseIter prioOf hs.length hints hs).take (k + 1) := by
    rw [← htk]; exact List.mem_of_getLast? hs'
  have hmem : h ∈ (chooseIter prioOf hs.length hints hs).take (k + 1) ++
      (chooseIter prioOf hs.length hints hs).drop (k + 1) := by
    rw [List.take_append_drop]; exact hfull.1.symm.subset hh
  rw [htk]
  rcases List.mem_append.mp hmem with h1 | h2
  · exact h1
  · have hp := hfull.2
    rw [← List.take_append_drop (k + 1) (chooseIter prioOf hs.length hints hs)] at hp
    have := (List.pairwise_append.mp hp).2.2 s hsm h h2
    omega

/-- The fallback handler `dispatcher` appends AFTER sorting (`sorted ++ [h]`, for
    `generate_events`: priority -100) keeps the list sorted iff no collected handler has a
    lower priority than the fallback. -/
theorem sorted_append_fallback {prioOf : Nat → Int} {hs : List Nat} {f : Nat}
    (hd : hs.Pairwise (fun a b => prioOf a ≥ prioOf b)) :
    (hs ++ [f]).Pairwise (fun a b => prioOf a ≥ prioOf b) ↔ ∀ h ∈ hs, prioOf h ≥ prioOf f := by
  rw [List.pairwise_append]
  constructor
  · intro h x hx; exact h.2.2 x hx f (List.mem_singleton.mpr rfl)
  · intro h
    refine ⟨hd, by simp, ?_⟩
    intro a ha b hb
    rw [List.mem_singleton.mp hb]; exact h a ha

/-! ## 7. non-vacuity -/

/-- a reachable queue with mixed priorities (negative, equal, positive), left by an earlier
    pass that was itself interleaved with appends: seqs 3..8 in the deque, counter 9 -/
def exQ : EQ :=
  (runOps {} [.app 10 5, .app 11 (-3), .app 12 5, .flushBegin, .pop (fun _ => none),
    .app 13 2, .app 14 (-1), .pop (fun c => c.head?), .flushBegin, .app 15 2, .pop (fun _ => none),
    .app 16 (-1), .app 17 0, .app 18 2]).1

theorem exQ_inv : QInv exQ := qinv_reachable _

example : exQ.batch = 0 ∧ exQ.heap = [] ∧ exQ.counter = 9 ∧
    exQ.queue = [⟨2, 3, 13⟩, ⟨-1, 4, 14⟩, ⟨2, 5, 15⟩, ⟨-1, 6, 16⟩, ⟨0, 7, 17⟩, ⟨2, 8, 18⟩] := by
  decide +kernel

def exPicks : List (List QItem → Option QItem) :=
  [fun _ => none, fun c => c.head?, fun c => c.getLast?, fun _ => some ⟨0, 0, 0⟩, fun _ => none,
   fun c => c.head?]

/-- `pop_is_min`, `pop_succeeds`: a pop that succeeds, on a heap with mixed priorities -/
example : ∃ it q', exQ.begin.pop (fun _ => none) = some (it, q') ∧ it = ⟨-1, 4, 14⟩ :=
  ⟨_, _, rfl, rfl⟩

example : QInv exQ.begin ∧ exQ.begin.batch ≠ 0 := ⟨qinv_begin exQ_inv, by decide⟩

/-- `pass_sorted` / `pass_order_spec` / `ascending_priority` / `lower_priority_first`:
    hypotheses hold for `exQ`, `exPicks`, and the pass dispatches by priority, FIFO among equals -/
example : QInv exQ ∧ exQ.batch = 0 ∧ exPicks.length = exQ.queue.length ∧
    (runOps exQ (.flushBegin :: exPicks.map .pop)).2 =
      [⟨-1, 4, 14⟩, ⟨-1, 6, 16⟩, ⟨0, 7, 17⟩, ⟨2, 3, 13⟩, ⟨2, 5, 15⟩, ⟨2, 8, 18⟩] :=
  ⟨exQ_inv, by decide +kernel, by decide +kernel, by decide +kernel⟩

/-- `fifo_equal`: two items of equal priority, in deque order -/
example : [(⟨2, 3, 13⟩ : QItem), ⟨2, 8, 18⟩].Sublist exQ.queue ∧
    (⟨2, 3, 13⟩ : QItem).prio = (⟨2, 8, 18⟩ : QItem).prio := by decide +kernel

example : (⟨-1, 6, 16⟩ : QItem) ∈ exQ.queue ∧ (⟨2, 3, 13⟩ : QItem) ∈ exQ.queue ∧
    (⟨-1, 6, 16⟩ : QItem).prio < (⟨2, 3, 13⟩ : QItem).prio := by decide +kernel

/-- `no_overtake`: appends (incl. one with a priority lower than everything queued) between the
    pops; `no_overtake_nested`: additionally nested flushes mid-pass -/
def exMix : List QOp :=
  [.pop (fun _ => none), .app 20 (-7), .pop (fun _ => none), .pop (fun _ => none), .app 21 2,
   .app 22 (-7), .pop (fun _ => none), .pop (fun _ => none), .pop (fun _ => none), .app 23 0]

def exMixNested : List QOp :=
  [.pop (fun _ => none), .app 20 (-7), .flushBegin, .pop (fun _ => none), .pop (fun _ => none),
   .app 21 2, .flushBegin, .app 22 (-7), .pop (fun _ => none), .pop (fun _ => none), .flushBegin,
   .pop (fun _ => none), .app 23 0]

example : (∀ o ∈ exMix, o.isFlush = false) ∧ exMix.countP QOp.isPop = exQ.queue.length ∧
    (runOps exQ (.flushBegin :: exMix)).2 =
      [⟨-1, 4, 14⟩, ⟨-1, 6, 16⟩, ⟨0, 7, 17⟩, ⟨2, 3, 13⟩, ⟨2, 5, 15⟩, ⟨2, 8, 18⟩] ∧
    (runOps exQ (.flushBegin :: exMix)).1.queue =
      [⟨-7, 9, 20⟩, ⟨2, 10, 21⟩, ⟨-7, 11, 22⟩, ⟨0, 12, 23⟩] := by
  refine ⟨?_, by decide +kernel, by decide +kernel, by decide +kernel⟩
  intro o ho
  simp only [exMix, List.mem_cons, List.not_mem_nil, or_false] at ho
  rcases ho with rfl | rfl | rfl | rfl | rfl | rfl | rfl | rfl | rfl | rfl <;> rfl

example : midPass exQ.queue.length exMixNested = true ∧
    (runOps exQ (.flushBegin :: exMixNested)).2 = (runOps exQ (.flushBegin :: exMix)).2 ∧
    (runOps exQ (.flushBegin :: exMixNested)).1.queue = (runOps exQ (.flushBegin :: exMix)).1.queue := by
  decide +kernel

/-- `fired_during_pass_dispatched_next` -/
example : (runOps (runOps exQ (.flushBegin :: exMix)).1
      (.flushBegin :: (List.replicate 4 (fun _ => none)).map .pop)).2 =
    [⟨-7, 9, 20⟩, ⟨-7, 11, 22⟩, ⟨0, 12, 23⟩, ⟨2, 10, 21⟩] := by decide +kernel

/-- a nested flush during the LAST event of a batch (batch = 0 again) is outside `midPass`:
    it legitimately starts the next pass -/
example : midPass 1 [.pop (fun _ => none), .flushBegin] = false := by decide

/-- `nested_flush_continues`: a state with a batch in progress -/
example : exQ.begin.batch ≠ 0 := by decide

/-- handler order: priorities 1, -2, 1, 0, 1, -2 for handlers 0..5 -/
def exPrio : Nat → Int
  | 0 => 1 | 1 => -2 | 2 => 1 | 3 => 0 | 4 => 1 | _ => -2

def exHs : List Nat := [0, 2, 4, 3, 1, 5]

def exHints : Nat → Option Nat
  | 0 => some 4      -- in the tie group: honoured
  | 1 => some 3      -- not in the tie group {0, 2}: head is taken
  | 2 => some 2
  | 4 => some 5
  | _ => none

example : exHs.Pairwise (fun a b => exPrio a ≥ exPrio b) := by decide
example : chooseNext exPrio (some 4) exHs = some (4, [0, 2, 3, 1, 5]) := by decide
example : chooseIter exPrio exHs.length exHints exHs = [4, 0, 2, 3, 5, 1] := by decide +kernel

/-- `stop_cuts`, `stop_cuts_complete`: handler 3 (priority 0) stops the event at step k = 3 -/
example : (3 : Nat) < exHs.length ∧ (chooseIter exPrio (3 + 1) exHints exHs).getLast? = some 3 ∧
    chooseIter exPrio (3 + 1) exHints exHs = [4, 0, 2, 3] := by decide +kernel

/-- `sorted_append_fallback`: with a handler below the fallback's priority the appended list
    is NOT sorted — the fallback then runs after a lower-priority handler -/
example : ¬ ([0, 1] ++ [2]).Pairwise (fun a b => (fun | 0 => (0:Int) | 1 => -200 | _ => -100) a ≥
    (fun | 0 => (0:Int) | 1 => -200 | _ => -100) b) := by decide

/-! ## 8. the link to the machine

Sections 1-7 are about the queue LAYER (`EQ` under `QOp`) and the handler-choice layer
(`chooseNext`).  The theorems below are about the small-step core machine
(CV/Model/Core/Step.lean): every configuration (`step_queue_ops`, `fire_is_inert`, …: no
hypothesis at all, hence in particular every reachable one) resp. every configuration of every
driver session (`Reach s0 c`, CV/Proofs/CoreReach.lean: arbitrary external operations, clock
advances, tapes, programs) from an initial state whose queues satisfy the layer invariant.
They say that the machine touches a component's `_EventQueue` only through the layer
operations, so that sections 1-7 apply to it.  Proofs: CV/Proofs/InvQueueBase.lean (the pair `QFR` of `QRel`
and `O2PR` through all primitives and helpers, `QRel` through the arms of `step`), CV/Proofs/InvQueue.lean. -/

/-- **Classification.**  What one step of the machine - any configuration `c`, any component `x`
    - does to `x`'s queue `q = (c.st.comp x).eq`; `q'` is the queue after the step:
    1. `q' = runOps q ops` for a finite list of `QOp.app` ops (`[]` = unchanged; two for e.g.
       `handlerRaised` = failure + exception, `eventDonePre` = done + success);
    2. `q' = flushBegin q` - only when the top frame is `.flush y` and `x` is `y`'s root;
    3. `(q', it) = pop pick q` with a successful pop - only when the top frame is
       `.dispatchLoop x`; the popped event goes to `.dispatcher x it.ev q'.batch`;
    4. `q' = (q.drainFrom child.eq).1` (deque := deque ++ child's deque) - only when the top frame
       is `.register ch p` and `x ≠ ch` is `p`'s root;
    5. `q' = (root.eq.drainFrom q).2` (deque := []) - only when the top frame is `.register x p`.
    Counter, heap and batch change only as those operations change them. -/
theorem step_queue_ops (c : Cfg) (x : Nat) :
    (∃ ops : List QOp, (∀ o ∈ ops, ∃ e p, o = QOp.app e p) ∧
        ((step c).st.comp x).eq = (runOps (c.st.comp x).eq ops).1)
    ∨ (∃ y k, c.stack = .flush y :: k ∧ c.exn = none ∧ c.st.rootOf y = x ∧
        ((step c).st.comp x).eq = (QOp.flushBegin.apply (c.st.comp x).eq).1)
    ∨ (∃ k pick it, c.stack = .dispatchLoop x :: k ∧ c.exn = none ∧
        (QOp.pop pick).apply (c.st.comp x).eq = (((step c).st.comp x).eq, some it) ∧
        (step c).stack = .dispatcher x it.ev ((step c).st.comp x).eq.batch :: .dispatchLoop x :: k)
    ∨ (∃ ch p k, c.stack = .register ch p :: k ∧ c.exn = none ∧ p ≠ ch ∧ x = (c.st.comp p).root ∧ x ≠ ch ∧
        ((step c).st.comp x).eq = ((c.st.comp x).eq.drainFrom (c.st.comp ch).eq).1)
    ∨ (∃ p k, c.stack = .register x p :: k ∧ c.exn = none ∧ p ≠ x ∧ (c.st.comp p).root ≠ x ∧
        ((step c).st.comp x).eq = ((c.st.comp (c.st.comp p).root).eq.drainFrom (c.st.comp x).eq).2) := by
  rcases q2_step_class c x with h | ⟨y, k, h1, h2, h3, h4⟩ | ⟨k, it, q', h1, h2, h3, h4, h5⟩ | h | h
  · exact .inl h.1
  · exact .inr (.inl ⟨y, k, h1, h2, h3, h4⟩)
  · refine .inr (.inr (.inl ⟨k, c.st.q2pick, it, h1, h2, ?_, ?_⟩))
    · simp only [QOp.apply, h3, h4]
    · rw [h4]; exact h5
  · exact .inr (.inr (.inr (.inl h)))
  · exact .inr (.inr (.inr (.inr h)))

/-- the same, for readers of the layer: a step that is not a `register` step applies a list of
    layer ops to every queue -/
theorem step_queue_runOps (c : Cfg) (x : Nat)
    (hreg : ∀ ch p k, c.stack ≠ .register ch p :: k) :
    ∃ ops : List QOp, ((step c).st.comp x).eq = (runOps (c.st.comp x).eq ops).1 := by
  rcases step_queue_ops c x with ⟨ops, _, h⟩ | ⟨_, _, _, _, _, h⟩ | ⟨_, pick, _, _, _, h, _⟩ |
      ⟨ch, p, k, hs, _⟩ | ⟨p, k, hs, _⟩
  · exact ⟨ops, h⟩
  · exact ⟨[.flushBegin], h⟩
  · exact ⟨[.pop pick], by simp only [runOps, h]⟩
  · exact absurd hs (hreg ch p k)
  · exact absurd hs (hreg x p k)

/-- hypothesis on the initial state: `_flush_batch` = heap size in every component (true of
    freshly constructed managers: both 0) -/
def InitBatch (s : St) : Prop := ∀ x, (s.comp x).eq.batch = (s.comp x).eq.heap.length

/-- hypothesis on the initial state: every component's queue satisfies the layer invariant (true
    of freshly constructed managers: `qinv_init`) -/
def InitQueues (s : St) : Prop := ∀ x, QInv (s.comp x).eq

/-- two fresh managers; one manager in the middle of a pass with a mixed queue -/
def exSt : St := { comps := [{ parent := 0, root := 0 }, { parent := 1, root := 1 }] }
def exStBusy : St := { comps := [{ parent := 0, root := 0, eq := exQ.begin }] }

example : InitQueues exSt ∧ InitBatch exSt := ⟨q2_two_fresh_init, fun x => (q2_two_fresh_init x).batch_eq⟩

example : InitQueues exStBusy ∧ InitBatch exStBusy ∧ (exStBusy.comp 0).eq.batch = 6 := by
  have h : InitQueues exStBusy := by
    intro x
    match x with
    | 0 => exact qinv_begin exQ_inv
    | n + 1 => exact qinv_init
  exact ⟨h, fun x => (h x).batch_eq, by decide⟩

/-- **`_flush_batch` = heap size, always.**  The field `batch_eq` of `QInv` for every component of every
    reachable configuration - including across `register` (`drainFrom` moves deques only).
    Hence `heappop` never meets an empty heap and the `remaining` argument of `_dispatcher` is the
    number of events of the pass still to be dispatched. -/
theorem batch_eq_heap (s0 : St) (h0 : InitBatch s0) (c : Cfg) (hr : Reach s0 c) (x : Nat) :
    (c.st.comp x).eq.batch = (c.st.comp x).eq.heap.length :=
  q2_batch_reach s0 h0 c hr x

/-- guard for `qinv_reach_partial`: a pending `register ch p` step finds `ch`'s deque empty -/
def NoDrain (c : Cfg) : Prop :=
  ∀ ch p k, c.stack = .register ch p :: k → c.exn = none → (c.st.comp ch).eq.queue = []

/-- (`ReachND`, defined in CV/Proofs/InvQueue.lean, uses literally this guard) -/
example : NoDrain = Q2NoDrain := rfl

/-- The full layer invariant `QInv` (batch = heap size, sequence numbers below the counter,
    pairwise different, increasing along the deque) holds for every component of every
    configuration reached by a session in which no `register` step drains a non-empty deque
    (`ReachND`: `Reach` with the guard `NoDrain` on every configuration a step is taken from).
    FULL statement (over `Reach`): FALSE, see `qinv_reach_witness`: `drainFrom` keeps the
    child's sequence numbers, which were stamped by another counter.  Consequence for the
    property: `pass_sorted` / `fifo_equal` / `no_overtake` apply to the machine's passes as long
    as components are registered before events are fired at them; after a drain of a non-empty
    deque the priority order still holds (`dispatch_pops_min` needs no invariant) but FIFO among
    equal priorities is only guaranteed within each of the two merged sequences. -/
theorem qinv_reach_partial (s0 : St) (h0 : InitQueues s0) (c : Cfg) (hr : ReachND s0 c) (x : Nat) :
    QInv (c.st.comp x).eq :=
  q2_qinv_reachND s0 h0 c hr x

theorem reachND_reach {s0 : St} {c : Cfg} (h : ReachND s0 c) : Reach s0 c := h.reach

/-- … and under `QInv` the tape-derived pick of the machine is irrelevant: the dispatch order of
    guarded runs is fully determined by `(prio, seq)` -/
theorem machine_pop_deterministic (s0 : St) (h0 : InitQueues s0) (c : Cfg) (hr : ReachND s0 c) (r : Nat)
    (pick : List QItem → Option QItem) :
    c.st.popEvent r = (c.st.comp r).eq.pop pick :=
  pop_pick_irrelevant (qinv_reach_partial s0 h0 c hr r) _ _

/-- **Runs of the machine are runs of the layer.**  For every configuration `c`, component `x`
    and number of steps `n` such that no `register` step among them drains a non-empty deque:
    there is a list of layer ops `ops` with
      * queue of `x` after the `n` steps = `(runOps q ops).1`, and
      * the items the layer run dispatches, `(runOps q ops).2`, = the items the `.dispatchLoop x`
        steps of the machine run popped, in order (`q2poppedRun`) - each of which was handed to
        `_dispatcher` by the very step that popped it (`popped_is_dispatched`).
    So `pass_sorted`, `fifo_equal`, `no_overtake_nested`, … - statements about `runOps` - are
    statements about what the machine dispatches, and in which order. -/
theorem run_is_layer_run (c : Cfg) (x n : Nat) (hg : ∀ i, i < n → NoDrain (runN i c)) :
    ∃ ops : List QOp, ((runN n c).st.comp x).eq = (runOps (c.st.comp x).eq ops).1 ∧
      (runOps (c.st.comp x).eq ops).2 = q2poppedRun x n c :=
  q2_run_trace x n c hg

theorem popped_is_dispatched (c : Cfg) (x : Nat) (it : QItem) (h : q2popped c x = some it) :
    ∃ k, c.stack = .dispatchLoop x :: k ∧ c.exn = none ∧
      (step c).stack = .dispatcher x it.ev ((step c).st.comp x).eq.batch :: .dispatchLoop x :: k :=
  q2_popped_dispatched c x it h

/-- a whole `flush` of the busy manager (6 events in the heap): the machine dispatches them in
    `(prio, seq)` order - the machine run, not the layer run, is evaluated here -/
example : q2poppedRun 0 60 (startOf (envChange exStBusy 0 []) (.flush 0)) =
    [⟨-1, 4, 14⟩, ⟨-1, 6, 16⟩, ⟨0, 7, 17⟩, ⟨2, 3, 13⟩, ⟨2, 5, 15⟩, ⟨2, 8, 18⟩] := by decide +kernel

/-- `fire` on manager 1, `fire` on manager 0, then `1.register(0)`: both events carry sequence
    number 0 of their own manager's counter -/
def exW1 : Cfg := runN 3 (startOf (envChange exSt 0 []) (.doAct 1 (.fire 0 none 0 false)))
def exW2 : Cfg := runN 3 (startOf (envChange exW1.st 0 []) (.doAct 0 (.fire 0 none 0 false)))
def exW3 : Cfg := runN 2 (startOf (envChange exW2.st 0 []) (.doAct 1 (.reg 1 0)))

/-- the excluded case really fails: a reachable configuration (from two fresh managers) whose
    root queue holds two items with the same `(prio, seq)` key, fired in the order 0-then-1 but
    queued in the order 1-then-0 -/
theorem qinv_reach_witness :
    InitQueues exSt ∧ Reach exSt exW3 ∧ ¬ NoDrain (runN 1 (startOf (envChange exW2.st 0 []) (.doAct 1 (.reg 1 0)))) ∧
    (exW3.st.comp 0).eq.queue = [⟨0, 0, 1⟩, ⟨0, 0, 0⟩] ∧ ¬ QInv (exW3.st.comp 0).eq := by
  have hrun : (done exW1 && done exW2 &&
      decide (((runN 1 (startOf (envChange exW2.st 0 []) (.doAct 1 (.reg 1 0)))).st.comp 1).eq.queue ≠ []) &&
      decide ((exW3.st.comp 0).eq.queue = [⟨0, 0, 1⟩, ⟨0, 0, 0⟩])) = true := by decide +kernel
  simp only [Bool.and_eq_true, decide_eq_true_eq] at hrun
  obtain ⟨⟨⟨d1, d2⟩, hne⟩, hq⟩ := hrun
  refine ⟨q2_two_fresh_init, Reach.runN (.next 0 [] _ (Reach.runN (.next 0 [] _ (Reach.runN (.init 0 [] _) 3) d1) 3) d2) 2,
    fun h => hne (h 1 0 _ rfl rfl), hq, fun h => ?_⟩
  have h1 := h.queue_inc
  rw [hq] at h1
  simp at h1

/-- non-vacuity of `ReachND`: a guarded run with a `register` step (of a component whose deque
    is empty) and a fire + flush afterwards -/
example : ReachND exSt (runN 2 (startOf (envChange exSt 0 []) (.doAct 1 (.reg 1 0)))) := by
  have h0 : ReachND exSt (startOf (envChange exSt 0 []) (.doAct 1 (.reg 1 0))) := .init 0 [] _
  have h1 : ReachND exSt (runN 1 (startOf (envChange exSt 0 []) (.doAct 1 (.reg 1 0)))) := by
    refine ReachND.step h0 ?_
    intro ch p k hs _
    simp [startOf, startDo, Cfg.start] at hs
  refine ReachND.step h1 ?_
  intro ch p k hs _
  have : ch = 1 := by
    have h2 : (runN 1 (startOf (envChange exSt 0 []) (.doAct 1 (.reg 1 0)))).stack =
        [.register 1 0, .acts ⟨1, none⟩ [], .doFin 1] := rfl
    rw [h2] at hs
    injection hs with hs _
    injection hs with h _
    exact h.symm
  subst this
  decide

/-- **One iteration of `dispatchEvents`' loop** in a reachable configuration whose top frame is
    `.dispatchLoop r`: if `_flush_batch` is 0 the loop ends and nothing changes; otherwise the
    step pops an item `it` that is a minimum by `(prio, seq)` of `r`'s heap, removes exactly it
    (deque and counter untouched), decrements `_flush_batch` FIRST and calls
    `_dispatcher(it.ev, …, remaining)` with `remaining` = the new `_flush_batch` = the number of
    events left in the heap; no other component's queue changes. -/
theorem dispatch_pops_min (s0 : St) (h0 : InitBatch s0) (c : Cfg) (hr : Reach s0 c) (r : Nat) (k : List Frame)
    (hs : c.stack = .dispatchLoop r :: k) (hx : c.exn = none) :
    ((c.st.comp r).eq.batch = 0 ∧ step c = { c with stack := k }) ∨
    ((c.st.comp r).eq.batch ≠ 0 ∧
      ∃ it q', (∀ y ∈ (c.st.comp r).eq.heap, it.le y = true) ∧ it ∈ (c.st.comp r).eq.heap ∧
        q'.heap = (c.st.comp r).eq.heap.erase it ∧ q'.batch + 1 = (c.st.comp r).eq.batch ∧
        q'.batch = q'.heap.length ∧ q'.queue = (c.st.comp r).eq.queue ∧ q'.counter = (c.st.comp r).eq.counter ∧
        (step c).stack = .dispatcher r it.ev q'.batch :: .dispatchLoop r :: k ∧ (step c).exn = none ∧
        ∀ y, ((step c).st.comp y).eq = if y = r then q' else (c.st.comp y).eq) := by
  have hb := q2_batch_reach s0 h0 c hr
  have hp := q2_dispatch_progress c r hb
  rcases q2_dispatch_pops_min c r k hs hx with ⟨h1, h2⟩ | ⟨it, q', h1, h2, h3, h4, h5, h6, h7, h8, h9, _, h11⟩
  · exact .inl ⟨hp.1.mp h1, h2⟩
  · refine .inr ⟨?_, it, q', h2, h3, h4, h5, hp.2 it q' h1, h6, h7, h8, h9, h11⟩
    intro hz
    rw [hp.1.mpr hz] at h1; cases h1

example : InitBatch exStBusy ∧ Reach exStBusy (startOf (envChange exStBusy 0 []) (.flush 0)) :=
  ⟨fun x => by
    match x with
    | 0 => exact (qinv_begin exQ_inv).batch_eq
    | n + 1 => rfl, .init 0 [] _⟩

/-- the nested flush continues the batch: after the `.flush` step the loop frame is on top, and
    its step dispatches the minimum `⟨-1, 4, 14⟩` with `remaining = 5` -/
example : (step (step (startOf (envChange exStBusy 0 []) (.flush 0)))).stack =
    [.dispatcher 0 14 5, .dispatchLoop 0, .flushFin 0 false] := rfl

/-- **`fire()` is inert** (plain handler body / external code).  The step that executes a
    `fire` act of a `.acts` frame: (`Q2Fire`) appends the new event `e = |evs|` with the given
    priority to the queue of the firing component's root and to no other queue, changes no other
    field of any component, creates the event object, logs one `F` entry, leaves the handler,
    generator, wait and timer tables and the clock alone - and continues with the SAME frame on
    the remaining acts: no `.dispatcher` / `.invoke` / `.hLoop` frame is pushed, the frames below
    are untouched, nothing is returned or raised. -/
theorem fire_is_inert (c : Cfg) (ctx : HCtx) (i : Nat) (target : Option Chan) (prio : Int) (cancel : Bool)
    (rest : Prog) (k : List Frame)
    (hs : c.stack = .acts ctx (.fire i target prio cancel :: rest) :: k) (hx : c.exn = none) :
    (step c).stack = .acts ctx rest :: k ∧ (step c).exn = none ∧ (step c).ret = c.ret ∧
    Q2Fire c.st (step c).st (c.st.rootOf ctx.self) c.st.evs.length prio ∧
    (step c).st.evs.length = c.st.evs.length + 1 :=
  q2_acts_fire c ctx i target prio cancel rest k hs hx

/-- **`fire()` is inert** (generator handler body): the same for a `fire` act executed by a
    `.stepGen g` frame; the generator record only advances past the act. -/
theorem fire_is_inert_gen (c : Cfg) (g e h owner i : Nat) (target : Option Chan) (prio : Int) (cancel : Bool)
    (rest : Prog) (n : Nat) (pc : Option Bool) (sd : Bool) (k : List Frame)
    (hs : c.stack = .stepGen g :: k) (hx : c.exn = none)
    (hg : c.st.gen g = .user e h owner (.fire i target prio cancel :: rest) n pc sd) :
    (step c).stack = .stepGen g :: k ∧ (step c).exn = none ∧ (step c).ret = c.ret ∧
    Q2Fire (c.st.setGen g (.user e h owner rest n none sd)) (step c).st (c.st.rootOf owner) c.st.evs.length prio ∧
    (step c).st.evs.length = c.st.evs.length + 1 :=
  q2_stepGen_fire c g e h owner i target prio cancel rest n pc sd k hs hx hg

/-- what `Q2Fire` says about the queues, in layer terms: one `QOp.app` on the root, nothing else -/
theorem fire_appends_once {s s' : St} {r e : Nat} {prio : Int} (h : Q2Fire s s' r e prio) (x : Nat) :
    (s'.comp x).eq = if x = r ∧ x < s.comps.length then ((QOp.app e prio).apply (s.comp x).eq).1
      else (s.comp x).eq := by
  rw [h.comp x]
  split <;> rfl

/-- **No re-entrant dispatch through `fire()`.**  Whenever the next step executes a `fire` act of
    user code (`Q2FiresNext`: in a plain body or in a generator body - these are the only two
    places where the machine runs a user `fire`), the step replaces the top frame by a frame
    that is not a dispatching frame (`.dispatcher`, `.hLoop`, `.invoke`, `.dispatchLoop`,
    `.flush`, `.tick`), leaves all frames below untouched (cf. `C04.frames_below_untouched`),
    logs exactly one entry, an `F`, (no `D`/`I`/`H` entry: no handler ran) and does not touch
    the handler table.  The handler that called `fire()` simply goes on. -/
theorem no_reentrant_dispatch_by_fire (c : Cfg) (h : Q2FiresNext c) :
    ∃ f f' k, c.stack = f :: k ∧ (step c).stack = f' :: k ∧ f'.q2dispatching = false ∧
      (step c).exn = none ∧ (step c).ret = c.ret ∧
      (∃ e nm ch p, (step c).st.log = .fire e nm ch p :: c.st.log) ∧ (step c).st.hs = c.st.hs :=
  q2_no_reentrant c h

/-- a handler body about to fire, inside a dispatch (frames below: the handler loop) -/
def exFiring : Cfg :=
  { st := exSt, stack := [.acts ⟨1, some 0⟩ [.fire 0 none (-1) false, .ret 7], .invokeFin 0 0,
      .hAfter 1 0 [] false .none, .dispatchLoop 1] }

example : Q2FiresNext exFiring := ⟨rfl, .inl ⟨_, _, _, _, _, _, _, rfl⟩⟩

example : (step exFiring).stack = [.acts ⟨1, some 0⟩ [.ret 7], .invokeFin 0 0, .hAfter 1 0 [] false .none,
    .dispatchLoop 1] ∧ ((step exFiring).st.comp 1).eq.queue = [⟨-1, 0, 0⟩] ∧
    ((step exFiring).st.comp 0).eq.queue = [] := ⟨rfl, by decide +kernel, by decide +kernel⟩

/-- **The machine's handler loop IS `chooseNext`.**  `St.chooseHandler` (the choice the `.hLoop`
    arm makes, following the tape) is `chooseNext` of the layer with the priority table of the
    current state and the hint read off the tape (`St.q2hint`); the arm keeps exactly the other
    handlers.  So `choose_max`, `choose_rest`, `handlers_desc`, `stop_cuts` are statements about
    the machine's loop. -/
theorem handler_loop_uses_chooseNext (s : St) (e h0 : Nat) (rest0 : List Nat) :
    chooseNext s.q2prio (s.q2hint e h0 rest0) (h0 :: rest0) =
      some (s.chooseHandler e h0 rest0, (h0 :: rest0).erase (s.chooseHandler e h0 rest0)) :=
  q2_chooseHandler s e h0 rest0

/-- … as a statement about the step of a `.hLoop` frame; with a descending pending list the
    invoked handler has maximal priority and the kept list is again descending. -/
theorem handler_loop_step (c : Cfg) (r e h0 : Nat) (rest0 : List Nat) (err : Bool) (stale : Outcome) (k : List Frame)
    (hs : c.stack = .hLoop r e (h0 :: rest0) err stale :: k) (hx : c.exn = none) :
    ∃ h rest, chooseNext c.st.q2prio (c.st.q2hint e h0 rest0) (h0 :: rest0) = some (h, rest) ∧
      (step c).stack = .invoke r h e :: .hAfter r e rest err stale :: k ∧ (step c).exn = none ∧
      (step c).st.q2prio = c.st.q2prio ∧
      ((h0 :: rest0).Pairwise (fun a b => c.st.q2prio a ≥ c.st.q2prio b) →
        (∀ x ∈ h0 :: rest0, c.st.q2prio h ≥ c.st.q2prio x) ∧
        rest.Pairwise (fun a b => c.st.q2prio a ≥ c.st.q2prio b)) := by
  obtain ⟨h, rest, h1, h2, h3, h4⟩ := q2_hLoop_step c r e h0 rest0 err stale k hs hx
  exact ⟨h, rest, h1, h2, h3, St.q2prio_of_hs h4, fun hd => ⟨(choose_max hd h1).2, (choose_rest hd h1).1⟩⟩

/-- **`stop()` cuts the loop.**  After a handler returned, the `.hApply` step looks at
    `event.stopped`: if set, the loop frame is replaced by `.dispFin` and the pending handlers
    `rest` (all of priority ≤ the stopper's, by `handler_loop_step`) disappear with it - no
    frame, no state field refers to them any more; otherwise the loop goes on with the same
    `rest`. -/
theorem stop_breaks_loop (c : Cfg) (r e : Nat) (rest : List Nat) (err : Bool) (v : Outcome) (k : List Frame)
    (hs : c.stack = .hApply r e rest err v :: k) (hx : c.exn = none) :
    (step c).stack = (if ((c.st.applyValue r e v).ev e).stopped = true then Frame.dispFin r e err
                      else Frame.hLoop r e rest err v) :: k :=
  q2_hApply_step c r e rest err v k hs hx

/-- **What `_dispatcher` builds on a cache miss.**  `computeHandlers` returns
    `sorted = mergeSort (prio a ≥ prio b) (collected handlers)` (`St.q2sorted`, descending), and
    appends a freshly allocated fallback handler exactly for `generate_events` (priority -100) and
    for an unhandled `exception` event. -/
theorem dispatcher_sorts (s : St) (r : Nat) (name : Name) (chans : List Chan) :
    (s.q2sorted r name chans).Pairwise (fun a b => s.q2prio a ≥ s.q2prio b) ∧
    (∀ h, h ∈ s.q2sorted r name chans ↔ ∃ ch ∈ chans, h ∈ collect s (s.comps.length + 1) r name ch) ∧
    (((s.computeHandlers r name chans).1 = s.q2sorted r name chans ∧ (s.computeHandlers r name chans).2.hs = s.hs ∧
        name ≠ Name.generateEvents ∧ ¬ (name = Name.exception ∧ s.q2sorted r name chans = []))
    ∨ ((s.computeHandlers r name chans).1 = s.q2sorted r name chans ++ [s.hs.length] ∧
        ∃ hd, (s.computeHandlers r name chans).2.hs = s.hs ++ [hd] ∧
          ((name = Name.generateEvents ∧ hd.prio = -100 ∧ hd.kind = .fallbackGE) ∨
           (name = Name.exception ∧ s.q2sorted r name chans = [] ∧ hd.prio = 0 ∧ hd.kind = .fallbackExc)))) := by
  refine ⟨q2_sorted_desc s r name chans, ?_, q2_computeHandlers s r name chans⟩
  intro h
  unfold St.q2sorted
  rw [List.mem_mergeSort, List.mem_flatMap]

/-- … hence the list handed to the handler loop satisfies the `Desc` hypothesis of
    `handlers_desc` / `stop_cuts` (w.r.t. the priority table of the state the loop starts in)
    whenever the collected handlers are declared records (`hin`; C01's invariant `K.hid/gid`)
    and - for `generate_events` - none of them has a priority below the fallback's -100 (`hlow`).
    FULL statement (without `hlow`): false, see `dispatcher_sorts_desc_witness` and
    `sorted_append_fallback`: the fallback is appended AFTER sorting, so a user `generate_events`
    handler with a priority below -100 runs before the (higher-priority) fallback. -/
theorem dispatcher_sorts_desc_partial (s : St) (r : Nat) (name : Name) (chans : List Chan)
    (hin : ∀ h ∈ s.q2sorted r name chans, h < s.hs.length)
    (hlow : name = Name.generateEvents → ∀ h ∈ s.q2sorted r name chans, s.q2prio h ≥ -100) :
    (s.computeHandlers r name chans).1.Pairwise
      (fun a b => (s.computeHandlers r name chans).2.q2prio a ≥ (s.computeHandlers r name chans).2.q2prio b) :=
  q2_computeHandlers_desc s r name chans hin hlow

/-- one component with a user handler of priority 3 for `generate_events`: hypotheses hold, the
    fallback (id 1) is appended last -/
def exStGE : St :=
  { comps := [{ parent := 0, root := 0, htab := [(some Name.generateEvents, 0)] }],
    hs := [{ owner := 0, names := [Name.generateEvents], chan := none, prio := 3, kind := .user 0 }] }

example : (exStGE.computeHandlers 0 Name.generateEvents [.star]).1 = [0, 1] ∧
    (∀ h ∈ exStGE.q2sorted 0 Name.generateEvents [.star], h < exStGE.hs.length) ∧
    (∀ h ∈ exStGE.q2sorted 0 Name.generateEvents [.star], exStGE.q2prio h ≥ -100) := by decide +kernel

/-- the excluded case: a user `generate_events` handler with priority -200 - the list is not
    descending, the fallback (priority -100) runs after it -/
def exStGELow : St :=
  { comps := [{ parent := 0, root := 0, htab := [(some Name.generateEvents, 0)] }],
    hs := [{ owner := 0, names := [Name.generateEvents], chan := none, prio := -200, kind := .user 0 }] }

theorem dispatcher_sorts_desc_witness :
    (exStGELow.computeHandlers 0 Name.generateEvents [.star]).1 = [0, 1] ∧
    ¬ (exStGELow.computeHandlers 0 Name.generateEvents [.star]).1.Pairwise
      (fun a b => (exStGELow.computeHandlers 0 Name.generateEvents [.star]).2.q2prio a ≥
        (exStGELow.computeHandlers 0 Name.generateEvents [.star]).2.q2prio b) := by
  decide +kernel

/-- the tape names handler 4 of the tie group {0, 2, 4}: hint honoured by machine and layer alike -/
def exStTape : St :=
  { hs := [{ owner := 0, names := [], chan := none, prio := 1, kind := .user 0 },
           { owner := 0, names := [], chan := none, prio := -2, kind := .user 0 },
           { owner := 0, names := [], chan := none, prio := 1, kind := .user 0 },
           { owner := 0, names := [], chan := none, prio := 0, kind := .user 0 },
           { owner := 0, names := [], chan := none, prio := 1, kind := .user 0 }],
    tape := [.inv 9 4 0] }

example : exStTape.chooseHandler 9 0 [2, 4, 3, 1] = 4 ∧ exStTape.q2hint 9 0 [2, 4, 3, 1] = some 4 ∧
    chooseNext exStTape.q2prio (some 4) [0, 2, 4, 3, 1] = some (4, [0, 2, 3, 1]) := by decide +kernel

/-! ## 9. handler order on the machine

`handlers_desc` / `stop_cuts` (section 6) are about the layer function `chooseIter`,
`handler_loop_step` (section 8) needs the `Desc` hypothesis for the pending list, and
`dispatcher_sorts_desc_partial` needs "ids declared, priorities ≥ -100" for the collected
handlers.  The theorems below discharge these hypotheses with a Reach-level invariant (CV/Proofs/InvOrderBase.lean,
InvOrder.lean: `O2I`, proved by one case analysis of `step`; InvOrderLog.lean for
the statements about the log):

  * handler records never change once declared (the table is only appended to), every id in a
    handler table / global list / cached list / pending list is declared, every declared
    priority is ≥ -100 - so every cached list and every pending list of a `.hLoop` / `.hAfter` /
    `.hApply` frame on the stack is descending (`order_state_inv`, `pending_desc`,
    `dispatcher_list_desc`);
  * consequently, in the machine's own LOG, the user handlers invoked for one event are invoked
    in non-increasing priority order (`handlers_desc_log_partial`; as the spec predicate the
    harness evaluates on the implementation's log: `handlerOrderOk_machine_partial`), and after
    the `.hApply` step that saw `event.stopped` no handler is invoked for that event any more
    (`stop_cuts_machine_partial`).
    "One dispatch" is identified in the log by the event id, so these three carry the hypothesis
    `DispatchedOnce log` (the `D` entries of the log are pairwise different).  It is a decidable
    property of the log itself and holds whenever no `Timer` is used: a persistent `Timer` fires
    ONE event object again and again (`handlerOrderOk_timer_witness`). -/

/-- hypothesis on the initial state of a driver session: every declared handler has a priority
    ≥ -100 (the fallback `generate_events` handler, appended AFTER sorting, has -100; see
    `dispatcher_sorts_desc_witness`), whatever is installed in a handler table is a declared
    record, cached handler lists (none in a fresh manager) are descending and declared, nothing
    has been logged yet -/
structure InitOrder (s : St) : Prop where
  low : ∀ hd ∈ s.hs, -100 ≤ hd.prio
  hid : ∀ c k h, (k, h) ∈ (s.comp c).htab → h < s.hs.length
  gid : ∀ c h, h ∈ (s.comp c).globals → h < s.hs.length
  cache : ∀ c key l, (key, l) ∈ (s.comp c).cache →
    l.Pairwise (fun a b => s.q2prio a ≥ s.q2prio b) ∧ ∀ h ∈ l, h < s.hs.length
  log : s.log = []

theorem InitOrder.o2 {s : St} (h : InitOrder s) : O2Init s := ⟨⟨h.low, h.hid, h.gid, h.cache⟩, h.log⟩

/-- The clauses of `InitOrder` speak of every index `c`, but beyond `s.comps.length` the component
    is the default one with empty tables: checking the listed components, a finite condition, is enough. -/
theorem InitOrder.of_comps (s : St) (hlow : ∀ hd ∈ s.hs, -100 ≤ hd.prio)
    (h : ∀ x ∈ s.comps, (∀ p ∈ x.htab, p.2 < s.hs.length) ∧ (∀ g ∈ x.globals, g < s.hs.length) ∧
      ∀ p ∈ x.cache, p.2.Pairwise (fun a b => s.q2prio a ≥ s.q2prio b) ∧ ∀ g ∈ p.2, g < s.hs.length)
    (hlog : s.log = []) : InitOrder s := by
  refine ⟨hlow, fun c k x hm => ?_, fun c x hm => ?_, fun c key l hm => ?_, hlog⟩
  all_goals rcases s.comp_mem_or_dflt c with hin | hd
  · exact (h _ hin).1 (k, x) hm
  · rw [hd] at hm; cases hm
  · exact (h _ hin).2.1 x hm
  · rw [hd] at hm; cases hm
  · exact (h _ hin).2.2 (key, l) hm
  · rw [hd] at hm; cases hm

/-- `exStGE` (one component, a user `generate_events` handler of priority 3) and `exStTape` qualify -/
example : InitOrder exStGE :=
  .of_comps _ (by decide +kernel) (by decide +kernel) rfl

/-- **State invariant.**  In every reachable configuration: all declared priorities are ≥ -100,
    every id in a handler table or global list is declared, and every cached handler list is
    sorted by descending priority and consists of declared handlers. -/
theorem order_state_inv (s0 : St) (h0 : InitOrder s0) (c : Cfg) (hr : Reach s0 c) :
    (∀ hd ∈ c.st.hs, -100 ≤ hd.prio) ∧
    (∀ x k h, (k, h) ∈ (c.st.comp x).htab → h < c.st.hs.length) ∧
    (∀ x h, h ∈ (c.st.comp x).globals → h < c.st.hs.length) ∧
    (∀ x key l, (key, l) ∈ (c.st.comp x).cache →
      l.Pairwise (fun a b => c.st.q2prio a ≥ c.st.q2prio b) ∧ ∀ h ∈ l, h < c.st.hs.length) :=
  let h := (O2I.reach h0.o2 c hr).st
  ⟨h.low, h.hid, h.gid, h.cache⟩

/-- **Handler records never change**: one step only appends to the handler table. -/
theorem handler_table_append_only (c : Cfg) : ∃ ext, (step c).st.hs = c.st.hs ++ ext :=
  step_hs_append c

/-- **Pending lists are descending.**  In every reachable configuration the list of handlers still
    to run carried by any `.hLoop` / `.hAfter` / `.hApply` frame on the stack - at any depth, i.e.
    also of dispatches suspended by a nested `flush()` - is sorted by descending priority
    (priority table of the current state) and consists of declared handlers.  This is the `Desc`
    hypothesis of `handler_loop_step`, `choose_max`, `choose_rest`. -/
theorem pending_desc (s0 : St) (h0 : InitOrder s0) (c : Cfg) (hr : Reach s0 c)
    (r e : Nat) (l : List Nat) (err : Bool) (o : Outcome)
    (hf : Frame.hLoop r e l err o ∈ c.stack ∨ Frame.hAfter r e l err o ∈ c.stack ∨ Frame.hApply r e l err o ∈ c.stack) :
    l.Pairwise (fun a b => c.st.q2prio a ≥ c.st.q2prio b) ∧ ∀ h ∈ l, h < c.st.hs.length := by
  have hi := O2I.reach h0.o2 c hr
  rcases hf with h | h | h
  · exact (hi.ok _ h).desc e l rfl
  · exact (hi.ok _ h).desc e l rfl
  · exact (hi.ok _ h).desc e l rfl

/-- **What `_dispatcher` hands to the handler loop** in a reachable configuration (cache hit or
    miss, any event incl. `generate_events` with its fallback handler): a cancelled event goes to
    `_effectDone`; otherwise the loop starts with a list that is descending and declared.
    (Full-strength version of `dispatcher_sorts_desc_partial`: its hypotheses `hin`, `hlow` are
    consequences of the invariant.) -/
theorem dispatcher_list_desc (s0 : St) (h0 : InitOrder s0) (c : Cfg) (hr : Reach s0 c)
    (r e rem : Nat) (k : List Frame) (hst : c.stack = .dispatcher r e rem :: k) (hx : c.exn = none) :
    (step c).stack = .effectDone r e false :: k ∨
    ∃ hs, (step c).stack = .hLoop r e hs false .none :: k ∧
      hs.Pairwise (fun a b => (step c).st.q2prio a ≥ (step c).st.q2prio b) ∧ ∀ h ∈ hs, h < (step c).st.hs.length := by
  have hs : step c = c.dispatcher k r e rem := step_cons c _ k hst hx
  have hshape : (step c).stack = .effectDone r e false :: k ∨ ∃ l, (step c).stack = .hLoop r e l false .none :: k := by
    rw [hs]; unfold Cfg.dispatcher
    split
    · exact .inl rfl
    · exact .inr ⟨_, rfl⟩
  rcases hshape with h | ⟨l, h⟩
  · exact .inl h
  · exact .inr ⟨l, h, pending_desc s0 h0 (step c) (.step hr) r e l false .none (.inl (by rw [h]; exact List.mem_cons_self))⟩

/-- every event object was dispatched at most once: the `D` entries of the log are pairwise different -/
def DispatchedOnce (log : List Entry) : Prop :=
  (log.filterMap fun x => match x with | .disp e => some e | _ => none).Nodup

example : DispatchedOnce = O2Once := rfl

/-- **The handler chosen next.**  In a reachable configuration whose top frame is the handler loop
    of event `e` with handlers pending, the step calls a handler `h` and keeps `rest` such that:
    every handler invoked so far for `e` (`I` entries of the log) has a priority ≥ `h`'s, and `h`'s
    priority is ≥ that of every handler kept.  (`DispatchedOnce`: see the section header.) -/
theorem handler_step_order_partial (s0 : St) (h0 : InitOrder s0) (c : Cfg) (hr : Reach s0 c)
    (honce : DispatchedOnce c.st.log)
    (r e h0' : Nat) (rest0 : List Nat) (err : Bool) (stale : Outcome) (k : List Frame)
    (hst : c.stack = .hLoop r e (h0' :: rest0) err stale :: k) (hx : c.exn = none) :
    ∃ h rest, (step c).stack = .invoke r h e :: .hAfter r e rest err stale :: k ∧
      (step c).st.log = c.st.log ∧ (step c).st.hs = c.st.hs ∧ h ∈ h0' :: rest0 ∧ rest = (h0' :: rest0).erase h ∧
      (∀ h' ∈ invokedFor c.st.log e, c.st.q2prio h' ≥ c.st.q2prio h) ∧
      (∀ x ∈ rest, c.st.q2prio h ≥ c.st.q2prio x) := by
  have hi := O2I.reach h0.o2 (step c) (.step hr)
  have hs : step c = c.goto k (c.st.modEv e fun x => { x with geHandler := some (c.st.chooseHandler e h0' rest0) })
      [.invoke r (c.st.chooseHandler e h0' rest0) e,
       .hAfter r e ((h0' :: rest0).erase (c.st.chooseHandler e h0' rest0)) err stale] := step_cons c _ k hst hx
  have hlog : (step c).st.log = c.st.log := by rw [hs]; rfl
  have hhs : (step c).st.hs = c.st.hs := by rw [hs]; rfl
  have hprio : (step c).st.q2prio = c.st.q2prio := St.q2prio_of_hs hhs
  have hstk := (hi.once (by rw [hlog]; exact honce)).1
  have hstack : (step c).stack = .invoke r (c.st.chooseHandler e h0' rest0) e ::
      .hAfter r e ((h0' :: rest0).erase (c.st.chooseHandler e h0' rest0)) err stale :: k := by rw [hs]; rfl
  rw [hstack] at hstk
  obtain ⟨h1, r', rest, err', stale', k', hk, h2⟩ := hstk.1.call _ e rfl
  cases hk
  rw [hlog, hprio] at h1
  rw [hprio] at h2
  exact ⟨_, _, hstack, hlog, hhs, c.st.chooseHandler_mem e h0' rest0, rfl, h1, h2⟩

/-- **Handlers of one event run in non-increasing priority order - on the machine's log.**  For
    every reachable configuration whose log dispatches every event at most once and every event
    `e`: the user handlers invoked for `e` (`I` entries `(e, h, step 0)`, in chronological order)
    have non-increasing priorities.
    FULL statement (without `DispatchedOnce`): false when one event OBJECT is dispatched several
    times (`handlerOrderOk_timer_witness`); per dispatch it is what `handler_step_order_partial`
    says step by step. -/
theorem handlers_desc_log_partial (s0 : St) (h0 : InitOrder s0) (c : Cfg) (hr : Reach s0 c)
    (honce : DispatchedOnce c.st.log) (e : Nat) :
    (invokedFor c.st.log.reverse e).Pairwise (fun a b => c.st.q2prio a ≥ c.st.q2prio b) :=
  (O2I.reach h0.o2 c hr).chron honce e

/-- ... as the spec predicate of CV/Model/Core/LogSpec.lean, which the harness evaluates on the
    IMPLEMENTATION's log (`spec handlerorder impl`): it holds of the model's own log
    (`spec handlerorder model` evaluates exactly this expression). -/
theorem handlerOrderOk_machine_partial (s0 : St) (h0 : InitOrder s0) (c : Cfg) (hr : Reach s0 c)
    (honce : DispatchedOnce c.st.log) :
    handlerOrderOk (fun h => (c.st.hs.getD h dfltHandler).prio) c.st.log.reverse = true :=
  o2_handlerOrderOk (O2I.reach h0.o2 c hr) honce

/-- every `I` entry of the log belongs to an event that has a `D` entry, and names a declared handler -/
theorem invoked_is_dispatched (s0 : St) (h0 : InitOrder s0) (c : Cfg) (hr : Reach s0 c) (e h : Nat)
    (hm : Entry.inv e h 0 ∈ c.st.log) : Entry.disp e ∈ c.st.log ∧ h < c.st.hs.length :=
  (O2I.reach h0.o2 c hr).dispd e h hm

/-- **Who logs what, who pushes what.**  One step from any configuration with top frame `f`:
    a `D` entry for `e` is logged only (and always) by the step of `.dispatcher _ e _`; an `I` entry
    `(e, h)` only by the step of the call frame `.invoke _ h e`; a loop frame or call frame of an
    event `e` is pushed only by the step of `_dispatcher(e)` or of a loop frame of `e` itself - in
    particular never by `fire()`, never by a frame of another event. -/
theorem step_classification (c : Cfg) (f : Frame) (k : List Frame) (hst : c.stack = f :: k) :
    (∃ fs, (step c).stack = fs ++ k ∧ ∀ g ∈ fs, ∀ e, g.o2ev = some e → f.o2dev = some e ∧ c.exn = none) ∧
    (∃ es, (step c).st.log = es ++ c.st.log ∧
      (∀ e, Entry.disp e ∈ es → c.exn = none ∧ ∃ r rem, f = .dispatcher r e rem) ∧
      (∀ e h, Entry.inv e h 0 ∈ es → c.exn = none ∧ ∃ r, f = .invoke r h e) ∧
      (∀ r e rem, f = .dispatcher r e rem → c.exn = none → Entry.disp e ∈ es)) :=
  let h := o2_step_class c f k hst
  ⟨h.push, h.log⟩

/-- **`stop()` on the machine's log.**  A reachable configuration whose top frame is `.hApply` for
    event `e` (the handler just returned) and `event.stopped` is set: the step replaces the loop
    by `.dispFin` (dropping the pending handlers `rest`, all of priority ≤ every handler that ran);
    and in every later configuration `c'` of the session (any number of steps, any further
    external operations) whose log dispatches every event at most once, the handlers invoked for
    `e` are exactly those invoked before the step: no further handler runs for `e`. -/
theorem stop_cuts_machine_partial (s0 : St) (h0 : InitOrder s0) (c : Cfg) (hr : Reach s0 c)
    (r e : Nat) (rest : List Nat) (err : Bool) (v : Outcome) (k : List Frame)
    (hst : c.stack = .hApply r e rest err v :: k) (hx : c.exn = none)
    (hstop : ((c.st.applyValue r e v).ev e).stopped = true)
    (c' : Cfg) (hl : O2Later (step c) c') (honce : DispatchedOnce c'.st.log) :
    (step c).stack = .dispFin r e err :: k ∧
    (∀ h' ∈ invokedFor c.st.log e, ∀ x ∈ rest, c.st.q2prio h' ≥ c.st.q2prio x) ∧
    invokedFor c'.st.log e = invokedFor c.st.log e := by
  have hi := O2I.reach h0.o2 c hr
  have hstack : (step c).stack = .dispFin r e err :: k := by
    rw [q2_hApply_step c r e rest err v k hst hx, if_pos hstop]
  -- the step itself is quiet
  obtain ⟨⟨_, _, _⟩, es1, he1, hd1, hi1, _⟩ := o2_step_class c _ k hst
  obtain ⟨es, he⟩ := hl.log_append
  have honce0 : O2Once c.st.log := o2_once_of_append (he1 ▸ o2_once_of_append (he ▸ honce))
  have hstk := (hi.once honce0).1
  rw [hst] at hstk
  obtain ⟨h1, h2⟩ := hstk.1.loop e rest rfl
  have hfok := hi.ok _ (hst ▸ List.mem_cons_self)
  have hclosed : O2Closed e (step c) := by
    refine ⟨by rw [he1]; exact List.mem_append_right _ (hfok.disp e rfl), ?_⟩
    intro g hg hev
    rw [hstack] at hg
    rcases List.mem_cons.mp hg with h3 | h3
    · rw [h3] at hev; cases hev
    · exact h2 g h3 hev
  have hsame : invokedFor (step c).st.log e = invokedFor c.st.log e := by
    rw [he1, o2_invoked_append, o2_invoked_nil_of, List.nil_append]
    intro x hm
    obtain ⟨_, r1, hf⟩ := hi1 e x hm
    cases hf
  exact ⟨hstack, h1, ((o2_closed_later hclosed hl) honce).2.trans hsame⟩

/-- `O2Later` contains whole runs: `runN n (step c)` for every `n` -/
example (c : Cfg) (n : Nat) : O2Later (step c) (runN n (step c)) := O2Later.runN _ n

/-- the excluded case: a running manager 0 with a persistent `Timer` (component 1, interval 0) for
    event name 1, and two handlers for it with priorities 1 and 0 (their sorted list already
    cached, so that the kernel can evaluate the run without unfolding `mergeSort`) -/
def exStTimer : St :=
  { comps := [{ parent := 0, root := 0, children := [1], running := true,
                htab := [(some ⟨1, []⟩, 0), (some ⟨1, []⟩, 1)],
                cache := [((⟨1, []⟩, [.star]), [0, 1])] },
              { parent := 0, root := 0, htab := [(some Name.generateEvents, 2)] }],
    hs := [{ owner := 0, names := [⟨1, []⟩], chan := none, prio := 1, kind := .user 0 },
           { owner := 0, names := [⟨1, []⟩], chan := none, prio := 0, kind := .user 0 },
           { owner := 1, names := [Name.generateEvents], chan := none, kind := .timer 0 }],
    progs := [[]], tmpls := [{ name := ⟨1, []⟩ }],
    timers := [{ interval := 0, persist := true, tmpl := 0, target := none, comp := 1, parent := 0, created := true }] }

def exT1 : Cfg := runN 60 (startOf (envChange exStTimer 0 []) (.tick 0))
def exT2 : Cfg := runN 60 (startOf (envChange exT1.st 0 []) (.tick 0))
def exT3 : Cfg := runN 60 (startOf (envChange exT2.st 0 []) (.tick 0))

example : InitOrder exStTimer :=
  .of_comps _ (by decide +kernel) (by decide +kernel) rfl

/-- the three ticks of the timer session, evaluated once: after two, every event has been dispatched once and both handlers of
    event 1 have run; the third dispatches event 1 again -/
theorem exT_facts :
    done exT1 = true ∧ done exT2 = true ∧
    (DispatchedOnce exT2.st.log ∧ invokedFor exT2.st.log.reverse 1 = [0, 1]) ∧
    ¬ DispatchedOnce exT3.st.log ∧ invokedFor exT3.st.log.reverse 1 = [0, 1, 0, 1] ∧
    handlerOrderOk (fun h => (exT3.st.hs.getD h dfltHandler).prio) exT3.st.log.reverse = false := by
  unfold DispatchedOnce; decide +kernel

theorem exT2_reach : Reach exStTimer exT2 :=
  Reach.runN (.next 0 [] _ (Reach.runN (.init 0 [] _) 60) exT_facts.1) 60

/-- why the log statements carry `DispatchedOnce`: the `Timer` fires the SAME event object (id 1)
    at every tick; it is dispatched twice, its two handlers run in the order 0, 1, 0, 1 -
    descending within each dispatch, but the log identifies a dispatch only by the event id, and
    `handlerOrderOk` (which groups `I` entries by event id) fails.  The real `Timer` does the same
    (`self.fire(self.event, …)` with one `self.event`); the harness evaluates `handlerOrderOk` only
    on scenarios without timers. -/
theorem handlerOrderOk_timer_witness :
    Reach exStTimer exT3 ∧ ¬ DispatchedOnce exT3.st.log ∧
    invokedFor exT3.st.log.reverse 1 = [0, 1, 0, 1] ∧
    handlerOrderOk (fun h => (exT3.st.hs.getD h dfltHandler).prio) exT3.st.log.reverse = false :=
  ⟨Reach.runN (.next 0 [] _ exT2_reach exT_facts.2.1) 60, exT_facts.2.2.2⟩

/-! ## 10. pass order on the machine's own log

`passOrderOk` (CV/Model/Core/LogSpec.lean) is the spec predicate the harness evaluates on the
IMPLEMENTATION's log: it replays the `F` / `B` / `D` entries with one abstract queue - events
fired are pending, a pass takes exactly the pending events and must dispatch them in ascending
priority, fire order among equals, nothing fired meanwhile overtakes.  It is written from the
property statement, for ONE manager tree ("single root").  The theorem below proves it of the
MODEL's log (what `spec passorder model` evaluates), for every guarded run - which closes the
triangle statement / model / implementation for the pass-order clauses.  Proof:
CV/Proofs/InvQueueBase.lean (the relation `O2PR`: queue of the root and replay state move
together, through all primitives / helpers) and CV/Proofs/InvOrderPass.lean (the arms; invariant `O2PI`: the
replay state's `pending` IS the root's deque, `expected` IS the root's heap in `(prio, seq)`
order; `o2order_pop`, from `minCands_le` and `sorted_eq_mergeSort`, makes the `D` entries come out in that order). -/

/-- single root: component 0 exists and is every component's root (one manager tree) -/
def SingleRoot (s : St) : Prop := 0 < s.comps.length ∧ ∀ x, (s.comp x).root = 0

/-- hypothesis on the initial state: freshly constructed queues, nothing logged -/
structure InitPass (s : St) : Prop where
  eq : ∀ x, (s.comp x).eq = {}
  log : s.log = []

/-- runs in which every step is taken from a configuration with a single root that does not
    drain a non-empty deque (`ReachSR`, CV/Proofs/InvOrderPass.lean, uses literally these guards) -/
example (s0 : St) (c : Cfg) (h : ReachSR s0 c) (hg : NoDrain c) (hs : SingleRoot c.st) : ReachSR s0 (step c) :=
  .step h hg ⟨hs.1, hs.2⟩

theorem reachSR_reachND {s0 : St} {c : Cfg} (h : ReachSR s0 c) : ReachND s0 c := h.reachND

/-- **Pass order on the machine's log.**  For every session from fresh queues in which every step
    is taken under a single root and without draining a non-empty deque: the spec predicate
    `passOrderOk` holds of the machine's own log - every `B` entry announces exactly the events
    fired and not yet taken, the `D` entries of a pass are the snapshot sorted by priority, then
    fire order, a new pass starts only when the previous one is exhausted, and nothing is
    dispatched that was not taken by the current pass (no overtaking, nested flushes included).
    FULL statement (over `Reach`): false, `passOrderOk_two_roots_witness`: the predicate replays
    ONE queue, two manager trees have two. -/
theorem pass_order_machine_partial (s0 : St) (h0 : InitPass s0) (c : Cfg) (hr : ReachSR s0 c) :
    passOrderOk c.st.log.reverse = true :=
  o2_passOrderOk ⟨h0.eq, h0.log⟩ c hr

/-- the invariant behind it, for readers: in every such configuration the replay state of the
    log IS the root's queue - `pending` = deque (with `ord` = sequence number), `count` = counter,
    `expected` = the heap in `(prio, seq)` order (preceded by the event just popped while its
    `_dispatcher` frame is on top) -/
theorem pass_replay_is_queue (s0 : St) (h0 : InitPass s0) (c : Cfg) (hr : ReachSR s0 c) :
    (o2pass c.st).ok = true ∧
    (o2pass c.st).pending = (c.st.comp 0).eq.queue.map QItem.toP ∧
    (o2pass c.st).count = (c.st.comp 0).eq.counter ∧
    (o2pass c.st).expected = o2exp c :=
  let h := (O2PI.reach ⟨h0.eq, h0.log⟩ c hr).corr
  ⟨h.ok, h.pending, h.count, h.expected⟩

/-- a decidable sufficient check for the two guards -/
def guardOk (c : Cfg) : Bool :=
  (0 < c.st.comps.length && c.st.comps.all (fun x => x.root == 0)) &&
  (match c.stack with | .register .. :: _ => false | _ => true)

theorem guardOk_sound {c : Cfg} (h : guardOk c = true) : NoDrain c ∧ SingleRoot c.st := by
  unfold guardOk at h
  rw [Bool.and_eq_true, Bool.and_eq_true] at h
  obtain ⟨⟨h1, h2⟩, h3⟩ := h
  refine ⟨?_, by simpa using h1, ?_⟩
  · intro ch p k hs _
    rw [hs] at h3; cases h3
  · intro x
    rcases c.st.comp_mem_or_dflt x with hin | hd
    · simpa using List.all_eq_true.1 h2 _ hin
    · rw [hd]; rfl

def guardedRun : Nat → Cfg → Bool
  | 0, _ => true
  | n + 1, c => guardOk c && guardedRun n (step c)

theorem reachSR_runN {s0 : St} {c : Cfg} (h : ReachSR s0 c) : ∀ n, guardedRun n c = true → ReachSR s0 (runN n c) := by
  intro n
  induction n generalizing c with
  | zero => intro _; exact h
  | succ n ih =>
    intro hg
    rw [guardedRun, Bool.and_eq_true] at hg
    have h0 := guardOk_sound hg.1
    rw [runN_succ]
    exact ih (.step h h0.1 ⟨h0.2.1, h0.2.2⟩) hg.2

/-- one fresh manager; three fires with priorities 2, -1, 2, then a flush: a complete guarded session -/
def exStOne : St := { comps := [{ parent := 0, root := 0 }], tmpls := [{ name := ⟨1, []⟩ }] }
def exP1 : Cfg := runN 5 (startOf (envChange exStOne 0 []) (.doAct 0 (.fire 0 none 2 false)))
def exP2 : Cfg := runN 5 (startOf (envChange exP1.st 0 []) (.doAct 0 (.fire 0 none (-1) false)))
def exP3 : Cfg := runN 5 (startOf (envChange exP2.st 0 []) (.doAct 0 (.fire 0 none 2 false)))
def exP4 : Cfg := runN 60 (startOf (envChange exP3.st 0 []) (.flush 0))

theorem exStOne_initPass : InitPass exStOne := ⟨fun x => by
  match x with
  | 0 => rfl
  | n + 1 => rfl, rfl⟩

example : InitPass exStOne := exStOne_initPass

theorem exP_facts :
    (guardedRun 5 (startOf (envChange exStOne 0 []) (.doAct 0 (.fire 0 none 2 false))) && done exP1 &&
     guardedRun 5 (startOf (envChange exP1.st 0 []) (.doAct 0 (.fire 0 none (-1) false))) && done exP2 &&
     guardedRun 5 (startOf (envChange exP2.st 0 []) (.doAct 0 (.fire 0 none 2 false))) && done exP3 &&
     guardedRun 60 (startOf (envChange exP3.st 0 []) (.flush 0)) && done exP4 &&
     decide ((exP4.st.log.reverse.filterMap fun x => match x with | .disp e => some e | _ => none) = [1, 0, 2])) = true := by
  decide +kernel

theorem exP4_reachSR : ReachSR exStOne exP4 := by
  have h := exP_facts
  simp only [Bool.and_eq_true] at h
  obtain ⟨⟨⟨⟨⟨⟨⟨⟨g1, d1⟩, g2⟩, d2⟩, g3⟩, d3⟩, g4⟩, _⟩, _⟩ := h
  have h1 : ReachSR exStOne exP1 := reachSR_runN (.init 0 [] _) 5 g1
  have h2 : ReachSR exStOne exP2 := reachSR_runN (.next 0 [] _ h1 d1) 5 g2
  have h3 : ReachSR exStOne exP3 := reachSR_runN (.next 0 [] _ h2 d2) 5 g3
  exact reachSR_runN (.next 0 [] _ h3 d3) 60 g4

/-- the session is complete, dispatched all three events - the one with priority -1 first, then
    the two with priority 2 in fire order - and (by the theorem, not by evaluation) its log
    satisfies the spec predicate -/
example : done exP4 = true ∧
    (exP4.st.log.reverse.filterMap fun x => match x with | .disp e => some e | _ => none) = [1, 0, 2] ∧
    passOrderOk exP4.st.log.reverse = true := by
  have h := exP_facts
  simp only [Bool.and_eq_true, decide_eq_true_eq] at h
  exact ⟨h.1.2, h.2, pass_order_machine_partial exStOne exStOne_initPass exP4 exP4_reachSR⟩

/-- the excluded case: two managers (`exSt`), one fire on each, then `0.flush()`: the log reads
    `F F B(1) …` - the pass took one event while the single abstract queue holds two -/
def exR1 : Cfg := runN 5 (startOf (envChange exSt 0 []) (.doAct 1 (.fire 0 none 0 false)))
def exR2 : Cfg := runN 5 (startOf (envChange exR1.st 0 []) (.doAct 0 (.fire 0 none 0 false)))
def exR3 : Cfg := runN 60 (startOf (envChange exR2.st 0 []) (.flush 0))

theorem passOrderOk_two_roots_witness :
    InitPass exSt ∧ Reach exSt exR3 ∧ ¬ SingleRoot exSt ∧ passOrderOk exR3.st.log.reverse = false := by
  have hrun : (done exR1 && done exR2 && !passOrderOk exR3.st.log.reverse) = true := by decide +kernel
  simp only [Bool.and_eq_true, Bool.not_eq_true'] at hrun
  refine ⟨⟨fun x => by
      match x with
      | 0 => rfl
      | 1 => rfl
      | n + 2 => rfl, rfl⟩, ?_, ?_, hrun.2⟩
  · have h1 : Reach exSt exR1 := Reach.runN (.init 0 [] _) 5
    have h2 : Reach exSt exR2 := Reach.runN (.next 0 [] _ h1 hrun.1.1) 5
    exact Reach.runN (.next 0 [] _ h2 hrun.1.2) 60
  · intro h
    have := h.2 1
    revert this
    decide

/-! ## 11. non-vacuity of the hypotheses of section 9 on real runs -/

/-- `handler_step_order_partial` / `handlers_desc_log_partial` / `handlerOrderOk_machine_partial`:
    the timer session after two ticks (`exT2`) is reachable from an `InitOrder` state, has
    dispatched every event once, and has invoked both handlers of event 1 (priorities 1, 0) -/
example : Reach exStTimer exT2 ∧ DispatchedOnce exT2.st.log ∧ invokedFor exT2.st.log.reverse 1 = [0, 1] :=
  ⟨exT2_reach, exT_facts.2.2.1⟩

/-- `stop_cuts_machine_partial`: one manager, two handlers for event name 1 with priorities 1 and 0,
    the first one calls `event.stop()` -/
def exStStop : St :=
  { comps := [{ parent := 0, root := 0, htab := [(some ⟨1, []⟩, 0), (some ⟨1, []⟩, 1)],
                cache := [((⟨1, []⟩, [.star]), [0, 1])] }],
    hs := [{ owner := 0, names := [⟨1, []⟩], chan := none, prio := 1, kind := .user 0 },
           { owner := 0, names := [⟨1, []⟩], chan := none, prio := 0, kind := .user 1 }],
    progs := [[.stopEv], []], tmpls := [{ name := ⟨1, []⟩ }] }

def exS1 : Cfg := runN 5 (startOf (envChange exStStop 0 []) (.doAct 0 (.fire 0 none 0 false)))
/-- nine steps into the flush: handler 0 has returned, the `.hApply` frame is on top -/
def exS2 : Cfg := runN 9 (startOf (envChange exS1.st 0 []) (.flush 0))
/-- the rest of the flush -/
def exS3 : Cfg := runN 40 (step exS2)

example : Reach exStStop exS2 ∧
    (match exS2.stack, exS2.exn with
      | .hApply 0 0 [1] false .none :: _, none => ((exS2.st.applyValue 0 0 .none).ev 0).stopped
      | _, _ => false) = true ∧
    O2Later (step exS2) exS3 ∧ DispatchedOnce exS3.st.log ∧ done exS3 = true ∧
    invokedFor exS3.st.log.reverse 0 = [0] := by
  have hrun : (done exS1 &&
      (match exS2.stack, exS2.exn with
        | .hApply 0 0 [1] false .none :: _, none => ((exS2.st.applyValue 0 0 .none).ev 0).stopped
        | _, _ => false) &&
      decide ((exS3.st.log.filterMap fun x => match x with | .disp e => some e | _ => none).Nodup ∧ done exS3 = true ∧
        invokedFor exS3.st.log.reverse 0 = [0])) = true := by decide +kernel
  simp only [Bool.and_eq_true, decide_eq_true_eq] at hrun
  exact ⟨Reach.runN (.next 0 [] _ (Reach.runN (.init 0 [] _) 5) hrun.1.1) 9, hrun.1.2, O2Later.runN _ 40, hrun.2⟩

example : InitOrder exStStop :=
  .of_comps _ (by decide +kernel) (by decide +kernel) rfl

end CV.C02
