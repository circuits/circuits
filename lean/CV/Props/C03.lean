import CV.Model.Wake
import CV.Model.WakeSpec
import CV.Proofs.EvQueue
import CV.Proofs.Wake
import CV.Proofs.WakeTimer
/-
C03 - fire() from other threads: nothing lost or duplicated, loop always wakes.

All theorems are about `CV.Wake.step` (CV/Model/Wake.lean): the interleaving transition system
of the loop thread and any number of firing threads (a firer has no state outside its critical
section, so "any number of firers / events" = a fresh firer may enter whenever the lock is
free).  `Reach s` = `s` is reachable from the state after `run()` fired `started`, by any
sequence of effects, i.e. under every interleaving; nothing bounds the number of ticks, firers
or events.  Time-outs of the idle wait are transitions of the model (`timeout`, `selTimeout`),
so "without needing any time-out" is a statement about the *other* transitions.

The machine includes the Timer's part of the protocol: any number of `generate_events` handlers without
`resume` (circuits.core.timers.Timer._on_generate_events) run in the loop thread before the waiter and call
`event.reduce_time_left(T)`, T > 0 (`hsetWnoResume`, `lAcq`, `tlwOther`, `lRel`; program points `tAcq`, `tChk`,
`tRel`), interleaved with foreign `fire()` calls at every line.  All theorems below are about that machine;
the section "the Timer's part of the protocol" is about these steps in particular.
-/
namespace CV.C03
open CV.Wake

/-- **Mutual exclusion.**  The loop thread holds `_lock` exactly in the arming block and in the
    waiter's locked sections, and then no firer is inside its critical section (at most one
    firer is, by the shape of the state). -/
theorem mutex {s : St} (h : Reach s) :
    s.lockL = s.lpc.locked ∧ (s.lockL = true → s.cs = none) :=
  ⟨(reach_winv h).lock, (reach_winv h).mutex⟩

/-- **No lost wake-up.**  Whenever the loop thread sits in an idle wait (fallback `wait`, poller
    select/poll/epoll, any non-zero time-out) while an undispatched event is queued, the wake
    signal is already set (flag set / ctrl pipe non-empty), or a firer that saw this
    generate_events is still inside its critical section at a point from which its remaining
    actions are exactly "lower time_left, read the handler, call resume()". -/
theorem no_lost_wakeup {s : St} (h : Reach s) (hb : s.blocked = true) (hq : s.q.pending ≠ []) :
    s.sig > 0 ∨ ∃ f, s.cs = some f ∧ f.saw = .cur ∧ (f.pc = .lower ∨ f.pc = .checkH ∨ f.pc = .sig) := by
  have w := reach_winv h
  have hck := LPc.checked_of_afterH (afterH_of_blocked hb)
  have key : ∀ {p}, s.fpc = some p → p ≠ .read → ∃ f, s.cs = some f ∧ f.saw = .cur ∧ f.pc = p := by
    intro p hf hp
    obtain ⟨f, hc, rfl⟩ := St.fpc_eq_some.mp hf
    exact ⟨f, hc, w.saw_cur hc hck hp, rfl⟩
  rcases w.k1 hck hq with htl | hf
  · rcases w.k2 hb htl with hs | hf | hf
    · exact .inl hs
    · exact .inr ((key hf nofun).imp fun _ ⟨h1, h2, h3⟩ => ⟨h1, h2, .inr (.inl h3)⟩)
    · exact .inr ((key hf nofun).imp fun _ ⟨h1, h2, h3⟩ => ⟨h1, h2, .inr (.inr h3)⟩)
  · exact .inr ((key hf nofun).imp fun _ ⟨h1, h2, h3⟩ => ⟨h1, h2, .inl h3⟩)

/-- **The loop wakes without a time-out.**  Every firer's `fire()` has returned (no firer in the
    critical section), an event is queued, the loop is in its idle wait: then the wake-up
    transition itself (`Event.wait` returning because the flag is set / select returning the
    ctrl pipe) is enabled - no `timeout` transition is needed. -/
theorem wake_without_timeout {s : St} (h : Reach s) (hb : s.blocked = true) (hq : s.q.pending ≠ [])
    (hc : s.cs = none) :
    s.sig > 0 ∧ ((step s .wake).isSome = true ∨ (step s (.selRet true)).isSome = true) := by
  have hsig : s.sig > 0 := by
    rcases no_lost_wakeup h hb hq with hs | ⟨f, hf, _⟩
    · exact hs
    · rw [hc] at hf; cases hf
  refine ⟨hsig, ?_⟩
  rcases blocked_pc hb with hp | hp | hp
  · left; simp [step, Lab.isFirer, stepLoop, hp, hsig]
  · left; simp [step, Lab.isFirer, stepLoop, hp, hsig]
  · right; simp [step, Lab.isFirer, stepLoop, hp, hsig]

/-- **The firer in the critical section delivers the wake-up.**  In the situation of
    `no_lost_wakeup` with the signal not yet set, the firer's own remaining steps are enabled
    one after the other (they need nobody else: it holds the lock) and end with the signal
    set, the lock released and the loop still in its wait - where `wake_without_timeout`
    applies.  So `fire()` returning implies the wake signal is set. -/
theorem firer_delivers_wake {s : St} (h : Reach s) (hb : s.blocked = true) (hq : s.q.pending ≠ [])
    (hz : s.sig = 0) :
    ∃ ls s', (∀ l ∈ ls, l.isFirer = true) ∧ run s ls = some s' ∧ s'.cs = none ∧ s'.sig > 0 ∧
      s'.blocked = true ∧ s'.q.pending = s.q.pending := by
  have w := reach_winv h
  have hah : s.hset = true := w.hs (afterH_of_blocked hb)
  rcases no_lost_wakeup h hb hq with hs | ⟨f, hf, hsaw, hp⟩
  · omega
  · obtain ⟨t, pc, saw⟩ := f
    simp only at hsaw hp
    subst hsaw
    have hblk : ∀ (s1 : St), s1.lpc = s.lpc → s1.tmo = s.tmo → s1.blocked = true := by
      intro s1 h1 h2; simp only [St.blocked, h1, h2] at hb ⊢; exact hb
    rcases hp with rfl | rfl | rfl
    · have htl : s.tl ≠ .zero := by
        intro htl
        rcases w.k2 hb htl with h | h | h
        · omega
        · rw [St.fpc, hf] at h; cases h
        · rw [St.fpc, hf] at h; cases h
      refine ⟨[.fTlwZero t, .fHsetR t true, .fSig t, .fRel t], { s with tl := .zero, sig := s.sig + 1, cs := none }, by simp [Lab.isFirer], ?_, ?_⟩
      · simp [run, step, Lab.isFirer, stepFirer, hf, St.tgtTl, St.tgtHset, St.lowerTgt, htl, hah]
      · refine ⟨rfl, by simp, hblk _ rfl rfl, rfl⟩
    · refine ⟨[.fHsetR t true, .fSig t, .fRel t], { s with sig := s.sig + 1, cs := none }, by simp [Lab.isFirer], ?_, ?_⟩
      · simp [run, step, Lab.isFirer, stepFirer, hf, St.tgtHset, hah]
      · refine ⟨rfl, by simp, hblk _ rfl rfl, rfl⟩
    · refine ⟨[.fSig t, .fRel t], { s with sig := s.sig + 1, cs := none }, by simp [Lab.isFirer], ?_, ?_⟩
      · simp [run, step, Lab.isFirer, stepFirer, hf]
      · refine ⟨rfl, by simp, hblk _ rfl rfl, rfl⟩

/-- **The loop never goes to sleep on a queued event.**  If an event is queued and no firer is
    inside its critical section, no step of the loop thread enters an idle wait: the arming
    block has set `time_left` to 0, or the firer that queued the event has. -/
theorem never_blocks_with_queued {s s' : St} {l : Lab} (h : Reach s) (hc : s.cs = none)
    (hq : s.q.pending ≠ []) (hl : l.isFirer = false) (hs : step s l = some s')
    (hnb : s.blocked = false) : s'.blocked = false :=
  -- `hnb` is not needed: a step of the loop thread that starts in a wait leaves it
  loop_step_awake (reach_winv h) hc hq (step_loop hl ▸ hs)

/-- after the wake-up the fallback waiter leaves its loop: with the event queued and the firer
    gone, `while event.time_left < 0` reads 0 -/
theorem wake_exits {s : St} (h : Reach s) (hp : s.lpc = .wRead2) (hc : s.cs = none)
    (hq : s.q.pending ≠ []) : step s (.tlr .zero) = some { s with lpc := .done } := by
  have htl : s.tl = .zero := (reach_winv h).tl_zero hc (by rw [hp]; rfl) hq
  simp [step, Lab.isFirer, stepLoop, hp, htl]

/-- **Exactly once, in the firing order of the thread** (every reachable state): per thread,
    the dispatched entries followed by the still queued ones are exactly the entries the
    thread appended, in the order it appended them. -/
theorem exactly_once_fifo {s : St} (h : Reach s) (t : Nat) :
    (s.q.log ++ s.q.pending).filter (fun e => e.tid == t) = s.q.fired.filter (fun e => e.tid == t) :=
  (reach_qinv h).proj t

/-- the decidable spec predicate evaluated on the implementation's observations holds of every
    quiescent model state: dispatched = fired, per thread -/
theorem once_fifo_at_quiescence {s : St} (h : Reach s) (hq : s.q.pending = []) :
    WakeSpec.onceFifo (s.q.fired.map key) (s.q.log.map key) = true := by
  unfold WakeSpec.onceFifo
  rw [List.all_eq_true]
  intro t _
  have := exactly_once_fifo h t
  rw [hq, List.append_nil] at this
  rw [proj_map_key, proj_map_key, this]
  simp

/-- at any time the dispatched sequence of a thread is a prefix of its fired sequence -/
theorem dispatched_prefix_of_fired {s : St} (h : Reach s) (t : Nat) :
    ∃ rest, s.q.fired.filter (fun e => e.tid == t) = s.q.log.filter (fun e => e.tid == t) ++ rest := by
  refine ⟨s.q.pending.filter (fun e => e.tid == t), ?_⟩
  rw [← exactly_once_fifo h t, List.filter_append]

/-! ### the Timer's part of the protocol -/

/-- **No reachable state is stuck.**  The state seed C03-d produces (loop in its idle wait with a non-zero
    time-out, event queued, every `fire()` returned, wake signal unset) is unreachable. -/
theorem no_stuck_state {s : St} (h : Reach s) :
    ¬ (s.blocked = true ∧ s.q.pending ≠ [] ∧ s.cs = none ∧ s.sig = 0) := by
  rintro ⟨hb, hq, hc, hz⟩
  have := (wake_without_timeout h hb hq hc).1
  omega

/-- **Zero stays zero.**  Once the time left of the current generate_events is 0 (a wake-up was delivered
    or is pending), no effect of any thread - in particular no `reduce_time_left(T)`, T > 0, of a Timer -
    changes it, until `tick()` creates the next generate_events. -/
theorem zero_stays_zero {s s' : St} {ls : List Lab} (hr : run s ls = some s')
    (hl : ∀ l ∈ ls, l.isAppGe = false) (hz : s.tl = .zero) : s'.tl = .zero :=
  run_keeps (P := fun s => s.tl = .zero) (fun hl hz hs => step_zero_stays hs hl hz) hr hl hz

/-- **A Timer lowering the time left to T > 0 never cancels a wake-up already delivered or pending.**
    While the loop thread is inside a Timer's handler (after `event.handler = <Timer handler>`, inside
    `reduce_time_left(T)`), whatever happens next (a step of the loop thread or of a firer):
    a time left of 0 stays 0, the wake signal is not consumed, and if the step is the Timer's write
    `self._time_left = T` then the time left was not 0, no event is queued, no firer is inside its
    critical section, and queue and signal are untouched. -/
theorem timer_lowering_keeps_wake {s s' : St} {l : Lab} (h : Reach s) (hp : s.lpc.inTimer = true)
    (hs : step s l = some s') :
    (s.tl = .zero → s'.tl = .zero) ∧ s.sig ≤ s'.sig ∧
    (l = .tlwOther → s.tl ≠ .zero ∧ s.q.pending = [] ∧ s.cs = none ∧ s'.q = s.q ∧ s'.sig = s.sig ∧
      s'.tl = .pos) := by
  have w := reach_winv h
  refine ⟨fun hz => step_zero_stays hs ?_ hz, step_timer_sig hs hp, ?_⟩
  · cases l <;> try rfl
    -- `lAppGe` is `tick()`'s, at `appGe`
    cases stepLoop_spec ((step_loop rfl).symm.trans hs) with
    | lAppGe hpc => rw [hpc] at hp; cases hp
  · rintro rfl
    cases stepLoop_spec ((step_loop rfl).symm.trans hs) with
    | tlwOther hpc hnz =>
      have hcs := w.mutex (by rw [w.lock, hpc]; rfl)
      exact ⟨hnz, Classical.byContradiction fun hq => hnz (w.tl_zero hcs (by rw [hpc]; rfl) hq), hcs, rfl, rfl, rfl⟩

/-- **From a queued event to its dispatch the loop never goes to sleep.**  An event is queued, no firer is
    inside its critical section, the loop thread is not in an idle wait: then whatever the loop thread
    does (Timer handlers lowering the time left included) up to the next dispatch (`pop`), it never enters
    an idle wait, and the event stays queued. -/
theorem never_blocks_until_dispatch {s s' : St} {ls : List Lab} (h : Reach s) (hc : s.cs = none)
    (hq : s.q.pending ≠ []) (hnb : s.blocked = false)
    (hl : ∀ l ∈ ls, l.isFirer = false ∧ l.isPop = false) (hr : run s ls = some s') :
    s'.blocked = false ∧ s'.q.pending ≠ [] ∧ s'.cs = none :=
  (run_keeps (P := fun s => Reach s ∧ s.blocked = false ∧ s.q.pending ≠ [] ∧ s.cs = none)
    (fun hl ⟨h, hnb, hq, hc⟩ hs => ⟨.step h hs, never_blocks_with_queued h hc hq hl.1 hs hnb,
      step_pending hs hl.2 hq, loop_step_cs (step_loop hl.1 ▸ hs) hc⟩) hr hl ⟨h, hnb, hq, hc⟩).2

/-- **`reduce_time_left(T > 0)` never lets the loop sleep on a queued event.**  The loop thread is anywhere
    inside a Timer's handler, an event is queued and its `fire()` has returned: then the time left is 0
    already, the Timer's write `self._time_left = T` is not enabled (the locked test fails), and the rest
    of the iteration - the remaining Timer handlers, the waiter, the start of the next tick up to the
    dispatch of the event - never enters an idle wait; wherever it stops after a generate_events was
    armed (`checked`: the rest of this iteration, or the next one), the time left it finds is 0, not T. -/
theorem rtl_positive_never_blocks_with_queued {s s' : St} {ls : List Lab} (h : Reach s)
    (hp : s.lpc.inTimer = true) (hc : s.cs = none) (hq : s.q.pending ≠ [])
    (hl : ∀ l ∈ ls, l.isFirer = false ∧ l.isPop = false) (hr : run s ls = some s') :
    s.tl = .zero ∧ step s .tlwOther = none ∧ (s'.lpc.checked = true → s'.tl = .zero) ∧
      s'.blocked = false ∧ s'.q.pending ≠ [] := by
  have w := reach_winv h
  have hnb : s.blocked = false := Bool.eq_false_iff.mpr fun hb => by
    rcases blocked_pc hb with e | e | e <;> rw [e] at hp <;> cases hp
  have hz : s.tl = .zero :=
    w.tl_zero hc (by cases hlp : s.lpc <;> simp_all [LPc.inTimer, LPc.checked]) hq
  obtain ⟨h1, h2, h3⟩ := never_blocks_until_dispatch h hc hq hnb hl hr
  refine ⟨hz, by simp [step, Lab.isFirer, stepLoop, hz], ?_, h1, h2⟩
  exact fun hck => (reach_winv (reach_of_run h hr)).tl_zero h3 hck h2

/-- **Seed C03-d (negative lemma).**  With the test of `reduce_time_left` moved out of the lock the stuck
    state IS reachable: the Timer handler tests (time left < 0: "there is work"), a foreign `fire()` runs
    completely (lowers the time left to 0, finds no `resume`), the Timer handler writes T > 0 under the
    lock, the waiter waits for T with the event queued and no signal. -/
theorem c03d_unlocked_test_witness :
    (runD ⟨init .fallback, false⟩ (mutPrefix ++ mutFire ++ mutRest)).any
      (fun m => m.s.blocked && !m.s.q.pending.isEmpty && m.s.cs.isNone && m.s.sig == 0) = true := by
  decide

/-- ... while the real protocol refuses exactly the Timer's write of that run (the locked test sees 0) and
    continues into a wait with time-out 0 -/
theorem c03d_locked_test_refuses :
    (run (init .fallback) (mutPrefix ++ mutFire ++ [.lAcq])).any
      (fun s => (step s .tlwOther).isNone && (step s .lRel).isSome) = true ∧
    (run (init .fallback) (mutPrefix ++ mutFire ++
      [.lAcq, .lRel, .hsetW, .lAcq, .tlr .zero, .clr, .lRel, .tlr .zero, .tlr .zero])).any
      (fun s => !s.blocked && s.lpc == .done) = true := by
  decide

/-! ### non-vacuity -/

/-- a run of the fallback variant: first tick, loop goes to sleep, firer 1 appends its event -/
def exLabels : List Lab :=
  [.lIncr, .lAppGe 1 .neg, .snap 2, .pop 0 0, .hwOther, .hwNone, .pop 0 1, .lAcq, .hwGe, .lRel,
   .hsetW, .lAcq, .tlr .neg, .clr, .lRel, .tlr .neg, .tlr .neg,
   .fAcq 1, .fHr 1 .ge, .fIncr 1, .fApp 1 0]

def exFinish : List Lab := [.fTlwZero 1, .fHsetR 1 true, .fSig 1, .fRel 1]

/-- the hypotheses of `no_lost_wakeup` are satisfiable with the firer mid-section (flag unset) -/
example : (run (init .fallback) exLabels).any
    (fun s => s.blocked && !s.q.pending.isEmpty && s.cs.isSome && s.sig == 0) = true := by decide

/-- ... and those of `wake_without_timeout` after the firer has left -/
example : (run (init .fallback) (exLabels ++ exFinish)).any
    (fun s => s.blocked && !s.q.pending.isEmpty && s.cs.isNone && s.sig == 1) = true := by decide

/-- the poller variant reaches its blocked select with a byte in the pipe -/
example : (run (init .poller)
    [.lIncr, .lAppGe 1 .neg, .snap 2, .pop 0 0, .hwOther, .hwNone, .pop 0 1, .lAcq, .hwGe, .lRel,
     .hsetW, .tlr .neg, .fAcq 1, .fHr 1 .ge, .fIncr 1, .fApp 1 0, .fTlwZero 1, .fHsetR 1 true,
     .fSig 1, .fRel 1]).any
    (fun s => s.blocked && !s.q.pending.isEmpty && s.cs.isNone && s.sig == 1) = true := by decide

/-- two firers, dispatch in a later tick: the log holds both events exactly once -/
example : (run (init .fallback) (exLabels ++ exFinish ++
    [.fAcq 2, .fHr 2 .ge, .fIncr 2, .fApp 2 0, .fRel 2, .wake, .tlr .zero, .hwNone,
     .lIncr, .lAppGe 2 .neg, .snap 3, .pop 1 0, .hwOther, .hwNone, .pop 2 0, .hwOther, .hwNone,
     .pop 0 2])).any
    (fun s => s.q.pending.isEmpty && (s.q.log.map key == [(0, 0), (0, 1), (1, 0), (2, 0), (0, 2)])) = true := by
  decide

/-! ### non-vacuity of the Timer theorems (`mutPrefix`, `mutFire`: CV/Proofs/WakeTimer.lean) -/

/-- the rest of the iteration and the start of the next tick, as the loop thread runs it after a foreign
    `fire()` completed while it was at the first line of the Timer's `reduce_time_left(T)` -/
def exAfterFire : List Lab :=
  [.lAcq, .lRel, .hsetW, .lAcq, .tlr .zero, .clr, .lRel, .tlr .zero, .tlr .zero, .hwNone,
   .lIncr, .lAppGe 2 .pos, .snap 2]

/-- `timer_lowering_keeps_wake`: the Timer's write is enabled inside the handler (nothing queued) ... -/
example : (run (init .fallback) (mutPrefix ++ [.lAcq])).any
    (fun s => s.lpc.inTimer && (step s .tlwOther).isSome && s.tl == .neg) = true := by decide

/-- ... a second Timer's write is enabled from a positive time left as well (and may also be skipped) ... -/
example : (run (init .poller) (mutPrefix ++ [.lAcq, .tlwOther, .lRel, .hsetWnoResume, .lAcq])).any
    (fun s => s.lpc.inTimer && (step s .tlwOther).isSome && (step s .lRel).isSome && s.tl == .pos) = true := by
  decide

/-- ... and so are the steps of a firer, at every program point of the handler -/
example : (run (init .fallback) mutPrefix).any
    (fun s => s.lpc.inTimer && (run s mutFire).any (fun s' => s'.lpc.inTimer && s'.tl == .zero && s.tl == .neg))
      = true := by decide

/-- `zero_stays_zero`, `never_blocks_until_dispatch`, `rtl_positive_never_blocks_with_queued`: the hypotheses
    hold after that `fire()`, and the loop-only run to the next dispatch exists (with a next generate_events
    whose initial time left is positive: `checked` is false there) -/
example : (run (init .fallback) (mutPrefix ++ mutFire)).any
    (fun s => s.lpc.inTimer && s.cs.isNone && !s.q.pending.isEmpty && !s.blocked && s.tl == .zero &&
      (run s exAfterFire).any (fun s' => s'.lpc == .pops && s'.tl == .pos) &&
      (run s (exAfterFire.take 9)).any (fun s' => s'.lpc == .done && s'.tl == .zero) &&
      exAfterFire.all (fun l => !l.isFirer && !l.isPop) && (exAfterFire.take 9).all (fun l => !l.isAppGe))
      = true := by decide

/-- `no_stuck_state`: each conjunct alone is reachable (blocked with an event queued and the signal unset,
    the firer still inside: the example for `no_lost_wakeup` in the previous section; here: blocked, firer gone, nothing queued) -/
example : (run (init .fallback) (mutPrefix ++ [.lAcq, .tlwOther, .lRel] ++ mutRest.drop 3)).any
    (fun s => s.blocked && s.q.pending.isEmpty && s.cs.isNone && s.sig == 0 && s.tmo == .pos) = true := by decide

/-- the positive branch end to end: Timer lowers to T, waiter waits for T, a firer wakes it, 0 is read -/
example : (run (init .poller) (mutPrefix ++ [.lAcq, .tlwOther, .lRel, .hsetW, .tlr .pos] ++
    [.fAcq 1, .fHr 1 .ge, .fIncr 1, .fApp 1 0, .fTlwZero 1, .fHsetR 1 true, .fSig 1, .fRel 1,
     .selRet true, .pipeRd])).any
    (fun s => s.lpc == .done && s.sig == 0 && s.tl == .zero) = true := by decide

end CV.C03
