import CV.Proofs.CoreValue
import CV.Proofs.InvValue
import CV.Proofs.InvValueLocal
import CV.Proofs.InvValueLoop
import CV.Proofs.InvTasksStep
import CV.Proofs.InvTasksOnce
import CV.Proofs.InvTasksGuard
import CV.Proofs.ValueTree
/-
C04 - the Value of an event.
Value layer: `Val.set` is the function the machine calls for every non-None handler result
(`setValue` in CV.Model.Core.Machine); whatever sequence of results the handlers of an event
produce, the stored value is exactly the collapsed list of the property statement.
Machine level: the Value along the steps of the core machine, the `errors` flag and raising
handlers, the success rule of `_eventDone`, every handler of the loop visited.
`waitingHandlers` accounting: the counter pays for every obligation of an event, so the
end-of-event step finds no generator handler unfinished and happens at most once per dispatch.
Nested Values (namespace `CV.VT`, CV/Model/ValueTree.lean): a handler that returns `self.fire(e)`.
-/
namespace CV.C04
open CV.Core

/-- after the results `xs` have been stored, in order, into a fresh Value: unset for none,
    the value itself for one, the list in production order for several -/
theorem value_exact_layer (xs : List VItem) : (setAll {} xs).view = collapse xs := by
  have hwf := setAll_wf {} xs Val.wf_init
  rw [view_of_wf _ hwf, setAll_items {} xs Val.wf_init]
  rfl

/-- the same from any reachable Value: further results are appended, nothing is lost or reordered -/
theorem value_accumulates (v : Val) (xs : List VItem) (h : v.WF) :
    (setAll v xs).view = collapse (v.items ++ xs) := by
  rw [view_of_wf _ (setAll_wf v xs h), setAll_items v xs h]

/-- storing a result never touches the errors flag (it is set only where a handler raised) -/
theorem set_keeps_errors (v : Val) (x : VItem) : (v.set x).errors = v.errors := Val.set_errors v x

theorem set_marks_result (v : Val) (x : VItem) : (v.set x).result = true := Val.set_result v x

example : (setAll {} [.val 3, .err, .val 5]).view = .many [.val 3, .err, .val 5] := by decide
example : (setAll {} [.val 3]).view = .single (.val 3) := by decide
example : (setAll {} []).view = .unset := by decide


/-! ## Machine level (small-step core machine, `CV.Model.Core.Step`)

Hypothesis on the initial state of a session: every event that already exists has a
well-formed Value (`VWF`; in a driver session the event table starts empty).  All statements
quantify over every program table, every tape, every reachable configuration (`Reach s0 c`)
or - where no invariant is needed - over *every* configuration. -/

/-- non-vacuity of the Init hypothesis: the empty state, and a state with one fresh event -/
example : VWF {} := fun e => by
  rw [St.w6_ev_ge _ e (Nat.zero_le _)]; exact Val.wf_init

example : VWF { evs := [{ name := ⟨1, []⟩ }] } := fun e => by
  cases e with
  | zero => exact Val.wf_init
  | succ n => rw [St.w6_ev_ge _ _ (by simp)]; exact Val.wf_init

/-- **ValInv**: in every reachable configuration every event's Value is in one of the three
    shapes unset / single / list of ≥ 2 - the Value is only ever written by `Val.set` (append
    one item), the `errors`/`promise` flag writes, and the reset in `fireRaw` -/
theorem values_wf (s0 : St) (h0 : VWF s0) (c : Cfg) (hr : Reach s0 c) : VWF c.st := by
  exact Reach.inv_st VWF h0 (fun _ _ _ h => h) (fun c hc => (step_vg 0 c).wf hc) c hr

/-- … hence what an observer reads (`Value.value`) is exactly the collapsed list of the items
    stored so far, for every event, at every moment -/
theorem value_view_exact (s0 : St) (h0 : VWF s0) (c : Cfg) (hr : Reach s0 c) (e : Nat) :
    (c.st.ev e).val.view = collapse (c.st.ev e).val.items :=
  view_of_wf _ (values_wf s0 h0 c hr e)

/-- **value_only_grows**: along any step of any reachable configuration, for an event that is
    not fired (again) by that step - no `fire e` entry is logged - the stored items only grow by
    appending at the end (nothing dropped, nothing reordered), the flags `errors`, `result`,
    `promise` never go back to false, and the observable value is the collapsed longer list -/
theorem value_only_grows (s0 : St) (h0 : VWF s0) (c : Cfg) (hr : Reach s0 c) (e : Nat) :
    ∃ es, (step c).st.log = es ++ c.st.log ∧
      ((∀ n ch p, Entry.fire e n ch p ∉ es) →
        ∃ xs, ((step c).st.ev e).val.items = (c.st.ev e).val.items ++ xs ∧
          ((step c).st.ev e).val.view = collapse ((c.st.ev e).val.items ++ xs) ∧
          ((c.st.ev e).val.errors = true → ((step c).st.ev e).val.errors = true) ∧
          ((c.st.ev e).val.result = true → ((step c).st.ev e).val.result = true) ∧
          ((c.st.ev e).val.promise = true → ((step c).st.ev e).val.promise = true)) :=
  (step_vg e c).grows (values_wf s0 h0 c hr)

/-- the same over whole runs (`runN n` = iterate `step`, any `n`): as long as the event is not
    fired again, the items present at any moment stay a prefix of the items later on, and a set
    `errors` flag stays set -/
theorem value_only_grows_run (s0 : St) (h0 : VWF s0) (c : Cfg) (hr : Reach s0 c) (e n : Nat) :
    ∃ es, (runN n c).st.log = es ++ c.st.log ∧
      ((∀ m ch p, Entry.fire e m ch p ∉ es) →
        ∃ xs, ((runN n c).st.ev e).val.items = (c.st.ev e).val.items ++ xs ∧
          ((runN n c).st.ev e).val.view = collapse ((c.st.ev e).val.items ++ xs) ∧
          ((c.st.ev e).val.errors = true → ((runN n c).st.ev e).val.errors = true)) := by
  obtain ⟨es, hlog, hx⟩ := (runN_vg e n c).grows (values_wf s0 h0 c hr)
  exact ⟨es, hlog, fun hn => let ⟨xs, h1, h2, h3, _⟩ := hx hn; ⟨xs, h1, h2, h3⟩⟩

/-- `setValue` on an existing event is exactly one `Val.set` on it (one more item at the end) and
    leaves every other existing event alone (`_partial`: existing event, well-formed Values; over `Reach`
    the second is `values_wf`, the first is `event_ids_in_range` below for the event of a handler loop) -/
theorem setValue_appends_partial (s : St) (hw : VWF s) (e : Nat) (x : VItem) (he : e < s.evs.length) :
    ((s.setValue e x).ev e).val.items = (s.ev e).val.items ++ [x] ∧
    ((s.setValue e x).ev e).val.errors = (s.ev e).val.errors ∧
    ∀ y, y < s.evs.length → y ≠ e → ((s.setValue e x).ev y).val = (s.ev y).val := by
  rw [St.v4_setValue_val s e x he]
  exact ⟨Val.set_items _ _ (hw e), Val.set_errors _ _, fun y hy hne => (St.v4_setValue_other s e x y hy hne).val⟩

/-- **errors_iff_raised** (only-if): the `errors` flag of an event goes from false to true only in
    a raise-handling step for that event - the `except BaseException` of the handler loop
    (`.hAfter` reading `.raised`) or of `processTask` (`.ptOwn`/`.ptParent` reading `.raised`,
    `.ptBody` of a framework generator).  Holds for every configuration. -/
theorem errors_iff_raised (c : Cfg) (e : Nat) (h0 : (c.st.ev e).val.errors = false)
    (h1 : ((step c).st.ev e).val.errors = true) : RaiseStep e c := by
  apply Classical.byContradiction
  intro hn
  have := (step_ne e c hn).imp h1
  rw [h0] at this
  cases this

/-- (if): a handler of `e` raised ⇒ the flag is set by that very step …
    (`_partial`: for an existing event; over `Reach` the event of an `.hAfter` frame exists, `event_ids_in_range` below) -/
theorem raised_sets_errors_partial (c : Cfg) (r e : Nat) (rest : List Nat) (err : Bool) (stale : Outcome) (k : List Frame)
    (h : c.stack = .hAfter r e rest err stale :: k) (hx : c.exn = none) (hr : c.ret.outcome = .raised)
    (he : e < c.st.evs.length) : ((step c).st.ev e).val.errors = true := by
  rw [step_hAfter_raised c r e rest err stale k h hx hr]
  exact St.v4_handlerRaised_errors c.st r e he

/-- … and likewise when a generator handler (task) of `e` raised, in every reachable
    configuration; the error triple is stored as one more result.
    `_partial`: the hypothesis `t.e < c.st.evs.length` (the task's event exists) is proved for the
    sessions guarded by (tick) + (root), not for all of `Reach` (`tasks_well_formed_partial` below, the
    clause about `.ptOwn`); `raised_needs_event_witness`: without the event the model sets nothing. -/
theorem task_raised_sets_errors_partial (s0 : St) (h0 : VWF s0) (c : Cfg) (hreach : Reach s0 c)
    (r : Nat) (t : Task) (k : List Frame)
    (h : c.stack = .ptOwn r t :: k) (hx : c.exn = none) (hr : c.ret.yield = .raised)
    (he : t.e < c.st.evs.length) :
    ((step c).st.ev t.e).val.errors = true ∧
    ((step c).st.ev t.e).val.items = (c.st.ev t.e).val.items ++ [.err] := by
  rw [(step_ptOwn_raised c r t k h hx hr).1, St.v4_errorBranch_val c.st r t false he]
  exact ⟨rfl, Val.set_items _ _ (values_wf s0 h0 c hreach t.e)⟩

/-- for an event id that does not exist the model's `handlerRaised` has nothing to set the flag
    on: the `_partial` statements above need their hypothesis -/
theorem raised_needs_event_witness :
    ((step { st := {}, stack := [.hAfter 0 0 [] false .none], ret := .out .raised }).st.ev 0).val.errors = false := by
  decide

/-- non-vacuity of `RaiseStep` -/
example : RaiseStep 0 { st := {}, stack := [.hAfter 0 0 [] false .none], ret := .out .raised } :=
  ⟨rfl, _, _, rfl, rfl, rfl⟩

/-- **raise_isolated**: when a handler of `e` raised, the step
    * performs `handlerRaised`: exactly one `exception` event is fired, preceded by exactly one
      `<name>_failure` event iff the event requested failure feedback, nothing else is logged;
    * continues with `.hApply … rest …` on the *same* remaining handlers `rest`, the stack below is
      untouched, no exception is pending;
    * and the step after it is back at the head of the loop with `rest` (or leaves the loop
      because a handler had called `event.stop()`).
    One handler's exception never drops the loop. -/
theorem raise_isolated (c : Cfg) (r e : Nat) (rest : List Nat) (err : Bool) (stale : Outcome) (k : List Frame)
    (h : c.stack = .hAfter r e rest err stale :: k) (hx : c.exn = none) (hr : c.ret.outcome = .raised) :
    (step c).stack = .hApply r e rest true .raised :: k ∧ (step c).exn = none ∧
    (∃ ch, (step c).st.log =
      if (c.st.ev e).failure then
        .fire (c.st.evs.length + 1) Name.exception ch 0 ::
          .fire c.st.evs.length ((c.st.ev e).name.child sfxFailure) (c.st.ev e).chans 0 :: c.st.log
      else .fire c.st.evs.length Name.exception ch 0 :: c.st.log) ∧
    (step c).st.evs.length = c.st.evs.length + (if (c.st.ev e).failure then 2 else 1) ∧
    (step (step c)).exn = none ∧
    ((step (step c)).stack = .hLoop r e rest true .raised :: k ∨
     (step (step c)).stack = .dispFin r e true :: k) := by
  have hs := step_hAfter_raised c r e rest err stale k h hx hr
  have h2 := step_hApply (step c) r e rest true .raised k (by rw [hs]) (by rw [hs]; exact hx)
  refine ⟨by rw [hs], by rw [hs]; exact hx, ?_, ?_, h2.2.1, ?_⟩
  · rw [hs]; exact St.v4_handlerRaised_log c.st r e
  · rw [hs]; exact St.v4_handlerRaised_evs_length c.st r e
  · rw [h2.2.2]; split
    · exact Or.inr rfl
    · exact Or.inl rfl

/-- the same for a generator handler (task): the error branch of `processTask` fires exactly one
    `exception` event and one `<name>_failure` event iff requested, and returns to the task loop
    (or goes on to `_eventDone`): the frames below are untouched, no exception is pending -/
theorem raise_isolated_task_partial (c : Cfg) (r : Nat) (t : Task) (k : List Frame)
    (h : c.stack = .ptOwn r t :: k) (hx : c.exn = none) (hr : c.ret.yield = .raised)
    (he : t.e < c.st.evs.length) :
    (step c).exn = none ∧ ((step c).stack = k ∨ (step c).stack = .eventDone r t.e true :: k) ∧
    ∃ es, (step c).st.log = es ++ c.st.log ∧ fires Name.exception es = 1 ∧
      fires ((c.st.ev t.e).name.child sfxFailure) es = if (c.st.ev t.e).failure then 1 else 0 :=
  raise_isolated_errorBranch c r t false k (step_ptOwn_raised c r t k h hx hr) he

/-- the same when the exception came out of the caller resumed after `call`/`wait` -/
theorem raise_isolated_task_resumed_partial (c : Cfg) (r : Nat) (t : Task) (p : Nat) (viaThrow : Bool) (k : List Frame)
    (h : c.stack = .ptParent r t p viaThrow :: k) (hx : c.exn = none) (hr : c.ret.yield = .raised)
    (he : t.e < c.st.evs.length) :
    (step c).exn = none ∧ ((step c).stack = k ∨ (step c).stack = .eventDone r t.e true :: k) ∧
    ∃ es, (step c).st.log = es ++ c.st.log ∧ fires Name.exception es = 1 ∧
      fires ((c.st.ev t.e).name.child sfxFailure) es = if (c.st.ev t.e).failure then 1 else 0 :=
  raise_isolated_errorBranch c r t true k (step_ptParent_raised c r t p viaThrow k h hx hr) he

/-- no step ever touches the frames below the top frame (normal execution and unwinding alike):
    whatever runs above a loop frame - a raising handler, nested dispatches - the loop frame and
    everything below it are still there when it is done -/
theorem frames_below_untouched (c : Cfg) (fs k : List Frame) (h : c.stack = fs ++ k) (hne : fs ≠ []) :
    ∃ fs', (step c).stack = fs' ++ k := step_keeps_below c fs k h hne

/-- **success_rule**: the `_eventDone` step.  While handlers (suspended generator handlers) are
    still waiting it does nothing at all; otherwise it logs `<name>_done` iff a waiter asked for it
    and `<name>_success` exactly once, on the success channels, iff the dispatcher saw no error
    (`err`), the Value carries no error and the event requested success feedback. -/
theorem success_rule (c : Cfg) (r e : Nat) (err : Bool) (k : List Frame)
    (h : c.stack = .eventDone r e err :: k) (hx : c.exn = none) :
    ((c.st.ev e).waiting ≠ 0 → (step c).st = c.st ∧ (step c).stack = k) ∧
    ((c.st.ev e).waiting = 0 →
      (step c).stack = .effectDone r e true :: k ∧
      (step c).st.log =
        (if c.st.successCond e err then
          [Entry.fire (c.st.evs.length + (if (c.st.ev e).alertDone then 1 else 0)) ((c.st.ev e).name.child sfxSuccess)
            ((c.st.ev e).successChans.getD (c.st.ev e).chans) 0] else []) ++
        (if (c.st.ev e).alertDone then
          [Entry.fire c.st.evs.length ((c.st.ev e).name.child sfxDone) (c.st.ev e).chans 0] else []) ++
        c.st.log) := by
  obtain ⟨h1, h2⟩ := step_eventDone c r e err k h hx
  constructor
  · intro hw
    rw [h1, h2, St.v4_eventDonePre_waiting c.st r e err hw]
    exact ⟨rfl, rfl⟩
  · intro hw
    have hf := (St.v4_eventDonePre_fst c.st r e err).2 hw
    rw [h1, h2, hf, St.v4_eventDonePre_log c.st r e err hw]
    exact ⟨rfl, rfl⟩

/-- with `errors_iff_raised`/`value_only_grows`: once a handler of the event raised (the flag
    stays set until the event is fired again) `_eventDone` fires no `<name>_success` -/
theorem no_success_after_error (s : St) (e : Nat) (err : Bool) (h : (s.ev e).val.errors = true) :
    s.successCond e err = false := by
  simp [St.successCond, h]

/-- **no success after a raise**, over whole runs: from a reachable configuration in which the
    `errors` flag of `e` is set (by `errors_iff_raised`: a handler or task of `e` raised), for
    every number of further steps during which `e` is not fired again, the success condition
    `_eventDone` evaluates for `e` is false - whatever `err` it is called with, in particular
    when the last suspended generator handler finishes (`err = false`) -/
theorem no_success_after_raise_run (s0 : St) (h0 : VWF s0) (c : Cfg) (hr : Reach s0 c) (e n : Nat)
    (herr : (c.st.ev e).val.errors = true) :
    ∃ es, (runN n c).st.log = es ++ c.st.log ∧
      ((∀ m ch p, Entry.fire e m ch p ∉ es) → ∀ err, (runN n c).st.successCond e err = false) := by
  obtain ⟨es, hlog, hx⟩ := value_only_grows_run s0 h0 c hr e n
  refine ⟨es, hlog, fun hn err => ?_⟩
  obtain ⟨_, _, _, he⟩ := hx hn
  exact no_success_after_error _ e err (he herr)

/-- … nor when the dispatcher itself saw the exception -/
theorem no_success_when_err (s : St) (e : Nat) : s.successCond e true = false := by
  simp [St.successCond]

/-- **all_handlers_visited**: one step of a configuration inside the handler loop of `e` with the
    handlers `hs` still pending (`InLoop`: the loop frame `.hLoop/.hAfter/.hApply r e hs` sits
    directly above `k`, anything may run above it) either
      1. stays in the loop with the same pending list,
      2. invokes some `x ∈ hs` and removes exactly `x` from the pending list (`hs` is a permutation
         of `x :: hs.erase x`; the list shrinks by one),
      3. leaves the loop normally - only when nothing is pending or the event was stopped, or
      4. is dropped by an exception unwinding through the loop frame (in the model: `SystemExit`
         from `stop(code)` outside an executing thread, `blocked`, API misuse).
    So along any execution every handler of the list is invoked exactly once, in some order,
    until one of (3), (4) happens; a handler that raises is case (1). -/
theorem all_handlers_visited (r e : Nat) (k : List Frame) (hs : List Nat) (c : Cfg) (h : InLoop r e k hs c) :
    InLoop r e k hs (step c)
    ∨ (∃ x, x ∈ hs ∧ hs.Perm (x :: hs.erase x) ∧ (hs.erase x).length + 1 = hs.length ∧
        ∃ err stale, (step c).stack = .invoke r x e :: .hAfter r e (hs.erase x) err stale :: k)
    ∨ (∃ err, (step c).stack = .dispFin r e err :: k ∧
        (hs = [] ∨ ∃ v, c.stack = .hApply r e hs err v :: k ∧ ((c.st.applyValue r e v).ev e).stopped = true))
    ∨ (c.exn ≠ none ∧ (step c).stack = k) := by
  rcases loop_step r e k hs c h with h1 | ⟨x, a, b, d, err, stale, g, _⟩ | ⟨err, a, _, b⟩ | h4
  · exact .inl h1
  · exact .inr (.inl ⟨x, a, b, d, err, stale, g⟩)
  · exact .inr (.inr (.inl ⟨err, a, b⟩))
  · exact .inr (.inr (.inr h4))

/-- non-vacuity: the dispatcher enters the loop -/
example : InLoop 0 0 [] [1, 2] { st := {}, stack := [.hLoop 0 0 [1, 2] false .none] } :=
  ⟨[], _, rfl, rfl, rfl, rfl⟩


/-! ## waitingHandlers accounting (CV/Proofs/InvTasks*.lean)

`event.waitingHandlers` (model: `Ev.waiting`) is the counter that decides whether `_eventDone` goes through.  The
OBLIGATIONS of an event `e` are
  * every task-set entry `(e, g, parent)` of any component: weight 1, plus 1 when it has a parent (the resumption task of a
    `waitEvent` generator, the `TimeoutError` carrier, the one-shot value generator: it stands for itself and for the
    suspended caller)                                                                    - `St.t46_WT s e`;
  * every wait state that is started, has not seen `_on_done` and has not timed out, with `task_event = e`: weight 2 (the
    `call`/`wait` and the suspended caller)                                             - `St.t46_WW s e`;
  * every `.ptParent r t p v` frame with `t.e = e` on the stack: weight 2 (the resumption task is unregistered, the caller
    is running)                                                                          - `t46_WF e stack`.
INVARIANT `T46Inv` (over guarded sessions):  obligations(e) ≤ waiting(e)  for every event, task sets are duplicate-free,
at most one task is in flight and it sits directly on the task loop of its (root) component, nothing but driver-level
frames is below a task loop.  It is preserved by EVERY arm of `step` (`t46_step_inv`, all 38 frames, unwinding included).

EQUALITY IS FALSE (model and code): the counter leaks upwards - `SystemExit`/`KeyboardInterrupt` out of a caller resumed after
`call`/`wait` leaves `waitingHandlers` at 2 for ever; the stale `value` re-applied by `_dispatcher` after a handler raised
`SystemExit` counts a generator twice; a `waitEvent` generator whose `_done` handler is gone drops its caller without
decrementing.  Such an event never fires `_success`/`_complete`.  Only `≥` is an invariant.

RUN HYPOTHESIS `T46Guard` (the theorems below are `_partial` because of it; `T46Reach` = `Reach` restricted to runs on which it
holds at every step taken, like `ReachG` of C05).  Clauses that are REAL restrictions:
  (tick) `tick()` with pending tasks is entered only while no task is being processed and no handler is in progress, and on
         a root component - i.e. no handler / generator re-enters the task loop (in the model: `stop()` called from a handler
         while `running ∧ ¬executing`, which runs three inline ticks; a handler calling `self.tick()` in the code).  Without
         it a task in flight is processed a second time by the inner loop and `_eventDone(e)` goes through twice
         (`eventDone_once_witness`, the run of C05's `guard_witness`);
  (root) no step changes the root of a component whose task loop is active (the code does not migrate `_tasks` when a root
         component is registered under another one: its tasks are orphaned and re-processed by `tick()` of the old root).
Clauses that are sanity conditions:
  (tickh), (done) `_on_tick` / `_on_done` of a wait state run on a STARTED wait state: PROVED from the wait-protocol
         invariant of C06 for admissible sessions (`guard_core_suffices_partial`: `T46GuardCore` + `W6CInv` ⇒ `T46Guard`).
         Nothing is asked of an `_on_done` that finds the flag already set (a second `_done` event of the awaited event - an
         event object fired twice, as `Timer` does - or a stale invocation after the resumption): it does nothing (`if
         state.flag or state.timed_out: return`, mirrored in `St.onWaitDone`), so the consumed callEvent generator is not
         registered a second time;
  (gen)  the event whose handler returned a generator exists: PROVED for all sessions (`Reach`, no guard) from the range
         invariant `T46RQ` - ids in queues, in `Timer.event` and in the frames `.dispatcher/.hLoop/.hAfter/.hApply` are ids of
         existing events - under the Init hypothesis `T46InitQ` (the ids in the initial queues / timers exist, e.g. empty
         queues): `event_ids_in_range`, `guard_min_suffices_partial`;
  (own)  a task whose user generator yields a `call`/`wait` is an ordinary task `(e, g, None)` of an existing event: PROVED
         (`tasks_well_formed_partial`, CV/Proofs/InvTasksK.lean, InvTasksGuard.lean) from the invariant `T46TP`: every registered task has an
         existing event, a task with a parent is never a user generator (its generator is a waitEvent / TimeoutError / one-shot
         value generator), started wait states have an existing `task_event`.
So the guard consists of the two real restrictions only: `T46GuardMin2` = (tick) + (root), `two_restrictions_suffice_partial`.

RUN LEVEL: `eventDone_once_partial` (passes ≤ dispatches, CV/Proofs/InvTasksOnce.lean).  Not proved: the ownership counts for user
generators (every user generator is held by at most one task or wait state), which would discharge the hypothesis "`p` is a live
user generator" of C06 `caller_completes_parent_partial`. -/

/-- non-vacuity of the hypotheses -/
example : T46Init {} := .of_no_events (fun x => by cases x <;> rfl) rfl rfl

example : T46Init C05.s0w := t46_s0w_init
example (s0 : St) : T46Reach s0 (startOf (envChange s0 0 []) (.tick 0)) := T46Reach.init 0 [] (.tick 0)

example : T46Guard { st := {} } :=
  ⟨fun _ _ h => (by cases h), fun _ _ h => (by cases h), fun _ _ _ _ _ _ h => (by cases h),
   fun _ _ _ _ h => (by cases h), fun _ _ _ _ _ h => (by cases h), fun _ _ _ _ _ h => (by cases h)⟩

/-- guarded sessions are sessions; if the guard holds in every reachable configuration, every session is guarded -/
theorem guarded_sessions_are_sessions (s0 : St) (c : Cfg) (h : T46Reach s0 c) : Reach s0 c := h.reach

/-- **the guard without the wait-closure clauses** (admissible sessions of C06).  `T46GuardCore` has the two real restrictions
    (tick), (root) and the two range clauses (gen), (own); that the closures `_on_done` / `_on_tick`
    run on started wait states follows from C06's `wait_inv`.  So every admissible session on which the core guard holds at
    every step is a guarded session, and all `_partial` theorems of this section apply to it. -/
theorem guard_core_suffices_partial (s0 : St) (hi : W6InitWait s0) (c : Cfg) (h : T46ReachC s0 c) : T46Reach s0 c :=
  h.guarded hi

/-- … configuration-wise -/
theorem guard_of_core (n0 : Nat) (c : Cfg) (hc : T46GuardCore c) (hw : W6CInv n0 c) : T46Guard c := T46Guard.of_core hc hw

example (s0 : St) : T46ReachC s0 (startOf (envChange s0 0 []) (.tick 0)) := T46ReachC.init 0 [] (.tick 0) trivial

example : T46GuardCore { st := {} } :=
  ⟨fun _ _ h => (by cases h), fun _ _ h => (by cases h), fun _ _ _ _ _ _ h => (by cases h),
   fun _ _ _ _ h => (by cases h)⟩

/-- non-vacuity of `T46InitQ`: empty queues, timers that have not fired -/
example : T46InitQ {} := T46InitQ.of_empty {} (fun x => by cases x <;> exact ⟨rfl, rfl⟩) (fun i tm h => by simp at h)

example : T46InitQ C05.s0w := T46InitQ.of_empty _ (fun x => by cases x <;> exact ⟨rfl, rfl⟩) (fun i tm h => by
  have : C05.s0w.timers = [] := rfl
  rw [this] at h; simp at h)

/-- **event ids are in range** (FULL: every session, no guard).  From an initial state whose queued / timer event ids exist, in
    every reachable configuration every id in a queue (deque and heap) of any component, every `Timer.event`, and the event of
    every `.dispatcher / .hLoop / .hAfter / .hApply` frame is the id of an existing event.  In particular the event of a
    handler loop exists when a handler's generator is registered (clause (gen) of `T46Guard`). -/
theorem event_ids_in_range (s0 : St) (h0 : T46InitQ s0) (c : Cfg) (hr : Reach s0 c) :
    (∀ x it, (it ∈ (c.st.comp x).eq.queue ∨ it ∈ (c.st.comp x).eq.heap) → it.ev < c.st.evs.length) ∧
    (∀ (i : Nat) (tm : TimerSt) (te : Nat), c.st.timers[i]? = some tm → tm.ev = some te → te < c.st.evs.length) ∧
    (∀ f ∈ c.stack, ∀ e, f.t46_dEv = some e → e < c.st.evs.length) ∧
    (∀ r e rest err v k, c.stack = .hApply r e rest err v :: k → e < c.st.evs.length) :=
  ⟨(t46_reach_rq h0 c hr).ok.1, (t46_reach_rq h0 c hr).ok.2, (t46_reach_rq h0 c hr).fr,
   fun r e rest err v k hs => (t46_reach_rq h0 c hr).gen r e rest err v k hs⟩

/-- **the minimal guard**: `T46GuardMin` = (tick), (root), (own).  An admissible session (C06) from
    an initial state satisfying `W6InitWait` and `T46InitQ` on which it holds at every step is a guarded session: all
    `_partial` theorems of this section apply to it. -/
theorem guard_min_suffices_partial (s0 : St) (hi : W6InitWait s0) (hq : T46InitQ s0) (c : Cfg) (h : T46ReachM s0 c) :
    T46Reach s0 c := h.guarded hi hq

example (s0 : St) : T46ReachM s0 (startOf (envChange s0 0 []) (.tick 0)) := T46ReachM.init 0 [] (.tick 0) trivial

example : T46GuardMin { st := {} } :=
  ⟨fun _ _ h => (by cases h), fun _ _ h => (by cases h), fun _ _ _ _ h => (by cases h)⟩

/-- **only the two real restrictions remain.**  `T46GuardMin2` = (tick) no handler / task re-enters the task loop with pending
    tasks + (root) no step changes the root of a component whose task loop is active.  An admissible session (C06) from an initial
    state satisfying `T46Init`, `W6InitWait`, `T46InitQ` on which these two hold at every step taken is a guarded session, so all
    `_partial` theorems of this section apply to it; and in each of its configurations the accounting invariant holds. -/
theorem two_restrictions_suffice_partial (s0 : St) (h0 : T46Init s0) (hi : W6InitWait s0) (hq : T46InitQ s0) (c : Cfg)
    (h : T46ReachM2 s0 c) : T46Reach s0 c ∧ T46Inv c :=
  let ⟨hr, hinv, _⟩ := h.all h0 hi hq
  ⟨hr, hinv⟩

/-- **tasks are well formed** (PARTIAL: sessions guarded by (tick) + (root)).  Every registered task belongs to an existing event;
    a task with a parent is never a user generator: its generator is a waitEvent generator, a `TimeoutError` carrier or a one-shot
    value generator; the parent of a task, the caller of a started wait state and a generator returned by a handler are never
    carriers (carrier status never changes); a started wait state has an existing `task_event`; and the task of a `.ptOwn` frame (the task's own user
    generator has just been advanced) is an ordinary task `(e, g, None)` of an existing event - clause (own). -/
theorem tasks_well_formed_partial (s0 : St) (h0 : T46Init s0) (hi : W6InitWait s0) (hq : T46InitQ s0) (c : Cfg)
    (h : T46ReachM2 s0 c) :
    (∀ x t, t ∈ (c.st.comp x).tasks → t.e < c.st.evs.length ∧
      (t.parent.isSome = true → t.g < c.st.gens.length ∧ (c.st.gen t.g).t46_carrier = true) ∧
      (∀ p, t.parent = some p → p < c.st.gens.length ∧ (c.st.gen p).t46_carrier = false)) ∧
    (∀ w, (c.st.wait w).started = true → (c.st.wait w).taskEvent < c.st.evs.length ∧
      (c.st.wait w).parentGen < c.st.gens.length ∧ (c.st.gen (c.st.wait w).parentGen).t46_carrier = false) ∧
    (∀ r t k, c.stack = .ptOwn r t :: k → t.parent = none ∧ t.e < c.st.evs.length) ∧
    (∀ r e rest err g k, c.stack = .hApply r e rest err (.gen g) :: k →
      g < c.st.gens.length ∧ (c.st.gen g).t46_carrier = false) :=
  let ⟨_, _, htp⟩ := h.all h0 hi hq
  ⟨htp.tasks, htp.waits, fun r t k hs => htp.own r t k hs,
   fun r e rest err g k hs => htp.frames (.hApply r e rest err (.gen g)) (by rw [hs]; simp) g rfl⟩

example (s0 : St) : T46ReachM2 s0 (startOf (envChange s0 0 []) (.tick 0)) := T46ReachM2.init 0 [] (.tick 0) trivial
example : T46GuardMin2 { st := {} } := ⟨fun _ _ h => (by cases h), fun _ _ h => (by cases h)⟩

/-- the three Init hypotheses hold together for the empty state -/
example : T46Init {} ∧ W6InitWait {} ∧ T46InitQ {} := by
  refine ⟨.of_no_events (fun x => by cases x <;> rfl) rfl rfl, ⟨rfl, rfl, fun h hh => absurd hh (Nat.not_lt_zero _), fun c k h hm => ?_,
    fun c => ?_, fun c => ?_, fun p hp => ?_⟩, T46InitQ.of_empty {} (fun x => by cases x <;> exact ⟨rfl, rfl⟩) (fun i tm h => by simp at h)⟩
  · simp [St.comp, dfltComp] at hm
  · simp [St.comp, dfltComp]
  · simp [St.comp, dfltComp]
  · simp at hp

/-- **waiting_accounting** (PARTIAL: guarded sessions).  In every configuration, for every event:
    task weights + pending-wait weights + frame weights ≤ `waitingHandlers`; in particular the counter is never negative. -/
theorem waiting_accounting_partial (s0 : St) (h0 : T46Init s0) (c : Cfg) (hr : T46Reach s0 c) (e : Nat) :
    c.st.t46_WT e + c.st.t46_WW e + t46_WF e c.stack ≤ (c.st.ev e).waiting ∧
    0 ≤ c.st.t46_WT e ∧ 0 ≤ c.st.t46_WW e ∧ 0 ≤ t46_WF e c.stack ∧ 0 ≤ (c.st.ev e).waiting :=
  ⟨(t46_reach_inv h0 c hr).bound e, St.t46_WT_nonneg _ _, St.t46_WW_nonneg _ _, t46_WF_nonneg _ _,
   (t46_reach_inv h0 c hr).waiting_nonneg e⟩

/-- … the same when the guard is known to hold on all of `Reach` -/
theorem waiting_accounting_of_guard (s0 : St) (h0 : T46Init s0) (hG : ∀ c, Reach s0 c → T46Guard c) (c : Cfg)
    (hr : Reach s0 c) (e : Nat) : c.st.t46_WT e + c.st.t46_WW e + t46_WF e c.stack ≤ (c.st.ev e).waiting :=
  (t46_reach_inv h0 c (T46Reach.of_reach hG hr)).bound e

/-- every registered task of `e` is paid for: `waitingHandlers(e) ≥ 1`, `≥ 2` when the task carries a suspended caller
    (PARTIAL: guarded sessions) -/
theorem registered_task_counts_partial (s0 : St) (h0 : T46Init s0) (c : Cfg) (hr : T46Reach s0 c) (x : Nat) (t : Task)
    (ht : t ∈ (c.st.comp x).tasks) : (if t.parent.isSome then 2 else 1) ≤ (c.st.ev t.e).waiting :=
  (t46_reach_inv h0 c hr).task_bound x t ht

/-- **one task in flight** (the ownership part that is proved; PARTIAL: guarded sessions).  Task sets are duplicate-free; below
    every `.taskLoop x ts` frame there is no task frame, no other task loop and no handler in progress; `x` is its own root
    and the tasks still to be processed are registered; the task frame on top of the stack belongs to a task that is still
    registered (`.ptBody`/`.ptOwn`) and whose event therefore has `waitingHandlers ≥ 1` - also after the unregistration
    (`.ptParent`, which weighs 2 itself). -/
theorem one_task_in_flight_partial (s0 : St) (h0 : T46Init s0) (c : Cfg) (hr : T46Reach s0 c) :
    (∀ x, (c.st.comp x).tasks.Nodup) ∧
    (∀ a x ts b, c.stack = a ++ Frame.taskLoop x ts :: b →
      (∀ f ∈ b, f.t46_noisy = false) ∧ c.st.rootOf x = x ∧ ∀ t ∈ ts, t ∈ (c.st.comp x).tasks) ∧
    (∀ r t k, (c.stack = .ptBody r t :: k ∨ c.stack = .ptOwn r t :: k ∨ ∃ p v, c.stack = .ptParent r t p v :: k) →
      1 ≤ (c.st.ev t.e).waiting) := by
  have hi := t46_reach_inv h0 c hr
  refine ⟨hi.nd, fun a x ts b hs => ?_, fun r t k hs => hi.inflight_bound r t k hs⟩
  obtain ⟨h1, h2, h3⟩ := T46Shape.loop_quiet (hs ▸ hi.shape)
  refine ⟨fun f hf => ?_, h2, h3⟩
  simp only [t46_quiet, List.all_eq_true, Bool.not_eq_true'] at h1
  exact h1 f hf

/-- **success_after_last_step** (PARTIAL: guarded sessions).  When the end-of-event step of `e` goes through - `_eventDone(e)`
    entered with `waitingHandlers = 0`: the step that fires `<name>_done`, `<name>_success` and calls `_effectDone`
    (`success_rule`) - no obligation of `e` is left: no task of `e` is registered in any component, no `call`/`wait` made by
    a handler of `e` is pending, no caller of `e` is being resumed.  Every generator handler of the event has made its last
    step.  (The converse is not an invariant: see EQUALITY IS FALSE above.) -/
theorem success_after_last_step_partial (s0 : St) (h0 : T46Init s0) (c : Cfg) (hr : T46Reach s0 c) (e : Nat)
    (hp : T46Pass c e) :
    (∀ x t, t ∈ (c.st.comp x).tasks → t.e ≠ e) ∧
    (∀ w, w < c.st.waits.length → (c.st.wait w).t46_pending = true → (c.st.wait w).taskEvent ≠ e) ∧
    (∀ r t p v, Frame.ptParent r t p v ∈ c.stack → t.e ≠ e) := by
  obtain ⟨_, _, _, _, _, hw⟩ := hp
  exact (t46_reach_inv h0 c hr).no_obligations e hw

/-- **what a pass leaves behind** (PARTIAL: guarded sessions).  When the end-of-event step of `e` goes through: (1) no task set
    and no wait state holds an obligation of `e`; (2) nothing but driver-level frames is below any task loop - no handler loop
    is suspended there, so no `_dispatcher` will run its own `_eventDone` after a pass made from the task loop; (3) in every
    configuration of the session a task frame of `e` in flight forces `waitingHandlers(e) ≥ 1`, so it is not a pass.  These
    are the local facts behind the run-level theorem `eventDone_once_partial` below. -/
theorem pass_leaves_nothing_partial (s0 : St) (h0 : T46Init s0) (c : Cfg) (hr : T46Reach s0 c) (e : Nat) (hp : T46Pass c e) :
    ((∀ x t, t ∈ (c.st.comp x).tasks → t.e ≠ e) ∧
     (∀ w, w < c.st.waits.length → (c.st.wait w).t46_pending = true → (c.st.wait w).taskEvent ≠ e)) ∧
    (∀ a x ts b, c.stack = a ++ Frame.taskLoop x ts :: b → ∀ f ∈ b, f.t46_noisy = false) ∧
    (∀ c', T46Reach s0 c' → ∀ r t k,
      (c'.stack = .ptBody r t :: k ∨ c'.stack = .ptOwn r t :: k ∨ ∃ p v, c'.stack = .ptParent r t p v :: k) →
      t.e = e → ¬ T46Pass c' e ∧ 1 ≤ (c'.st.ev e).waiting) := by
  obtain ⟨a1, a2, _⟩ := success_after_last_step_partial s0 h0 c hr e hp
  refine ⟨⟨a1, a2⟩, fun a x ts b hs => ((one_task_in_flight_partial s0 h0 c hr).2.1 a x ts b hs).1, ?_⟩
  intro c' hr' r t k hs he
  have h1 := (t46_reach_inv h0 c' hr').inflight_bound r t k hs
  rw [he] at h1
  refine ⟨?_, h1⟩
  rintro ⟨_, _, _, _, _, hw⟩
  omega

/-- **eventDone_once**, RUN LEVEL (PARTIAL only in that it is stated over guarded sessions: without `T46Guard` it is false, see
    `eventDone_once_witness`; the clause needed is (tick): no handler / task re-enters the task loop).
    `T46Trace s0 e c p`: `c` is a configuration of a guarded session from `s0` in which the end-of-event step of `e`
    (`_eventDone(e)` entered with `waitingHandlers = 0`) has gone through `p` times so far.  Then, at every moment,

        p  +  (dispatches of e in progress: `.hLoop/.hAfter/.hApply/.dispFin/.eventDone r e` frames on the stack)
           ≤  number of `.disp e` entries logged since the start of the session.

    Every pass is paid for by a dispatch of its own: for each dispatch of an event the end-of-event step happens at most once,
    whether it is made by `_dispatcher` itself or later by the task of the last generator handler; and while a generator
    handler of `e` is still pending (`waitingHandlers ≥ 1`) one dispatch is still unpaid.
    (The form "between two passes a `.disp e` is logged" is the special case below for events dispatched once; for an event
    object that is dispatched again while a handler of its previous dispatch is running - a re-fired `Timer` event and a
    handler that flushes - the passes of the inner and the outer dispatch follow each other without a `.disp` in between, which
    is why the statement counts.)  Hypothesis `(s0.ev e).waiting = 0`: the event is not half-handled when the session starts. -/
theorem eventDone_once_partial (s0 : St) (h0 : T46Init s0) (e : Nat) (hw0 : (s0.ev e).waiting = 0) (c : Cfg) (p : Nat)
    (ht : T46Trace s0 e c p) :
    p + t46_ctx e c.stack + s0.log.count (Entry.disp e) ≤ c.st.log.count (Entry.disp e) ∧
    (1 ≤ (c.st.ev e).waiting → p + 1 + s0.log.count (Entry.disp e) ≤ c.st.log.count (Entry.disp e)) :=
  ⟨(t46_trace_once h0 e hw0 c p ht).k, (t46_trace_once h0 e hw0 c p ht).j⟩

/-- … in particular: an event that has been dispatched (at most) once during the session has had its end-of-event step at most
    once - `<name>_done`, `<name>_success`, the value notification and `_effectDone` happen at most once for it. -/
theorem eventDone_at_most_once_partial (s0 : St) (h0 : T46Init s0) (e : Nat) (hw0 : (s0.ev e).waiting = 0) (c : Cfg) (p : Nat)
    (ht : T46Trace s0 e c p)
    (h1 : c.st.log.count (Entry.disp e) ≤ s0.log.count (Entry.disp e) + 1) : p ≤ 1 := by
  have := (eventDone_once_partial s0 h0 e hw0 c p ht).1
  omega

/-- the counter of a trace counts exactly the configurations in which `T46Pass` holds; every guarded session has a trace -/
theorem pass_counter_spec (c : Cfg) (e : Nat) : t46_passB c e = true ↔ T46Pass c e := t46_passB_iff c e
theorem guarded_sessions_have_traces (s0 : St) (e : Nat) (c : Cfg) (h : T46Reach s0 c) : ∃ p, T46Trace s0 e c p := h.trace e

example (s0 : St) : T46Trace s0 0 (startOf (envChange s0 0 []) (.tick 0)) 0 := T46Trace.init 0 [] (.tick 0)

/-- the excluded case is real: on the run `cw2` of C05 (a handler of `foo` calls `stop()` while the manager is running but not
    executing; the inline ticks run the task loop inside the handler) the end-of-event step of event 0 goes through in
    configuration 55 (from `processTask`) and again in configuration 86 (at the end of `_dispatcher`), with no `.disp 0`
    logged in between; configuration 19 of the run violates the guard (`tick()` with a pending task inside a handler). -/
theorem eventDone_once_witness :
    T46Init C05.s0w ∧ Reach C05.s0w (C05.cw2 55) ∧ Reach C05.s0w (C05.cw2 86) ∧
    T46Pass (C05.cw2 55) 0 ∧ T46Pass (C05.cw2 86) 0 ∧
    (∃ es, (C05.cw2 86).st.log = es ++ (C05.cw2 55).st.log ∧ Entry.disp 0 ∉ es) ∧
    Reach C05.s0w (C05.cw2 19) ∧ ¬ T46Guard (C05.cw2 19) :=
  ⟨t46_s0w_init, C05.cw2_reach 55, C05.cw2_reach 86, t46_passB_spec _ _ t46_cw2_pass1, t46_passB_spec _ _ t46_cw2_pass2,
   t46_noDispB_spec _ _ _ t46_cw2_nodisp, C05.cw2_reach 19, t46_badTickB_spec _ t46_cw2_badtick⟩

/-- non-vacuity of `T46Pass` -/
example : T46Pass { st := {}, stack := [.eventDone 0 0 false] } 0 := ⟨0, false, [], rfl, rfl, rfl⟩

end CV.C04


/-!
## Nested Values (a handler that returns `self.fire(e)`): the value layer `CV.VT` (`CV/Model/ValueTree.lean`)

`circuits/core/values.py` as a store of cells; `setValue` with its `Value` branch, the walk of `update` up the parent
chain, `getValue(recursive)`, `inform`.  The statements hold for every store (every forest - or non-forest - of cells, every
setting of the flags) and every finite session of operations; the machine of the sections above does not contain
nested values (its programs return atoms), this layer is tied to the code by its own correspondence (`harness/c04_values.py`).
-/
namespace CV.C04
open CV.VT

/-- whatever else happens in the session (sets on other cells, flag writes, informs, new cells): what a cell holds is, apart
    from `None` entries, exactly what it held before followed by the non-None results set on it, in order - a nested Value
    stands in the sequence as itself (`Arg.ref`), nothing is dropped or replaced (before fix 01c48fc a result arriving after a
    still unresolved nested Value replaced it) -/
theorem resolved_value_exact (s : St) (ops : List Op) (c : Nat) :
    nn (items ((runOps s ops).cells c).value) = nn (items (s.cells c).value) ++ nn (setsOn c ops) := runOps_nn ops s c

/-- from the initial store: exactly the non-None results set on the cell -/
theorem resolved_value_exact_init (ops : List Op) (c : Nat) :
    nn (items ((runOps {} ops).cells c).value) = nn (setsOn c ops) := by
  rw [resolved_value_exact]; rfl

/-- `getValue(True)`: a cell holding a single nested Value resolves to what that Value resolves to … -/
theorem resolved_nested (s : St) (c d : Nat) (r : Stored) (h : (s.cells c).value = .one (.ref d))
    (hr : getValue s c true = some r) : getValue s d true = some r := by
  simp only [getValue, if_true, h, getRec] at hr ⊢
  exact getRec_mono _ _ _ _ hr

example : getValue (runOps {} [.new .off .off true, .new .off .off true, .set 0 (.ref 1), .set 1 (.lit 5)]) 0 true
    = some (.one (.lit 5)) := by decide

/-- … and any other content (nothing, an atom, a list) is returned as it is -/
theorem resolved_plain (s : St) (c : Nat) (h : ∀ d, (s.cells c).value ≠ .one (.ref d)) :
    getValue s c true = some (s.cells c).value := by
  simp only [getValue, if_true]
  cases hv : (s.cells c).value with
  | many l => rfl
  | one a =>
    cases a with
    | none => rfl
    | lit n => rfl
    | ref d => exact (h d hv).elim

example : ∀ d, (({} : St).cells 0).value ≠ .one (.ref d) := by intro d h; cases h

/-- the first result of a cell that holds nothing is stored as such … -/
theorem single_first (s : St) (c : Nat) (a : Arg) (h : held (s.cells c) = false) :
    ((setValue s c a).cells c).value = .one a := by
  rw [setValue_value, if_pos rfl]; exact storeArg_fresh _ _ h

example : held (({} : St).cells 0) = false := by decide

/-- … and from then on, through every session: it stays alone as long as nothing else is set on the cell, and becomes the
    Python list of everything set, in order, as soon as something is -/
theorem single_vs_list (s : St) (ops : List Op) (c : Nat) (h : (s.cells c).value ≠ .one .none) :
    ((runOps s ops).cells c).value =
      if setsOn c ops = [] then (s.cells c).value else .many (items (s.cells c).value ++ setsOn c ops) :=
  runOps_items ops s c h

/-- both together: a first non-None result `a` and then a session -/
theorem single_vs_list_fresh (s : St) (c : Nat) (a : Arg) (ops : List Op) (h : held (s.cells c) = false) (ha : a ≠ .none) :
    ((runOps (setValue s c a) ops).cells c).value = if setsOn c ops = [] then .one a else .many (a :: setsOn c ops) := by
  have h1 := single_first s c a h
  rw [single_vs_list _ _ _ (by rw [h1]; intro e; cases e; exact ha rfl), h1]; rfl

example : ((runOps (setValue {} 0 (.lit 1)) [.set 0 (.lit 2), .set 1 (.lit 9), .set 0 (.ref 1)]).cells 0).value
    = .many [.lit 1, .lit 2, .ref 1] := by decide

/-- `setValue` never takes a flag back (before fix 01c48fc storing a nested Value copied its flags over the holder's:
    `[raise, return self.fire(e)]` ended with errors = False) -/
theorem flags_monotone (s : St) (c : Nat) (a : Arg) (j : Nat) :
    ((s.cells j).errors = true → ((setValue s c a).cells j).errors = true) ∧
    ((s.cells j).result = true → ((setValue s c a).cells j).result = true) := setValue_flags_mono s c a j

/-- errors travel upwards at every `setValue` that returns: an error known on the cell set, or on the Value being nested into
    it, is afterwards known on the cell and on every ancestor of it -/
theorem errors_propagate (s : St) (c : Nat) (a : Arg) (q : Nat) (hq : Anc (setValue s c a) c q)
    (hc : (setValue s c a).crashed = false)
    (he : (s.cells c).errors = true ∨ ∃ d, a = .ref d ∧ (s.cells d).errors = true) :
    ((setValue s c a).cells q).errors = true := by
  unfold setValue at hq hc ⊢
  refine update_anc_errors _ _ _ _ _ (hq.congr (fun j => (update_parent ..).symm)) hc ?_
  rcases he with he | ⟨d, rfl, he⟩
  · refine (touch_rel flagsMono_step _ _ _ _).1 ?_
    rw [preUpdate_errors]; exact he
  · apply touch_ref_errors
    rw [preUpdate_errors]; exact he

/-- non-vacuity, and the shape the manager produces: the nested event's handler raised (`errors = True`, then the error
    triple is set): the holder and the holder's holder learn it -/
example : let s := runOps {} [.new .off .off true, .new .off .off true, .new .off .off true, .set 0 (.ref 1), .set 1 (.ref 2),
      .errors 2 true]
    Anc (setValue s 2 (.lit 7)) 2 0 ∧ (setValue s 2 (.lit 7)).crashed = false ∧ ((setValue s 2 (.lit 7)).cells 0).errors = true := by
  refine ⟨.step (by decide) (.step (by decide) ?_), by decide, by decide⟩
  exact .refl _

/-- … and no error is invented -/
theorem errors_not_invented (s : St) (c : Nat) (a : Arg) (h : ∀ j, (s.cells j).errors = false) (j : Nat) :
    ((setValue s c a).cells j).errors = false := by
  unfold setValue
  exact update_noErr _ _ _ _ (fun i => (preUpdate_errors s c a i).trans (h i)) j

example : ∀ j, (({} : St).cells j).errors = false := fun _ => rfl

/-- the naive reading "errors is set iff an error was set on the cell or on a cell nested under it" fails in one direction:
    flags travel only inside `setValue`; an `errors = True` written on a nested Value after the nesting, with no later
    `setValue` on it, is not seen by the holder (the manager always sets the error triple right after the flag) -/
theorem errors_propagate_naive_witness :
    let s := runOps {} [.new .off .off true, .new .off .off true, .set 0 (.ref 1), .errors 1 true]
    (s.cells 1).errors = true ∧ (s.cells 1).parent = 0 ∧ (s.cells 0).errors = false := by decide

/-- parent chains stay acyclic: storing an atom or None changes no parent; nesting a Value that is nobody's parent yet (a
    value just returned by `fire`) under another cell keeps the chains acyclic -/
theorem parent_chain_acyclic (s : St) (c : Nat) (a : Arg) (h : Acyclic s)
    (hfresh : ∀ d, a = .ref d → d ≠ c ∧ ∀ j, j ≠ d → (s.cells j).parent ≠ d) : Acyclic (setValue s c a) := by
  cases a with
  | none => exact acyclic_of_parents (fun j => by rw [setValue_parent]; simp) h
  | lit n => exact acyclic_of_parents (fun j => by rw [setValue_parent]; simp) h
  | ref d =>
    obtain ⟨rank, hr⟩ := h
    obtain ⟨hdc, hf⟩ := hfresh d rfl
    refine ⟨fun j => if j = d then rank c + 1 else rank j, fun j hj => ?_⟩
    rw [setValue_parent] at hj ⊢
    by_cases hjd : j = d
    · subst hjd
      have hcj : ¬ c = j := fun e => hdc e.symm
      simp [hcj]
    · have hne : ¬ (Arg.ref d = Arg.ref j) := by intro e; cases e; exact hjd rfl
      rw [if_neg hne] at hj ⊢
      have := hr j hj
      have hpd : ¬ (s.cells j).parent = d := hf j hjd
      simp [hjd, hpd, this]

example : Acyclic ({} : St) := ⟨fun _ => 0, fun _ hj => (hj rfl).elim⟩

example : ∀ d, Arg.ref 1 = .ref d → d ≠ 0 ∧ ∀ j, j ≠ d → (({} : St).cells j).parent ≠ d := by
  intro d h; cases h; exact ⟨by decide, fun j hj => hj⟩

/-- without the freshness condition a cycle can be made, and the next `setValue` on it does not return (RecursionError in
    `update`; the model's `crashed`) -/
theorem parent_chain_acyclic_witness :
    let s := runOps {} [.new .off .off true, .new .off .off true, .set 0 (.ref 1)]
    (s.cells 0).parent = 0 ∧ (s.cells 1).parent = 0 ∧ s.crashed = false ∧ (setValue s 1 (.ref 0)).crashed = true := by decide

/-- one change, at most one notification per Value: on acyclic chains the notes fired by one `setValue` of an atom are
    about pairwise different cells (the cell set and ancestors of it: `rank` does not increase) -/
theorem notify_once_per_change (s : St) (c n : Nat) (rank : Nat → Nat)
    (hr : ∀ j, (s.cells j).parent ≠ j → rank (s.cells j).parent < rank j) :
    ∃ new : List Note, (setValue s c (.lit n)).log = new ++ s.log ∧ (∀ x ∈ new, rank x.cell ≤ rank c) ∧
      (new.map Note.cell).Nodup := by
  unfold setValue
  exact update_log_lit rank n _ _ c (fun j hj => by
    have hp : ∀ i, (((setParent s c (.lit n)).upd c (fun x => { x with value := storeArg x (.lit n) })).cells i).parent
        = (s.cells i).parent := by
      intro i; simp only [upd_cells, setParent]; split <;> rfl
    rw [hp] at hj ⊢; exact hr j hj)

example : ∀ j, ((({} : St).cells j).parent ≠ j → (fun _ : Nat => 0) (({} : St).cells j).parent < (fun _ : Nat => 0) j) :=
  fun _ hj => (hj rfl).elim

/-- … and at least once: a Value that is to notify (its event's or its own `notify` is True, it has a manager, it is not
    a promise waiting for coroutine handlers) announces the result stored in it, before its ancestors announce theirs -/
theorem notify_cell_itself (s : St) (c n : Nat) (hp : (s.cells c).promise = false) (hm : (s.cells c).hasMgr = true)
    (hn : (s.cells c).evNotify.orElse (s.cells c).notify = .on) :
    ∃ new : List Note, (setValue s c (.lit n)).log = new ++ .changed c :: s.log := by
  unfold setValue
  obtain ⟨new, h⟩ := update_succ_log s.n ((setParent s c (.lit n)).upd c (fun x => { x with value := storeArg x (.lit n) })) c (.lit n)
  refine ⟨new, ?_⟩
  rw [h]
  congr 1
  exact inform_on _ c (by simp [setParent, hp]) (by simp [setParent, hm]) (by simpa [setParent] using hn)

example : ((newCell {} .on .off true).cells 0).evNotify.orElse ((newCell {} .on .off true).cells 0).notify = .on := by decide

/-- storing `None` or a Value (no result yet known for sure) notifies nobody -/
theorem notify_only_for_results (s : St) (c : Nat) (a : Arg) (h : ∀ n, a ≠ .lit n) : (setValue s c a).log = s.log := by
  unfold setValue
  rw [update_log_quiet _ _ _ _ h]
  cases a <;> rfl

example : ∀ n, Arg.ref 3 ≠ .lit n := by intro n h; cases h

/-- the notifications of a result arriving in a nested Value, concretely: the nested Value's own event and the holder's
    event are notified once each, innermost first (log is newest first) -/
theorem notify_chain_witness :
    let s := runOps {} [.new .on .off true, .new .off .on true, .set 0 (.ref 1)]
    s.log = [] ∧ (setValue s 1 (.lit 5)).log = [.changed 0, .changed 1] := by decide

end CV.C04
