import CV.Proofs.InvWaitMain
import CV.Proofs.InvWait2Stale
import CV.Proofs.InvWait2Wit
import CV.Proofs.InvWait2Count
import CV.Proofs.InvWait2Tasks
import CV.Proofs.InvTasksGuard
/-
C06 — call()/wait() resume the caller exactly once with the result, leaving no residue.

PART 1: LOCAL facts, true of EVERY configuration `c` of the small-step core machine (hence of every
reachable one, for every initial state, tape and program table): for each action of the wait protocol,
the only step that can perform it and the guard under which it does.  Chained together: the caller of
`yield call(e)` / `yield wait(e)` is resumed only by the task step of its own waitEvent generator, which is
registered only by `_on_done` (flag), which fires only on the `_done` child of the event recorded by
`_on_event`, and `_done` children are fired only by `_eventDone` of that event when `waitingHandlers = 0`.

PART 2: GLOBAL facts about every configuration of an admissible driver session (`W6ReachW`, a sub-relation
of `Reach`: external `do` operations, like user programs, call `removeHandler` only on pre-declared handlers)
from an initial state satisfying `W6InitWait`: the invariant `W6CInv`, the phase function, resumption at most
once, which temporary handlers / tasks can exist in which phase, no residue.

PART 3: never both outcomes (no time-out after the resumption; stale closures do nothing), and the time-out is
not early, counted in `_on_tick` invocations.  PART 4: the resumed caller runs; wait / `TimeoutError` tasks are
transient.  PART 5: the same with the task accounting of C04 (`T46Inv`), which removes two side conditions.

Names: the proof files share namespace `CV.Core` with the other invariants, so their identifiers carry the
prefix `w6_` / `W6` (wait protocol, C06), `w6b_` / `W6B` in the files for Parts 3 to 5.
-/
namespace CV.C06
open CV.Core

/-! ## Part 1: local facts (all configurations) -/

/-- The step that logs `.resumed pe ph src v er` is the task step (`ptBody`) of a waitEvent generator
    `GenRec.wait w` whose state has `event = some src`; its `_done` handler was still installed (could be
    removed); the parent is the user generator `(pe, ph)`; and the value / error flag handed to the caller are
    those of the awaited event `src` at that moment (`result_is_callees`: the result is looked up through the
    wait state's own `event` field, so concurrent calls cannot swap results). -/
theorem resumed_needs_event (c : Cfg) (es : List Entry) (hes : (step c).st.log = es ++ c.st.log)
    (pe ph src : Nat) (v : Collapsed) (er : Bool) (hx : Entry.resumed pe ph src v er ∈ es) :
    ∃ r t k w p o rest st pc sd, c.stack = .ptBody r t :: k ∧ c.exn = none ∧ c.st.gen t.g = .wait w ∧
      (c.st.wait w).event = some src ∧ t.parent = some p ∧ c.st.gen p = .user pe ph o rest st pc sd ∧
      (c.st.removeHandler (c.st.wait w).hDone (some ((c.st.wait w).evName.child sfxDone))).1 = true ∧
      v = (c.st.ev src).val.view ∧ er = (c.st.ev src).val.errors :=
  w6_resumed_needs_event c hes hx

/-- The step that logs `.timeout …` (TimeoutError thrown into the caller) is the task step of a one-shot
    generator `GenRec.exc w false`. -/
theorem timeout_needs_exc (c : Cfg) (es : List Entry) (hes : (step c).st.log = es ++ c.st.log)
    (pe ph : Nat) (caught : Bool) (hx : Entry.timeout pe ph caught ∈ es) :
    ∃ r t k w, c.stack = .ptBody r t :: k ∧ c.exn = none ∧ c.st.gen t.g = .exc w false :=
  w6_timeout_needs_exc c hes hx

/-- `flag` of wait state `w` (the permission to resume) changes only in the step that invokes `w`'s own
    `_on_done` closure on an event whose parent is the event `w` recorded: results are routed by
    wait-state identity (`state.event == event.parent`), never by name. -/
theorem flag_needs_done (c : Cfg) (w : Nat) (hne : ((step c).st.wait w).flag ≠ (c.st.wait w).flag) :
    ∃ r h e k src, c.stack = .invoke r h e :: k ∧ c.exn = none ∧ (c.st.handler h).kind = .waitDone w ∧
      (c.st.wait w).event = some src ∧ (c.st.ev e).parentEv = some src ∧ ((step c).st.wait w).flag = true :=
  w6_flag_needs_done c w hne

/-- `run` / `event` of wait state `w` change only in the step that invokes `w`'s own `_on_event` closure,
    once (`run` must be false), on the awaited object (or any event of that name for a wait by name). -/
theorem event_needs_on_event (c : Cfg) (w : Nat)
    (hne : ((step c).st.wait w).run ≠ (c.st.wait w).run ∨ ((step c).st.wait w).event ≠ (c.st.wait w).event) :
    ∃ r h e k, c.stack = .invoke r h e :: k ∧ c.exn = none ∧ (c.st.handler h).kind = .waitEvent w ∧
      (c.st.wait w).run = false ∧ ((c.st.wait w).evObj = none ∨ (c.st.wait w).evObj = some e) ∧
      ((step c).st.wait w).run = true ∧ ((step c).st.wait w).event = some e :=
  w6_event_needs_on_event c w hne

/-- A `…_done` child event comes into being only in the step `_eventDone(p)` of its parent, and only when
    `p.waitingHandlers = 0`: every handler of `p`, suspended ones and their nested calls included, has
    finished or failed. -/
theorem done_needs_all_finished (c : Cfg) (e' : Nat) (hge : c.st.evs.length ≤ e')
    (hd : ((step c).st.ev e').w6_isDoneChild = true) :
    ∃ r p err k, c.stack = .eventDone r p err :: k ∧ c.exn = none ∧ (c.st.ev p).waiting = 0 ∧
      (c.st.ev p).alertDone = true ∧ ((step c).st.ev e').parentEv = some p ∧
      ((step c).st.ev e').name = (c.st.ev p).name.child sfxDone :=
  w6_done_needs_all_finished c e' hge hd

/-- … and an event never changes its name or parent afterwards. -/
theorem ev_identity_stable (c : Cfg) (e : Nat) (he : e < c.st.evs.length) :
    ((step c).st.ev e).parentEv = (c.st.ev e).parentEv ∧ ((step c).st.ev e).name = (c.st.ev e).name :=
  w6_step_ev_identity c e he

/-- `timeout_not_early`, part 1: the countdown of `w` is touched only by `w`'s own `_on_tick` closure (one
    invocation per dispatched `generate_events`), only while positive, and by exactly one. -/
theorem timeout_counts_down (c : Cfg) (w : Nat) (hw : w < c.st.waits.length)
    (hne : ((step c).st.wait w).timeout ≠ (c.st.wait w).timeout) :
    ∃ r h e k, c.stack = .invoke r h e :: k ∧ c.exn = none ∧ (c.st.handler h).kind = .waitTick w ∧
      (c.st.wait w).timeout > 0 ∧ ((step c).st.wait w).timeout = (c.st.wait w).timeout - 1 :=
  w6_timeout_counts_down c w hw hne

/-- `timeout_not_early`, part 2: the generator that carries `TimeoutError` for `w` is created only by `w`'s
    own `_on_tick` closure when the countdown is exactly 0 — i.e. not before `n` earlier invocations
    have counted `n` down. -/
theorem exc_needs_timeout0 (c : Cfg) (g w : Nat) (b : Bool) (hg : (step c).st.gen g = .exc w b)
    (hnew : (c.st.gen g).w6_isExc = false) :
    ∃ r h e k, c.stack = .invoke r h e :: k ∧ c.exn = none ∧ (c.st.handler h).kind = .waitTick w ∧
      (c.st.wait w).timeout = 0 ∧ b = false ∧ g = c.st.gens.length :=
  w6_exc_needs_timeout0 c g w b hg hnew

/-- a logged `.resumed` entry is a resumption step (`W6ResumesW`) of the wait state that recorded `src` -/
theorem resumed_is_resumption (c : Cfg) (es : List Entry) (hes : (step c).st.log = es ++ c.st.log)
    (pe ph src : Nat) (v : Collapsed) (er : Bool) (hx : Entry.resumed pe ph src v er ∈ es) :
    ∃ w, W6ResumesW c w ∧ (c.st.wait w).event = some src :=
  w6_resumed_is_resumption c hes hx

/-! ## Part 2: global facts (admissible sessions) -/

/-- `W6ReachW` is a sub-relation of `Reach`: the same driver sessions, with `removeHandler` in external `do`
    operations restricted to pre-declared handlers (ids `< s0.hs.length`). -/
theorem admissible_sessions_are_sessions (s0 : St) (c : Cfg) (h : W6ReachW s0.hs.length s0 c) : Reach s0 c :=
  h.reach

/-- **wait_inv**: the wait-protocol invariant (`W6CInv` = handler-table invariant `W6HInv` + generator/task
    invariant `W6GInv` + facts about the frames on the stack and the return register) holds in every
    configuration of every admissible session from every initial state satisfying `W6InitWait`. -/
theorem wait_inv (s0 : St) (hi : W6InitWait s0) (c : Cfg) (h : W6ReachW s0.hs.length s0 c) :
    W6CInv s0.hs.length c :=
  h.cinv hi

/-- **phase_monotone**: the phase of every wait state (0 not started, 1 started, 2 event seen, 3 done seen,
    4 finished = resumed or timed out) only grows along `step`. -/
theorem phase_monotone (s0 : St) (hi : W6InitWait s0) (c : Cfg) (h : W6ReachW s0.hs.length s0 c) (w : Nat) :
    w6_phase c.st w ≤ w6_phase (step c).st w :=
  w6_phase_mono (h.cinv hi) w

/-- **resume_moves_phase**: the resumption step of `w` happens in phase 3 (its `flag` is set, its `_done`
    handler still installed) and leads to phase 4. -/
theorem resume_moves_phase (s0 : St) (hi : W6InitWait s0) (c : Cfg) (h : W6ReachW s0.hs.length s0 c) (w : Nat)
    (hr : W6ResumesW c w) : w6_phase c.st w = 3 ∧ w6_phase (step c).st w = 4 :=
  w6_resume_phase (h.cinv hi) w hr

/-- **resume_at_most_once**: after a resumption step of `w` no later configuration of the session (any number
    of further steps and external operations) performs a resumption step of `w` again; with
    `resumed_is_resumption`: at most one `.resumed` entry per wait state. -/
theorem resume_at_most_once (s0 : St) (hi : W6InitWait s0) (c : Cfg) (h : W6ReachW s0.hs.length s0 c) (w : Nat)
    (hr : W6ResumesW c w) (c' : Cfg) (hl : W6Later s0.hs.length (step c) c') : ¬ W6ResumesW c' w :=
  w6_resume_at_most_once (h.cinv hi) w hr hl

/-- **no_resume_after_timeout** (`never both`, one direction): once `w`'s `_on_tick` closure has found the
    countdown at 0 while the outcome was still open (neither `flag` nor `timedOut` set; otherwise the invocation is
    stale and does nothing, see `no_timeout_after_resume`), which is the step that registers the `TimeoutError` task,
    `w` is in phase 4 and no later configuration performs a resumption step of `w`. -/
theorem no_resume_after_timeout (s0 : St) (hi : W6InitWait s0) (c : Cfg) (h : W6ReachW s0.hs.length s0 c)
    (w r hh e : Nat) (k : List Frame) (hs : c.stack = .invoke r hh e :: k) (hx : c.exn = none)
    (hk : (c.st.handler hh).kind = .waitTick w) (h0 : (c.st.wait w).timeout = 0)
    (hfl : (c.st.wait w).flag = false) (hto : (c.st.wait w).timedOut = false)
    (c' : Cfg) (hl : W6Later s0.hs.length (step c) c') : ¬ W6ResumesW c' w :=
  W6Later.no_resume (w6_step_cinv c (h.cinv hi)) hl (w6_timeout_finishes (h.cinv hi) w r hh e k hs hx hk h0 hfl hto)

/-- **installed_by_phase**: for a started wait state the `_on_event` handler is installed only in phase 1, the
    `_on_tick` handler only in phases 1–2, the `_on_done` handler exactly in phases 1–3. -/
theorem installed_by_phase (s0 : St) (hi : W6InitWait s0) (c : Cfg) (h : W6ReachW s0.hs.length s0 c) (w : Nat)
    (hw : w < c.st.waits.length) (hst : (c.st.wait w).started = true) :
    (c.st.w6_view.evKey w ∈ c.st.w6_view.htabOf w → w6_phase c.st w = 1) ∧
    (∀ ht, (c.st.wait w).hTick = some ht → c.st.w6_view.tickKey ht ∈ c.st.w6_view.htabOf w →
      w6_phase c.st w = 1 ∨ w6_phase c.st w = 2) ∧
    (c.st.w6_doneInst w ↔ 1 ≤ w6_phase c.st w ∧ w6_phase c.st w ≤ 3) :=
  w6_installed_by_phase (h.cinv hi) w hw hst

/-- **wait_task_needs_flag**: a task whose generator is `w`'s waitEvent generator is in a task set only when
    `w.flag` is set, i.e. from phase 3 on. -/
theorem wait_task_needs_flag (s0 : St) (hi : W6InitWait s0) (c : Cfg) (h : W6ReachW s0.hs.length s0 c)
    (x : Nat) (t : Task) (ht : t ∈ (c.st.comp x).tasks) (w : Nat) (hg : c.st.gen t.g = .wait w) :
    (c.st.wait w).flag = true ∧ 3 ≤ w6_phase c.st w :=
  w6_wait_task_needs_flag (h.cinv hi) x t ht w hg

/-- **no_residue**: in a reachable configuration in which every started wait state is finished (phase 4: resumed
    or timed out) no handler of kind waitEvent / waitDone / waitTick is left in any handler table. -/
theorem no_residue (s0 : St) (hi : W6InitWait s0) (c : Cfg) (h : W6ReachW s0.hs.length s0 c)
    (hall : ∀ w, w < c.st.waits.length → (c.st.wait w).started = true → w6_phase c.st w = 4) :
    ∀ x k hd, (k, hd) ∈ (c.st.comp x).htab → (c.st.handler hd).kind.w6_isWait = false :=
  w6_no_residue_of_cinv (h.cinv hi) hall

/-- a small initial state: one component, one pre-declared user handler, one program that removes it -/
def exampleInit : St :=
  { comps := [{ parent := 0, root := 0 }],
    hs := [{ owner := 0, names := [⟨1, []⟩], chan := none, kind := .user 0 }],
    progs := [[.rmH 0 none, .ret 1]] }

example : W6InitWait exampleInit := by
  refine ⟨rfl, rfl, ?_, ?_, ?_, ?_, ?_⟩
  · intro h hh
    have : h = 0 := by simp [exampleInit] at hh; exact hh
    subst this; rfl
  · intro c k h hm
    rcases c with _ | c <;> simp [exampleInit, St.comp, dfltComp] at hm
  · intro c
    rcases c with _ | c <;> simp [exampleInit, St.comp, dfltComp]
  · intro c
    rcases c with _ | c <;> simp [exampleInit, St.comp, dfltComp]
  · intro p hp a ha
    simp [exampleInit] at hp
    subst hp
    simp at ha
    rcases ha with ha | ha <;> subst ha <;> simp [Act.w6_hOk, exampleInit]

/-- admissible sessions exist: e.g. the one that starts with a `tick` -/
example : W6ReachW exampleInit.hs.length exampleInit (startOf (envChange exampleInit 0 []) (.tick 0)) :=
  W6ReachW.init 0 [] (.tick 0) trivial

/-- … and `do removeHandler(h)` of the pre-declared handler is an admissible external operation -/
example : ExtOp.w6ok exampleInit.hs.length (.doAct 0 (.rmH 0 none)) := by
  simp [ExtOp.w6ok, Act.w6_hOk, exampleInit]

/-! ## Part 3: never both, the other direction; the time-out is not early, counted -/

/-- **no_timeout_after_resume** (`never both`, the other direction), without a hypothesis on the handler lists in
    flight; it rests on the guards of the `waitEvent` closures (/repo commit 3ae7f53: stale closures do nothing once the
    outcome is decided).  After the resumption step of `w`, in every later configuration of the session: `w.flag` is
    (still) set; no `TimeoutError` carrier (`GenRec.exc w`) exists; the configuration is not the
    task step of such a carrier (the only step that logs `.timeout`, see `timeout_needs_exc`); and an invocation of
    `w`'s `_on_tick` closure - possible only from a handler list computed before `_on_done` removed the handler - changes
    nothing but the log entry of the invocation itself.  `stale_tick_regression` below is a run on which such a stale
    invocation happens with the countdown at 0. -/
theorem no_timeout_after_resume (s0 : St) (hi : W6InitWait s0) (c : Cfg) (h : W6ReachW s0.hs.length s0 c)
    (w : Nat) (hr : W6ResumesW c w) (c' : Cfg) (hl : W6Later s0.hs.length (step c) c') :
    (c'.st.wait w).flag = true ∧
    (∀ g b, c'.st.gen g ≠ .exc w b) ∧
    (∀ r t k b, c'.stack = .ptBody r t :: k → c'.st.gen t.g ≠ .exc w b) ∧
    (∀ r hh e k, c'.stack = .invoke r hh e :: k → c'.exn = none → (c'.st.handler hh).kind = .waitTick w →
      (step c').st = c'.w6_invokeSt hh e) :=
  w6b_no_timeout_after_resume (h.cinv hi) (h.excFin hi) w hr hl

/-- **stale closures are harmless**: an invocation of `w`'s `_on_tick` closure after `flag` or `timedOut` was set
    changes nothing but the log entry of the invocation (all configurations). -/
theorem stale_tick_is_noop (c : Cfg) (w r hh e : Nat) (k : List Frame) (hs : c.stack = .invoke r hh e :: k)
    (hx : c.exn = none) (hk : (c.st.handler hh).kind = .waitTick w)
    (hst : (c.st.wait w).flag = true ∨ (c.st.wait w).timedOut = true) : (step c).st = c.w6_invokeSt hh e :=
  w6b_stale_tick_noop c w r hh e k hs hx hk hst

/-- **stale_done_is_noop**: an invocation of `w`'s `_on_done` closure on a wait state whose `flag` is already set (a second
    `<name>_done` of the awaited event - an event object fired twice, as `Timer` does - or a stale invocation from a handler
    list computed before the resumption removed the handler) or that has timed out changes nothing but the log entry of
    the invocation (all configurations).  The guard is that of /repo commit f1fda66 ("waitEvent's _on_done does nothing
    once the awaited event is known to be done"); without it such an invocation registers the consumed callEvent generator
    a second time: the caller is resumed again at an unrelated `yield` and its event never completes
    (`waitingHandlers = -1`). -/
theorem stale_done_is_noop (c : Cfg) (w r hh e : Nat) (k : List Frame) (hs : c.stack = .invoke r hh e :: k)
    (hx : c.exn = none) (hk : (c.st.handler hh).kind = .waitDone w)
    (hst : (c.st.wait w).flag = true ∨ (c.st.wait w).timedOut = true) : (step c).st = c.w6_invokeSt hh e :=
  w6b_stale_done_noop c w r hh e k hs hx hk hst

/-- **stale_event_is_noop**: likewise for `_on_event` once the event was seen (`run`) or the wait timed out. -/
theorem stale_event_is_noop (c : Cfg) (w r hh e : Nat) (k : List Frame) (hs : c.stack = .invoke r hh e :: k)
    (hx : c.exn = none) (hk : (c.st.handler hh).kind = .waitEvent w)
    (hst : (c.st.wait w).run = true ∨ (c.st.wait w).timedOut = true) : (step c).st = c.w6_invokeSt hh e :=
  w6b_stale_event_noop c w r hh e k hs hx hk hst

/-- **the flag is set once, while the outcome is open**: a step that changes `w.flag` starts with `flag = timedOut = false`
    and ends with `flag = true`; as `flag` never goes back (`W6S.bits`), `_on_done` acts at most once per wait state. -/
theorem flag_set_only_when_open (c : Cfg) (w : Nat) (hne : ((step c).st.wait w).flag ≠ (c.st.wait w).flag) :
    (c.st.wait w).flag = false ∧ (c.st.wait w).timedOut = false ∧ ((step c).st.wait w).flag = true :=
  w6b_flag_set_when_open c w hne

/-- **the resumption task is registered at most once**: a task of `w`'s waitEvent generator that is new in a task set
    after a step was registered by `w`'s `_on_done` acting for the first time (`flag = timedOut = false` before the step,
    `flag = true` after it) - so a consumed callEvent / waitEvent generator is never registered again. -/
theorem resumption_task_registered_once (s0 : St) (hi : W6InitWait s0) (c : Cfg) (h : W6ReachW s0.hs.length s0 c)
    (x : Nat) (t' : Task) (hnew : t' ∈ ((step c).st.comp x).tasks) (hold : t' ∉ (c.st.comp x).tasks)
    (w : Nat) (hg : (step c).st.gen t'.g = .wait w) :
    (c.st.wait w).flag = false ∧ (c.st.wait w).timedOut = false ∧ ((step c).st.wait w).flag = true := by
  obtain ⟨r, hh, e, k, hs, hx, hk, _⟩ := (w6b_wait_exc_tasks_only_from_handlers (h.cinv hi) x t' hnew hold).1 w hg
  have hcomp := c.w6_invokeSt_comp hh e
  have open_ : ¬ ((c.st.wait w).flag = true ∨ (c.st.wait w).timedOut = true) := by
    intro hst
    rw [w6b_stale_done_noop c w r hh e k hs hx hk hst, hcomp] at hnew
    exact hold hnew
  have hfl' := (w6_wait_task_needs_flag (w6_step_cinv c (h.cinv hi)) x t' hnew w hg).1
  simp only [not_or, Bool.not_eq_true] at open_
  exact ⟨open_.1, open_.2, hfl'⟩

/-- **a carrier is created only while the outcome is open**: an `.exc w b` record after a step was there before, or is
    the record of the carrier's own task step, or was created by `w`'s own `_on_tick` closure at countdown 0 with
    neither `flag` nor `timedOut` set. -/
theorem exc_created_only_when_open (c : Cfg) (g w : Nat) (b : Bool) (hg : (step c).st.gen g = .exc w b) :
    c.st.gen g = .exc w b ∨
    (∃ r h e k, c.stack = .invoke r h e :: k ∧ c.exn = none ∧ (c.st.handler h).kind = .waitTick w ∧
      (c.st.wait w).timeout = 0 ∧ (c.st.wait w).flag = false ∧ (c.st.wait w).timedOut = false) ∨
    (∃ r t k b0, c.stack = .ptBody r t :: k ∧ c.exn = none ∧ c.st.gen t.g = .exc w b0) :=
  (w6_exc_step c g w b hg).imp id (Or.imp (fun ⟨r, h, e, k, a1, a2, a3, a4, a5, a6, _⟩ => ⟨r, h, e, k, a1, a2, a3, a4, a5, a6⟩)
    fun ⟨r, t, k, b0, a1, a2, a3, _⟩ => ⟨r, t, k, b0, a1, a2, a3⟩)

/-- **stale_tick_regression** (kernel-evaluated run of the model from `w6b_s0`: one hand-driven manager;
    `foo` = `x = yield call(bar(), timeout=0); yield; yield; yield`, `bar` = `return 7`, a `generate_events` handler that
    calls `stop()`, whose inline ticks resume the caller while the enclosing `_dispatcher` still holds the tick handler).
    The session reaches the resumption step of wait state 0 with the tick handler still pending in a handler loop, the
    result 7 is handed to the caller, the stale `_on_tick` IS invoked later with the countdown at 0 - with `flag` set -
    and after the following `tick()` the whole log contains exactly one outcome entry (the `.resumed` one, no
    `.timeout`) and no `TimeoutError` carrier exists. -/
theorem stale_tick_regression :
    W6InitWait w6b_s0 ∧ W6ReachW w6b_s0.hs.length w6b_s0 w6b_cR ∧ W6ResumesW w6b_cR 0 ∧
      w6b_hasStale w6b_cR 0 = true ∧
      Entry.resumed 0 0 1 (.single (.val 7)) false ∈ (step w6b_cR).st.log ∧
      W6Later w6b_s0.hs.length (step w6b_cR) w6b_cT ∧
      (∃ r hh e k, w6b_cT.stack = .invoke r hh e :: k ∧ w6b_cT.exn = none ∧ (w6b_cT.st.handler hh).kind = .waitTick 0 ∧
        (w6b_cT.st.wait 0).timeout = 0) ∧ (w6b_cT.st.wait 0).flag = true ∧
      W6Later w6b_s0.hs.length (step w6b_cR) w6b_cX ∧ done w6b_cX = true ∧ w6b_oneOutcome w6b_cX = true :=
  ⟨w6b_s0_init, w6b_cR_reach, w6b_isResume_spec _ _ w6b_cR_resume, w6b_cR_stale, w6b_cR_logs, w6b_cT_later,
   w6b_isTick0_spec _ _ w6b_cT_tick0, w6b_cT_flag, w6b_cX_later, w6b_cX_done, w6b_cX_one⟩

/-- **exc_only_when_finished**: a `TimeoutError` carrier of `w` exists only when `w` is finished (phase 4) - in
    particular never at or before the resumption step of `w` (which happens in phase 3). -/
theorem exc_only_when_finished (s0 : St) (hi : W6InitWait s0) (c : Cfg) (h : W6ReachW s0.hs.length s0 c)
    (g w : Nat) (b : Bool) (hg : c.st.gen g = .exc w b) : w6_phase c.st w = 4 :=
  h.excFin hi g w b hg

/-- **timeout_not_early**, counted across steps.  Let `c` be the configuration in which a user generator executes
    `yield call(…, timeout=n)` / `yield wait(…, timeout=n)` (`W6BBirth c n`); the wait state it creates is
    `w = c.st.waits.length`.  In every later configuration of the session in which a `TimeoutError` carrier of `w`
    exists, the log contains at least `n + 1` invocations (`.hinv _ 3 (task w)` entries) of `w`'s own `_on_tick`
    closure - one per dispatched `generate_events`, i.e. per loop iteration.  (`W6BInitLog s0`: the ghost log starts
    empty.) -/
theorem timeout_not_early (s0 : St) (hi : W6InitWait s0) (hl0 : W6BInitLog s0) (c : Cfg)
    (hr : W6ReachW s0.hs.length s0 c) (n : Nat) (hb : W6BBirth c n) (c' : Cfg)
    (hl : W6Later s0.hs.length (step c) c') (g' : Nat) (b : Bool)
    (hexc : c'.st.gen g' = .exc c.st.waits.length b) :
    n + 1 ≤ w6b_tickCount c'.st c.st.waits.length :=
  w6b_timeout_not_early hi hl0 hr hb hl hexc

/-- … hence the step that logs `.timeout` (the task step of an unfired carrier `.exc w' false`) comes after at least
    `n + 1` `_on_tick` invocations when `w'` is the wait state born in `c`. -/
theorem timeout_entry_not_early (s0 : St) (hi : W6InitWait s0) (hl0 : W6BInitLog s0) (c : Cfg)
    (hr : W6ReachW s0.hs.length s0 c) (n : Nat) (hb : W6BBirth c n) (c' : Cfg)
    (hl : W6Later s0.hs.length (step c) c') (es : List Entry) (hes : (step c').st.log = es ++ c'.st.log)
    (pe ph : Nat) (caught : Bool) (hx : Entry.timeout pe ph caught ∈ es) :
    ∃ r t k w', c'.stack = .ptBody r t :: k ∧ c'.exn = none ∧ c'.st.gen t.g = .exc w' false ∧
      (w' = c.st.waits.length → n + 1 ≤ w6b_tickCount c'.st w') :=
  w6b_timeout_entry_not_early hi hl0 hr hb hl hes hx

/-- the countdown potential `#(_on_tick invocations of w) + w.timeout − [a carrier of w exists]` never decreases
    along a session (it is constant while the countdown is positive) -/
theorem tick_potential_monotone (s0 : St) (hi : W6InitWait s0) (c : Cfg) (h : W6ReachW s0.hs.length s0 c) (c' : Cfg)
    (hl : W6Later s0.hs.length c c') (w : Nat) (hw : w < c.st.waits.length) :
    w6b_tickCount c.st w ≤ w6b_tickCount c'.st w ∧ w6b_phi c.st w ≤ w6b_phi c'.st w :=
  ⟨(W6Later.w6b_mono (h.cinv hi) hl w hw).1, (W6Later.w6b_mono (h.cinv hi) hl w hw).2.2⟩

example : W6BInitLog exampleInit := rfl
example : W6BInitLog w6b_s0 := rfl

/-- a generator about to execute `yield call(tmpl 0, timeout=2)` -/
example : W6BBirth { st := { gens := [.user 0 0 0 [.call 0 none (some 2) false] 0 none false] }, stack := [.stepGen 0] } 2 :=
  ⟨0, [], 0, 0, 0, _, [], 0, none, false, rfl, rfl, rfl, Or.inl ⟨_, _, _, rfl⟩⟩

/-! ## Part 4: the caller is not lost; transient tasks -/

/-- **caller_completes**, PARTIAL.  In the resumption step of `w` (top frame `.ptBody r t`, `t.g` is `w`'s waitEvent
    generator, its `_done` handler can be removed) the wait state has recorded an event `src`, and if the task's
    parent is a live user generator `p` then after the step `p` is RUNNING (`.stepGen p` on top of `.ptParent r t p
    false`), its step counter advanced, the resumption task is erased from the task set of `r`'s root, and the log gains
    exactly `.resumed pe ph src value errors`.
    FULL STATEMENT: without the hypotheses `t.parent = some p` and `c.st.gen p = .user …`.  NOT PROVED: the second, "the
    `parentGen` of a wait state in phase 1-3 is a suspended live user generator that no other task or frame refers to",
    needs an ownership invariant over tasks, generators, frames and wait states that `W6CInv` does not contain.  (A stale
    `_on_tick` of an earlier, already resumed wait state of the same caller cannot kill `p` while it is suspended in `w`:
    `no_timeout_after_resume`.)  The first (`t.parent ≠ none` for the task held in a `ptBody` frame) is proved here only
    for tasks in task sets (`transient_tasks_by_phase`); Part 5 proves it for guarded sessions. -/
theorem caller_completes_partial (s0 : St) (hi : W6InitWait s0) (c : Cfg) (h : W6ReachW s0.hs.length s0 c)
    (w r : Nat) (t : Task) (k : List Frame) (hs : c.stack = .ptBody r t :: k) (hx : c.exn = none)
    (hg : c.st.gen t.g = .wait w)
    (hok : (c.st.removeHandler (c.st.wait w).hDone (some ((c.st.wait w).evName.child sfxDone))).1 = true) :
    ∃ src, (c.st.wait w).event = some src ∧
      ∀ p, t.parent = some p → ∀ pe ph o rest st pc sd, c.st.gen p = .user pe ph o rest st pc sd →
        (step c).stack = .stepGen p :: .ptParent r t p false :: k ∧ (step c).exn = none ∧
        (step c).st.gen p = .user pe ph o rest (st + 1) pc true ∧
        (∀ x, ((step c).st.comp x).tasks =
          if x = c.st.rootOf r then (c.st.comp x).tasks.erase t else (c.st.comp x).tasks) ∧
        (step c).st.log = .resumed pe ph src (c.st.ev src).val.view (c.st.ev src).val.errors :: c.st.log :=
  w6b_caller_completes_partial (h.cinv hi) w r t k hs hx hg hok

/-- … and when the resumed caller yields a plain value again, it is back in the task set as an ordinary task
    `(event, caller, None)` (of the root of `r`, whenever that root is a declared component); when it yields another
    `call`/`wait`, it becomes the `parentGen` of that wait state. -/
theorem caller_registered_again (c : Cfg) (r : Nat) (t : Task) (p : Nat) (k : List Frame)
    (hs : c.stack = .ptParent r t p false :: k) (hx : c.exn = none) :
    (∀ v, c.ret.yield = .plain v →
      (step c).stack = k ∧ (step c).exn = none ∧
      ∀ s1, s1 = (c.st.modEv t.e fun x => { x with waiting := x.waiting - 1 }).setValueOpt t.e v →
        s1.rootOf r < s1.comps.length → (⟨t.e, p, none⟩ : Task) ∈ ((step c).st.comp (s1.rootOf r)).tasks) ∧
    (∀ w2, c.ret.yield = .sub w2 → w2 < c.st.waits.length →
      (step c).stack = k ∧ (step c).exn = none ∧
      ((step c).st.wait w2).parentGen = p ∧ ((step c).st.wait w2).taskEvent = t.e) := by
  refine ⟨fun v hy => ?_, fun w2 hy hw2 => ?_⟩
  · obtain ⟨a, b, _, d⟩ := w6b_ptParent_plain c r t p k v hs hx hy
    exact ⟨a, b, d⟩
  · obtain ⟨a, b, _, d⟩ := w6b_ptParent_sub c r t p k w2 hs hx hy hw2
    exact ⟨a, b, d⟩

/-- **task residue, transient form** (the naive "all waits finished ∧ empty stack ⇒ no wait/exc task" is false: after
    a time-out the TimeoutError task stays registered until the next tick).  (1) Task sets are duplicate-free.  (2) The
    task step of a waitEvent generator or of a TimeoutError carrier always consumes its task: afterwards `t` is gone
    from the task set of its root, and the only task the step can add is the caller `(t.e, p, None)`. -/
theorem transient_task_consumed (s0 : St) (hi : W6InitWait s0) (c : Cfg) (h : W6ReachW s0.hs.length s0 c)
    (r : Nat) (t : Task) (k : List Frame) (hs : c.stack = .ptBody r t :: k) (hx : c.exn = none)
    (hgen : (∃ w, c.st.gen t.g = .wait w) ∨ (∃ w b, c.st.gen t.g = .exc w b)) :
    (∀ x, (c.st.comp x).tasks.Nodup) ∧
    t ∉ ((step c).st.comp (c.st.rootOf r)).tasks ∧
    (∀ x t', t' ∈ ((step c).st.comp x).tasks →
      t' ∈ (c.st.comp x).tasks ∨ ∃ p, t.parent = some p ∧ t' = ⟨t.e, p, none⟩) := by
  have hnd := w6b_tasks_nodup hi.tasks h.reach
  obtain ⟨a, b⟩ := w6b_task_consumed c r t k hs hx hgen
  exact ⟨hnd, b (hnd _), a⟩

/-- **wait/exc tasks come only from the temporary handlers**: a task that is new in a task set after a step and whose
    generator is `w`'s waitEvent generator was registered by `w`'s own `_on_done` closure; one whose generator is a
    TimeoutError carrier of `w` (and that has a parent) by `w`'s own `_on_tick` closure at countdown 0.  Between such
    invocations the set of wait/exc tasks only shrinks.  (PARTIAL in the side condition `t'.parent ≠ none` of the
    second clause: excluding that `hApply`/`StopIteration` re-register an existing carrier id as an ordinary task
    needs a "generator references are not carriers" frame invariant that `W6CInv` does not contain.) -/
theorem wait_exc_tasks_only_from_handlers_partial (s0 : St) (hi : W6InitWait s0) (c : Cfg)
    (h : W6ReachW s0.hs.length s0 c) (x : Nat) (t' : Task)
    (hnew : t' ∈ ((step c).st.comp x).tasks) (hold : t' ∉ (c.st.comp x).tasks) :
    (∀ w, (step c).st.gen t'.g = .wait w →
      ∃ r hh e k, c.stack = .invoke r hh e :: k ∧ c.exn = none ∧ (c.st.handler hh).kind = .waitDone w ∧
        t' = ⟨(c.st.wait w).taskEvent, (c.st.wait w).task, some (c.st.wait w).parentGen⟩) ∧
    (∀ w b, (step c).st.gen t'.g = .exc w b → t'.parent ≠ none →
      ∃ r hh e k, c.stack = .invoke r hh e :: k ∧ c.exn = none ∧ (c.st.handler hh).kind = .waitTick w ∧
        (c.st.wait w).timeout = 0 ∧ b = false ∧
        t' = ⟨(c.st.wait w).taskEvent, c.st.gens.length, some (c.st.wait w).parentGen⟩) :=
  w6b_wait_exc_tasks_only_from_handlers (h.cinv hi) x t' hnew hold

/-- **which transient tasks can exist when**: a registered task of `w`'s waitEvent generator has a parent and `w.flag`
    is set; a TimeoutError carrier of `w` exists only when `w` is finished (phase 4) with the countdown at 0. -/
theorem transient_tasks_by_phase (s0 : St) (hi : W6InitWait s0) (c : Cfg) (h : W6ReachW s0.hs.length s0 c) :
    (∀ x t, t ∈ (c.st.comp x).tasks → ∀ w, c.st.gen t.g = .wait w →
      t.parent.isSome = true ∧ (c.st.wait w).flag = true ∧ 3 ≤ w6_phase c.st w) ∧
    (∀ g w b, c.st.gen g = .exc w b → w6_phase c.st w = 4 ∧ (c.st.wait w).timeout = 0) := by
  refine ⟨fun x t ht w hg => ?_, fun g w b hg => ?_⟩
  · obtain ⟨a, b⟩ := w6_wait_task_needs_flag (h.cinv hi) x t ht w hg
    exact ⟨w6b_wait_task_has_parent hi h x t ht w hg, a, b⟩
  · exact ⟨h.excFin hi g w b hg, (h.w6b_excInv hi g w b hg).2⟩

/-! ## Part 5 (with the task accounting of C04, CV/Proofs/InvTasks*.lean): the resumption task has a parent -/

/-- **caller_completes**, PARTIAL, without the hypothesis `t.parent ≠ none`.  In a session guarded by the two real restrictions of the task
    accounting (`T46ReachM2`: an admissible session on which no handler / task re-enters the task loop and no step changes the
    root of a component whose task loop is active), the task held by a `.ptBody r t` frame is still registered (`T46Inv`: at most
    one task is in flight and it is in the task set of its component), hence - being the task of a waitEvent generator - it HAS a
    parent `p` (`transient_tasks_by_phase`).  So
    the wait state has recorded an event `src`, the task has a parent `p`, and if `p` is a live user generator then after the step
    `p` is running, the resumption task is erased and the log gains exactly `.resumed pe ph src value errors`.
    NOT PROVED: "`p` IS a live user generator".  It needs the per-generator ownership count (every user generator is held by at most
    one of: its own task entry, a parent field of a task, a pending wait state, a `.ptParent` frame) on top of `T46Inv`; the
    accounting invariant bounds `waitingHandlers`, it does not say who holds a generator. -/
theorem caller_completes_parent_partial (s0 : St) (h0 : T46Init s0) (hi : W6InitWait s0) (hq : T46InitQ s0) (c : Cfg)
    (h : T46ReachM2 s0 c) (w r : Nat) (t : Task) (k : List Frame) (hs : c.stack = .ptBody r t :: k) (hx : c.exn = none)
    (hg : c.st.gen t.g = .wait w)
    (hok : (c.st.removeHandler (c.st.wait w).hDone (some ((c.st.wait w).evName.child sfxDone))).1 = true) :
    t ∈ (c.st.comp r).tasks ∧ c.st.rootOf r = r ∧
    ∃ src p, (c.st.wait w).event = some src ∧ t.parent = some p ∧
      ∀ pe ph o rest st pc sd, c.st.gen p = .user pe ph o rest st pc sd →
        (step c).stack = .stepGen p :: .ptParent r t p false :: k ∧ (step c).exn = none ∧
        (step c).st.gen p = .user pe ph o rest (st + 1) pc true ∧
        (∀ x, ((step c).st.comp x).tasks =
          if x = c.st.rootOf r then (c.st.comp x).tasks.erase t else (c.st.comp x).tasks) ∧
        (step c).st.log = .resumed pe ph src (c.st.ev src).val.view (c.st.ev src).val.errors :: c.st.log := by
  have hinv := (h.all h0 hi hq).2.1
  obtain ⟨hu, hmem, hk⟩ := hinv.top_ptBody hs
  have hroot := (T46Shape.under hu hk).1
  have hpar := w6b_wait_task_has_parent hi h.admissible r t hmem w hg
  obtain ⟨src, hsrc, hrest⟩ := caller_completes_partial s0 hi c h.admissible w r t k hs hx hg hok
  cases hp : t.parent with
  | none => rw [hp] at hpar; cases hpar
  | some p => exact ⟨hmem, hroot, src, p, hsrc, rfl, hrest p hp⟩

/-- **wait/exc tasks come only from the temporary handlers**, WITHOUT the side condition of
    `wait_exc_tasks_only_from_handlers_partial` (sessions guarded by the two restrictions of the task accounting).  A task that is
    new in a task set after a step and whose generator is a `TimeoutError` carrier of `w` was registered by `w`'s own `_on_tick`
    closure at countdown 0 - whether or not it has a parent: the other registration sites (`_dispatcher` for a generator returned
    by a handler, `StopIteration` / a plain yield re-registering the caller) only ever register generators that are not carriers
    (`tasks_well_formed_partial` of C04: the parent of a task, the caller of a wait state and a handler's generator are user
    generators, and the kind of a generator never changes). -/
theorem wait_exc_tasks_only_from_handlers (s0 : St) (h0 : T46Init s0) (hi : W6InitWait s0) (hq : T46InitQ s0) (c : Cfg)
    (h : T46ReachM2 s0 c) (x : Nat) (t' : Task)
    (hnew : t' ∈ ((step c).st.comp x).tasks) (hold : t' ∉ (c.st.comp x).tasks) :
    (∀ w, (step c).st.gen t'.g = .wait w →
      ∃ r hh e k, c.stack = .invoke r hh e :: k ∧ c.exn = none ∧ (c.st.handler hh).kind = .waitDone w ∧
        t' = ⟨(c.st.wait w).taskEvent, (c.st.wait w).task, some (c.st.wait w).parentGen⟩) ∧
    (∀ w b, (step c).st.gen t'.g = .exc w b →
      ∃ r hh e k, c.stack = .invoke r hh e :: k ∧ c.exn = none ∧ (c.st.handler hh).kind = .waitTick w ∧
        (c.st.wait w).timeout = 0 ∧ b = false ∧
        t' = ⟨(c.st.wait w).taskEvent, c.st.gens.length, some (c.st.wait w).parentGen⟩) := by
  obtain ⟨p1, p2⟩ := wait_exc_tasks_only_from_handlers_partial s0 hi c h.admissible x t' hnew hold
  refine ⟨p1, fun w b hg => ?_⟩
  by_cases hpar : t'.parent = none
  · exfalso
    obtain ⟨_, hinv, htp⟩ := h.all h0 hi hq
    have hK := t46_step_K hinv htp (h.admissible.cinv hi) (t46_reach_rq hq _ h.admissible.reach)
    have hno : ∀ g, c.st.t46_nc g → t'.g = g → False := by
      intro g hnc hgeq
      have := (hnc.mono hK).2
      rw [← hgeq, hg] at this
      cases this
    obtain ⟨_, hc⟩ := w6b_new_task_cases c x t' hnew hold
    unfold W6BNewTask at hc
    rcases hc with ⟨r, e, rest, err, g, k, hs, rfl⟩ | ⟨r, t, k, p, hs, hp, rfl⟩ | ⟨r, t, p, k, hs, rfl⟩ |
      ⟨r, t, p, k, hs, rfl, _⟩ | ⟨r, hh, e, k, w0, hs, hk, rfl⟩ | ⟨r, hh, e, k, w0, hs, hk, h0', rfl⟩
    · exact hno g (htp.frames (.hApply r e rest err (.gen g)) (by rw [hs]; simp) g rfl) rfl
    · rcases hs with hs | hs | ⟨p', v, hs⟩
      · exact hno p ((htp.tasks r t (hinv.top_ptBody hs).2.1).parent_nc hp) rfl
      · exact hno p ((htp.tasks r t (hinv.top_ptOwn hs).2.1).parent_nc hp) rfl
      · have := htp.frames (.ptParent r t p' v) (by rw [hs]; simp)
        exact hno p (this.2.2 p hp) rfl
    · have := htp.frames (.ptParent r t p false) (by rw [hs]; simp)
      exact hno p this.2.1 rfl
    · cases hpar
    · cases hpar
    · cases hpar
  · exact p2 w b hg hpar

/-- non-vacuity: sessions guarded by the two restrictions exist from `exampleInit` -/
example : T46ReachM2 exampleInit (startOf (envChange exampleInit 0 []) (.tick 0)) := T46ReachM2.init 0 [] (.tick 0) trivial

example : T46Init exampleInit := by
  refine ⟨fun x => ?_, rfl, fun e => ?_⟩
  · rcases x with _ | x <;> simp [exampleInit, St.comp, dfltComp]
  · have : exampleInit.ev e = dfltEv := by unfold St.ev; simp [exampleInit]
    rw [this]; decide

example : T46InitQ exampleInit :=
  T46InitQ.of_empty _ (fun x => by rcases x with _ | x <;> simp [exampleInit, St.comp, dfltComp, EQ])
    (fun i tm h => by simp [exampleInit] at h)

end CV.C06
