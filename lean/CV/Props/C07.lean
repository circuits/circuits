import CV.Proofs.InvForest
import CV.Proofs.InvAnnounce
import CV.Proofs.InvPending
import CV.Proofs.InvLoop
import CV.Proofs.InvCache
/-
C07 — the component tree stays a consistent forest under register / unregister.

Machine-level theorems about the small-step core machine (`CV.Model.Core.Step`), over every
configuration a driver session can reach (`CV.Core.Reach`, CV/Proofs/CoreReach.lean) from a state
in which every component is a detached root (`InitForest`); `ForestInv` holds in EVERY reachable
configuration, not only between operations.  Proofs under CV/Proofs: the forest and the two steps
that change the tree in InvForest.lean, "announced once" in InvAnnounce.lean; `section pending`
(a draining unregistration does detach) rests on InvPending.lean with C05's accounting
(InvEffects.lean), the dispatch loop (InvLoop.lean) and C01's cache invariant (InvCache.lean).
-/
namespace CV.C07
open CV.Core

/-- **Forest invariant.**  In every reachable configuration parent and child links agree, every
    component has exactly one parent (itself for a root), there are no cycles, and `root` is
    the root of the parent (or the component itself for a root). -/
theorem forest_inv (s0 : St) (h0 : InitForest s0) (c : Cfg) (hr : Reach s0 c) : ForestInv c.st :=
  (FInv.reach h0 c hr).forest

/-- **Root is the top of the tree.**  `x.root` is `x` or an ancestor of `x` (reached by parent
    links), it is its own parent, and it is the only ancestor-or-self of `x` that is its own parent. -/
theorem root_is_top (s0 : St) (h0 : InitForest s0) (c : Cfg) (hr : Reach s0 c) (x : Nat)
    (hx : x < c.st.comps.length) :
    Anc c.st (c.st.comp x).root x ∧
    (c.st.comp (c.st.comp x).root).parent = (c.st.comp x).root ∧
    ∀ a, Anc c.st a x → (c.st.comp a).parent = a → a = (c.st.comp x).root := by
  have hF := forest_inv s0 h0 c hr
  exact ⟨(hF.root_is_top x hx).1, (hF.root_is_top x hx).2, fun a ha hp => hF.root_unique a x hx ha hp⟩

/-- **Subtrees are connected.**  Every component reachable from `a` through `children` links has
    the same root as `a`. -/
theorem subtree_connected (s0 : St) (h0 : InitForest s0) (c : Cfg) (hr : Reach s0 c) (a d : Nat)
    (ha : a < c.st.comps.length) (hs : Sub c.st a d) : (c.st.comp d).root = (c.st.comp a).root :=
  (forest_inv s0 h0 c hr).subtree_root a d ha hs

/-- **A registered subtree moves as a whole.**  The step that executes an admissible
    `x.register(p)` (`p ≠ x`) in a configuration whose tree is a forest (every reachable one, by
    `forest_inv`) hangs `x` under `p` and gives every member of `x`'s subtree the root of `p`. -/
theorem register_moves_subtree (c : Cfg) (hF : ForestInv c.st) (x p : Nat) (k : List Frame)
    (hst : c.stack = .register x p :: k) (hx : c.exn = none) (hadm : c.st.admissible x p = true) (hpx : p ≠ x) :
    ((step c).st.comp x).parent = p ∧ x ∈ ((step c).st.comp p).children ∧
    ((step c).st.comp p).root = (c.st.comp p).root ∧
    ∀ d, Sub (step c).st x d → ((step c).st.comp d).root = (c.st.comp p).root := by
  rw [step_register c x p k hst hx hadm]
  exact (register_step_tree hF x p hadm hpx).2

/-- **A detached subtree stays connected.**  The step that runs `_on_prepare_unregister_complete`
    of an attached component `o` removes `o` from its parent's children, makes it its own parent
    and gives every member of `o`'s subtree the root `o`; the tree is a forest again at once. -/
theorem detach_moves_subtree (c : Cfg) (hF : ForestInv c.st) (r h e : Nat) (k : List Frame)
    (hst : c.stack = .invoke r h e :: k) (hx : c.exn = none)
    (hk : (c.st.handler h).kind = HKind.prepUnregComplete)
    (ho : (c.st.handler h).owner < c.st.comps.length)
    (hne : (c.st.comp (c.st.handler h).owner).parent ≠ (c.st.handler h).owner) :
    let o := (c.st.handler h).owner
    ForestInv (step c).st ∧ ((step c).st.comp o).parent = o ∧
    o ∉ ((step c).st.comp (c.st.comp o).parent).children ∧
    ∀ d, Sub (step c).st o d → ((step c).st.comp d).root = o := by
  intro o
  rw [step_detach c r h e k hst hx hk]
  obtain ⟨h1, _, h3, h4, h5⟩ := detach_step_tree (hF.logE (Entry.hinv e 4 o)) o ho hne
  refine ⟨h1, ?_, ?_, h5⟩
  · rw [h3, if_pos rfl]
  · rw [h4]
    split
    · intro hm
      exact ((hF.childrenNodup _ (hF.parentLt o ho)).mem_erase_iff.mp hm).1 rfl
    · rename_i hh; exact absurd rfl hh

/-- **Announced once (registered).**  The step of frame `.registerFin x` appends exactly one log
    entry: the `fire` of a fresh event named `registered`, on `x`'s channel. -/
theorem announced_registered (c : Cfg) (x : Nat) (k : List Frame)
    (hst : c.stack = .registerFin x :: k) (hx : c.exn = none) :
    (step c).st.log = Entry.fire c.st.evs.length Name.registered [(c.st.comp x).chan] 0 :: c.st.log := by
  rw [step_cons c _ k hst hx]
  exact Cfg.registerFin_log c k x

/-- … and the registering step itself (frame `.register x p`, whatever its outcome) logs nothing:
    one `register` operation contributes exactly the one `registered` of its `.registerFin` step. -/
theorem register_silent (c : Cfg) (x p : Nat) (k : List Frame)
    (hst : c.stack = .register x p :: k) (hx : c.exn = none) : (step c).st.log = c.st.log := by
  rw [step_cons c _ k hst hx]
  exact Cfg.register_log c k x p

/-- **Announced once (unregistered).**  The detaching step appends the handler-invocation entry and
    exactly one `fire`, of a fresh event named `unregistered`. -/
theorem announced_unregistered (c : Cfg) (r h e : Nat) (k : List Frame)
    (hst : c.stack = .invoke r h e :: k) (hx : c.exn = none)
    (hk : (c.st.handler h).kind = HKind.prepUnregComplete) :
    ∃ chans, (step c).st.log =
      Entry.fire c.st.evs.length Name.unregistered chans 0 ::
        Entry.hinv e 4 (c.st.handler h).owner :: c.st.log := by
  rw [step_cons c _ k hst hx]
  exact Cfg.invoke_detach_log c k r h e hk

/-- hypothesis of `announced_only_partial`: no user template is named `registered` / `unregistered`,
    and the session has no timers -/
def InitQuiet (s0 : St) : Prop := TmplOk s0.tmpls ∧ s0.timers = []

/-- **No other source of announcements** (partial).  In a session without timers whose user
    templates do not use the names `registered` / `unregistered`, every step whose top frame is not
    `.registerFin x` or the `.invoke` of an `_on_prepare_unregister_complete` handler appends only
    log entries that are not the `fire` of an event named `registered` / `unregistered`.  With
    `announced_registered`, `register_silent` and `announced_unregistered`: the `fire registered`
    entries of a log are in one-to-one correspondence with the completed registrations (their
    `.registerFin` steps), the `fire unregistered` entries with the detach steps.

    FULL statement: the same with the hypothesis weakened to
    `TmplOk s0.tmpls ∧ ∀ tm ∈ s0.timers, tm.ev = none` (timers allowed).  Obstacle: `Timer._on_generate_events` (`St.timerTick`) fires a STORED event
    object (`tm.ev`), so its name is read from the event table; one needs the additional invariant
    "every stored timer event is in range and carries its template's name, and no `modEv` of the
    model changes a name" - a second pass over all arms with side conditions on `modEv`/`modTimer`,
    not done here.  It is a proof gap, not a counter-example: the harness agrees with the model on
    timer scenarios. -/
theorem announced_only_partial (s0 : St) (hq : InitQuiet s0) (c : Cfg) (hr : Reach s0 c)
    (hf : ∀ f k, c.stack = f :: k → c.exn = none → ¬ f.announces c.st) :
    ∃ es, (step c).st.log = es ++ c.st.log ∧ ∀ x, x ∈ es → ¬ RegFire x :=
  step_quiet c ((reach_tmpls_timers c hr).1 ▸ hq.1) (reach_timers hq.2 c hr) hf

/-- **Queued events are not lost.**  The registering step appends the deque of the registered
    component to the deque of its new root (as lists: old root queue ++ old child queue) and leaves
    the child's deque empty. -/
theorem queued_not_lost (c : Cfg) (hF : ForestInv c.st) (x p : Nat) (k : List Frame)
    (hst : c.stack = .register x p :: k) (hx : c.exn = none) (hadm : c.st.admissible x p = true) (hpx : p ≠ x) :
    ((step c).st.comp (c.st.comp p).root).eq.queue =
        (c.st.comp (c.st.comp p).root).eq.queue ++ (c.st.comp x).eq.queue ∧
    ((step c).st.comp x).eq.queue = [] := by
  rw [step_register c x p k hst hx hadm]
  rw [St.updateRootAll_queue, St.updateRootAll_queue]
  exact St.registerPre_queue hF x p hadm hpx

/-- **Nothing further from the former tree.**  After the detaching step no member of the detached
    subtree is reachable from the former root through `children` links, … -/
theorem nothing_after_detach (c : Cfg) (hF : ForestInv c.st) (r h e : Nat) (k : List Frame)
    (hst : c.stack = .invoke r h e :: k) (hx : c.exn = none)
    (hk : (c.st.handler h).kind = HKind.prepUnregComplete)
    (ho : (c.st.handler h).owner < c.st.comps.length)
    (hne : (c.st.comp (c.st.handler h).owner).parent ≠ (c.st.handler h).owner) :
    let o := (c.st.handler h).owner
    ∀ d, Sub (step c).st o d → ¬ Sub (step c).st (c.st.comp o).root d := by
  intro o
  rw [step_detach c r h e k hst hx hk]
  exact detach_unreachable (hF.logE _) o ho hne

/-- … so `getHandlers` (`collect`) of the former root returns only handlers that match at a
    component outside the detached subtree: whatever the former root dispatches from now on, no
    handler of the detached subtree is among the handlers it computes. -/
theorem nothing_after_detach_handlers (c : Cfg) (hF : ForestInv c.st) (r h e : Nat) (k : List Frame)
    (hst : c.stack = .invoke r h e :: k) (hx : c.exn = none)
    (hk : (c.st.handler h).kind = HKind.prepUnregComplete)
    (ho : (c.st.handler h).owner < c.st.comps.length)
    (hne : (c.st.comp (c.st.handler h).owner).parent ≠ (c.st.handler h).owner)
    (fuel : Nat) (name : Name) (target : Chan) (g : Nat) :
    let o := (c.st.handler h).owner
    g ∈ collect (step c).st fuel (c.st.comp o).root name target →
      ∃ d, matchesAt (step c).st d name target g ∧ ¬ Sub (step c).st o d := by
  intro o
  rw [step_detach c r h e k hst hx hk]
  exact detach_collect (hF.logE _) o ho hne fuel name target g

def exInit : St := { comps := [{ parent := 0, root := 0 }, { parent := 1, root := 1 }] }

example : InitForest exInit := by unfold InitForest; decide

/-- the hypotheses of `register_moves_subtree` / `queued_not_lost` / `register_silent` hold in a
    reachable configuration: one step into `do 0 (reg 1 0)` -/
example : ∃ c, Reach exInit c ∧ ∃ k, c.stack = .register 1 0 :: k ∧ c.exn = none ∧
    c.st.admissible 1 0 = true ∧ (0 : Nat) ≠ 1 :=
  ⟨_, Reach.step (Reach.init 0 [] (.doAct 0 (.reg 1 0))), _, rfl, rfl, by decide, by decide⟩

/-- … and two steps later the hypothesis of `announced_registered` -/
example : ∃ c, Reach exInit c ∧ ∃ k, c.stack = .registerFin 1 :: k ∧ c.exn = none :=
  ⟨_, Reach.step (Reach.step (Reach.init 0 [] (.doAct 0 (.reg 1 0)))), _, rfl, rfl⟩

example : InitQuiet exInit := ⟨fun t ht => (by cases ht), rfl⟩

/-- the frame hypothesis of `announced_only_partial` holds e.g. at the start of every operation -/
example : ∀ f k, (startOf (envChange exInit 0 []) (.tick 0)).stack = f :: k →
    (startOf (envChange exInit 0 []) (.tick 0)).exn = none →
    ¬ f.announces (startOf (envChange exInit 0 []) (.tick 0)).st := by
  intro f k h _
  have : f = .tick 0 := by
    have h' : [Frame.tick 0] = f :: k := h
    injection h' with h1 _
    exact h1.symm
  subst this
  exact fun h => h

/-- component 1 attached under 0, about to run its `_on_prepare_unregister_complete` (handler 0) -/
def exDetach : Cfg :=
  { st := { comps := [{ parent := 0, root := 0, children := [1] }, { parent := 0, root := 0 }],
            hs := [{ owner := 1, names := [], chan := none, kind := .prepUnregComplete }] },
    stack := [.invoke 0 0 0] }

/-- the hypotheses of `detach_moves_subtree` / `announced_unregistered` / `nothing_after_detach` -/
example : ForestInv exDetach.st ∧ exDetach.stack = .invoke 0 0 0 :: [] ∧ exDetach.exn = none ∧
    (exDetach.st.handler 0).kind = HKind.prepUnregComplete ∧
    (exDetach.st.handler 0).owner < exDetach.st.comps.length ∧
    (exDetach.st.comp (exDetach.st.handler 0).owner).parent ≠ (exDetach.st.handler 0).owner := by
  refine ⟨⟨by decide, by decide, ?_, by decide, by decide, ⟨fun c => c, by decide⟩, by decide⟩,
    rfl, rfl, rfl, by decide, by decide⟩
  intro c d hc hd
  have hc' : c = 0 ∨ c = 1 := by change c < 2 at hc; omega
  rcases hc' with rfl | rfl
  · have : d = 1 := by simpa [exDetach, St.comp] using hd
    subst this; decide
  · simp [exDetach, St.comp] at hd

section pending
open CV.Core.C05 CV.Core.Live

/-! ### an unregistration whose closure drains does complete (`pending_resolves_partial`)

`unregister()` sets `_unregister_pending` and fires `prepare_unregister(self)` with
`complete = True`, `complete_channels = (self,)` (`St.unregister`).  C05 counts the event's closure
in `event.effects`; the `_effectDone` iteration that takes the count to 0 fires
`prepare_unregister_complete` to the component; the dispatch of THAT event calls the component's
`_on_prepare_unregister_complete`, whose step is the detach step of `detach_moves_subtree`
(it clears the flag). -/

/-- **A draining unregistration completes** (partial: guarded runs of C05).  `e` is the
    `prepare_unregister` event of component `x` (name, `complete`, `complete_channels = (x,)` as
    `unregister()` builds it), tracked, and this `_effectDone` iteration takes its count to 0.
    Then (a) its closure HAS drained - its own handlers are done and no event is linked under it
    (C05 `complete_only_when_drained_partial`); (b) the step fires exactly one fresh event
    `prepare_unregister_complete` on channel `x`; (c) `e` is untracked afterwards, so this happens
    once.  With C05 `complete_when_quiescent_partial` (a tracked event is never stuck at count 0
    between runs) and `complete_dispatch_detaches` below: once the closure has drained the
    completion event is on its way to the component.

    FULL statement: the same over `Reach`.  (b) and (c) hold from every configuration; (a) is false
    without C05's `Guard` (`pending_resolves_witness`: a handler of the event that runs the task loop
    while a generator handler of the same event is pending makes `_eventDone` go through twice, and
    the `_complete` event - here `prepare_unregister_complete`, hence the detach - comes while an
    event fired by one of its handlers is still being handled).  Known finding of C05. -/
theorem pending_resolves_partial {s0 : St} (h0 : InitEff s0) (c : Cfg) (hr : ReachG s0 c)
    (r e x : Nat) (k : List Frame) (hs : c.stack = .effectDone r e true :: k) (hx : c.exn = none)
    (hname : (c.st.ev e).name = Name.prepareUnregister) (hcomp : (c.st.ev e).complete = true)
    (hch : (c.st.ev e).completeChans = some [.inst x])
    (htr : (c.st.ev e).cause ≠ none) (hz : ¬ ((c.st.ev e).effects - 1 > 0)) :
    ((c.st.ev e).selfDone = true ∧ ∀ y, y ≠ e → (c.st.ev y).cause ≠ some e) ∧
    (step c).st.log =
      Entry.fire c.st.evs.length (Name.prepareUnregister.child sfxComplete) [.inst x] 0 :: c.st.log ∧
    ((step c).st.ev e).cause = none ∧ ((step c).st.ev e).effects = 0 := by
  obtain ⟨P, hP⟩ := Option.ne_none_iff_exists'.mp htr
  refine ⟨(reachG_cinv h0 c hr).drained hs htr hz, ?_, ?_⟩
  · rw [step_cons c _ k hs hx]
    show (c.effectDone k r e true).st.log = _
    rw [Cfg.effectDone_st, effectDone1_complete_log c.st r e P hP hz hcomp, hname, hch]
    rfl
  · exact step_effectDone_cleared c r e P true k hs hx hP hz

/-- **The completion event detaches the component.**  `_dispatcher(e)` on a root `r` (reachable
    configuration, `e` not cancelled - in particular the `prepare_unregister_complete` event of
    `pending_resolves_partial`) where `h`, the `_on_prepare_unregister_complete` handler of `x`,
    is registered (it matches `e` at a component of `r`'s tree, C01): if the dispatcher call runs
    to its end then `h` was called on the way - and that call is the detach step: afterwards
    `_unregister_pending` of `x` is cleared - or the event was stopped by a handler of at least
    `h`'s priority (`CutAt`).  The stuck case of DESIGN §6 C07 (the parent was detached first, `x`
    is no longer in the tree of the root that dispatches the event) is exactly the failure of the
    hypothesis `hreg`. -/
theorem complete_dispatch_detaches (s0 : St) (h0 : InitForest s0) (hH : InitHandlers s0)
    (hC : InitCache s0) (c : Cfg) (hc : Reach s0 c) (r e remaining : Nat) (k : List Frame)
    (hst : c.stack = .dispatcher r e remaining :: k) (hx : c.exn = none)
    (hr : (c.st.comp r).root = r) (hcan : (c.st.ev e).cancelled = false)
    (h : Nat) (hk : ((step c).st.handler h).kind = .prepUnregComplete)
    (hreg : ∃ ch, ch ∈ (c.st.ev e).chans ∧ ∃ d, ReachIn (step c).st (step c).st.comps.length r d ∧
      matchesAt (step c).st d (c.st.ev e).name ch h)
    (c' : Cfg) (err' : Bool) (hrun : RunAbove k (step c) c') (hfin : c'.stack = .dispFin r e err' :: k) :
    (∃ c1 k1, RunAbove k (step c) c1 ∧ RunAbove k c1 c' ∧ c1.stack = .invoke r h e :: k1 ∧ c1.exn = none ∧
      (c1.st.handler h).kind = .prepUnregComplete ∧
      ((c1.st.handler h).owner < c1.st.comps.length →
        ((step c1).st.comp (c1.st.handler h).owner).pending = false)) ∨
    CutAt k r e (step c) c' := by
  rcases registered_handler_called h0 hH hC c hc r e remaining k hst hx hr hcan h
      (handler_lt_of_kind (by rw [hk]; intro hh; cases hh)) hreg c' err' hrun hfin with
    ⟨c1, rest, err, stale, r1, r2, hs1, hx1, hh1⟩ | hcut
  · have hk1 : (c1.st.handler h).kind = .prepUnregComplete := by rw [hh1]; exact hk
    refine .inl ⟨c1, _, r1, r2, hs1, hx1, hk1, fun ho => ?_⟩
    rw [step_detach c1 r h e _ hs1 hx1 hk1, updateRootAll_pending]
    exact prepUnregPre_pending _ _ ho
  · exact .inr hcut

/-! ### the excluded case of `pending_resolves_partial` is real (model; C05's known finding) -/

/-- Clause (a) with `Reach` in place of `ReachG` is false.  This is C05's witness run (`s0w`,
    `cw2 87`: a handler of the complete-requesting event `foo` fires `bar`, a second one is a
    generator, a third one calls `stop()`, whose inline ticks make `_eventDone(foo)` go through
    twice): the top frame is the `_effectDone` iteration that takes the tracked event `e` to 0
    and fires `e_complete`, while an event `y` is still linked under `e`.  `_eventDone` /
    `_effectDone` never look at the event's name, and `unregister()` builds its
    `prepare_unregister` event as an ordinary complete-requesting event; the same three handlers
    installed for `prepare_unregister` of a child component give the same configuration after the
    same 87 steps of `flush()` (evaluated with `#eval` on the model; the kernel cannot replay THAT
    run, because `unregister()` invalidates the handler cache and the rebuild sorts three handlers
    with `List.mergeSort`, which `decide +kernel` does not unfold - the reason why the witness is
    stated with the name `foo`). -/
theorem pending_resolves_witness : InitEff s0w ∧ ∃ c, Reach s0w c ∧
    ∃ r e a k y, c.stack = .effectDone r e a :: k ∧ c.exn = none ∧ (c.st.ev e).cause ≠ none ∧
      (c.st.ev e).complete = true ∧ a = true ∧ ¬ ((c.st.ev e).effects - 1 > 0) ∧
      y ≠ e ∧ (c.st.ev y).cause = some e :=
  ⟨s0w_init, cw2 87, cw2_reach 87, earlyComplete_spec _ cw2_early⟩

/-- two detached components; component 1 carries its `_on_prepare_unregister_complete` handler 0 -/
def sQ : St :=
  { comps := [{ parent := 0, root := 0 },
              { parent := 1, root := 1, htab := [(some (Name.prepareUnregister.child sfxComplete), 0)] }],
    hs := [{ owner := 1, names := [Name.prepareUnregister.child sfxComplete], chan := some (.inst 1),
             kind := .prepUnregComplete }] }

abbrev qRun (s : St) (op : ExtOp) (n : Nat) : Cfg := runN n (startOf (envChange s 0 []) op)
/-- `c1.register(c0)`, `flush()`, `c1.unregister()`, `flush()` -/
def q1 : Cfg := qRun sQ (.doAct 0 (.reg 1 0)) 20
def q2 : Cfg := qRun q1.st (.flush 0) 40
def q3 : Cfg := qRun q2.st (.doAct 0 (.unreg 1)) 20
def q4 : Cfg := qRun q3.st (.flush 0) 40
/-- six steps into the flush after `unregister()`: `_effectDone` of the `prepare_unregister` event 1 -/
def qP : Cfg := qRun q3.st (.flush 0) 6
/-- two steps into the next flush: `_dispatcher` of the `prepare_unregister_complete` event 2 -/
def qD : Cfg := qRun q4.st (.flush 0) 2
def qK : List Frame := [.dispatchLoop 0, .flushFin 0 false]

theorem sQ_init : InitEff sQ ∧ InitForest sQ ∧ InitHandlers sQ ∧ InitCache sQ :=
  ⟨⟨rfl, fun _ => rfl⟩, by unfold InitForest; decide +kernel,
   plain_tables_of_bounded _ (by decide +kernel), caches_empty_of_bounded _ (by decide +kernel)⟩

/-- the session to `q4`, evaluated once: the first three operations run under C05's guard, and all four end -/
theorem q_facts :
    ((∀ i, i < 20 → guardB (runN i (startOf (envChange sQ 0 []) (.doAct 0 (.reg 1 0)))) = true) ∧ done q1 = true) ∧
    ((∀ i, i < 40 → guardB (runN i (startOf (envChange q1.st 0 []) (.flush 0))) = true) ∧ done q2 = true) ∧
    ((∀ i, i < 20 → guardB (runN i (startOf (envChange q2.st 0 []) (.doAct 0 (.unreg 1)))) = true) ∧ done q3 = true) ∧
    done q4 = true := by decide +kernel

theorem q3_reachG : ReachG sQ q3 := by
  obtain ⟨⟨g1, d1⟩, ⟨g2, d2⟩, ⟨g3, _⟩, _⟩ := q_facts
  have r1 : ReachG sQ q1 := ReachG.runN 20 (.init 0 [] _) g1
  have r2 : ReachG sQ q2 := ReachG.runN 40 (.next 0 [] _ r1 d1) g2
  exact ReachG.runN 20 (.next 0 [] _ r2 d2) g3

/-- all hypotheses of `pending_resolves_partial` hold on a guarded run -/
example : InitEff sQ ∧ ReachG sQ qP ∧ qP.stack = .effectDone 0 1 true :: qK ∧ qP.exn = none ∧
    (qP.st.ev 1).name = Name.prepareUnregister ∧ (qP.st.ev 1).complete = true ∧
    (qP.st.ev 1).completeChans = some [.inst 1] ∧ (qP.st.ev 1).cause ≠ none ∧
    ¬ ((qP.st.ev 1).effects - 1 > 0) :=
  -- one evaluation of the run for all the facts read off it
  have h : (done q3 = true ∧ ∀ i, i < 6 → guardB (runN i (startOf (envChange q3.st 0 []) (.flush 0))) = true) ∧
      qP.stack = .effectDone 0 1 true :: qK ∧ qP.exn = none ∧
      (qP.st.ev 1).name = Name.prepareUnregister ∧ (qP.st.ev 1).complete = true ∧
      (qP.st.ev 1).completeChans = some [.inst 1] ∧ (qP.st.ev 1).cause ≠ none ∧
      ¬ ((qP.st.ev 1).effects - 1 > 0) := by decide +kernel
  ⟨sQ_init.1, ReachG.runN 6 (.next 0 [] _ q3_reachG h.1.1) h.1.2, h.2⟩

theorem qD_reach : Reach sQ qD := by
  have h4 : Reach sQ q4 := Reach.runN (.next 0 [] _ q3_reachG.reach q_facts.2.2.1.2) 40
  exact Reach.runN (.next 0 [] _ h4 q_facts.2.2.2) 2

/-- all hypotheses of `complete_dispatch_detaches` hold in a reachable configuration -/
example : Reach sQ qD ∧ qD.stack = .dispatcher 0 2 0 :: qK ∧ qD.exn = none ∧
    (qD.st.comp 0).root = 0 ∧ (qD.st.ev 2).cancelled = false ∧
    ((step qD).st.handler 0).kind = .prepUnregComplete ∧
    (∃ ch, ch ∈ (qD.st.ev 2).chans ∧ ∃ d, ReachIn (step qD).st (step qD).st.comps.length 0 d ∧
      matchesAt (step qD).st d (qD.st.ev 2).name ch 0) ∧
    RunAbove qK (step qD) (runN 6 (step qD)) ∧ (runN 6 (step qD)).stack = .dispFin 0 2 false :: qK := by
  -- one evaluation of the run for all the facts read off it
  have h : qD.stack = .dispatcher 0 2 0 :: qK ∧ qD.exn = none ∧ (qD.st.comp 0).root = 0 ∧
      (qD.st.ev 2).cancelled = false ∧ ((step qD).st.handler 0).kind = .prepUnregComplete ∧
      Chan.inst 1 ∈ (qD.st.ev 2).chans ∧ (step qD).st.comps.length = 1 + 1 ∧
      1 ∈ ((step qD).st.comp 0).children ∧ (runN 6 (step qD)).stack = .dispFin 0 2 false :: qK := by decide +kernel
  refine ⟨qD_reach, h.1, h.2.1, h.2.2.1, h.2.2.2.1, h.2.2.2.2.1, ⟨.inst 1, h.2.2.2.2.2.1, 1, ?_, ?_⟩, ?_,
    h.2.2.2.2.2.2.2.2⟩
  · rw [h.2.2.2.2.2.2.1]
    exact .step 1 0 1 1 h.2.2.2.2.2.2.2.1 (.here 1 1)
  · unfold matchesAt installedFor; decide +kernel
  · exact RunAbove.ofRunN 6 (.refl (above_of_B (by decide +kernel))) (by decide +kernel)

end pending

end CV.C07
