import CV.Proofs.InvTimer
import CV.Proofs.InvLoop
import CV.Proofs.InvCache
import CV.Proofs.InvForest
/-
C09 — Timers never fire early, fire as often as specified, and bound the idle sleep.

Machine-level theorems about the small-step core machine (`CV.Model.Core.Step`), stated over
`Reach s0 c` (every configuration a driver session can produce from `s0`, CoreReach.lean) or,
where no invariant is needed, over EVERY configuration `c`.  Proofs: CV/Proofs/InvTimerQ.lean
(the relation "quiet code" through all arms of `step`) and CV/Proofs/InvTimer.lean.

Vocabulary (all ghost-free: read off the log, the stack and the tables)
  * `FiredIn c t`   the step `c ↦ step c` logs `.fire te …` where `te` is (after the step) the one
                    event object `Timer.event` of timer `t`  — "timer t fires";
  * `IdleIn c d`    the step logs `.idle d`                    — "the loop sleeps d ticks";
  * `TimerCall c t e` / `FallbackCall c e`   the top frame is the call of a generate_events
                    handler of timer `t` / of the fallback generator, for the event `e`;
  * `St.timerDue s t tm`   the guard of `Timer._on_generate_events`: `tm` is record `t`, created,
                    `tm.expiry ≤ clock`, no unregistration of its component pending;
  * `ResetIn c t` / `CreateIn c t`   the top frame executes `timer.reset()` / `Timer(…)`;
  * `TLater c c'`    `c'` is reached from `c` by steps and further external operations
                    (in between the environment may advance the clock);
  * `GEBound s e t` "timer t has been seen by generate_events event e": `e.time_left` is armed
                    (≥ 0) and is 0 or ≤ `expiry t − clock`.

Hypothesis `Init s0 := TimerWF s0`: every `Timer.event` id is an existing event object and
different timers have different ones; a created timer has `expiry ≤ clock + interval`; every timer's
component exists.  It holds in particular when no timer has been created yet (`Init.of_fresh`),
which is how the driver and the harness declare timers.

Section 6 (proofs: CV/Proofs/InvLoop.lean) ties the timer theorems to the dispatcher:
  * `handler_loop_invokes_all` / `handler_loop_calls_only_listed`: a `_dispatcher` call that runs to
    its end has called every handler of the list it was given (unless `event.stop()` cut the
    loop) and nothing else; with C01's exact-set theorem (`dispatcher_step_live`; the two together:
    `registered_handler_called`): `fires_in_first_iteration_at_or_after_expiry` - a registered timer's
    handler is called in every dispatch of its root and fires when due - and `oneshot_never_again` - once the
    unregistration of a fired one-shot timer has completed, no dispatch of another root calls it.
What the code leaves open (and the theorems say so)
  * a run that does not come back (the fallback generator blocks for ever, `SystemExit`) or an
    `event.stop()` by a handler of higher priority ends a dispatch before the timer is called;
  * a handler list computed BEFORE the detach (dispatch suspended by a nested `flush()`) may still
    contain the timer; a detached one-shot timer that is ticked as its own root, or registered
    again, fires again; a one-shot timer that is itself a root cannot unregister
    (`unregister()` is a no-op for a root) and fires again at every tick: `oneshot_once` says
    "pending or root", which is all the code guarantees (DESIGN §6 C09; same in the real code).
-/
namespace CV.C09
open CV.Core CV.Core.Live

def Init (s0 : St) : Prop := TimerWF s0

/-- a state in which no timer has been created yet satisfies `Init` -/
theorem Init.of_fresh {s : St}
    (h : ∀ (t : Nat) (tm : TimerSt), s.timers[t]? = some tm →
      tm.created = false ∧ tm.ev = none ∧ tm.comp < s.comps.length) : Init s :=
  TimerWF.of_fresh h

/-- non-vacuity of `Init`: one component, one declared one-shot timer with interval 3 -/
example : Init { comps := [dfltComp],
                 timers := [{ interval := 3, persist := false, tmpl := 0, target := none, comp := 0, parent := 0 }] } := by
  apply Init.of_fresh
  intro t tm h
  match t, h with
  | 0, h => cases h; exact ⟨rfl, rfl, by decide⟩

/-- a concrete configuration: the loop is about to call the handler (handler 0) of the created,
    due timer 0 of component 0 for event 0, at clock 5 -/
def exCfg : Cfg :=
  { st := { comps := [dfltComp], evs := [{ name := Name.generateEvents }],
            hs := [{ owner := 0, names := [Name.generateEvents], chan := none, kind := .timer 0 },
                   { owner := 0, names := [Name.generateEvents], chan := none, prio := -100, kind := .fallbackGE }],
            timers := [{ interval := 3, persist := true, tmpl := 0, target := none, comp := 0, parent := 0,
                         expiry := 4, created := true }],
            clock := 5 },
    stack := [.invoke 0 0 0, .invoke 0 1 0] }

/-- non-vacuity of `TimerCall`, `St.timerDue`, `FiredIn`: in `exCfg` timer 0 fires -/
example : TimerCall exCfg 0 0 ∧ FiredIn exCfg 0 :=
  ⟨⟨0, 0, _, rfl, rfl, rfl⟩, t9_due_fires ⟨0, 0, _, rfl, rfl, rfl⟩ ⟨rfl, rfl, by decide, rfl⟩⟩

/-- non-vacuity of `FallbackCall`, `TLater` and (with `exIdle`) `IdleIn`: one step later the fallback generator is
    called; it does not sleep here (the firing set `time_left` to 0), with an armed event it does -/
example : FallbackCall (step exCfg) 0 ∧ TLater exCfg (step exCfg) := ⟨⟨0, 1, _, rfl, rfl, rfl⟩, .step .refl⟩

def exIdle : Cfg :=
  { exCfg with st := { exCfg.st with evs := [{ name := Name.generateEvents, timeLeft := 2 }] },
               stack := [.invoke 0 1 0] }

example : FallbackCall exIdle 0 ∧ IdleIn exIdle 2 :=
  ⟨⟨0, 1, _, rfl, rfl, rfl⟩, ⟨[.idle 2, .hinv 0 6 0], rfl, by simp⟩⟩

/-- non-vacuity of `ResetIn` / `CreateIn` -/
example : ResetIn (startDo exCfg.st 0 (.timerReset 0)) 0 := ⟨_, _, _, rfl, rfl⟩

example : CreateIn { st := { timers := [{ interval := 3, persist := false, tmpl := 0, target := none, comp := 0, parent := 0 }] },
                     stack := [.timerNew 0] } 0 := ⟨_, _, rfl, rfl, rfl, rfl⟩

/-! ### 1. the clock -/

/-- The clock never decreases: not in a machine step, not in an environment change. -/
theorem clock_monotone (c : Cfg) (d : Nat) (tape : List Entry) :
    c.st.clock ≤ (step c).st.clock ∧ c.st.clock ≤ (envChange c.st d tape).clock :=
  ⟨(t9_step_W c).clock, by show c.st.clock ≤ c.st.clock + (d : Int); omega⟩

theorem clock_monotone_run {c c' : Cfg} (h : TLater c c') : c.st.clock ≤ c'.st.clock := h.clock

/-- A step moves the clock only as a loop tick (`tick()` firing generate_events: + 1) or as an
    idle wait of the fallback generator (+ the logged duration = `time_left` of its event). -/
theorem clock_moves_only (c : Cfg) (h : (step c).st.clock ≠ c.st.clock) :
    (∃ x k, c.stack = .tickGen x :: k ∧ c.exn = none ∧ (step c).st.clock = c.st.clock + 1)
    ∨ (∃ e, FallbackCall c e ∧ IdleIn c (c.st.ev e).timeLeft ∧
         (step c).st.clock = c.st.clock + (c.st.ev e).timeLeft) :=
  t9_clock_moves h

/-! ### 2. never early -/

/-- A step that fires timer `t`'s event is a call of `t`'s generate_events handler in a state where
    `t` is created, `clock ≥ expiry`, and no unregistration of its component is pending. -/
theorem never_early {s0 : St} (h0 : Init s0) {c : Cfg} (hr : Reach s0 c) {t : Nat} (hf : FiredIn c t) :
    ∃ e tm, TimerCall c t e ∧ c.st.timers[t]? = some tm ∧ tm.created = true ∧
      tm.expiry ≤ c.st.clock ∧ (c.st.comp tm.comp).pending = false := by
  obtain ⟨e, tm, _, hc, hd, _⟩ := t9_fired_guard (TimerWF.reach h0 c hr) hf
  exact ⟨e, tm, hc, hd.1, hd.2.1, hd.2.2.1, hd.2.2.2⟩

/-- `expiry` is only ever written as `k + interval` for a clock reading `k` of the writing step
    (`Timer(…)`, `reset()`, re-arming of a persistent timer); the interval never changes; a created
    timer stays created.  (Environment changes do not touch timers: `envChange` only writes `clock`
    and `tape`.) -/
theorem expiry_is_set_plus_interval (c : Cfg) (t : Nat) (tm : TimerSt) (h : c.st.timers[t]? = some tm) :
    ∃ tm', (step c).st.timers[t]? = some tm' ∧ tm'.interval = tm.interval ∧ tm'.persist = tm.persist ∧
      tm'.comp = tm.comp ∧ (tm.created = true → tm'.created = true) ∧
      ((tm'.expiry = tm.expiry ∧ tm'.created = tm.created) ∨
       (tm'.created = true ∧ ∃ k, c.st.clock ≤ k ∧ k ≤ (step c).st.clock ∧ tm'.expiry = k + tm.interval)) := by
  obtain ⟨tm', g, ev⟩ := (t9_step_W c).timers t tm h
  exact ⟨tm', g, ev.interval, ev.persist, ev.comp, ev.created, ev.arm⟩

/-- A timer whose `expiry` is at least `k0 + interval` (with `k0` not in the future) does not fire
    before the clock reads `k0 + interval`, whatever happens in between. -/
theorem no_firing_before_expiry {s0 : St} (h0 : Init s0) {c c' : Cfg} (hr : Reach s0 c) {t : Nat} {tm : TimerSt}
    {k0 : Int} (ht : c.st.timers[t]? = some tm) (hk : k0 ≤ c.st.clock) (he : k0 + tm.interval ≤ tm.expiry)
    (hl : TLater c c') (hf : FiredIn c' t) : k0 + tm.interval ≤ c'.st.clock :=
  t9_spacing h0 hr ht hk he hl hf

/-- After `Timer(interval, …)` at clock `k` the first firing is at clock ≥ `k + interval`. -/
theorem created_then_interval {s0 : St} (h0 : Init s0) {c c' : Cfg} (hr : Reach s0 c) {t : Nat} {tm : TimerSt}
    (hc : CreateIn c t) (ht : c.st.timers[t]? = some tm) (hl : TLater (step c) c') (hf : FiredIn c' t) :
    c.st.clock + tm.interval ≤ c'.st.clock := by
  obtain ⟨tm0, g0, g1, hclk⟩ := t9_create_step hc
  rw [ht] at g0; cases g0
  -- elaborated without the goal: its `tm` is not the armed record, whose interval is `tm.interval` only up to reduction
  exact (t9_spacing_armed h0 hr g1 hclk (Int.le_refl _) hl hf :)

/-- Consecutive firings of a persistent timer are at least one interval apart (and so are any two
    firings: `c'` is any later firing). -/
theorem persistent_spacing {s0 : St} (h0 : Init s0) {c c' : Cfg} (hr : Reach s0 c) {t : Nat} {tm : TimerSt}
    (hf : FiredIn c t) (ht : c.st.timers[t]? = some tm) (hp : tm.persist = true)
    (hl : TLater (step c) c') (hf' : FiredIn c' t) : c.st.clock + tm.interval ≤ c'.st.clock := by
  obtain ⟨e, x, _, hd, hfire⟩ := t9_fired_guard_of (TimerWF.reach h0 c hr) hf ht
  have hself := hfire.self
  rw [if_pos hp] at hself
  exact (t9_spacing_armed h0 hr hself hfire.clock (Int.le_refl _) hl hf' :)

/-- `reset()` restarts the countdown: after a reset at clock `k` no firing before `k + interval`. -/
theorem reset_restarts {s0 : St} (h0 : Init s0) {c c' : Cfg} (hr : Reach s0 c) {t : Nat} {tm : TimerSt}
    (hre : ResetIn c t) (ht : c.st.timers[t]? = some tm) (hcr : tm.created = true)
    (hl : TLater (step c) c') (hf : FiredIn c' t) : c.st.clock + tm.interval ≤ c'.st.clock := by
  obtain ⟨g1, hclk⟩ := t9_reset_step hre ht hcr
  exact (t9_spacing_armed h0 hr g1 hclk (Int.le_refl _) hl hf :)

/-! ### 3. one-shot -/

/-- When a one-shot timer fires, `unregister()` has been called on its component by the end of the
    same step: the component has an unregistration pending, or is a (detached) root.  While the
    unregistration is pending the timer does not fire (`never_early`: `pending = false` at every
    firing).  Exactly-once then needs: a detached timer is not called by the old root (`oneshot_never_again`). -/
theorem oneshot_once {s0 : St} (h0 : Init s0) {c : Cfg} (hr : Reach s0 c) {t : Nat} {tm : TimerSt}
    (hf : FiredIn c t) (ht : c.st.timers[t]? = some tm) (hp : tm.persist = false) :
    (c.st.comp tm.comp).pending = false ∧
    (((step c).st.comp tm.comp).pending = true ∨ ((step c).st.comp tm.comp).parent = tm.comp) := by
  have wf := TimerWF.reach h0 c hr
  obtain ⟨e, x, _, hd, hfire⟩ := t9_fired_guard_of wf hf ht
  exact ⟨hd.2.2.2, hfire.unreg (wf.compIn t tm ht) hp⟩

/-! ### 4. the idle wait -/

/-- An idle wait is logged only by the fallback generator; its duration is the `time_left` of the
    generate_events event being dispatched, it is positive, and the clock advances by exactly it. -/
theorem idle_is_time_left (c : Cfg) (d : Int) (hi : IdleIn c d) :
    ∃ e, FallbackCall c e ∧ d = (c.st.ev e).timeLeft ∧ 0 < d ∧ (step c).st.clock = c.st.clock + d :=
  t9_idle_guard hi

/-- `reduce_time_left` only lowers: once `time_left` of an event is armed (≥ 0) it stays armed and
    never grows, in every step. -/
theorem time_left_only_lowers (c : Cfg) (e : Nat) (h : 0 ≤ (c.st.ev e).timeLeft) :
    0 ≤ ((step c).st.ev e).timeLeft ∧ ((step c).st.ev e).timeLeft ≤ (c.st.ev e).timeLeft :=
  (t9_step_W c).tl e h

/-- The handler of a created timer arms `time_left`: afterwards it is 0 (fired) or at most
    `expiry − clock` — unless it returned early because the unregistration is pending. -/
theorem timer_arms_bound (c : Cfg) (t e : Nat) (tm : TimerSt) (hc : TimerCall c t e)
    (ht : c.st.timers[t]? = some tm) (hcr : tm.created = true) (he : e < c.st.evs.length)
    (hp : tm.expiry ≤ c.st.clock → (c.st.comp tm.comp).pending = false) : GEBound (step c).st e t := by
  obtain ⟨h, heq⟩ := hc.step_st
  rw [heq]
  exact timerTick_bound (s := c.st.logE (c.t9hinv h e)) ht hcr he hp

/-- The idle loop never sleeps past the expiry of a pending-free timer whose handler ran for the
    same generate_events event: if timer `t`'s handler was called for `e` at `c0`, the clock has not
    moved since (`clock_moves_only`: it moves only by loop ticks, which start a NEW event, and by
    idle waits) and the fallback generator now sleeps `d` ticks for `e`, then after the sleep the
    clock is still ≤ `t`'s expiry — even if `t` was reset in between. -/
theorem idle_bound {s0 : St} (h0 : Init s0) {c0 c : Cfg} (hr : Reach s0 c0) {t e : Nat} {tm : TimerSt} {d : Int}
    (hc : TimerCall c0 t e) (ht : c0.st.timers[t]? = some tm) (hcr : tm.created = true)
    (he : e < c0.st.evs.length) (hp : tm.expiry ≤ c0.st.clock → (c0.st.comp tm.comp).pending = false)
    (hl : TLater (step c0) c) (hclk : c.st.clock = (step c0).st.clock)
    (hfb : FallbackCall c e) (hi : IdleIn c d) :
    ∃ tm', c.st.timers[t]? = some tm' ∧ (step c).st.clock ≤ tm'.expiry := by
  have hb := timer_arms_bound c0 t e tm hc ht hcr he hp
  have hb' := GEBound.tlater h0 (Reach.step hr) hb hl hclk
  exact t9_idle_bound_step hi hfb hb'

/-! ### 5. fires when due -/

/-- A call of timer `t`'s handler while `t` is created, due and not pending fires its event. -/
theorem fires_when_due (c : Cfg) (t e : Nat) (tm : TimerSt) (hc : TimerCall c t e)
    (ht : c.st.timers[t]? = some tm) (hcr : tm.created = true) (hdue : tm.expiry ≤ c.st.clock)
    (hp : (c.st.comp tm.comp).pending = false) : FiredIn c t :=
  t9_due_fires hc ⟨ht, hcr, hdue, hp⟩

/-! ### 6. every dispatch of generate_events calls the registered timer; a detached one-shot is not called

Vocabulary (CV/Proofs/InvLoop.lean):
  * `RunAbove k c c'`  `c'` is reached from `c` by machine steps and the stack never returns to
                       `k` or below on the way - the run stays inside the `_dispatcher` call whose
                       continuation is `k` (no return, no exception unwinding through it);
  * `CalledAt k r e h c c'`  on that run the call frame `.invoke r h e` of handler `h` was on top,
                       directly on the loop frame `.hAfter r e …` of this `_dispatcher` call;
  * `CutAt k r e c c'`  on that run the loop of this `_dispatcher` call found `event.stopped` set
                       after a handler returned and went to `.dispFin` (C02 `stop_breaks_loop`).
The initial-state hypotheses are those of C01 (`InitForest`, `InitHandlers`, `InitCache`). -/

/-- **The handler loop runs through the whole list it was given.**  From the loop frame
    `.hLoop r e hs …` on continuation `k` to the end `.dispFin r e …` of the same `_dispatcher`
    call: every handler of `hs` was called, unless the loop was cut by `event.stop()`.  (An
    exception that is not caught by the loop - `SystemExit` re-raised by `stop()`, the fallback
    generator blocking for ever - unwinds below `k`: then there is no run to `.dispFin`.)
    Holds from EVERY configuration: `step` only rewrites the top of the stack. -/
theorem handler_loop_invokes_all (c c' : Cfg) (r e : Nat) (hs : List Nat) (err err' : Bool) (stale : Outcome)
    (k : List Frame) (hst : c.stack = .hLoop r e hs err stale :: k) (hrun : RunAbove k c c')
    (hfin : c'.stack = .dispFin r e err' :: k) (h : Nat) (hh : h ∈ hs) :
    CalledAt k r e h c c' ∨ CutAt k r e c c' :=
  loop_invokes_all hst hrun hfin h hh

/-- … and calls nothing else: a call frame directly on the loop frame of this `_dispatcher` call is
    the call of a member of the list. -/
theorem handler_loop_calls_only_listed (c c1 : Cfg) (r e : Nat) (hs : List Nat) (err : Bool) (stale : Outcome)
    (k : List Frame) (hst : c.stack = .hLoop r e hs err stale :: k) (hrun : RunAbove k c c1)
    (r' h' e' : Nat) (rest : List Nat) (err1 : Bool) (stale1 : Outcome)
    (h1 : c1.stack = .invoke r' h' e' :: .hAfter r e rest err1 stale1 :: k) : h' ∈ hs :=
  loop_calls_only_listed hst hrun h1

/-- **A registered timer is called in every dispatch of its root, and fires when due.**
    `_dispatcher(e)` runs on a root `r` (reachable configuration, `e` not cancelled; for the timers
    `e` is the `generate_events` event of one loop iteration, but the statement holds for any
    event); `h` is the `_on_generate_events` handler of timer `t` and is registered: it matches
    the event at a component `d` of `r`'s tree (C01 `dispatch_exact_set`).  If the dispatcher call
    runs to its end (`.dispFin`), then on the way `h` was called - a configuration `c1` with
    `TimerCall c1 t e` - and if at that moment `t` is created, due (`expiry ≤ clock`) and its
    component has no unregistration pending, that very step fires the timer's event; or else a
    handler of higher or equal priority stopped the event (`CutAt`).
    So a timer fires in the FIRST loop iteration whose `generate_events` dispatch calls it at or
    after its expiry: the iteration's dispatch cannot skip it. -/
theorem fires_in_first_iteration_at_or_after_expiry (s0 : St) (h0 : InitForest s0) (hH : InitHandlers s0)
    (hC : InitCache s0) (c : Cfg) (hc : Reach s0 c) (r e remaining : Nat) (k : List Frame)
    (hst : c.stack = .dispatcher r e remaining :: k) (hx : c.exn = none)
    (hr : (c.st.comp r).root = r) (hcan : (c.st.ev e).cancelled = false)
    (t h : Nat) (hk : ((step c).st.handler h).kind = .timer t)
    (hreg : ∃ ch, ch ∈ (c.st.ev e).chans ∧ ∃ d, ReachIn (step c).st (step c).st.comps.length r d ∧
      matchesAt (step c).st d (c.st.ev e).name ch h)
    (c' : Cfg) (err' : Bool) (hrun : RunAbove k (step c) c') (hfin : c'.stack = .dispFin r e err' :: k) :
    (∃ c1, RunAbove k (step c) c1 ∧ RunAbove k c1 c' ∧ TimerCall c1 t e ∧
      ∀ tm, c1.st.timers[t]? = some tm → tm.created = true → tm.expiry ≤ c1.st.clock →
        (c1.st.comp tm.comp).pending = false → FiredIn c1 t) ∨
    CutAt k r e (step c) c' := by
  rcases registered_handler_called h0 hH hC c hc r e remaining k hst hx hr hcan h
      (handler_lt_of_kind (by rw [hk]; intro hh; cases hh)) hreg c' err' hrun hfin with
    ⟨c1, rest, err, stale, r1, r2, hs1, hx1, hh1⟩ | hcut
  · have htc : TimerCall c1 t e := ⟨r, h, _, hs1, hx1, by rw [hh1]; exact hk⟩
    exact .inl ⟨c1, r1, r2, htc, fun tm ht hcr hdue hp => fires_when_due c1 t e tm htc ht hcr hdue hp⟩
  · exact .inr hcut

/-- in a forest a component that is its own parent is not below any other: a detached timer is in no other root's tree -/
theorem detached_not_below {s : St} (hF : ForestInv s) {n r x : Nat} (hx : (s.comp x).parent = x)
    (h : ReachIn s n r x) : x = r := by
  induction h with
  | here n c => rfl
  | step n c d e hd _ ih =>
    have he := ih hx
    subst he
    by_cases hc : c < s.comps.length
    · exact absurd hx (by rw [(hF.childOf c e hc hd).2.1]; exact fun hh => (hF.childOf c e hc hd).2.2 hh.symm)
    · have : s.comps.getD c dfltComp = dfltComp := by
        simp [List.getD_eq_getElem?_getD, List.getElem?_eq_none (Nat.le_of_not_lt hc)]
      rw [this] at hd
      cases hd

/-- **A one-shot timer whose unregistration completed is not called any more.**  When a one-shot
    timer fires, `unregister()` is called on its component in the same step (`oneshot_once`);
    while the unregistration is pending it does not fire (`never_early`); when it completes the
    component `x` is detached: it is its own parent (C07 `detach_moves_subtree`).  From then on,
    as long as `x` stays detached, every `_dispatcher` call on any other root `r ≠ x` - in a
    reachable configuration, for any event - hands the handler loop a list that does not contain
    the timer's handler `h`, and no step of that dispatcher call is a call of `h` at its level:
    the timer cannot fire from it.  Hypothesis `hown`: `h` is installed in the table of `x` only
    (`Timer` registers its own method; it is how the driver declares timers).
    What remains is what the code allows: a handler list computed BEFORE the detach (a dispatch
    suspended by a nested `flush()`) may still call `h`; a detached timer that is ticked as its
    own root or registered again fires again (header comment, DESIGN §6 C09). -/
theorem oneshot_never_again (s0 : St) (h0 : InitForest s0) (hH : InitHandlers s0)
    (hC : InitCache s0) (c : Cfg) (hc : Reach s0 c) (r e remaining : Nat) (k : List Frame)
    (hst : c.stack = .dispatcher r e remaining :: k) (hx : c.exn = none)
    (hr : (c.st.comp r).root = r) (hcan : (c.st.ev e).cancelled = false)
    (t h x : Nat) (hk : ((step c).st.handler h).kind = .timer t)
    (hown : ∀ d name ch, matchesAt (step c).st d name ch h → d = x)
    (hdet : ((step c).st.comp x).parent = x) (hne : x ≠ r) :
    ∃ hs, (step c).stack = .hLoop r e hs false .none :: k ∧ h ∉ hs ∧
      ∀ c1, RunAbove k (step c) c1 → ∀ r' e' rest err stale,
        c1.stack ≠ .invoke r' h e' :: .hAfter r e rest err stale :: k := by
  obtain ⟨hs, h1, h2⟩ := dispatcher_step_fresh h0 hH hC c hc r e remaining k hst hx hr hcan
  have hF : ForestInv (step c).st := (FInv.reach h0 _ (Reach.step hc)).forest
  have hnot : h ∉ hs := by
    intro hm
    have hnf : h ∈ nonFallback (step c).st hs :=
      List.mem_filter.mpr ⟨hm, by rw [hk]; rfl⟩
    rw [h2] at hnf
    obtain ⟨ch, _, d, hd, hmt⟩ := (mem_freshHandlers _ _ _ _ _).mp hnf
    have := hown d _ ch hmt
    subst this
    exact hne (detached_not_below hF hdet hd)
  exact ⟨hs, h1, hnot, fun c1 hrun r' e' rest err stale hs1 => hnot (loop_calls_only_listed h1 hrun hs1)⟩

/-! ### non-vacuity of section 6 -/

/-- a running manager 0 and a declared timer 0 (interval 0) whose component 1 carries the timer's
    `generate_events` handler 0 and its `prepare_unregister_complete` handler 1 -/
def nvSt (persist : Bool) : St :=
  { comps := [{ parent := 0, root := 0, running := true },
              { parent := 1, root := 1, htab := [(some Name.generateEvents, 0),
                                                  (some (Name.prepareUnregister.child sfxComplete), 1)] }],
    hs := [{ owner := 1, names := [Name.generateEvents], chan := none, kind := .timer 0 },
           { owner := 1, names := [Name.prepareUnregister.child sfxComplete], chan := some (.inst 1),
             kind := .prepUnregComplete }],
    tmpls := [{ name := ⟨1, []⟩ }],
    timers := [{ interval := 0, persist := persist, tmpl := 0, target := none, comp := 1, parent := 0 }] }

abbrev nvRun (s : St) (op : ExtOp) (n : Nat) : Cfg := runN n (startOf (envChange s 0 []) op)
/-- `Timer(0, …).register(manager)` -/
def nv1 (p : Bool) : Cfg := nvRun (nvSt p) (.doAct 0 (.timerNew 0)) 20
/-- ten steps into the first `tick()`: `_dispatcher` of the `generate_events` event 1 is on top -/
def nvC : Cfg := nvRun (nv1 true).st (.tick 0) 10
def nvK : List Frame := [.dispatchLoop 0, .flushFin 0 false]

theorem nv_init (p : Bool) : InitForest (nvSt p) ∧ InitHandlers (nvSt p) ∧ InitCache (nvSt p) := by
  cases p <;>
  exact ⟨by unfold InitForest; decide +kernel, plain_tables_of_bounded _ (by decide +kernel),
    caches_empty_of_bounded _ (by decide +kernel)⟩

/-- the run to `nvC`, the step after it and the eight steps after that, evaluated once -/
theorem nvC_facts :
    done (nv1 true) = true ∧ nvC.stack = .dispatcher 0 1 0 :: nvK ∧ nvC.exn = none ∧
    (nvC.st.comp 0).root = 0 ∧ (nvC.st.ev 1).cancelled = false ∧
    ((step nvC).st.handler 0).kind = .timer 0 ∧
    (Chan.star ∈ (nvC.st.ev 1).chans ∧ (step nvC).st.comps.length = 1 + 1 ∧
      1 ∈ ((step nvC).st.comps.getD 0 dfltComp).children ∧
      matchesAt (step nvC).st 1 (nvC.st.ev 1).name .star 0) ∧
    aboveB nvK (step nvC) = true ∧ (∀ i, i ≤ 8 → aboveB nvK (runN i (step nvC)) = true) ∧
    (runN 8 (step nvC)).stack = .dispFin 0 1 false :: nvK := by
  unfold matchesAt installedFor; decide +kernel

theorem nvC_reach : Reach (nvSt true) nvC :=
  Reach.runN (.next 0 [] _ (Reach.runN (.init 0 [] _) 20) nvC_facts.1) 10

/-- the event dispatched at `nvC` matches the timer's handler 0 at component 1, a child of the manager -/
theorem nvC_matches : ∃ ch, ch ∈ (nvC.st.ev 1).chans ∧
    ∃ d, ReachIn (step nvC).st (step nvC).st.comps.length 0 d ∧
      matchesAt (step nvC).st d (nvC.st.ev 1).name ch 0 := by
  obtain ⟨hch, hl, hchild, hm⟩ := nvC_facts.2.2.2.2.2.2.1
  rw [hl]
  exact ⟨.star, hch, 1, .step 1 0 1 1 hchild (.here 1 1), hm⟩

/-- all hypotheses of `fires_in_first_iteration_at_or_after_expiry` (and of
    `handler_loop_invokes_all`, `handler_loop_calls_only_listed` with `c := step nvC`) hold in a
    reachable configuration; the timer is due there, so the theorem's first alternative fires it -/
example : Reach (nvSt true) nvC ∧ nvC.stack = .dispatcher 0 1 0 :: nvK ∧ nvC.exn = none ∧
    (nvC.st.comp 0).root = 0 ∧ (nvC.st.ev 1).cancelled = false ∧
    ((step nvC).st.handler 0).kind = .timer 0 ∧
    (∃ ch, ch ∈ (nvC.st.ev 1).chans ∧ ∃ d, ReachIn (step nvC).st (step nvC).st.comps.length 0 d ∧
      matchesAt (step nvC).st d (nvC.st.ev 1).name ch 0) ∧
    RunAbove nvK (step nvC) (runN 8 (step nvC)) ∧ (runN 8 (step nvC)).stack = .dispFin 0 1 false :: nvK := by
  obtain ⟨-, h1, h2, h3, h4, h5, -, h7, h8, h9⟩ := nvC_facts
  exact ⟨nvC_reach, h1, h2, h3, h4, h5, nvC_matches, RunAbove.ofRunN 8 (.refl (above_of_B h7)) h8, h9⟩

/-- the one-shot variant: `Timer` created, three `tick()`s; 15 steps into the third one the
    `_dispatcher` of its `generate_events` event 6 is on top, and the unregistration of the
    timer's component 1 has completed (it is its own parent) -/
def nv2 : Cfg := nvRun (nv1 false).st (.tick 0) 40
def nv3 : Cfg := nvRun nv2.st (.tick 0) 40
def nvD : Cfg := nvRun nv3.st (.tick 0) 15

/-- the run to `nvD` and the step after it, evaluated once; only component 1 carries handler 0 -/
theorem nvD_facts :
    (done (nv1 false) = true ∧ done nv2 = true ∧ done nv3 = true) ∧
    nvD.stack = .dispatcher 0 6 0 :: nvK ∧ nvD.exn = none ∧
    (nvD.st.comp 0).root = 0 ∧ (nvD.st.ev 6).cancelled = false ∧
    ((step nvD).st.handler 0).kind = .timer 0 ∧ ((step nvD).st.comp 1).parent = 1 ∧
    ∀ d, d < (step nvD).st.comps.length → d ≠ 1 →
      (∀ p ∈ ((step nvD).st.comps.getD d dfltComp).htab, p.2 ≠ 0) ∧
        0 ∉ ((step nvD).st.comps.getD d dfltComp).globals := by decide +kernel

theorem nvD_reach : Reach (nvSt false) nvD := by
  obtain ⟨d1, d2, d3⟩ := nvD_facts.1
  have h1 : Reach (nvSt false) (nv1 false) := Reach.runN (.init 0 [] _) 20
  have h2 : Reach (nvSt false) nv2 := Reach.runN (.next 0 [] _ h1 d1) 40
  have h3 : Reach (nvSt false) nv3 := Reach.runN (.next 0 [] _ h2 d2) 40
  exact Reach.runN (.next 0 [] _ h3 d3) 15

/-- all hypotheses of `oneshot_never_again` hold in a reachable configuration; the list handed to
    the loop there is `[4]` (the fallback generator only) -/
example : Reach (nvSt false) nvD ∧ nvD.stack = .dispatcher 0 6 0 :: nvK ∧ nvD.exn = none ∧
    (nvD.st.comp 0).root = 0 ∧ (nvD.st.ev 6).cancelled = false ∧
    ((step nvD).st.handler 0).kind = .timer 0 ∧
    (∀ d name ch, matchesAt (step nvD).st d name ch 0 → d = 1) ∧
    ((step nvD).st.comp 1).parent = 1 ∧ (1 : Nat) ≠ 0 := by
  obtain ⟨-, h1, h2, h3, h4, h5, h6, h7⟩ := nvD_facts
  exact ⟨nvD_reach, h1, h2, h3, h4, h5, matches_only_at _ 0 1 h7, h6, by decide⟩

/-- the hypotheses of `handler_loop_invokes_all` / `handler_loop_calls_only_listed`: the step of
    `nvC` starts the loop with a list that contains the timer's handler 0, and the run above `nvK`
    reaches `.dispFin` (previous example) -/
example : ∃ hs, (step nvC).stack = .hLoop 0 1 hs false .none :: nvK ∧ 0 ∈ hs := by
  obtain ⟨-, h1, h2, h3, h4, -⟩ := nvC_facts
  obtain ⟨hs, hst, hnf⟩ := dispatcher_step_fresh (nv_init true).1 (nv_init true).2.1 (nv_init true).2.2
    nvC nvC_reach 0 1 0 nvK h1 h2 h3 h4
  have : 0 ∈ nonFallback (step nvC).st hs := by
    rw [hnf]
    exact (mem_freshHandlers _ _ _ _ _).mpr nvC_matches
  exact ⟨hs, hst, (List.mem_filter.mp this).1⟩

end CV.C09
