import CV.Proofs.PollerMain
import CV.Proofs.PollerAgree
/-
C10 — Pollers report exactly the registered-and-ready descriptors; all three agree.

Model: CV/Model/Poller.lean (Select, Poll, EPoll as they are after the `fix:` commits [D1]-[D4] listed there).
Statement: CV/Model/PollerSpec.lean (`roundFail`, `specTrace`: an observer that knows only the
operations, the open files and their readiness).  Histories are arbitrary lists of `Op`:
add/remove reader/writer, discard, object creation with any free number (so also a number a
closed object had), close, and poll rounds with arbitrary readiness `rd` — no bound on anything.
-/
namespace CV.C10
open CV.Poller

/-- **Every run of every poller satisfies the observer's predicate.**  In every round: each
`_read o`/`_write o` concerns a descriptor currently registered for that role, open, ready by
its *own* file's readiness, and goes to the registrant's channel; `_disconnect o` only for a
registered descriptor that is closed or hung up and has no input pending for a reader; and
(outside the one blind round after a registered descriptor was closed) every registered, ready,
open descriptor gets its event. -/
theorem spec_holds (k : Kind) (ops : List Op) : specTrace (trace k ops) = true :=
  spec_runFrom ops (Rel.init k) (PInv.init k)

/-- **The kernel object and `_map` mirror the interest lists** after every history (Poll, EPoll):
an open listed descriptor is registered under its number with exactly the mask
`(o ∈ _read, o ∈ _write)` and `_map` points back to it; every registered number is mapped to a
listed descriptor (EPoll: an open one — Poll may still hold the number of a descriptor closed
while registered, which the next round turns into `_disconnect`); targets exist exactly for
listed descriptors. -/
theorem mirror_inv (k : Kind) (ops : List Op) :
    let s := (run k ops).1
    (∀ o f, s.kind ≠ .select → s.w.fno o = some f → (o ∈ s.read ∨ o ∈ s.write) →
        s.map f = some o ∧ s.kin f = decide (o ∈ s.read) ∧ s.kout f = decide (o ∈ s.write)) ∧
    (∀ f, (s.kin f = true ∨ s.kout f = true) →
        ∃ o, s.map f = some o ∧ (o ∈ s.read ∨ o ∈ s.write) ∧ (s.kind = .epoll → s.w.fno o = some f)) ∧
    (∀ o, (o ∈ s.read ∨ o ∈ s.write) ↔ (s.targets o).isSome = true) := by
  intro s
  have p : PInv s := pinv_runFrom ops (PInv.init k)
  refine ⟨fun o f => p.K2 o f (by simp), ?_, ?_⟩
  · intro f hk
    obtain ⟨o, a, b, c⟩ := p.K1 f hk
    exact ⟨o, a, by simpa using b, c⟩
  · intro o
    constructor
    · exact p.T o
    · intro h
      apply Classical.byContradiction
      intro hn
      have := p.T2 o (fun x => hn (Or.inl x)) (fun x => hn (Or.inr x))
      rw [this] at h; cases h

/-- **A discarded descriptor is silent**: after `discard o` no event of any kind mentions `o`,
whatever happens next — other descriptors come and go, `o` is closed, its number is given to a new
object, any readiness is reported — until `o` itself is registered again. -/
theorem discarded_silent (k : Kind) (pre post : List Op) (o : Obj)
    (hadd : ∀ op ∈ post, adds o op = false) :
    ∀ x ∈ (runFrom (step (run k pre).1 (.discard o)).1 post).2, ∀ e ∈ eventsOf x.2, e.obj ≠ o := by
  obtain ⟨σ, hσ⟩ := rel_runFrom pre (Rel.init k) (PInv.init k)
  have p := pinv_runFrom pre (PInv.init k)
  have st := (step_sim (.discard o) hσ p).2
  refine silent_from post st (pinv_step _ p) o ?_ hadd
  unfold Spec.advance
  split
  · simp [Spec.discard, Spec.registered]
  · next hv =>
    simp only [Spec.valid, World.known, Bool.not_eq_true, Option.isSome_eq_false_iff, Option.isNone_iff_eq_none] at hv
    have := hσ.unk o (by rw [hσ.w]; exact hv)
    simp [Spec.registered, this.1, this.2.1]

/-- **A closed descriptor never gets a readiness event again**, also when a new object takes its
number and becomes readable/writable; the only event that can still mention it is the one
`_disconnect` by which a poller drops a descriptor closed while registered. -/
theorem closed_silent (k : Kind) (pre post : List Op) (o : Obj)
    (hc : (run k pre).1.w.fno o = none) (hk : (run k pre).1.w.known o = true) :
    ∀ x ∈ (runFrom (run k pre).1 post).2, ∀ e ∈ eventsOf x.2, e.obj = o → e.kind = .disconnect := by
  obtain ⟨σ, hσ⟩ := rel_runFrom pre (Rel.init k) (PInv.init k)
  have p := pinv_runFrom pre (PInv.init k)
  have hk' : ((runFrom (State.init k) pre).1.w.orig o).isSome = true := hk
  exact closed_from post hσ p o ⟨by rw [← hσ.w]; exact hc, by rw [← hσ.w]; exact hk'⟩

/-- **The pollers are interchangeable.**  Any two of Select, Poll, EPoll driven by the same history:
in every round (`agreeObs`) that is not blind, for every open descriptor `o` that is not hung up / in
error and whose number the round asks about, they fire exactly the same events `(kind, o, channel)`.
The claim runs (`agreeFrom`) as long as neither poller had to `_disconnect` a descriptor: how a dead
peer surfaces (`_disconnect` from Poll/EPoll, `_read`/`_write` from Select) is where they are allowed
to differ, and the abstract registrations differ from then on.  (At socket-component level the
connect/read/disconnect stream is compared by C12.) -/
theorem agree (k1 k2 : Kind) (ops : List Op) : agreeFrom Spec.init (trace k1 ops) (trace k2 ops) :=
  agree_runFrom ops (Rel.init k1) (Rel.init k2) (PInv.init k1) (PInv.init k2)

/-! ### the statements are not vacuous -/

def rdIn : Nat → Bits := fun _ => ⟨true, false, false, false⟩
def rdInOut : Nat → Bits := fun _ => ⟨true, true, false, false⟩

/-- a registered readable descriptor does get its event, to the registrant's channel -/
example : (trace .poll [.opn 1 5, .addReader 1 7, .poll [5] rdIn]).map (fun x => eventsOf x.2)
    = [[], [], [⟨.read, 1, some 7⟩]] := by decide +kernel

example : (trace .epoll [.opn 1 5, .addReader 1 7, .addWriter 1 7, .removeReader 1, .poll [5] rdInOut]).map (fun x => eventsOf x.2)
    = [[], [], [], [], [⟨.write, 1, some 7⟩]] := by decide +kernel

/-- hypothesis of `discarded_silent`/`closed_silent` met by a history in which the number is reused
    by a readable new object: nothing is fired (double add before the discard, close before it) -/
example : (trace .poll [.opn 1 5, .addReader 1 7, .addReader 1 7, .close 1, .discard 1, .opn 2 5, .poll [5] rdIn]).map
    (fun x => eventsOf x.2) = [[], [], [], [], [], [], []] := by decide +kernel

/-- closed while registered, number reused: Poll reports one `_disconnect`, never `_read` -/
example : (trace .poll [.opn 1 5, .addReader 1 7, .close 1, .opn 2 5, .poll [5] rdIn, .poll [5] rdIn]).map
    (fun x => eventsOf x.2) = [[], [], [], [], [⟨.disconnect, 1, some 7⟩], []] := by decide +kernel

/-- `agree`: a round that is valid, not blind, about an open descriptor without HUP/ERR, in which
    both pollers do fire something — and the same -/
example : (trace .select [.opn 1 5, .addReader 1 7, .addWriter 1 7, .removeReader 1, .addReader 1 7, .poll [5] rdInOut]).map
      (fun x => eventsOf x.2)
    = [[], [], [], [], [], [⟨.write, 1, some 7⟩, ⟨.read, 1, some 7⟩]] := by decide +kernel

example : (trace .epoll [.opn 1 5, .addReader 1 7, .addWriter 1 7, .removeReader 1, .addReader 1 7, .poll [5] rdInOut]).map
      (fun x => eventsOf x.2)
    = [[], [], [], [], [], [⟨.read, 1, some 7⟩, ⟨.write, 1, some 7⟩]] := by decide +kernel

example : (run .poll [.opn 1 5, .close 1]).1.w.fno 1 = none ∧ (run .poll [.opn 1 5, .close 1]).1.w.known 1 = true := by decide +kernel

end CV.C10
