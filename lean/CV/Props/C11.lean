import CV.Proofs.Stream
/-
C11 - Stream writes arrive in order, each byte once, and close waits for the buffer.

Everything below is about `CV.Stream.step` (CV/Model/Stream.lean), the model of the write
path of `Server` connections, `Client` and `File`, for

  * every endpoint kind `k`,
  * every op sequence `ops` (any number of writes with any payloads - empty, arbitrarily
    large -, close requests at any position, `_write` events carrying any OS outcome:
    accept any number of bytes, raise any errno),
  * every errno reaction table `act` that satisfies `GoodActs` (the table of the live code
    is measured by the harness on every run and `goodTable` is evaluated on it).

`trace act k ops` is what an observer sees; `check` / `acceptedOf` / `writtenOf` are defined
in CV/Model/StreamSpec.lean without reference to the model.

OS hypothesis (`osOk`): no bytes are accepted on a socket after it raised a fatal errno.
(That a socket closed by the endpoint refuses with EBADF is part of the model.)
-/
namespace CV.C11
open CV.Stream

/-- The reaction table of the repaired code, up to errnos that behave alike (used for the
    non-vacuity examples; the real table is a parameter obligation). -/
def fixedAct (e : Nat) : ErrAct :=
  if specTransient e then ⟨true, false, false⟩ else ⟨false, true, true⟩

/-- Client._write before the `fix:` commit: EPIPE/ENOTCONN close, everything else fires
    `error` and drops the payload. -/
def unfixedClientAct (e : Nat) : ErrAct :=
  if e = 32 ∨ e = 107 then ⟨false, false, true⟩ else ⟨false, true, false⟩

def demoOps : List Op :=
  [.write [1, 2, 3], .write [], .writable (.accept 2), .close, .write [4],
   .writable (.refuse EAGAIN), .writable (.accept 0), .writable (.accept 9),
   .writable (.accept 9), .writable (.accept 9), .writable (.refuse 104)]

example : GoodActs fixedAct := by
  intro e; unfold fixedAct goodAct; cases specTransient e <;> simp

/-- **Main theorem.** On every run of the model the independent spec predicate holds:
    accepted chunks are always the next pending bytes (nothing lost, repeated, reordered),
    nothing is accepted after the socket was closed, the socket is closed only when nothing
    is pending or after a fatal error, a fatal error is signalled by `error`/disconnect
    before the op ends, and an open healthy endpoint with pending bytes is registered as a
    writer. -/
theorem spec_holds (act : Nat → ErrAct) (hg : GoodActs act) (k : Kind) (ops : List Op)
    (hos : osOk (trace act k ops) = true) : check (trace act k ops) = none := by
  unfold osOk at hos
  rcases sim_run act hg ops (init k) {} (R_init k) with h | h
  · simp [trace, h] at hos
  · exact h.bad

example : osOk (trace fixedAct .client demoOps) = true ∧ check (trace fixedAct .client demoOps) = none := by
  decide

/-- The bytes handed to the OS are always an exact prefix of the bytes written to the
    endpoint before it closed - also after a fatal send error. -/
theorem accepted_prefix (act : Nat → ErrAct) (hg : GoodActs act) (k : Kind) (ops : List Op)
    (hos : osOk (trace act k ops) = true) :
    acceptedOf (trace act k ops) <+: writtenOf false (trace act k ops) := by
  have hb := spec_holds act hg k ops hos
  unfold osOk at hos
  exact ⟨_, specRun_totals _ hb (by simpa using hos)⟩

/-- Conservation: as long as no send was refused with a fatal errno - whatever the partial
    sends and transient refusals (EAGAIN/EWOULDBLOCK, EINTR, ENOBUFS) - the bytes accepted
    by the OS followed by the bytes still buffered are exactly the bytes written; once the
    endpoint has closed, everything written before has been accepted. -/
theorem conservation (act : Nat → ErrAct) (hg : GoodActs act) (k : Kind) (ops : List Op)
    (hnf : ∀ e, Ev.refuse e ∈ trace act k ops → specTransient e = true) :
    acceptedOf (trace act k ops)
        ++ (if (run act (init k) ops).1.isOpen then (run act (init k) ops).1.buf.flatten else [])
      = writtenOf false (trace act k ops) := by
  have ⟨hd, ho⟩ := no_fatal {} (trace act k ops) hnf rfl rfl
  rcases sim_run act hg ops (init k) {} (R_init k) with h | h
  · simp only [trace] at ho; rw [ho] at h; exact absurd h (by simp)
  · have hbal := specRun_totals (trace act k ops) h.bad ho
    simp only [trace] at hd
    cases hopen : (run act (init k) ops).1.isOpen with
    | true => simpa [trace, h.pendOpen hopen hd] using hbal
    | false => simpa [trace, h.pendClosed hopen hd] using hbal

example : ∀ e, Ev.refuse e ∈ trace fixedAct .file (demoOps.take 10) → specTransient e = true := by
  intro e h
  have hall : (trace fixedAct .file (demoOps.take 10)).all
      (fun ev => match ev with | .refuse e => specTransient e | _ => true) = true := by decide
  exact (List.all_eq_true.mp hall) _ h

/-- Nothing is written after the endpoint has closed its socket. -/
theorem nothing_after_close (act : Nat → ErrAct) (hg : GoodActs act) (k : Kind) (ops : List Op)
    (hos : osOk (trace act k ops) = true) (a b : List Ev)
    (hsplit : trace act k ops = a ++ .sockClose :: b) : ∀ x, Ev.acc x ∉ b := by
  have hb := spec_holds act hg k ops hos
  unfold check at hb
  rw [hsplit, specRun_append, specRun_cons] at hb
  exact closed_no_acc _ b (sockClose_closed _) hb

/-- A close takes effect only after everything written so far has been accepted: at the
    moment the socket is closed (no fatal send error before), accepted = written. -/
theorem close_after_drain (act : Nat → ErrAct) (hg : GoodActs act) (k : Kind) (ops : List Op)
    (hos : osOk (trace act k ops) = true) (a b : List Ev)
    (hsplit : trace act k ops = a ++ .sockClose :: b) (hfirst : Ev.sockClose ∉ a)
    (hnf : ∀ e, Ev.refuse e ∈ a → specTransient e = true) :
    acceptedOf a = writtenOf false a := by
  have hb := spec_holds act hg k ops hos
  unfold check at hb
  have hba := specRun_clean_prefix {} a _ (hsplit ▸ hb)
  rw [hsplit, specRun_append, specRun_cons] at hb
  have hb1 := bad_none_of_run hb
  have ⟨hd, ho⟩ := no_fatal {} a hnf rfl rfl
  have hc := no_close_closed {} a hfirst rfl
  have hbal := specRun_totals a hba ho
  have hp : (specRun {} a).pending = [] := by
    cases hpe : (specRun {} a).pending with
    | nil => rfl
    | cons x xs =>
      exfalso
      have : (specStep (specRun {} a) .sockClose).bad ≠ none := by
        simp only [specStep, hc, hd, hpe]
        exact fail_bad _ _
      exact this hb1
  rw [hp] at hbal
  simpa using hbal

/-- A fatal send error (any errno other than the transient ones) on the open endpoint is
    followed, before the op is over, by an `error` or a disconnect event. -/
theorem fatal_signalled (act : Nat → ErrAct) (hg : GoodActs act) (k : Kind) (ops : List Op)
    (hos : osOk (trace act k ops) = true) (a b : List Ev) (e : Nat)
    (hsplit : trace act k ops = a ++ .refuse e :: b) (hopen : Ev.sockClose ∉ a)
    (hfatal : specTransient e = false)
    (c d : List Ev) (i : Bool) (hop : b = c ++ .bd i :: d) (hc : ∀ j, Ev.bd j ∉ c) :
    Ev.evErr ∈ c ∨ Ev.evDisc ∈ c := by
  have hb := spec_holds act hg k ops hos
  unfold check at hb
  rw [hsplit, specRun_append, specRun_cons, hop] at hb
  have hcl := no_close_closed {} a hopen rfl
  apply owed_signalled _ c i d _ hb hc
  rw [specStep_refuse_fatal hcl hfatal]

def fatalOps : List Op := [.write [1, 2], .writable (.accept 1), .writable (.refuse 104)]

example : ∃ a b, trace fixedAct .server fatalOps = a ++ .refuse 104 :: b ∧ Ev.sockClose ∉ a
    ∧ osOk (trace fixedAct .server fatalOps) = true :=
  ⟨(trace fixedAct .server fatalOps).take 4, (trace fixedAct .server fatalOps).drop 5,
    by decide, by decide, by decide⟩

/-- Writer interest: an open endpoint is registered as a writer exactly while its buffer is
    non-empty - no stall and no busy loop (holds for every reaction table). -/
theorem interest_iff (act : Nat → ErrAct) (k : Kind) (ops : List Op) :
    (run act (init k) ops).1.isOpen = true →
      ((run act (init k) ops).1.interest = true ↔ (run act (init k) ops).1.buf ≠ []) :=
  interest_run act ops (init k) (by intro _; simp [init])

/-- Server connections: once the connection is closed no `send` is even attempted (for every
    reaction table and every OS behaviour). -/
theorem server_no_send_when_closed (act : Nat → ErrAct) (s : State) (ops : List Op)
    (hk : s.kind = .server) (hc : s.isOpen = false) :
    ∀ ev ∈ (run act s ops).2, (∀ b, ev ≠ .acc b) ∧ (∀ e, ev ≠ .refuse e) ∧ ev ≠ .sockClose :=
  server_closed_run act ops s hk hc

/-- `GoodActs` is needed: with the reaction table of `Client._write` before the fix, one
    payload and one EAGAIN lose the payload (the spec fails with `stalled`: the byte is
    pending, the endpoint open, and nobody will ever send it). -/
theorem unfixed_client_witness :
    check (trace unfixedClientAct .client [.write [97], .writable (.refuse EAGAIN)]) = some .stalled := by
  decide

end CV.C11
