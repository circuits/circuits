import CV.Proofs.ConnClose
import CV.Proofs.ConnAccept
/-
C12 — Every connection: one connect, ordered reads, one disconnect, then no trace.

Model: CV/Model/Conn.lean = the `Server` of circuits/net/sockets.py (after the five `fix:` commits of
C12) composed with the poller model of C10 (Select, Poll, EPoll), plus the `Client` life cycle.
Statement: CV/Model/ConnSpec.lean (`obsFail`, `specTrace`: an observer that sees only the
connect/read/disconnect/error events per socket, what `recv` delivered per socket, and the tables
after every op).  Histories are arbitrary lists of `Op`: accepts of new sockets with any free file
number (also a number a closed socket had) whose peer may already be gone, `write`/`close` events for
any socket at any time (also long after its disconnect, or never connected), and poll rounds with
arbitrary readiness and arbitrary `recv`/`send` outcomes per socket (data, EOF, EWOULDBLOCK, errors,
partial and refused sends) — any number of concurrent connections, no bound on anything.
Server-wide close: histories `List XOp` add the server-wide `close()` and the `stopped` event at any point
(`spec_holds_x`, `lifecycle_x`, `no_trace_x`, `tables_x`, `server_close_all`, `stop_releases_all`); the client
model covers TCPClient, UNIXClient (`connect .failed`), `prepare_unregister`, `stopped` and Pipe() ends
(`client_lifecycle`, `client_unregister_releases`, `pipe_lifecycle`).
Accept path: histories `List AOp` (CV/Model/ConnAccept.lean) add the listening socket and the kernel's answers to
`accept()` (`spec_holds_a`, `accepted_announced_once`, `failed_accept_no_trace`, `reset_before_accept_no_trace`,
`listener_released`).
-/
namespace CV.C12
open CV.Conn

/-- **Every run of the server under every poller satisfies the observer's predicate**: per socket
the events follow `connect (read|error)* disconnect` (or a lone `error` for a connection refused
before it was announced) with nothing afterwards; every `read` is the oldest chunk `recv` delivered
on that socket that was not yet reported, and at the end of every op no delivered chunk is
unreported (order, no loss, no duplication); after every op, every socket that any table of the
server or the poller mentions is a connected one, and every closed socket was disconnected. -/
theorem spec_holds (k : Poller.Kind) (ops : List Op) : specTrace (trace k ops) = true := by
  have h := (ok_run k ops).spec
  simp only [specTrace, trace]
  rw [h]; rfl

/-- **One connect, one disconnect, in this order**: for every socket, the `connect`/`disconnect`
events of a run are a prefix of `[connect o, disconnect o]`. -/
theorem lifecycle (k : Poller.Kind) (ops : List Op) (o : Poller.Obj) :
    lifeOf o (trace k ops) = [] ∨ lifeOf o (trace k ops) = [.connect o] ∨
    lifeOf o (trace k ops) = [.connect o, .disconnect o] :=
  (life_run {} (trace k ops) o (ok_run k ops).spec).of_idle

/-- **After the disconnect, no trace — for every continuation.**  Once `disconnect o` has been
observed, in the state after *any* further history (late `write o`/`close o` events, rounds, other
connections, a new socket taking `o`'s file number) `o` is in none of `_clients`, `_buffers`,
`_closeq`, the poller's `_read`, `_write`, `_targets`, `_map`, and its descriptor is closed. -/
theorem no_trace (k : Poller.Kind) (pre post : List Op) (o : Poller.Obj)
    (h : Obs.disconnect o ∈ trace k pre) :
    let s := (run k (pre ++ post)).1
    o ∉ s.clients ∧ s.buffers o = none ∧ o ∉ s.closeq ∧ o ∉ s.p.read ∧ o ∉ s.p.write ∧
    s.p.targets o = none ∧ (∀ f, s.p.map f ≠ some o) ∧ s.p.w.fno o = none := by
  intro s
  have h1 := ok_run k pre
  have es : s = (runFrom (run k pre).1 post).1 := by
    show (runFrom (State.init k) (pre ++ post)).1 = _
    rw [runFrom_append]; rfl
  rw [es]
  exact no_trace_after h1 (ok_runFrom post h1.inv h1.rel) h

/-- **No table ever mentions a socket that is not connected** (in particular: nothing is retained
for a connection that was refused, or for a socket addressed by a late event). -/
theorem tables_only_connected (k : Poller.Kind) (ops : List Op) (o : Poller.Obj)
    (h : o ∉ (run k ops).1.clients) :
    let s := (run k ops).1
    s.buffers o = none ∧ o ∉ s.closeq ∧ o ∉ s.p.read ∧ o ∉ s.p.write ∧ s.p.targets o = none ∧
    (∀ f, s.p.map f ≠ some o) :=
  no_table (ok_run k ops).inv h

/-- **Connected means open, and only connected sockets are open**: the server never keeps a closed
socket as a client and never leaves a descriptor open that it has dropped. -/
theorem connected_iff_open (k : Poller.Kind) (ops : List Op) (o : Poller.Obj) :
    o ∈ (run k ops).1.clients ↔ ((run k ops).1.p.w.fno o).isSome = true :=
  ⟨(ok_run k ops).inv.O o, (ok_run k ops).inv.C o⟩

/-! ### clients: one `disconnected` per `connected` -/

/-- **A client never reports more `disconnected` than `connected`** — every history, no hypothesis. -/
theorem client_disconnected_le_connected (ops : List Client.Op) :
    Client.count .disconnected (Client.trace ops) ≤ Client.count .connected (Client.trace ops) := by
  have := Client.cnt_runFrom {} ops
  simp only [Client.trace]
  simp [Client.b2n] at this
  omega

/-- **`connected` and `disconnected` alternate, starting with `connected`** (so
`#disconnected ≤ #connected ≤ #disconnected + 1`), for every history in which `connect` is not issued
while the client is connected.
Full statement (open, false for the code as it is): the same for *every* history.  `TCPClient.connect`
/`UNIXClient.connect` on a connected client fire `connected` again (EISCONN is taken for success):
see `client_reconnect_witness`. -/
theorem client_pairing_partial (ops : List Client.Op) (h : Client.noReconnect {} ops = true) :
    Client.alternates false (Client.trace ops) = true :=
  Client.alt_runFrom {} ops h

/-- the excluded case really fails: two `connect`s without a disconnect in between -/
theorem client_reconnect_witness :
    Client.alternates false (Client.trace [.connect .ok, .connect .ok]) = false := by decide

/-! ### the whole server is closed / stopped; client release; Pipe ends

Histories `List XOp`: everything above, plus the `close()` event without a socket (`.closeAll`) and the
`stopped` event (`.stop`, `_on_stopped` fires `close()`) at any point, any number of times. -/

/-- the extended histories extend the old ones conservatively -/
theorem x_extends (k : Poller.Kind) (ops : List Op) : xtrace k (ops.map .op) = trace k ops := by
  simp only [xtrace, xrun, trace, run, xrunFrom_op]

/-- **`spec_holds` for histories with server-wide close and stop.** -/
theorem spec_holds_x (k : Poller.Kind) (ops : List XOp) : specTrace (xtrace k ops) = true := by
  have h := (ok_xrun k ops).spec
  simp only [specTrace, xtrace]
  rw [h]; rfl

/-- **`lifecycle` for histories with server-wide close and stop**: still at most one `connect`, then at
most one `disconnect`, per socket. -/
theorem lifecycle_x (k : Poller.Kind) (ops : List XOp) (o : Poller.Obj) :
    lifeOf o (xtrace k ops) = [] ∨ lifeOf o (xtrace k ops) = [.connect o] ∨
    lifeOf o (xtrace k ops) = [.connect o, .disconnect o] :=
  (life_run {} (xtrace k ops) o (ok_xrun k ops).spec).of_idle

/-- **`tables_only_connected` / `connected_iff_open` for histories with server-wide close and stop.** -/
theorem tables_x (k : Poller.Kind) (ops : List XOp) (o : Poller.Obj) :
    let s := (xrun k ops).1
    (o ∈ s.clients ↔ (s.p.w.fno o).isSome = true) ∧
    (o ∉ s.clients → s.buffers o = none ∧ o ∉ s.closeq ∧ o ∉ s.p.read ∧ o ∉ s.p.write ∧ s.p.targets o = none ∧
      (∀ f, s.p.map f ≠ some o)) :=
  ⟨⟨(ok_xrun k ops).inv.O o, (ok_xrun k ops).inv.C o⟩, fun h => no_table (ok_xrun k ops).inv h⟩

/-- **`no_trace` for histories with server-wide close and stop**: once `disconnect o` has been observed (also
one caused by a server-wide close or a stop), after *any* continuation (also further closes / stops) `o` is in
no table and its descriptor is closed. -/
theorem no_trace_x (k : Poller.Kind) (pre post : List XOp) (o : Poller.Obj)
    (h : Obs.disconnect o ∈ xtrace k pre) :
    let s := (xrun k (pre ++ post)).1
    o ∉ s.clients ∧ s.buffers o = none ∧ o ∉ s.closeq ∧ o ∉ s.p.read ∧ o ∉ s.p.write ∧
    s.p.targets o = none ∧ (∀ f, s.p.map f ≠ some o) ∧ s.p.w.fno o = none := by
  intro s
  have h1 := ok_xrun k pre
  have es : s = (xrunFrom (xrun k pre).1 post).1 := by
    show (xrunFrom (State.init k) (pre ++ post)).1 = _
    rw [xrunFrom_append]; rfl
  rw [es]
  exact no_trace_after h1 (ok_xrunFrom post h1.inv h1.rel) h

/-- **Server-wide close**, in whatever state any history has left the server (`s`), `r` = what `close()` does:
* every open connection without queued output is closed and gets exactly one `disconnect` (and no
  `connect`) in the course of the close;
* every open connection with queued output stays a client, waits in `_closeq` with its queue untouched and
  gets no `disconnect` yet (it gets exactly one when the queue has drained or the peer dies: `lifecycle_x`,
  `spec_holds_x` cover every continuation);
* nothing is reported for a socket that was not connected;
* if no connection has queued output, the close *completes* at once: `_clients` and `_closeq` are empty, no
  table of server or poller mentions any socket, every descriptor is closed. -/
theorem server_close_all (k : Poller.Kind) (ops : List XOp) :
    let s := (xrun k ops).1
    let r := closeAll s
    (∀ o, o ∈ s.clients → bufGet s o = [] → o ∉ r.1.clients ∧ lifeOf o r.2 = [.disconnect o]) ∧
    (∀ o, o ∈ s.clients → bufGet s o ≠ [] →
        o ∈ r.1.clients ∧ o ∈ r.1.closeq ∧ r.1.buffers o = s.buffers o ∧ Obs.disconnect o ∉ r.2) ∧
    (∀ o, o ∉ s.clients → o ∉ r.1.clients ∧ Obs.disconnect o ∉ r.2) ∧
    ((∀ o, o ∈ s.clients → bufGet s o = []) →
        r.1.clients = [] ∧ r.1.closeq = [] ∧ ∀ o, tbits r.1 o = 0 ∧ r.1.p.w.fno o = none) := by
  intro s r
  have ok := ok_xrun k ops
  have c : CInv s := ok.inv
  have rl := ok.rel
  have ok2 : Ok _ r := ok_closeEach s.clients c rl
  have each := fun o => closeEach_socket s s.clients o c.ND
  have closed : ∀ o, o ∈ s.clients → bufGet s o = [] → o ∉ r.1.clients := fun o => (each o).2.1
  refine ⟨fun o hc hb => ⟨closed o hc hb, closeEach_life c rl s.clients o hc hc hb⟩, ?_, ?_, ?_⟩
  · intro o hc hb
    obtain ⟨b, cl, q, d⟩ := (each o).2.2 fun _ => hb
    exact ⟨cl.mpr hc, q.mpr (.inr hc), b, d⟩
  · intro o hc
    exact ⟨fun h => hc ((each o).1 h), ((each o).2.2 fun h => absurd h hc).2.2.2⟩
  · intro hall
    have e : r.1.clients = [] := List.eq_nil_iff_forall_not_mem.mpr fun o h =>
      closed o ((each o).1 h) (hall o ((each o).1 h)) h
    exact ⟨e, ok2.inv.no_clients e⟩

/-- **Stop releases everything**: when `stopped` reaches the server after any history, every connection that
is still a client afterwards is one whose close waits for queued output (it is in `_closeq`, its queue is not
empty); every other connection that was open has had exactly `connect`, `disconnect` in the whole run, is in
no table, and its descriptor is closed; and if nothing was queued, nothing at all remains. -/
theorem stop_releases_all (k : Poller.Kind) (ops : List XOp) :
    let s := (xrun k ops).1
    let s' := (xrun k (ops ++ [.stop])).1
    (∀ o, o ∈ s'.clients → o ∈ s.clients ∧ o ∈ s'.closeq ∧ bufGet s' o ≠ []) ∧
    (∀ o, o ∈ s.clients → o ∉ s'.clients →
        lifeOf o (xtrace k (ops ++ [.stop])) = [.connect o, .disconnect o] ∧ tbits s' o = 0 ∧
        s'.p.w.fno o = none) ∧
    ((∀ o, o ∈ s.clients → bufGet s o = []) → s'.clients = [] ∧ s'.closeq = [] ∧
        ∀ o, tbits s' o = 0 ∧ s'.p.w.fno o = none) := by
  intro s s'
  have ok := ok_xrun k ops
  have c : CInv s := ok.inv
  -- the last op of the run is the server-wide close
  have e : xrun k (ops ++ [.stop]) = ((closeAll s).1, (xrun k ops).2 ++ ((closeAll s).2 ++ [.tab (rows (closeAll s).1)])) :=
    xrunFrom_snoc ..
  have es : s' = (closeAll s).1 := by show (xrun k (ops ++ [.stop])).1 = _; rw [e]
  have ok' := ok_xrun k (ops ++ [.stop])
  obtain ⟨a1, a2, -, a4⟩ := server_close_all k ops
  refine ⟨fun o h => ?_, fun o hc hn => ?_, fun hall => es ▸ a4 hall⟩
  · rw [es] at h ⊢
    have hc := (closeEach_socket s s.clients o c.ND).1 h
    by_cases hb : bufGet s o = []
    · exact absurd h (a1 o hc hb).1
    · obtain ⟨-, q, b, -⟩ := a2 o hc hb
      have hb' : bufGet (closeAll s).1 o = bufGet s o := congrArg (fun v => v.getD []) b
      exact ⟨hc, q, fun h => hb (hb'.symm.trans h)⟩
  · -- not a client any more: nothing was queued for it, so the close disconnected it
    have hb : bufGet s o = [] := Decidable.by_contra fun hb => hn (es ▸ (a2 o hc hb).1)
    have hd : Obs.disconnect o ∈ xtrace k (ops ++ [.stop]) := by
      show _ ∈ (xrun k (ops ++ [.stop])).2
      rw [e]
      exact List.mem_append_right _ (List.mem_append_left _ (closeEach_disconnects c ok.rel s.clients o hc hc hb))
    exact ⟨(life_run {} _ o ok'.spec).of_idle_disconnect (List.mem_filter.mpr ⟨hd, by simp⟩),
      tbits_zero ok'.inv hn, closed_of_not_client ok'.inv hn⟩

/-! ### clients: release by unregister / stop, UNIXClient, Pipe ends -/

/-- **Client life cycle** (TCPClient and UNIXClient; events: connect with every outcome, close, write,
readiness with every `recv`/`send` outcome, poller hang-up, `prepare_unregister`, `stopped`): for every history
without connect-while-connected (the known finding keeps its signature, `client_reconnect_witness`),
`connected` and `disconnected` alternate starting with `connected`, and there is exactly one `disconnected`
per `connected`, except for the connection that is still up at the end. -/
theorem client_lifecycle (ops : List Client.Op) (h : Client.noReconnect {} ops = true) :
    Client.alternates false (Client.trace ops) = true ∧
    Client.count .connected (Client.trace ops)
      = Client.count .disconnected (Client.trace ops) + Client.b2n (Client.runFrom {} ops).1.connected := by
  refine ⟨Client.alt_runFrom {} ops h, ?_⟩
  have := Client.cnt_runFrom_eq {} ops h
  simp only [Client.trace]
  simp [Client.b2n] at this ⊢
  omega

/-- **Unregistering the client releases the connection**: after `prepare_unregister` the client is not
connected and every `connected` of the run has its `disconnected`. -/
theorem client_unregister_releases (ops : List Client.Op) (h : Client.noReconnect {} ops = true) :
    (Client.runFrom {} (ops ++ [.unregister])).1.connected = false ∧
    Client.count .connected (Client.trace (ops ++ [.unregister]))
      = Client.count .disconnected (Client.trace (ops ++ [.unregister])) := by
  have hd : (Client.runFrom {} (ops ++ [.unregister])).1.connected = false := by
    rw [Client.runFrom_append]
    simp only [Client.runFrom, Client.step]
    exact Client.doClose_down _
  have h2 : Client.noReconnect {} (ops ++ [.unregister]) = true :=
    Client.noReconnect_append {} ops _ h (by simp [Client.noReconnect])
  refine ⟨hd, ?_⟩
  have := (client_lifecycle _ h2).2
  rw [hd] at this
  simpa [Client.b2n] using this

/-- **A `Pipe()` end** is born connected and never reports `connected` for that; from then on the same
alternation holds (`disconnected` first), so it reports at most one `disconnected` more than `connected`. -/
theorem pipe_lifecycle (ops : List Client.Op) (h : Client.noReconnect Client.pipeInit ops = true) :
    Client.alternates true (Client.pipeTrace ops) = true ∧
    Client.count .disconnected (Client.pipeTrace ops) ≤ Client.count .connected (Client.pipeTrace ops) + 1 := by
  refine ⟨Client.alt_runFrom Client.pipeInit ops h, ?_⟩
  have := Client.cnt_runFrom Client.pipeInit ops
  simp only [Client.pipeTrace]
  simp [Client.b2n, Client.pipeInit] at this ⊢
  omega

/-! ### the statements are not vacuous -/

def rdIn : Nat → Poller.Bits := fun _ => ⟨true, false, false, false⟩
def rdInOut : Nat → Poller.Bits := fun _ => ⟨true, true, false, false⟩

/-- a dialogue: accept, two reads, EOF -> disconnect; then a late write and a late close: nothing happens,
    every row stays 128 (= closed, no table) -/
example : trace .epoll [.accept 1 7 false, .poll [7] rdIn (fun _ => .data [1, 2]) (fun _ => .again),
                        .poll [7] rdIn (fun _ => .eof) (fun _ => .again), .write 1 5, .close 1]
    = [.connect 1, .tab [(1, 105)],
       .recvd 1 (.data [1, 2]), .read 1 [1, 2], .tab [(1, 105)],
       .recvd 1 .eof, .sclosed 1, .disconnect 1, .tab [(1, 128)],
       .tab [(1, 128)], .tab [(1, 128)]] := by decide +kernel

/-- hypothesis of `no_trace` met, with a continuation in which the number is reused by a new socket -/
example : Obs.disconnect 1 ∈ trace .poll [.accept 1 7 false, .poll [7] rdIn (fun _ => .err) (fun _ => .again)] := by
  decide +kernel

example : (run .poll ([.accept 1 7 false, .poll [7] rdIn (fun _ => .err) (fun _ => .again)]
                      ++ [.write 1 3, .accept 2 7 false, .close 1])).1.clients = [2] := by decide +kernel

/-- close deferred behind a partial send, then the peer resets: `_closeq` is emptied -/
example : (trace .select [.accept 1 7 false, .write 1 10, .poll [7] rdInOut (fun _ => .again) (fun _ => .acc 4),
                          .close 1, .poll [7] rdInOut (fun _ => .err) (fun _ => .again)]).getLast?
    = some (.tab [(1, 128)]) := by decide +kernel

/-- a connection that is dead on arrival: `error` only, no table -/
example : trace .poll [.accept 1 7 true] = [.error 1, .sclosed 1, .tab [(1, 128)]] := by decide

/-- `client_pairing_partial`: hypothesis met by a history with two full life cycles -/
example : Client.noReconnect {} [.connect .ok, .readable .eof, .connect .refused, .connect .ok, .write 3, .close,
                                 .writable (.acc 3)] = true := by decide

example : Client.trace [.connect .ok, .readable .eof, .connect .refused, .connect .ok, .write 3, .close,
                        .writable (.acc 3)]
    = [.connected, .disconnected, .unreachable, .error, .connected, .disconnected] := by decide

/-- two connections, one with queued output; `close()` of the whole server disconnects the idle one at
    once and parks the other in `_closeq` (row 1|2|4|8|16|32|64 = 127); when its output has drained it is
    disconnected too; a second `close()` and a `stop` find nothing to do -/
example : xtrace .epoll [.op (.accept 1 7 false), .op (.accept 2 8 false), .op (.write 2 10), .closeAll,
                         .op (.poll [8] rdInOut (fun _ => .again) (fun _ => .acc 10)), .closeAll, .stop]
    = [.connect 1, .tab [(1, 105)], .connect 2, .tab [(1, 105), (2, 105)], .tab [(1, 105), (2, 123)],
       .sclosed 1, .disconnect 1, .tab [(1, 128), (2, 127)],
       .recvd 2 .again, .sent 2 10 (.acc 10), .sclosed 2, .disconnect 2, .tab [(1, 128), (2, 128)],
       .tab [(1, 128), (2, 128)], .tab [(1, 128), (2, 128)]] := by decide +kernel

/-- hypothesis of `no_trace_x` met by a disconnect that the server-wide close caused -/
example : Obs.disconnect 1 ∈ xtrace .poll [.op (.accept 1 7 false), .closeAll] := by decide

/-- hypotheses of `server_close_all` met: an open connection without and one with queued output -/
example : let s := (xrun .poll [.op (.accept 1 7 false), .op (.accept 2 8 false), .op (.write 2 10)]).1
    (1 ∈ s.clients ∧ bufGet s 1 = []) ∧ (2 ∈ s.clients ∧ bufGet s 2 ≠ []) ∧ 3 ∉ s.clients := by decide +kernel

example : let s := (xrun .select [.op (.accept 1 7 false), .op (.accept 2 8 false)]).1
    s.clients = [1, 2] ∧ ∀ o, o ∈ s.clients → bufGet s o = [] := by decide

/-- `stop_releases_all`: connection 1 is released by the stop, connection 2 waits with queued output -/
example : let s' := (xrun .select ([.op (.accept 1 7 false), .op (.accept 2 8 false), .op (.write 2 10)] ++ [.stop])).1
    s'.clients = [2] ∧ s'.closeq = [2] := by decide +kernel

/-- `client_lifecycle` / `client_unregister_releases`: hypothesis met by a UNIXClient-shaped history: connect,
    unregister, a connect that fails on the closed socket, and one with stop while output is queued -/
example : Client.noReconnect {} [.connect .ok, .unregister, .connect .failed] = true := by decide

example : Client.trace ([.connect .ok, .write 3, .stopped, .writable (.acc 3), .connect .ok] ++ [.unregister])
    = [.connected, .disconnected, .connected, .disconnected] := by decide

/-- `pipe_lifecycle`: a Pipe end reads, is stopped: one `disconnected`, no `connected` -/
example : Client.noReconnect Client.pipeInit [.readable (.data [1]), .stopped, .connect .failed] = true := by decide

example : Client.pipeTrace [.readable (.data [1]), .stopped, .connect .failed] = [.read [1], .disconnected, .error] := by
  decide

/-! ### the accept path: the listening socket as a model object (`AOp`, CV/Model/ConnAccept.lean)

Histories `List AOp`: everything above (`.x`), plus server start (`.start`: the listening socket is registered as
reader), `_read(listening socket)` with the kernel's answer to `accept()` (`.lready`: a new socket, a new socket whose
peer has already reset, any errno), and `_close(listening socket)` (`.lclose`); a server-wide close / stop now also
closes the listening socket. -/

/-- **The extension is conservative**: a history without listening-socket operations shows exactly what it showed
before, and leaves the same connection state. -/
theorem a_extends (k : Poller.Kind) (ops : List XOp) :
    atrace k (ops.map .x) = xtrace k ops ∧ (arun k (ops.map .x)).1.c = (xrun k ops).1 :=
  ⟨(arunFrom_x (AState.init k) ops).2, (arunFrom_x (AState.init k) ops).1⟩

/-- **`spec_holds` for histories with the accept path**: whatever the kernel answers to `accept()` and whenever the
listening socket is started / closed, per socket the events follow `connect (read|error)* disconnect` (or a lone `error`
for a connection reset before it was announced): in particular no `read`/`disconnect` before the `connect`. -/
theorem spec_holds_a (k : Poller.Kind) (ops : List AOp) : specTrace (atrace k ops) = true := by
  have h := (ok_arun k ops).spec
  simp only [specTrace, atrace]
  rw [h]; rfl

/-- **`lifecycle` for histories with the accept path.** -/
theorem lifecycle_a (k : Poller.Kind) (ops : List AOp) (o : Poller.Obj) :
    lifeOf o (atrace k ops) = [] ∨ lifeOf o (atrace k ops) = [.connect o] ∨
    lifeOf o (atrace k ops) = [.connect o, .disconnect o] :=
  (life_run {} (atrace k ops) o (ok_arun k ops).spec).of_idle

/-- **`tables_only_connected` / `connected_iff_open` for histories with the accept path.** -/
theorem tables_a (k : Poller.Kind) (ops : List AOp) (o : Poller.Obj) :
    let s := (arun k ops).1.c
    (o ∈ s.clients ↔ (s.p.w.fno o).isSome = true) ∧
    (o ∉ s.clients → s.buffers o = none ∧ o ∉ s.closeq ∧ o ∉ s.p.read ∧ o ∉ s.p.write ∧ s.p.targets o = none ∧
      (∀ f, s.p.map f ≠ some o)) :=
  ⟨⟨(ok_arun k ops).inv.O o, (ok_arun k ops).inv.C o⟩, fun h => no_table (ok_arun k ops).inv h⟩

/-- **`no_trace` for histories with the accept path.** -/
theorem no_trace_a (k : Poller.Kind) (pre post : List AOp) (o : Poller.Obj)
    (h : Obs.disconnect o ∈ atrace k pre) :
    let s := (arun k (pre ++ post)).1.c
    o ∉ s.clients ∧ s.buffers o = none ∧ o ∉ s.closeq ∧ o ∉ s.p.read ∧ o ∉ s.p.write ∧
    s.p.targets o = none ∧ (∀ f, s.p.map f ≠ some o) ∧ s.p.w.fno o = none := by
  intro s
  have h1 := ok_arun k pre
  have es : s = (arunFrom (arun k pre).1 post).1.c := by
    show (arunFrom (AState.init k) (pre ++ post)).1.c = _
    rw [arunFrom_append]; rfl
  rw [es]
  exact no_trace_after h1 (ok_arunFrom post h1.inv h1.rel) h

/-- **Every accepted socket is announced exactly once, first of all, and is registered as reader**: when, after any
history, the listening socket is readable and `accept()` returns a new socket `o` (peer alive), the op shows exactly
`connect o`; `o` is then a client, in the poller's `_read` with the server as target; and in every continuation the
`connect`/`disconnect` events of `o` are `[connect o]` or `[connect o, disconnect o]` - one `connect`, before any
`disconnect` (and before any `read`: `spec_holds_a`). -/
theorem accepted_announced_once (k : Poller.Kind) (pre post : List AOp) (o : Poller.Obj) (f : Nat)
    (hl : (arun k pre).1.l = .listening) (hv : (arun k pre).1.c.p.w.canOpen o f = true) :
    let r := astep (arun k pre).1 (.lready (.sock o f false))
    r.2 = [.connect o, .tab (rows r.1.c)] ∧ o ∈ r.1.c.clients ∧ o ∈ r.1.c.p.read ∧
    r.1.c.p.targets o = some srvChan ∧
    (lifeOf o (atrace k (pre ++ [.lready (.sock o f false)] ++ post)) = [.connect o] ∨
     lifeOf o (atrace k (pre ++ [.lready (.sock o f false)] ++ post)) = [.connect o, .disconnect o]) := by
  intro r
  have hp := accept_poller (ok_arun k pre).inv.G.P o f hv
  have hr : r.2 = [.connect o, .tab (rows r.1.c)] ∧ o ∈ r.1.c.clients ∧
      r.1.c.p = (Poller.step (Poller.step (arun k pre).1.c.p (.opn o f)).1 (.addReader o srvChan)).1 := by
    simp [r, astep, astepCore, hl, stepCore, hv]
  obtain ⟨e2, hcl, ep⟩ := hr
  refine ⟨e2, hcl, by rw [ep]; exact hp.1, by rw [ep]; exact hp.2, ?_⟩
  · have hm : Obs.connect o ∈ lifeOf o (atrace k (pre ++ [.lready (.sock o f false)] ++ post)) := by
      simp only [lifeOf, List.mem_filter]
      refine ⟨?_, by simp⟩
      show Obs.connect o ∈ (arunFrom (AState.init k) (pre ++ [.lready (.sock o f false)] ++ post)).2
      rw [arunFrom_append, arunFrom_append]
      simp only [arunFrom, List.append_nil]
      have : Obs.connect o ∈ r.2 := by rw [e2]; simp
      simp only [List.mem_append]
      exact Or.inl (Or.inr this)
    rcases lifecycle_a k (pre ++ [.lready (.sock o f false)] ++ post) o with h | h | h
    · rw [h] at hm; simp at hm
    · exact Or.inl h
    · exact Or.inr h

/-- **A failed accept leaves no trace**: whatever errno `accept()` answers (tolerated or re-raised), in whatever state:
no table of the server or the poller changes, the listening socket stays as it was, and the op shows no event at all
(no `connect`, no `disconnect`, no `error`) - only the unchanged tables. -/
theorem failed_accept_no_trace (k : Poller.Kind) (ops : List AOp) (e : Errno) :
    let a := (arun k ops).1
    let r := astep a (.lready (.errno e))
    r.1.c = a.c ∧ r.1.l = a.l ∧ r.1.ldisc = a.ldisc ∧ r.2 = [.tab (rows a.c)] ∧
    (tolerated e = true → r.1.raised = a.raised) := by
  intro a r
  by_cases hl : a.l = .listening <;> by_cases ht : tolerated e = true <;>
    simp [r, astep, astepCore, hl, ht]

/-- **A connection that was reset while it waited in the backlog** (`getpeername()` fails after `accept()`): `error`
and the close of the new socket, never `connect` or `disconnect` - now or in any continuation - and no table mentions
it afterwards. -/
theorem reset_before_accept_no_trace (k : Poller.Kind) (pre post : List AOp) (o : Poller.Obj) (f : Nat)
    (hl : (arun k pre).1.l = .listening) (hv : (arun k pre).1.c.p.w.canOpen o f = true) :
    (astep (arun k pre).1 (.lready (.sock o f true))).2
      = [.error o, .sclosed o, .tab (rows (astep (arun k pre).1 (.lready (.sock o f true))).1.c)] ∧
    tbits (arun k (pre ++ [.lready (.sock o f true)] ++ post)).1.c o = 0 := by
  have e1 : (astep (arun k pre).1 (.lready (.sock o f true))).2
      = [.error o, .sclosed o, .tab (rows (astep (arun k pre).1 (.lready (.sock o f true))).1.c)] := by
    simp [astep, astepCore, hl, stepCore, hv]
  refine ⟨e1, ?_⟩
  have okp := ok_arun k pre
  have hidle : (specAdv {} (arun k pre).2).ph o = .idle :=
    (okp.rel.idle o).mpr (canOpen_fresh okp.inv hv).1
  have ok1 := ok_astep (σ := specAdv {} (arun k pre).2) (.lready (.sock o f true)) okp.inv okp.rel
  -- the `error` of the connection that was reset puts `o` in phase `rej`, for good
  have hrej : (specAdv (specAdv {} (arun k pre).2) (astep (arun k pre).1 (.lready (.sock o f true))).2).ph o
      = .rej := by
    have hidle' : (List.foldl Spec.advance {} (arun k pre).2).ph o = .idle := hidle
    rw [e1]; simp [specAdv, Spec.advance, hidle', Poller.upd_same]
  have h2 := ok_arunFrom post ok1.inv ok1.rel
  have es : (arun k (pre ++ [.lready (.sock o f true)] ++ post)).1.c
      = (arunFrom (astep (arun k pre).1 (.lready (.sock o f true))).1 post).1.c := by
    show (arunFrom (AState.init k) (pre ++ [.lready (.sock o f true)] ++ post)).1.c = _
    rw [arunFrom_append, arunFrom_append]; rfl
  rw [es]
  exact tbits_zero h2.inv (not_client_after_final h2 (Or.inr hrej))

/-- **After a server-wide close, a stop, or a close / hang-up of the listening socket itself, the listening socket is
in no poller table** - under every poller, after every history, and for every continuation: its phase is not
`listening` any more; once `closed` it stays closed; in the poller state that `discard` + `close` leave behind it is
in none of `_read`, `_write`, `_targets`, `_map` and its descriptor is closed; and exactly one `disconnect` was fired
for it. -/
theorem listener_released (k : Poller.Kind) (pre post : List AOp) (op : AOp)
    (hop : op = .x .closeAll ∨ op = .x .stop ∨ op = .lclose) (hl : (arun k pre).1.l = .listening) :
    let a := (arun k (pre ++ [op] ++ post)).1
    a.l = .closed ∧ a.ldisc = 1 ∧
    (Conn.lobj ∉ (lworld k a.l).read ∧ Conn.lobj ∉ (lworld k a.l).write ∧ (lworld k a.l).targets Conn.lobj = none ∧
     inMap (lworld k a.l) Conn.lobj = false ∧ (lworld k a.l).w.fno Conn.lobj = none) ∧ lflags k a.l = 128 := by
  intro a
  have h1 : (astep (arun k pre).1 op).1.l = .closed := by
    rcases hop with e | e | e <;> subst e <;> simp [astep, astepCore, closeListener, hl]
  have e : a = (arunFrom (astep (arun k pre).1 op).1 post).1 := by
    show (arunFrom (AState.init k) (pre ++ [op] ++ post)).1 = _
    rw [arunFrom_append, arunFrom_append]
    simp [arunFrom, arun]
  have hc : a.l = .closed := by rw [e]; exact arunFrom_closed _ post h1
  have hi : LInv a := linv_arunFrom (a := AState.init k) (pre ++ [op] ++ post) (by simp [LInv, AState.init])
  refine ⟨hc, by simpa [LInv, hc] using hi, ?_, ?_⟩
  · rw [hc]; exact lclosed_clean k
  · rw [hc]; exact lflags_closed k

/-- the listening socket gets at most one `disconnect`, in every history -/
theorem listener_disconnect_le_one (k : Poller.Kind) (ops : List AOp) : (arun k ops).1.ldisc ≤ 1 := by
  have hi : LInv (arun k ops).1 := linv_arunFrom (a := AState.init k) ops (by simp [LInv, AState.init])
  unfold LInv at hi
  split at hi <;> omega

/-- non-vacuity: start, two failed accepts (one tolerated, one re-raised), an accept, a dead-on-arrival accept, a read,
    server-wide close; an accept answer after the close is ignored -/
example : (atrace .epoll [.start, .lready (.errno .emfile), .lready (.errno .other), .lready (.sock 1 7 false),
                          .lready (.sock 2 8 true), .x .closeAll, .lready (.sock 3 9 false)])
    = [.tab [], .tab [], .tab [], .connect 1, .tab [(1, 105)], .error 2, .sclosed 2, .tab [(1, 105), (2, 128)],
       .sclosed 1, .disconnect 1, .tab [(1, 128), (2, 128)], .tab [(1, 128), (2, 128)]] := by decide +kernel

example : (arun .poll [.start]).1.l = .listening ∧ (arun .poll [.start]).1.c.p.w.canOpen 1 7 = true := by decide
example : lflags .poll .listening = 104 ∧ lflags .select .listening = 40 := by decide
example : Obs.disconnect 1 ∈ atrace .select [.start, .lready (.sock 1 7 false), .x .stop] := by decide

example : (arun .select [.start, .lready (.errno .other), .lclose, .x .stop]).1.raised = 1 ∧
    (arun .select [.start, .lready (.errno .other), .lclose, .x .stop]).1.ldisc = 1 := by decide

end CV.C12
