import CV.Proofs.HttpServer
import CV.Model.HttpSpec
import CV.Proofs.HttpWf
import CV.Proofs.HttpLex
import CV.Proofs.HttpLexRound
import CV.Proofs.HttpClient
/-
C13 - HTTP requests are parsed identically however the stream is segmented.

The theorems up to `wellformed_one_response` are for every instantiation `lex` of the lexical leaf functions, every
parser state / message / list of read segments (no size bounds).  "Clean" = the one-piece run
raises neither the ghost flag `over` (a byte beyond the end of the message was read: the
stream is not a single message - pipelining, excess body) nor a parser error nor a Python
exception; the driver evaluates this hypothesis on every generated message.  The `wellformed_*` theorems link the
RFC-derived decomposition `isReading` (CV/Model/HttpSpec.lean) to that hypothesis: every message it accepts is clean.
After them: the same statements for the code's own lexers (`concreteLex`), the round trips through these lexers, the
client component, and requests back to back on one connection.
-/
namespace CV.C13
open CV.Http

/-- a toy instantiation of the lexers for the non-vacuity examples: every first line is an
    HTTP/1.1 request line, header block `[72]` ("H") = no framing headers + Host,
    `[67]` ("C") = Content-Length: 2 + Host, `[84]` ("T") = chunked + Host -/
def toyLex : Lex where
  first _ _ := some ⟨1, 1, none⟩
  hdrs b := if b = [72] then some ⟨.absent, false, true, false⟩
            else if b = [67] then some ⟨.val 2, false, true, false⟩
            else if b = [84] then some ⟨.absent, true, true, false⟩
            else none
  chunk l := if l = [50] then some 2 else if l = [48] then some 0 else none
  pathOk _ _ := true

/-- `G CRLF C CRLF CRLF a b` : a request with Content-Length: 2 -/
def toyMsg : Bytes := [71, 13, 10, 67, 13, 10, 13, 10, 97, 98]
/-- cut between CR and LF of the first line, inside CRLF CRLF, inside the body -/
def toySegs : List Bytes := [[71, 13], [10, 67, 13, 10, 13], [10, 97], [98]]
/-- `G CRLF T CRLF CRLF 2 CRLF a b CRLF 0 CRLF CRLF` : a chunked request -/
def toyChunked : Bytes := [71, 13, 10, 84, 13, 10, 13, 10, 50, 13, 10, 97, 98, 13, 10, 48, 13, 10, 13, 10]

/-- **Framing homomorphism.**  Delivering `a` and then `b` leaves the parser in exactly the state
    (phase flags, errno, lexed first line and header block, framing, body so far, carry-over
    buffer) that delivering `a ++ b` does - whenever the one-piece run is clean. -/
theorem exec_hom (lex : Lex) (s : PState) (a b : Bytes) (hwf : WF s.core) (ha : a ≠ []) (hb : b ≠ [])
    (hclean : (exec lex s (a ++ b)).core.bad = false) :
    exec lex (exec lex s a) b = exec lex s (a ++ b) :=
  Http.exec_hom lex s a b hwf ha hb hclean

example : WF (init .request).core ∧
    (exec toyLex (init .request) ([71, 13] ++ [10, 67, 13, 10, 13, 10, 97, 98])).core.bad = false :=
  ⟨wf_init _, by decide +kernel⟩

/-- **Segmentation invariance of the parser** (requests and responses): every way of cutting a
    clean stream into non-empty reads - including byte-at-a-time - ends in the state of
    one-piece delivery. -/
theorem segmentation_invariant (lex : Lex) (k : Kind) (segs : List Bytes)
    (hne : ∀ d ∈ segs, d ≠ []) (hs : segs ≠ [])
    (hclean : (exec lex (init k) segs.flatten).core.bad = false) :
    execAll lex (init k) segs = exec lex (init k) segs.flatten :=
  execAll_eq lex (init k) segs (wf_init _) hne hs hclean

example : (∀ d ∈ toySegs, d ≠ []) ∧ toySegs ≠ [] ∧
    (exec toyLex (init .request) toySegs.flatten).core.bad = false ∧
    (exec toyLex (init .request) toySegs.flatten).core.complete = true ∧
    (exec toyLex (init .request) toySegs.flatten).core.body = [97, 98] := by
  decide +kernel

/-- **One request, at the read that delivers the last byte.**  On a fresh connection, if
    one-piece delivery of a clean request stream makes `_on_read` fire the `request` event
    (first line `fl`, header block `hb`, body `body`), then every segmentation makes every read
    but the last do nothing and the last read fire exactly that event, leaving the same table
    entries (`_buffers[sock]` deleted, `_clients[sock]` = the request). -/
theorem one_request (lex : Lex) (secure : Bool) (segs : List Bytes)
    (hne : ∀ d ∈ segs, d ≠ []) (hs : segs ≠ [])
    (hclean : (exec lex (init .request) segs.flatten).core.bad = false)
    (hst : (exec lex (init .request) segs.flatten).core.status = none)
    (cn1 : Conn) (fl : Bytes) (hb : Option Bytes) (body : Bytes)
    (hone : connRead lex secure {} segs.flatten = (cn1, .request fl hb body)) :
    connReadAll lex secure {} segs =
      (cn1, List.replicate (segs.length - 1) .wait ++ [.request fl hb body]) := by
  cases segs with
  | nil => exact absurd rfl hs
  | cons a rest =>
    have ha : a ≠ [] := hne a (by simp)
    -- the one-piece read was not taken for a TLS handshake, so neither is the first segment
    obtain ⟨hssl, hone'⟩ := connRead_fresh_request hone
    have hssl' : (sslHandshake a && !secure) = false := by
      cases hsec : secure with
      | true => simp
      | false =>
        simp only [hsec, Bool.not_false, Bool.and_true] at hssl ⊢
        rw [List.flatten_cons] at hssl
        exact ssl_prefix a _ ha hssl
    have key := conn_segments lex secure (a :: rest) (init .request) none (reach_init _)
      (fun r h => by cases h) hne hs hclean hst cn1 fl hb body hone'
    have first : connRead lex secure {} a = connRead lex secure ⟨some (init .request), none⟩ a := by
      show (if (sslHandshake a && !secure) = true then _ else _) = _
      rw [hssl']; rfl
    rw [connReadAll] at key ⊢
    rw [first]
    exact key

example : (exec toyLex (init .request) toySegs.flatten).core.status = none ∧
    connRead toyLex false {} toySegs.flatten =
      (⟨none, some ⟨[71], ⟨1, 1, none⟩, some [67], ⟨.val 2, false, true, false⟩⟩⟩,
       .request [71] (some [67]) [97, 98]) := by
  decide +kernel

/-- serve successive messages on one connection: all reads of a message, then its response -/
def serveAll (lex : Lex) (secure : Bool) (cn : Conn) : List (List Bytes) → Conn × List (List Out)
  | [] => (cn, [])
  | segs :: more =>
    let (c1, os) := connReadAll lex secure cn segs
    let (c2, oss) := serveAll lex secure (connResponded c1) more
    (c2, os :: oss)

/-- what `one_request` assumes of one message and its segmentation -/
def CleanRequest (lex : Lex) (secure : Bool) (segs : List Bytes) (fl : Bytes) (hb : Option Bytes)
    (body : Bytes) : Prop :=
  (∀ d ∈ segs, d ≠ []) ∧ segs ≠ [] ∧
  (exec lex (init .request) segs.flatten).core.bad = false ∧
  (exec lex (init .request) segs.flatten).core.status = none ∧
  ∃ cn1, connRead lex secure {} segs.flatten = (cn1, .request fl hb body)

/-- **Keep-alive sequences.**  Successive requests on one connection, each following the previous
    response (no pipelining), each cut into reads in any way: every request is seen exactly once,
    at its last read, exactly as in one-piece delivery, and the connection's table entries are
    empty again after each response. -/
theorem keepalive_sequence (lex : Lex) (secure : Bool)
    (msgs : List (List Bytes × Bytes × Option Bytes × Bytes))
    (h : ∀ m ∈ msgs, CleanRequest lex secure m.1 m.2.1 m.2.2.1 m.2.2.2) :
    serveAll lex secure {} (msgs.map (·.1)) =
      ({}, msgs.map fun m => List.replicate (m.1.length - 1) .wait ++ [.request m.2.1 m.2.2.1 m.2.2.2]) := by
  induction msgs with
  | nil => rfl
  | cons m more ih =>
    obtain ⟨hne, hs, hclean, hst, cn1, hone⟩ := h m (by simp)
    have h1 := one_request lex secure m.1 hne hs hclean hst cn1 _ _ _ hone
    obtain ⟨req, hcn⟩ := connRead_request_drops hone
    have hresp : connResponded cn1 = {} := by rw [hcn]; rfl
    simp only [List.map_cons, serveAll, h1, hresp]
    rw [ih (fun m' hm' => h m' (List.mem_cons_of_mem _ hm'))]

theorem toySegs_clean : CleanRequest toyLex false toySegs [71] (some [67]) [97, 98] :=
  ⟨by decide +kernel, by decide +kernel, by decide +kernel, by decide +kernel,
   ⟨none, some ⟨[71], ⟨1, 1, none⟩, some [67], ⟨.val 2, false, true, false⟩⟩⟩, by decide +kernel⟩

example : CleanRequest toyLex false toySegs [71] (some [67]) [97, 98] := toySegs_clean

/-- the `response` event `_on_client_read` fires for parser state `q`, if any -/
def clientOut (q : PState) : PState × Option Resp :=
  if clientFires q.core then (init .response, some ⟨q.core.firstLine, q.core.hdrBlock, q.core.body⟩) else (q, none)

/-- no read before the last one makes the client component fire -/
def QuietPrefixes (lex : Lex) (p : PState) (segs : List Bytes) : Prop :=
  ∀ k, 0 < k → k < segs.length → clientFires (execAll lex p (segs.take k)).core = false

/-- reads none of which but the last makes the client fire: silence, then what `_on_client_read` makes of the
    parser state after all of them -/
theorem clientAll_quiet (lex : Lex) : ∀ (segs : List Bytes) (p : PState), segs ≠ [] → QuietPrefixes lex p segs →
    clientAll lex p segs =
      ((clientOut (execAll lex p segs)).1,
       List.replicate (segs.length - 1) none ++ [(clientOut (execAll lex p segs)).2]) := by
  intro segs
  induction segs with
  | nil => intro p h; exact absurd rfl h
  | cons a rest ih =>
    intro p _ hq
    cases rest with
    | nil =>
      simp [clientAll, clientRead, execAll, clientOut]
      exact ⟨rfl, rfl⟩
    | cons b rest' =>
      have h1 : clientFires (exec lex p a).core = false := by
        have := hq 1 (by omega) (by simp)
        simpa [execAll] using this
      have hq' : QuietPrefixes lex (exec lex p a) (b :: rest') := by
        intro k hk0 hk
        have := hq (k + 1) (by omega) (by simp at hk ⊢; omega)
        simpa [execAll] using this
      have e1 : clientRead lex p a = (exec lex p a, none) := by
        simp [clientRead, h1]
      rw [clientAll, e1]
      dsimp only
      rw [ih (exec lex p a) (by simp) hq']
      simp [execAll, List.replicate_succ]

/-- **Client side (partial).**  For a clean response stream, every segmentation in which no read
    before the last one triggers the `response` event yields exactly the `response` event (or the
    silence) of one-piece delivery, at the last read, and the same parser afterwards.

    The hypothesis `QuietPrefixes` follows from cleanliness for responses that are not an Upgrade:
    `client_response_no_upgrade` below (`client_early_iff` characterises the early firing).
    `client_upgrade_witness` shows that the hypothesis cannot simply be dropped: an Upgrade
    response with a body is delivered differently when cut after the headers. -/
theorem client_response_partial (lex : Lex) (segs : List Bytes)
    (hne : ∀ d ∈ segs, d ≠ []) (hs : segs ≠ [])
    (hclean : (exec lex (init .response) segs.flatten).core.bad = false)
    (hq : QuietPrefixes lex (init .response) segs) :
    clientAll lex (init .response) segs =
      ((clientRead lex (init .response) segs.flatten).1,
       List.replicate (segs.length - 1) none ++ [(clientRead lex (init .response) segs.flatten).2]) := by
  rw [clientAll_quiet lex segs _ hs hq, segmentation_invariant lex .response segs hne hs hclean]
  simp only [clientRead, clientOut]

/-- an Upgrade response with Content-Length 2 (toy lexer: every header block announces it) -/
def upgLex : Lex where
  first _ _ := some ⟨1, 1, some 101⟩
  hdrs _ := some ⟨.val 2, false, false, true⟩
  chunk _ := none
  pathOk _ _ := true

/-- one-piece delivery fires the response with body `ab`; cut after the headers it is fired with an
    empty body and the two body bytes start a new (never completed) message -/
theorem client_upgrade_witness :
    (clientAll upgLex (init .response) [[83, 13, 10, 85, 13, 10, 13, 10, 97, 98]]).2 =
      [some ⟨some [83], some [85], [97, 98]⟩] ∧
    (clientAll upgLex (init .response) [[83, 13, 10, 85, 13, 10, 13, 10], [97, 98]]).2 =
      [some ⟨some [83], some [85], []⟩, none] := by
  decide +kernel

example : (∀ d ∈ toySegs, d ≠ []) ∧ QuietPrefixes toyLex (init .response) toySegs ∧
    (exec toyLex (init .response) toySegs.flatten).core.bad = false := by
  refine ⟨by decide +kernel, ?_, by decide +kernel⟩
  intro k h0 hk
  have : k = 1 ∨ k = 2 ∨ k = 3 := by simp [toySegs] at hk; omega
  rcases this with rfl | rfl | rfl <;> decide +kernel

/-- a lexer instantiation for the non-vacuity examples below whose chunk-size reader is the RFC
    one (`toyLex` otherwise) -/
def rfcLex : Lex := { toyLex with chunk := rfcChunkSize }

/-- **Well-formed => clean (partial: one constraint on the lexer parameter).**  Every message that
    the RFC-derived decomposition `isReading` accepts as (first line `fl`, header block `hb`,
    body `body`) is read by the parser model, delivered in one piece, as exactly that: complete,
    no parser error, no Python exception, no byte beyond the message read (`over`), and the byte
    strings handed to the lexers are `fl` and `hb`, the body delivered is `body`.

    Hypotheses on the lexer parameter: `hchunk` - the chunk-size reader accepts what RFC 7230 4.1
    accepts, with the same value; `hreq` - extra: the request-line lexer
    yields no status code.  Full statement = without `hreq`; it is false for a (nonsensical)
    lexer whose request lines carry a status, see `wellformed_clean_witness`.  The real
    `_parse_request_line` never sets `_status`/`_status_code`, so `hreq` holds of the code by
    construction; it is not a restriction on messages. -/
theorem wellformed_clean_partial (lex : Lex) (k : Kind) (msg fl : Bytes) (hb : Option Bytes) (body : Bytes)
    (hr : isReading lex k msg fl hb body = true)
    (hchunk : ∀ l n, rfcChunkSize l = some n → lex.chunk l = some n)
    (hreq : k = .request → ∀ f, lex.first .request fl = some f → f.status = none) :
    let p := exec lex (init k) msg
    p.core.bad = false ∧ p.core.complete = true ∧
    p.core.firstLine = some fl ∧ p.core.hdrBlock = hb ∧ p.core.body = body := by
  obtain ⟨f, h, _, _, _, _, hp⟩ := wf13_exec lex k msg fl hb body hr hchunk
    (fun hk f hf => hreq hk f (by rw [← hk]; exact hf))
  exact ⟨hp.bad, hp.complete, hp.firstLine, hp.hdrBlock, hp.body⟩

example : isReading rfcLex .request toyMsg [71] (some [67]) [97, 98] = true ∧
    (∀ l n, rfcChunkSize l = some n → rfcLex.chunk l = some n) ∧
    (Kind.request = .request → ∀ f, rfcLex.first .request [71] = some f → f.status = none) :=
  ⟨by decide +kernel, fun _ _ h => h, fun _ f hf => by cases hf; rfl⟩

/-- a chunked request is covered as well: `toyChunked` is `G CRLF T CRLF CRLF 2 CRLF a b CRLF 0 CRLF CRLF` -/
example : isReading rfcLex .request toyChunked [71] (some [84]) [97, 98] = true := by
  have hd : decodeChunked [50, 13, 10, 97, 98, 13, 10, 48, 13, 10, 13, 10] = some [97, 98] := by
    rw [decodeChunked]; simp [splitLine, rfcChunkSize, hexVal, hexNum, CRLF]
    rw [decodeChunked]; simp [splitLine, rfcChunkSize, hexVal, hexNum, CRLF, trailerExact]
  simp [isReading, rfcLex, toyLex, toyChunked, bodyOk, CRLF, CRLF2, hd]
  exact ⟨by decide, by decide⟩

/-- a lexer whose request lines carry status 200 (chunk-size reader: the RFC one) -/
def statusLex : Lex := { rfcLex with first := fun _ _ => some ⟨1, 1, some 200⟩ }

/-- without `hreq`: `G CRLF CRLF` is a well-formed request without header fields, but a parser
    whose request-line lexer reports a status code treats it like a response to be read until
    close, and never completes it -/
theorem wellformed_clean_witness :
    isReading statusLex .request [71, 13, 10, 13, 10] [71] none [] = true ∧
    (∀ l n, rfcChunkSize l = some n → statusLex.chunk l = some n) ∧
    (exec statusLex (init .request) [71, 13, 10, 13, 10]).core.complete = false :=
  ⟨by decide +kernel, fun _ _ h => h, by decide +kernel⟩

/-- the server's acceptance tests on a completely read request (`_on_read`): the first bytes are
    not taken for a TLS hello on a plain socket, HTTP major version 1 (else 505), a Host header
    unless HTTP/1.0 (else 400), canonical path (else 301) -/
def Servable (lex : Lex) (secure : Bool) (msg fl : Bytes) (hb : Option Bytes) (f : FirstLine) (h : HdrInfo) : Bool :=
  (!sslHandshake msg || secure) && f.vmajor == 1 && (f.vminor == 0 || h.host) && lex.pathOk fl hb

/-- `segs` is a segmentation (into non-empty reads) of bytes that are, by the RFC-derived
    decomposition, one request - request line `fl` lexed as `f` (method / target / version),
    header block `hb` lexed as `h`, body `body` by Content-Length or chunked - that passes the
    server's acceptance tests -/
def WellFormedRequest (lex : Lex) (secure : Bool) (segs : List Bytes) (fl : Bytes) (hb : Option Bytes)
    (body : Bytes) (f : FirstLine) (h : HdrInfo) : Prop :=
  (∀ d ∈ segs, d ≠ []) ∧
  isReading lex .request segs.flatten fl hb body = true ∧
  lex.first .request fl = some f ∧ f.status = none ∧ hdrInfoOf lex hb = some h ∧
  Servable lex secure segs.flatten fl hb f h = true

/-- **Well-formed => the hypotheses of `one_request` / `keepalive_sequence`.**  A segmentation of
    an RFC-well-formed, servable request is a `CleanRequest`: the one-piece run is clean, it is a
    request (no status), and one-piece delivery on a fresh connection fires the `request` event with
    the fields of the decomposition, deleting the parser entry and keeping that request. -/
theorem wellformed_request_clean (lex : Lex) (secure : Bool) (segs : List Bytes) (fl : Bytes)
    (hb : Option Bytes) (body : Bytes) (f : FirstLine) (h : HdrInfo)
    (hchunk : ∀ l n, rfcChunkSize l = some n → lex.chunk l = some n)
    (hw : WellFormedRequest lex secure segs fl hb body f h) :
    CleanRequest lex secure segs fl hb body ∧
    connRead lex secure {} segs.flatten = (⟨none, some ⟨fl, f, hb, h⟩⟩, .request fl hb body) := by
  obtain ⟨hne, hr, hf, hst, hh, hsrv⟩ := hw
  simp only [Servable, Bool.and_eq_true, Bool.or_eq_true, Bool.not_eq_true', beq_iff_eq] at hsrv
  obtain ⟨⟨⟨hssl, hv⟩, hhost⟩, hpath⟩ := hsrv
  obtain ⟨f', h', hf', hh', hcl, _, hp⟩ := wf13_exec lex .request segs.flatten fl hb body hr hchunk
    (fun _ g hg => by rw [hf] at hg; cases hg; exact hst)
  obtain rfl : f = f' := Option.some.inj (hf.symm.trans hf')
  obtain rfl : h = h' := Option.some.inj (hh.symm.trans hh')
  have hverd : verdict lex true ⟨fl, f, hb, h⟩ true = .fire :=
    verdict_fire_iff.2 ⟨fun _ => hv, hcl, fun _ => rfl, hhost.imp (fun h0 => by rw [hv, h0]) id, hpath⟩
  have hone : connRead lex secure {} segs.flatten = (⟨none, some ⟨fl, f, hb, h⟩⟩, .request fl hb body) := by
    show (if (sslHandshake segs.flatten && !secure) = true then _ else _) = _
    rw [if_neg (by rcases hssl with h | h <;> simp [h])]
    exact wf13_afterExec hp hverd
  exact ⟨⟨hne, fun e => hp.ne_nil (by rw [e]; rfl), hp.bad, by simp [Core.status, hp.fl, hst], _, hone⟩, hone⟩

theorem toySegs_wellformed : WellFormedRequest rfcLex false toySegs [71] (some [67]) [97, 98] ⟨1, 1, none⟩
    ⟨.val 2, false, true, false⟩ :=
  ⟨by decide +kernel, by decide +kernel, by decide +kernel, by decide +kernel, by decide +kernel, by decide +kernel⟩

example : WellFormedRequest rfcLex false toySegs [71] (some [67]) [97, 98] ⟨1, 1, none⟩
    ⟨.val 2, false, true, false⟩ ∧ (∀ l n, rfcChunkSize l = some n → rfcLex.chunk l = some n) :=
  ⟨toySegs_wellformed, fun _ _ h => h⟩

/-- **Every RFC-well-formed request, every segmentation: one request, at the last read.**
    If the bytes `segs.flatten` are, by the RFC-derived decomposition, one request (request line
    `fl` lexed as `f`: method / target / version; header block `hb` lexed as `h`; body `body` by
    Content-Length or chunked) that passes the server's acceptance tests, then on a fresh
    connection every way of cutting them into non-empty reads makes every read but the last do
    nothing and the last one fire exactly the `request` event with these fields; afterwards
    `_buffers[sock]` is deleted and `_clients[sock]` is that request.
    (`hchunk`: the chunk-size reader accepts what RFC 7230 4.1 accepts, with the same value.) -/
theorem wellformed_one_request (lex : Lex) (secure : Bool) (segs : List Bytes) (fl : Bytes)
    (hb : Option Bytes) (body : Bytes) (f : FirstLine) (h : HdrInfo)
    (hchunk : ∀ l n, rfcChunkSize l = some n → lex.chunk l = some n)
    (hw : WellFormedRequest lex secure segs fl hb body f h) :
    connReadAll lex secure {} segs =
      (⟨none, some ⟨fl, f, hb, h⟩⟩,
       List.replicate (segs.length - 1) .wait ++ [.request fl hb body]) := by
  obtain ⟨⟨hne, hs, hbad, hstat, _⟩, hone⟩ := wellformed_request_clean lex secure segs fl hb body f h hchunk hw
  exact one_request lex secure segs hne hs hbad hstat _ fl hb body hone

example : WellFormedRequest rfcLex false toySegs [71] (some [67]) [97, 98] ⟨1, 1, none⟩
    ⟨.val 2, false, true, false⟩ :=
  toySegs_wellformed

/-- **Keep-alive sequences of RFC-well-formed requests.**  Successive well-formed, servable
    requests on one connection, each following the previous response (no pipelining), each cut
    into reads in any way: every request is seen exactly once, at its last read, with the fields
    of its decomposition, and the connection's table entries are empty again after each response. -/
theorem wellformed_keepalive (lex : Lex) (secure : Bool)
    (msgs : List (List Bytes × Bytes × Option Bytes × Bytes))
    (hchunk : ∀ l n, rfcChunkSize l = some n → lex.chunk l = some n)
    (hw : ∀ m ∈ msgs, ∃ f h, WellFormedRequest lex secure m.1 m.2.1 m.2.2.1 m.2.2.2 f h) :
    serveAll lex secure {} (msgs.map (·.1)) =
      ({}, msgs.map fun m => List.replicate (m.1.length - 1) .wait ++ [.request m.2.1 m.2.2.1 m.2.2.2]) := by
  apply keepalive_sequence
  intro m hm
  obtain ⟨f, h, hwm⟩ := hw m hm
  exact (wellformed_request_clean lex secure m.1 m.2.1 m.2.2.1 m.2.2.2 f h hchunk hwm).1

example : ∀ m ∈ [(toySegs, ([71] : Bytes), some ([67] : Bytes), ([97, 98] : Bytes)),
                 ([toyMsg], [71], some [67], [97, 98])],
    ∃ f h, WellFormedRequest rfcLex false m.1 m.2.1 m.2.2.1 m.2.2.2 f h := by
  intro m hm
  refine ⟨⟨1, 1, none⟩, ⟨.val 2, false, true, false⟩, ?_⟩
  simp only [List.mem_cons, List.not_mem_nil, or_false] at hm
  rcases hm with rfl | rfl
  · exact toySegs_wellformed
  · exact ⟨by decide +kernel, by decide +kernel, by decide +kernel, by decide +kernel, by decide +kernel, by decide +kernel⟩

/-- **When the client fires early.**  On a clean response stream cut into non-empty reads, a read
    before the last one makes `_on_client_read` fire the `response` event if and only if the header
    block is complete by then and the headers are an Upgrade (`is_upgrade()`); the other two
    disjuncts of its test (message complete, `_clen == 0`) cannot hold before the last read. -/
theorem client_early_iff (lex : Lex) (segs : List Bytes)
    (hne : ∀ d ∈ segs, d ≠ [])
    (hclean : (exec lex (init .response) segs.flatten).core.bad = false)
    (k : Nat) (hk0 : 0 < k) (hk : k < segs.length) :
    clientFires (execAll lex (init .response) (segs.take k)).core = true ↔
      ((execAll lex (init .response) (segs.take k)).core.hdrDone = true ∧
       isUpgrade (exec lex (init .response) segs.flatten).core = true) := by
  obtain ⟨hR, hsplit⟩ := execAll_take lex (init .response) segs k (wf_init _) hne hk hclean
  have hs := execAll_reach lex (segs.take k) (fun d hd => hne d (List.mem_of_mem_take hd)) _
    (reach_init .response)
  rw [wf13_client_mid lex _ _ hR hs (by rw [hsplit]; exact hclean), hsplit, Bool.and_eq_true]

example : (∀ d ∈ [[83, 13, 10, 85, 13, 10, 13, 10], [97, 98]], d ≠ ([] : Bytes)) ∧
    (exec upgLex (init .response) [[83, 13, 10, 85, 13, 10, 13, 10], [97, 98]].flatten).core.bad = false ∧
    clientFires (execAll upgLex (init .response) ([[83, 13, 10, 85, 13, 10, 13, 10], [97, 98]].take 1)).core = true := by
  decide +kernel

/-- **Client side, responses that are not an Upgrade.**  For a clean response stream whose headers
    are not an Upgrade (`is_upgrade()` false after one-piece delivery; decidable on the response),
    every segmentation yields exactly the `response` event (or the silence) of one-piece delivery,
    at the last read, and the same parser afterwards.  (`client_upgrade_witness`: for Upgrade
    responses with a body this is false - the code hands the connection over at the end of the
    header block, whatever has arrived by then.) -/
theorem client_response_no_upgrade (lex : Lex) (segs : List Bytes)
    (hne : ∀ d ∈ segs, d ≠ []) (hs : segs ≠ [])
    (hclean : (exec lex (init .response) segs.flatten).core.bad = false)
    (hup : isUpgrade (exec lex (init .response) segs.flatten).core = false) :
    clientAll lex (init .response) segs =
      ((clientRead lex (init .response) segs.flatten).1,
       List.replicate (segs.length - 1) none ++ [(clientRead lex (init .response) segs.flatten).2]) := by
  apply client_response_partial lex segs hne hs hclean
  intro k hk0 hk
  cases hfire : clientFires (execAll lex (init .response) (segs.take k)).core with
  | false => rfl
  | true =>
    have := ((client_early_iff lex segs hne hclean k hk0 hk).mp hfire).2
    rw [hup] at this; cases this

example : (∀ d ∈ toySegs, d ≠ []) ∧ toySegs ≠ [] ∧
    (exec toyLex (init .response) toySegs.flatten).core.bad = false ∧
    isUpgrade (exec toyLex (init .response) toySegs.flatten).core = false := by
  decide +kernel

/-- **Every RFC-well-formed response, every segmentation: one response, at the last read.**
    If the bytes `segs.flatten` are, by the RFC-derived decomposition, one response (status line
    `fl`, header block `hb`, body `body` by Content-Length or chunked, or a 204 without header
    fields; not an Upgrade), then every way of cutting them into non-empty reads makes every read
    but the last do nothing and the last one fire exactly the `response` event with these fields,
    leaving a fresh parser. -/
theorem wellformed_one_response (lex : Lex) (segs : List Bytes) (fl : Bytes) (hb : Option Bytes)
    (body : Bytes) (hne : ∀ d ∈ segs, d ≠ [])
    (hr : isReading lex .response segs.flatten fl hb body = true)
    (hchunk : ∀ l n, rfcChunkSize l = some n → lex.chunk l = some n) :
    clientAll lex (init .response) segs =
      (init .response, List.replicate (segs.length - 1) none ++ [some ⟨some fl, hb, body⟩]) := by
  obtain ⟨f, h, _, _, _, hnup, hp⟩ := wf13_exec lex .response segs.flatten fl hb body hr hchunk
    (fun hk => by cases hk)
  have hs : segs ≠ [] := fun e => hp.ne_nil (e ▸ rfl)
  have hup : isUpgrade (exec lex (init .response) segs.flatten).core = false := by
    simp [isUpgrade, hp.hi, hnup]
  rw [client_response_no_upgrade lex segs hne hs hp.bad hup]
  have hfire : clientFires (exec lex (init .response) segs.flatten).core = true := by
    simp [clientFires, hp.complete]
  simp only [clientRead, hfire, if_true, hp.firstLine, hp.hdrBlock, hp.body]

example : (∀ d ∈ toySegs, d ≠ []) ∧
    isReading { rfcLex with first := fun _ _ => some ⟨1, 1, some 200⟩ } .response toySegs.flatten
      [71] (some [67]) [97, 98] = true ∧
    (∀ l n, rfcChunkSize l = some n →
      ({ rfcLex with first := fun _ _ => some ⟨1, 1, some 200⟩ } : Lex).chunk l = some n) :=
  ⟨by decide +kernel, by decide +kernel, fun _ _ h => h⟩

/-! ### The lexers themselves (CV/Model/HttpLex.lean): `concreteLex`

`concreteLex pathOk` instantiates the parameter `Lex` with executable models of the code's own
leaf functions (`_parse_request_line`, `_parse_response_line`, the header-block loop of
`_parse_headers` + `Headers`, `_parse_chunk_size`).  Only the canonical-path guard of the server
(`pathOk`: `Request`, `urlsplit`, `quote`) stays a parameter.  Strings the lexer models refuse
(`Lx.unsupported`: a backslash, a first line / Content-Length value over 4000 characters, a network
location with brackets or non-ASCII, a non-ASCII header name) count as "not accepted" in
`concreteLex`; every hypothesis below of the form "the lexer accepts ..." therefore excludes them. -/

/-- `GET / HTTP/1.1` -/
def cFl : Bytes := [71, 69, 84, 32, 47, 32, 72, 84, 84, 80, 47, 49, 46, 49]
/-- `Host: h CRLF Content-Length: 2` -/
def cHb : Bytes := [72, 111, 115, 116, 58, 32, 104, 13, 10, 67, 111, 110, 116, 101, 110, 116, 45, 76, 101, 110, 103, 116, 104, 58, 32, 50]
/-- `GET / HTTP/1.1 CRLF Host: h CRLF Content-Length: 2 CRLF CRLF ab` -/
def cMsg : Bytes := cFl ++ CRLF ++ cHb ++ CRLF2 ++ [97, 98]
/-- cut inside the request line, between CR and LF, inside the header block, inside CRLF CRLF, inside the body -/
def cSegs : List Bytes := [cFl.take 5, cFl.drop 5 ++ [13], [10] ++ cHb.take 9, cHb.drop 9 ++ [13, 10, 13], [10, 97], [98]]
/-- `Host: h CRLF Transfer-Encoding: chunked` -/
def cHbT : Bytes := [72, 111, 115, 116, 58, 32, 104, 13, 10, 84, 114, 97, 110, 115, 102, 101, 114, 45, 69, 110, 99, 111, 100, 105, 110, 103, 58, 32, 99, 104, 117, 110, 107, 101, 100]
/-- the same request, chunked: `2;x CRLF ab CRLF 0 CRLF CRLF` -/
def cMsgT : Bytes := cFl ++ CRLF ++ cHbT ++ CRLF2 ++ [50, 59, 120, 13, 10, 97, 98, 13, 10, 48, 13, 10, 13, 10]
def okPath : Bytes → Option Bytes → Bool := fun _ _ => true

/-- **A request line carries no status**: the hypothesis `hreq` of `wellformed_clean_partial`
    holds of the code's request-line lexer (`_parse_request_line` never sets `_status_code`). -/
theorem concrete_request_no_status (pathOk : Bytes → Option Bytes → Bool) (l : Bytes) (f : FirstLine)
    (h : (concreteLex pathOk).first .request l = some f) : f.status = none :=
  lx_request_no_status l f h

example : (concreteLex okPath).first .request cFl = some ⟨1, 1, none⟩ := by decide +kernel

/-- **Chunk sizes, positive part.**  For every non-empty string `ds` of HEXDIG, optionally followed by
    blanks `w` (what `bytes.strip()` removes) and by nothing or a `;`-extension `ext`, the code's
    chunk-size lexer (`int(line.split(b';', 1)[0].strip(), 16)`) returns the number written: the value
    `hexNum 0 ds` of the RFC 7230 reader.  No length bound: `int(.., 16)` has no digit limit. -/
theorem lexChunk_hex (ds w ext : Bytes) (hne : ds ≠ []) (h : ∀ b ∈ ds, (hexVal b).isSome = true)
    (hw : ∀ b ∈ w, isASpace b = true) (he : ext = [] ∨ ext.head? = some 59) :
    ∃ n, hexNum 0 ds = some n ∧ lexChunk (ds ++ w ++ ext) = .ok n :=
  lx_lexChunk_hex ds w ext hne h hw he

/-- `1a SP ;x` = 26 -/
example : ([49, 97] : Bytes) ≠ [] ∧ (∀ b ∈ ([49, 97] : Bytes), (hexVal b).isSome = true) ∧
    (∀ b ∈ ([32] : Bytes), isASpace b = true) ∧ (([59, 120] : Bytes) = [] ∨ ([59, 120] : Bytes).head? = some 59) ∧
    lexChunk ([49, 97] ++ [32] ++ [59, 120]) = .ok 26 := by decide +kernel

/-- **Chunk sizes, negative part**: the shapes RFC 7230 forbids and `int` refuses - the empty line, a
    lone sign, a lone `0x`, an extension without a size - are InvalidChunkSize; so is every negative
    number (the repaired defect C14-b: `-5`), while `+5` and `-0` are read as 5 and 0 (`int` accepts a sign). -/
theorem lexChunk_refuses :
    lexChunk [] = .invalid ∧ lexChunk [43] = .invalid ∧ lexChunk [45] = .invalid ∧
    lexChunk [48, 120] = .invalid ∧ lexChunk [59, 120] = .invalid ∧ lexChunk [45, 53] = .invalid ∧
    lexChunk [43, 53] = .ok 5 ∧ lexChunk [45, 48] = .ok 0 := by decide +kernel

/-- **The hypothesis `hchunk` of the `wellformed_*` theorems holds of the code's lexer**: what the
    RFC 7230 chunk-size reader accepts, `_parse_chunk_size` accepts with the same value. -/
theorem concrete_chunk_rfc (pathOk : Bytes → Option Bytes → Bool) (l : Bytes) (n : Nat)
    (hr : rfcChunkSize l = some n) : (concreteLex pathOk).chunk l = some n := by
  show (lexChunk l).toOption = some n
  rw [lx_lexChunk_rfc l n hr]; rfl

example : rfcChunkSize [50, 59, 120] = some 2 := by decide

/-- **Well-formed => clean, for the code's lexers: no hypothesis on the lexer left.**  Every message
    that the RFC-derived decomposition `isReading` accepts as (first line `fl`, header block `hb`,
    body `body`) - first line and header block accepted by the *modelled* `_parse_firstline` /
    `_parse_headers`, framing read off the header block by the modelled `Headers` - is read by the
    parser model, in one piece, as exactly that: complete, no parser error, no Python exception, no
    byte beyond the message.  (`wellformed_clean_partial` with `hchunk` and `hreq` discharged.) -/
theorem wellformed_clean_concrete (pathOk : Bytes → Option Bytes → Bool) (k : Kind) (msg fl : Bytes)
    (hb : Option Bytes) (body : Bytes)
    (hr : isReading (concreteLex pathOk) k msg fl hb body = true) :
    let p := exec (concreteLex pathOk) (init k) msg
    p.core.bad = false ∧ p.core.complete = true ∧
    p.core.firstLine = some fl ∧ p.core.hdrBlock = hb ∧ p.core.body = body :=
  wellformed_clean_partial (concreteLex pathOk) k msg fl hb body hr (concrete_chunk_rfc pathOk)
    (fun _ f hf => concrete_request_no_status pathOk fl f hf)

example : isReading (concreteLex okPath) .request cMsg cFl (some cHb) [97, 98] = true := by decide +kernel

/-- **Segmentation invariance with the code's lexers** (corollary of `segmentation_invariant`). -/
theorem segmentation_invariant_concrete (pathOk : Bytes → Option Bytes → Bool) (k : Kind) (segs : List Bytes)
    (hne : ∀ d ∈ segs, d ≠ []) (hs : segs ≠ [])
    (hclean : (exec (concreteLex pathOk) (init k) segs.flatten).core.bad = false) :
    execAll (concreteLex pathOk) (init k) segs = exec (concreteLex pathOk) (init k) segs.flatten :=
  segmentation_invariant (concreteLex pathOk) k segs hne hs hclean

example : (∀ d ∈ cSegs, d ≠ []) ∧ cSegs ≠ [] ∧ cSegs.flatten = cMsg ∧
    (exec (concreteLex okPath) (init .request) cSegs.flatten).core.bad = false := by decide +kernel

/-- **Every RFC-well-formed request, every segmentation, the code's lexers: one request at the last
    read** (`wellformed_one_request` without its lexer hypothesis). -/
theorem wellformed_one_request_concrete (pathOk : Bytes → Option Bytes → Bool) (secure : Bool)
    (segs : List Bytes) (fl : Bytes) (hb : Option Bytes) (body : Bytes) (f : FirstLine) (h : HdrInfo)
    (hw : WellFormedRequest (concreteLex pathOk) secure segs fl hb body f h) :
    connReadAll (concreteLex pathOk) secure {} segs =
      (⟨none, some ⟨fl, f, hb, h⟩⟩,
       List.replicate (segs.length - 1) .wait ++ [.request fl hb body]) :=
  wellformed_one_request (concreteLex pathOk) secure segs fl hb body f h (concrete_chunk_rfc pathOk) hw

example : WellFormedRequest (concreteLex okPath) false cSegs cFl (some cHb) [97, 98] ⟨1, 1, none⟩
    ⟨.val 2, false, true, false⟩ :=
  ⟨by decide +kernel, by decide +kernel, by decide +kernel, by decide +kernel, by decide +kernel, by decide +kernel⟩

/-- **Every RFC-well-formed response, every segmentation, the code's lexers: one response at the
    last read** (`wellformed_one_response` without its lexer hypothesis). -/
theorem wellformed_one_response_concrete (pathOk : Bytes → Option Bytes → Bool) (segs : List Bytes)
    (fl : Bytes) (hb : Option Bytes) (body : Bytes) (hne : ∀ d ∈ segs, d ≠ [])
    (hr : isReading (concreteLex pathOk) .response segs.flatten fl hb body = true) :
    clientAll (concreteLex pathOk) (init .response) segs =
      (init .response, List.replicate (segs.length - 1) none ++ [some ⟨some fl, hb, body⟩]) :=
  wellformed_one_response (concreteLex pathOk) segs fl hb body hne hr (concrete_chunk_rfc pathOk)

/-- `GET http://h/a` answered by `HTTP/1.1 200 OK CRLF Content-Length: 2 CRLF CRLF ab`, cut after the status
    line's CR and inside the body -/
def cExchange : CV.Http.Client.Request × List Bytes × Bytes × Option Bytes × Bytes :=
  (⟨[71, 69, 84], [104, 116, 116, 112, 58, 47, 47, 104, 47, 97], none, []⟩,
   [[72, 84, 84, 80, 47, 49, 46, 49, 32, 50, 48, 48, 32, 79, 75, 13],
    [10, 67, 111, 110, 116, 101, 110, 116, 45, 76, 101, 110, 103, 116, 104, 58, 32, 50, 13, 10, 13, 10, 97], [98]],
   [72, 84, 84, 80, 47, 49, 46, 49, 32, 50, 48, 48, 32, 79, 75],
   some [67, 111, 110, 116, 101, 110, 116, 45, 76, 101, 110, 103, 116, 104, 58, 32, 50], [97, 98])

/-- the reads of `cExchange` are non-empty and their bytes are the one response it names, evaluated once -/
theorem cExchange_reading : (∀ d ∈ cExchange.2.1, d ≠ []) ∧
    isReading (concreteLex okPath) .response cExchange.2.1.flatten cExchange.2.2.1 cExchange.2.2.2.1
      cExchange.2.2.2.2 = true := by
  decide +kernel

/-- `HTTP/1.1 200 OK CRLF Content-Length: 2 CRLF CRLF ab`, cut after the status line's CR -/
example : (∀ d ∈ ([[72, 84, 84, 80, 47, 49, 46, 49, 32, 50, 48, 48, 32, 79, 75, 13],
      [10, 67, 111, 110, 116, 101, 110, 116, 45, 76, 101, 110, 103, 116, 104, 58, 32, 50, 13, 10, 13, 10, 97], [98]] : List Bytes), d ≠ []) ∧
    isReading (concreteLex okPath) .response
      ([[72, 84, 84, 80, 47, 49, 46, 49, 32, 50, 48, 48, 32, 79, 75, 13],
        [10, 67, 111, 110, 116, 101, 110, 116, 45, 76, 101, 110, 103, 116, 104, 58, 32, 50, 13, 10, 13, 10, 97], [98]] : List Bytes).flatten
      [72, 84, 84, 80, 47, 49, 46, 49, 32, 50, 48, 48, 32, 79, 75]
      (some [67, 111, 110, 116, 101, 110, 116, 45, 76, 101, 110, 103, 116, 104, 58, 32, 50]) [97, 98] = true :=
  cExchange_reading

/-- **Request line round trip.**  For every method of METHOD_RE's class (1-20 characters of
    `[A-Z0-9$-_.]`), every non-empty target without whitespace whose `urlsplit` has no fragment (and
    is not refused by the model: no `//` together with brackets / non-ASCII), every version written as
    `HTTP/` 1*DIGIT `.` 1*DIGIT, the line `METHOD SP target SP version` - without a backslash and at
    most 4000 characters long (`lineRefused`, the model's explicit domain limit) - is lexed by
    `_parse_request_line` as exactly (method, target, major, minor). -/
theorem lexFirst_request_roundtrip (m t d1 d2 : Bytes)
    (hm : methodOk m = true) (ht : t ≠ []) (hts : ∀ b ∈ t, isUSpace b = false)
    (hfrag : hasFragment t = false) (hurl : urlRefused t = false)
    (h1 : d1 ≠ []) (h2 : d2 ≠ []) (hd1 : ∀ b ∈ d1, isDigit b = true) (hd2 : ∀ b ∈ d2, isDigit b = true)
    (href : lineRefused (reqLineOf m t d1 d2) = false) :
    lexRequestLine (reqLineOf m t d1 d2) = .ok ⟨m, t, decVal d1, decVal d2⟩ ∧
    lexFirst .request (reqLineOf m t d1 d2) = .ok ⟨decVal d1, decVal d2, none⟩ := by
  have h := lx_request_roundtrip m t d1 d2 hm ht hts hfrag hurl h1 h2 hd1 hd2 href
  exact ⟨h, by simp [lexFirst, h, Lx.map]⟩

/-- `PUT /a?x=1 HTTP/1.0` -/
example : methodOk [80, 85, 84] = true ∧ ([47, 97, 63, 120, 61, 49] : Bytes) ≠ [] ∧
    (∀ b ∈ ([47, 97, 63, 120, 61, 49] : Bytes), isUSpace b = false) ∧
    hasFragment [47, 97, 63, 120, 61, 49] = false ∧ urlRefused [47, 97, 63, 120, 61, 49] = false ∧
    (∀ b ∈ ([49] : Bytes), isDigit b = true) ∧ (∀ b ∈ ([48] : Bytes), isDigit b = true) ∧
    lineRefused (reqLineOf [80, 85, 84] [47, 97, 63, 120, 61, 49] [49] [48]) = false ∧
    reqLineOf [80, 85, 84] [47, 97, 63, 120, 61, 49] [49] [48] =
      [80, 85, 84, 32, 47, 97, 63, 120, 61, 49, 32, 72, 84, 84, 80, 47, 49, 46, 48] := by decide +kernel

/-- **Status line round trip.**  For every version written as `HTTP/` 1*DIGIT `.` 1*DIGIT, every
    three-digit status code and every reason phrase of word characters and blanks (`[\s\w]*`) that does
    not start with a blank, the line `version SP code SP reason` (no backslash, at most 4000 characters)
    is lexed by `_parse_response_line` as exactly (major, minor, code, reason); the parser keeps
    (major, minor, status code). -/
theorem lexFirst_response_roundtrip (d1 d2 code reason : Bytes)
    (h1 : d1 ≠ []) (h2 : d2 ≠ []) (hd1 : ∀ b ∈ d1, isDigit b = true) (hd2 : ∀ b ∈ d2, isDigit b = true)
    (hc3 : code.length = 3) (hc : ∀ b ∈ code, isDigit b = true)
    (hr : ∀ b ∈ reason, (isUSpace b || isWord b) = true)
    (hrh : ∀ b, reason.head? = some b → isUSpace b = false)
    (href : lineRefused (statusLineOf d1 d2 code reason) = false) :
    lexStatusLine (statusLineOf d1 d2 code reason) = .ok ⟨decVal d1, decVal d2, decVal code, reason⟩ ∧
    lexFirst .response (statusLineOf d1 d2 code reason) = .ok ⟨decVal d1, decVal d2, some (decVal code)⟩ := by
  have h := lx_status_roundtrip d1 d2 code reason h1 h2 hd1 hd2 hc3 hc hr hrh href
  exact ⟨h, by simp [lexFirst, h, Lx.map]⟩

/-- `HTTP/1.1 404 Not Found` -/
example : (∀ b ∈ ([49] : Bytes), isDigit b = true) ∧ ([52, 48, 52] : Bytes).length = 3 ∧
    (∀ b ∈ ([52, 48, 52] : Bytes), isDigit b = true) ∧
    (∀ b ∈ ([78, 111, 116, 32, 70, 111, 117, 110, 100] : Bytes), (isUSpace b || isWord b) = true) ∧
    (∀ b, ([78, 111, 116, 32, 70, 111, 117, 110, 100] : Bytes).head? = some b → isUSpace b = false) ∧
    lineRefused (statusLineOf [49] [49] [52, 48, 52] [78, 111, 116, 32, 70, 111, 117, 110, 100]) = false ∧
    statusLineOf [49] [49] [52, 48, 52] [78, 111, 116, 32, 70, 111, 117, 110, 100] =
      [72, 84, 84, 80, 47, 49, 46, 49, 32, 52, 48, 52, 32, 78, 111, 116, 32, 70, 111, 117, 110, 100] := by
  refine ⟨by decide +kernel, by decide +kernel, by decide +kernel, by decide +kernel, ?_, by decide +kernel, by decide +kernel⟩
  intro b hb
  simp only [List.head?_cons, Option.some.injEq] at hb
  subst hb; decide +kernel

/-- **Header block round trip.**  For every non-empty list of fields whose names are RFC 7230 tokens
    and whose values contain no CR / LF / backslash and neither start nor end with whitespace,
    `_parse_headers` on the serialised block (`name: value` lines joined by CRLF) makes exactly the
    `add_header(NAME, value)` calls of these fields, in order, names upper-cased as the code does;
    and the framing facts it reads are those the modelled `Headers` yields for that list. -/
theorem lexHdrs_roundtrip (fs : List Field) (hne : fs ≠ []) (hok : ∀ f ∈ fs, FieldOk f) :
    lexFieldList (serFields fs) = .ok (fs.map normField) ∧
    lexHdrs (serFields fs) = infoOfFields (fs.map normField) := by
  have h := lx_hdrs_roundtrip fs hne hok
  exact ⟨h, by simp [lexHdrs, h, Lx.bind]⟩

/-- `Host: h CRLF Content-Length: 2` (= `cHb`) -/
example : ([([72, 111, 115, 116], [104]), ([67, 111, 110, 116, 101, 110, 116, 45, 76, 101, 110, 103, 116, 104], [50])] : List Field) ≠ [] ∧
    serFields [([72, 111, 115, 116], [104]), ([67, 111, 110, 116, 101, 110, 116, 45, 76, 101, 110, 103, 116, 104], [50])] = cHb ∧
    lexHdrs cHb = .ok ⟨.val 2, false, true, false⟩ := by decide +kernel

example : ∀ f ∈ ([([72, 111, 115, 116], [104]), ([67, 111, 110, 116, 101, 110, 116, 45, 76, 101, 110, 103, 116, 104], [50])] : List Field),
    FieldOk f := by
  intro f hf
  simp only [List.mem_cons, List.not_mem_nil, or_false] at hf
  rcases hf with rfl | rfl <;> exact ⟨⟨by decide +kernel, by decide +kernel, by decide +kernel, by decide +kernel⟩, by decide +kernel⟩

/-- **Continuation lines fold as the code folds them.**  A block in which fields (names tokens, first
    value line without leading whitespace) are followed by any number of continuation lines (starting
    with SP / HT; no CR / LF / backslash): each field's value is its first value line followed by the
    continuation lines *as they are* (leading blank kept), the whole stripped on the right. -/
theorem lexHdrs_fold (cfs : List CField) (hne : cfs ≠ []) (hok : ∀ cf ∈ cfs, CFieldOk cf) :
    lexFieldList (joinCRLF (cfs.flatMap cfieldLines)) = .ok (cfs.map foldedField) :=
  lx_hdrs_fold cfs hne hok

/-- `X-A: a CRLF SP b` is the field (`X-A`, `a b`) -/
example : CFieldOk (([88, 45, 65], [97]), [[32, 98]]) ∧
    joinCRLF (([(([88, 45, 65], [97]), [[32, 98]])] : List CField).flatMap cfieldLines) = [88, 45, 65, 58, 32, 97, 13, 10, 32, 98] ∧
    foldedField (([88, 45, 65], [97]), [[32, 98]]) = ([88, 45, 65], [97, 32, 98]) :=
  ⟨⟨⟨by decide +kernel, by decide +kernel, by decide +kernel, by decide +kernel⟩, by decide +kernel⟩, by decide +kernel, by decide +kernel⟩

/-- **Framing facts the block states.**  If the `add_header` calls `gs` of a block give `Content-Length`
    a (combined) value of at most 4000 ASCII digits, the parser's Content-Length is that number; if
    they give no `Content-Length` and a `Transfer-Encoding` that is `chunked` in any letter case, the
    body is chunked.  (With `lexHdrs_roundtrip`: `gs = fs.map normField`.) -/
theorem lexHdrs_framing (gs : List Field) :
    (∀ ds, hdrGet gs nContentLength = some ds → ds ≠ [] → (∀ b ∈ ds, isDigit b = true) → ds.length ≤ 4000 →
      ∃ hi, infoOfFields gs = .ok hi ∧ hi.clen = .val (decVal ds)) ∧
    (∀ v, hdrGet gs nContentLength = none → hdrGet gs nTransferEncoding = some v → v.map lowerA = sChunked →
      ∃ hi, infoOfFields gs = .ok hi ∧ hi.clen = .absent ∧ hi.te = true) :=
  ⟨fun ds hg hne h hlen => lx_clen_digits gs ds hg hne h hlen, fun v hc ht hv => lx_te_chunked gs v hc ht hv⟩

/-- `CONTENT-LENGTH: 42` / `TRANSFER-ENCODING: Chunked` -/
example : hdrGet [(nContentLength, [52, 50])] nContentLength = some [52, 50] ∧ decVal [52, 50] = 42 ∧
    hdrGet [(nTransferEncoding, [67, 104, 117, 110, 107, 101, 100])] nContentLength = none ∧
    hdrGet [(nTransferEncoding, [67, 104, 117, 110, 107, 101, 100])] nTransferEncoding = some [67, 104, 117, 110, 107, 101, 100] ∧
    ([67, 104, 117, 110, 107, 101, 100] : Bytes).map lowerA = sChunked := by decide +kernel

/-! ### The client component (`circuits.web.client.Client`, CV/Model/HttpClient.lean) -/

open CV.Http.Client in
/-- what an observer must see of a session, computed from the requests and the *responses* alone (no
    read boundaries): per exchange the events of the request (a `connect` first iff the client is not
    connected: at the start, or after a `Connection: close` response), then the one `response` event,
    then `close` iff the response says `Connection: close` -/
def expectedSession : Bool → List (Request × Resp) → List (List Ev)
  | _, [] => []
  | c, (q, r) :: xs =>
    ((onRequest ⟨c, init .response⟩ q).2 ++ respEvents (some r)) :: expectedSession (!connClose r) xs

open CV.Http.Client in
/-- is the client connected after the session -/
def endConnected : Bool → List (Request × Resp) → Bool
  | c, [] => c
  | _, (_, r) :: xs => endConnected (!connClose r) xs

open CV.Http.Client in
/-- one exchange of a session: a request the model covers whose URL `parse_url` accepts, and a
    segmentation (into non-empty reads) of bytes that are, by the RFC-derived decomposition, one
    response (status line `fl`, header block `hb`, body `body`; not an Upgrade) -/
def GoodExchange (pathOk : Bytes → Option Bytes → Bool)
    (x : Request × List Bytes × Bytes × Option Bytes × Bytes) : Prop :=
  requestInDomain x.1 = true ∧ (∃ u, parseUrl x.1.url = .ok u) ∧ (∀ d ∈ x.2.1, d ≠ []) ∧
  isReading (concreteLex pathOk) .response x.2.1.flatten x.2.2.1 x.2.2.2.1 x.2.2.2.2 = true

open CV.Http.Client in
/-- **Sessions of the client component: k requests, k responses, paired up, whatever the cuts.**
    Successive exchanges on one `Client` (each request follows the previous response), every response
    RFC-well-formed and cut into non-empty reads in any way: the events of the k-th exchange are those
    of the k-th request followed by exactly one `response` event carrying the k-th response (status
    line, header block, body of the decomposition) - nothing at the reads before the last one -, then
    `close` iff that response says `Connection: close`; the next request then reconnects first.  The
    right-hand side does not mention the read boundaries.  Afterwards the response parser is fresh. -/
theorem client_sequence (pathOk : Bytes → Option Bytes → Bool)
    (xs : List (Request × List Bytes × Bytes × Option Bytes × Bytes)) (c0 : Bool)
    (h : ∀ x ∈ xs, GoodExchange pathOk x) :
    (session (concreteLex pathOk) ⟨c0, init .response⟩ (xs.map fun x => (x.1, x.2.1))).2 =
      expectedSession c0 (xs.map fun x => (x.1, ⟨some x.2.2.1, x.2.2.2.1, x.2.2.2.2⟩)) ∧
    (session (concreteLex pathOk) ⟨c0, init .response⟩ (xs.map fun x => (x.1, x.2.1))).1.connected =
      endConnected c0 (xs.map fun x => (x.1, ⟨some x.2.2.1, x.2.2.2.1, x.2.2.2.2⟩)) ∧
    (session (concreteLex pathOk) ⟨c0, init .response⟩ (xs.map fun x => (x.1, x.2.1))).1.parser = init .response := by
  induction xs generalizing c0 with
  | nil => exact ⟨rfl, rfl, rfl⟩
  | cons x xs ih =>
    obtain ⟨hdom, ⟨u, hu⟩, hne, hr⟩ := h x (by simp)
    have hall := wellformed_one_response_concrete pathOk x.2.1 x.2.2.1 x.2.2.2.1 x.2.2.2.2 hne hr
    have hreq : onRequest ⟨c0, init .response⟩ x.1 =
        (⟨true, init .response⟩, (onRequest ⟨c0, init .response⟩ x.1).2) := by
      simp [onRequest, hdom, hu]
    have hex : exchange (concreteLex pathOk) ⟨c0, init .response⟩ (x.1, x.2.1) =
        (⟨!connClose ⟨some x.2.2.1, x.2.2.2.1, x.2.2.2.2⟩, init .response⟩,
         (onRequest ⟨c0, init .response⟩ x.1).2 ++ respEvents (some ⟨some x.2.2.1, x.2.2.2.1, x.2.2.2.2⟩)) := by
      unfold exchange
      rw [hreq]
      simp only [readAll_eq, hall, flatMap_replicate_none, any_replicate_none, closes, Bool.true_and]
    obtain ⟨i1, i2, i3⟩ := ih (!connClose ⟨some x.2.2.1, x.2.2.2.1, x.2.2.2.2⟩)
      (fun y hy => h y (List.mem_cons_of_mem _ hy))
    simp only [List.map_cons, session, hex, expectedSession, endConnected]
    exact ⟨by rw [i1], i2, i3⟩

/-- the same request answered by `HTTP/1.1 200 OK CRLF Connection: Close CRLF Content-Length: 0 CRLF CRLF` in two reads -/
def cExchangeClose : CV.Http.Client.Request × List Bytes × Bytes × Option Bytes × Bytes :=
  (cExchange.1,
   [[72, 84, 84, 80, 47, 49, 46, 49, 32, 50, 48, 48, 32, 79, 75, 13, 10, 67, 111, 110, 110, 101, 99, 116, 105, 111, 110, 58, 32, 67, 108, 111, 115, 101, 13],
    [10, 67, 111, 110, 116, 101, 110, 116, 45, 76, 101, 110, 103, 116, 104, 58, 32, 48, 13, 10, 13, 10]],
   [72, 84, 84, 80, 47, 49, 46, 49, 32, 50, 48, 48, 32, 79, 75],
   some [67, 111, 110, 110, 101, 99, 116, 105, 111, 110, 58, 32, 67, 108, 111, 115, 101, 13, 10, 67, 111, 110, 116, 101, 110, 116, 45, 76, 101, 110, 103, 116, 104, 58, 32, 48], [])

example : ∀ x ∈ [cExchangeClose, cExchange], GoodExchange okPath x := by
  intro x hx
  simp only [List.mem_cons, List.not_mem_nil, or_false] at hx
  rcases hx with rfl | rfl
  · exact ⟨by decide +kernel, ⟨⟨[104], 80, [47, 97], false⟩, by decide +kernel⟩, by decide +kernel, by decide +kernel⟩
  · exact ⟨by decide +kernel, ⟨⟨[104], 80, [47, 97], false⟩, by decide +kernel⟩, cExchange_reading.1, cExchange_reading.2⟩

/-- what the theorem then says of that session: connect + write, response, close; connect again + write, response -/
example : expectedSession false ([cExchangeClose, cExchange].map fun x => (x.1, ⟨some x.2.2.1, x.2.2.2.1, x.2.2.2.2⟩)) =
    [[.connect [104] 80 false,
      .write [71, 69, 84, 32, 47, 97, 32, 72, 84, 84, 80, 47, 49, 46, 49, 13, 10, 72, 111, 115, 116, 58, 32, 104, 13, 10, 13, 10],
      .response ⟨some cExchangeClose.2.2.1, cExchangeClose.2.2.2.1, []⟩, .close],
     [.connect [104] 80 false,
      .write [71, 69, 84, 32, 47, 97, 32, 72, 84, 84, 80, 47, 49, 46, 49, 13, 10, 72, 111, 115, 116, 58, 32, 104, 13, 10, 13, 10],
      .response ⟨some cExchange.2.2.1, cExchange.2.2.2.1, [97, 98]⟩]] := by decide +kernel

open CV.Http.Client in
/-- **The request the client writes parses back to the request the application asked for.**
    For a request (`method`, `body`, `headers`) to a parsed URL `u` (host, port, path + query, secure):
    the bytes of the `write` events of `Client.request` - request line `METHOD SP path SP HTTP/1.1`,
    the header fields of `requestFields` (the application's, then `Host` unless given, then
    `Content-Length` = the length of the body iff a body is given), the empty line, the body - are,
    read by the server side with the code's own lexers (`concreteLex`):
    the request line lexes as exactly (method, path, 1, 1); the header block makes exactly the
    `add_header` calls of these fields (names upper-cased); by the RFC-derived decomposition the bytes are
    one request with that line, that block and that body; and the server's parser, given the bytes in
    one piece, ends complete, without error, with nothing left over.  (By `wellformed_one_request_concrete`
    the same then holds for every segmentation, when the request passes the server's acceptance tests.)

    Hypotheses: the domain of the lexer round trips (`lexFirst_request_roundtrip`, `lexHdrs_roundtrip`:
    method of METHOD_RE's class, path without whitespace / fragment, fields RFC 7230 tokens and values)
    and `hinfo`/`hup`/`hbody`: the framing the final fields announce is the body written - which
    `client_framing` derives from the model when the application sets no framing header itself. -/
theorem client_request_parses_back (pathOk : Bytes → Option Bytes → Bool) (q : Request) (u : Url) (h : HdrInfo)
    (hm : methodOk q.method = true) (htne : u.path ≠ []) (ht : ∀ b ∈ u.path, isUSpace b = false)
    (hfrag : hasFragment u.path = false) (hurl : urlRefused u.path = false)
    (href : lineRefused (reqLineOf q.method u.path [49] [49]) = false)
    (hok : ∀ f ∈ requestFields u q.headers q.body, FieldOk f)
    (hinfo : infoOfFields ((requestFields u q.headers q.body).map normField) = .ok h)
    (hup : h.upgrade = false)
    (hbody : bodyOk .request h (q.body.getD []) (q.body.getD []) = true) :
    lexRequestLine (reqLineOf q.method u.path [49] [49]) = .ok ⟨q.method, u.path, 1, 1⟩ ∧
    lexFieldList (serFields (requestFields u q.headers q.body)) =
      .ok ((requestFields u q.headers q.body).map normField) ∧
    isReading (concreteLex pathOk) .request (wireBytes (requestWrites q u))
      (reqLineOf q.method u.path [49] [49]) (some (serFields (requestFields u q.headers q.body)))
      (q.body.getD []) = true ∧
    (exec (concreteLex pathOk) (init .request) (wireBytes (requestWrites q u))).core.bad = false ∧
    (exec (concreteLex pathOk) (init .request) (wireBytes (requestWrites q u))).core.complete = true ∧
    (exec (concreteLex pathOk) (init .request) (wireBytes (requestWrites q u))).core.body = q.body.getD [] := by
  have hne := requestFields_ne_nil u q.headers q.body
  have hfl := lexFirst_request_roundtrip q.method u.path [49] [49] hm htne ht hfrag hurl (by simp) (by simp)
    (by decide) (by decide) href
  have hhd := lexHdrs_roundtrip _ hne hok
  have hread : isReading (concreteLex pathOk) .request (wireBytes (requestWrites q u))
      (reqLineOf q.method u.path [49] [49]) (some (serFields (requestFields u q.headers q.body)))
      (q.body.getD []) = true := by
    obtain ⟨c, r, e, hc⟩ := serFields_head _ hne hok
    have h1 : (concreteLex pathOk).first .request (reqLineOf q.method u.path [49] [49]) = some ⟨1, 1, none⟩ := by
      show (lexFirst .request _).toOption = _
      rw [hfl.2]; rfl
    have h2 : (concreteLex pathOk).hdrs (serFields (requestFields u q.headers q.body)) = some h := by
      show (lexHdrs _).toOption = _
      rw [hhd.2, hinfo]; rfl
    refine isReading_iff.2 ⟨occurs_crlf_no_lf _ (reqLine_no_lf _ _ hm ht), _, h1, ?_, ?_,
      occurs_crlf2_ser _ hne hok, h, _, h2, ?_, hup, hbody⟩
    · rw [e]; exact List.cons_ne_nil _ _
    · rw [e]; cases r <;> simp [CRLF, hc]
    · rw [wire_eq, serHead_eq _ _ _ hne]; simp
  have hc := wellformed_clean_concrete pathOk .request _ _ _ _ hread
  have hd : decVal [49] = 1 := by decide
  exact ⟨by rw [hfl.1, hd], hhd.1, hread, hc.1, hc.2.1, hc.2.2.2.2⟩

/-- `POST http://h:8080/a?x=1` with header `x-a: v` and body `ab`:
    `POST /a?x=1 HTTP/1.1 CRLF X-A: v CRLF Host: h:8080 CRLF Content-Length: 2 CRLF CRLF ab` -/
def cReq : CV.Http.Client.Request :=
  ⟨[80, 79, 83, 84], [104, 116, 116, 112, 58, 47, 47, 104, 58, 56, 48, 56, 48, 47, 97, 63, 120, 61, 49], some [97, 98], [([120, 45, 97], [118])]⟩

def cUrl : CV.Http.Client.Url := ⟨[104], 8080, [47, 97, 63, 120, 61, 49], false⟩

example : CV.Http.Client.parseUrl cReq.url = .ok cUrl ∧
    CV.Http.Client.requestFields cUrl cReq.headers cReq.body =
      [([88, 45, 65], [118]), ([72, 111, 115, 116], [104, 58, 56, 48, 56, 48]),
       ([67, 111, 110, 116, 101, 110, 116, 45, 76, 101, 110, 103, 116, 104], [50])] ∧
    methodOk cReq.method = true ∧ cUrl.path ≠ [] ∧ (∀ b ∈ cUrl.path, isUSpace b = false) ∧
    hasFragment cUrl.path = false ∧ urlRefused cUrl.path = false ∧
    lineRefused (reqLineOf cReq.method cUrl.path [49] [49]) = false ∧
    infoOfFields ((CV.Http.Client.requestFields cUrl cReq.headers cReq.body).map normField) = .ok ⟨.val 2, false, true, false⟩ ∧
    bodyOk .request ⟨.val 2, false, true, false⟩ (cReq.body.getD []) (cReq.body.getD []) = true := by decide +kernel

example : ∀ f ∈ CV.Http.Client.requestFields cUrl cReq.headers cReq.body, FieldOk f := by
  have e : CV.Http.Client.requestFields cUrl cReq.headers cReq.body =
      [([88, 45, 65], [118]), ([72, 111, 115, 116], [104, 58, 56, 48, 56, 48]),
       ([67, 111, 110, 116, 101, 110, 116, 45, 76, 101, 110, 103, 116, 104], [50])] := by decide +kernel
  rw [e]
  intro f hf
  simp only [List.mem_cons, List.not_mem_nil, or_false] at hf
  rcases hf with rfl | rfl | rfl <;> exact ⟨⟨by decide +kernel, by decide +kernel, by decide +kernel, by decide +kernel⟩, by decide +kernel⟩

open CV.Http.Client in
/-- **The framing the client announces is the body it writes.**  If the application sets no
    `Content-Length`, `Transfer-Encoding` or `Connection` header itself (in any letter case), the fields
    `Client.request` sends announce exactly the body it writes: with a body, `Content-Length` is the one
    the client adds, its value reads back (through `Headers.get` + `int`) as the length of the body; without
    one, no framing header at all (a request without body); never an Upgrade.  (`hlen`: the decimal
    length has at most 4000 digits - the explicit limit of the lexer model, `int()`'s digit limit.) -/
theorem client_framing (u : Url) (user : List Field) (body : Option Bytes) (hno : NoFraming user)
    (hlen : ∀ b, body = some b → (decStr b.length).length ≤ 4000) :
    ∃ h, infoOfFields ((requestFields u user body).map normField) = .ok h ∧ h.upgrade = false ∧
      bodyOk .request h (body.getD []) (body.getD []) = true := by
  obtain ⟨hcl, hte, hco⟩ := hno
  have h1cl := noName_h1 u user hcl (by decide)
  have h1te := noName_h1 u user hte (by decide)
  have h1co := noName_h1 u user hco (by decide)
  cases body with
  | none => exact framing_none _ h1cl h1te h1co
  | some b => exact framing_some _ b h1cl h1te h1co (hlen b rfl)

example : CV.Http.Client.NoFraming cReq.headers ∧
    (∀ b, cReq.body = some b → (CV.Http.Client.decStr b.length).length ≤ 4000) := by
  refine ⟨⟨?_, ?_, ?_⟩, ?_⟩
  · intro f hf; simp only [cReq, List.mem_singleton] at hf; subst hf; decide
  · intro f hf; simp only [cReq, List.mem_singleton] at hf; subst hf; decide
  · intro f hf; simp only [cReq, List.mem_singleton] at hf; subst hf; decide
  · intro b hb; simp only [cReq, Option.some.injEq] at hb; subst hb; decide

open CV.Http.Client in
/-- **`client_request_parses_back` without hypotheses on the framing**: for an application that leaves
    the framing headers to the client, the written bytes are one well-formed request with the method,
    path, fields and body asked for, and the server's parser reads them complete, clean, with that body. -/
theorem client_request_parses_back_noframing (pathOk : Bytes → Option Bytes → Bool) (q : Request) (u : Url)
    (hm : methodOk q.method = true) (htne : u.path ≠ []) (ht : ∀ b ∈ u.path, isUSpace b = false)
    (hfrag : hasFragment u.path = false) (hurl : urlRefused u.path = false)
    (href : lineRefused (reqLineOf q.method u.path [49] [49]) = false)
    (hok : ∀ f ∈ requestFields u q.headers q.body, FieldOk f)
    (hno : NoFraming q.headers)
    (hlen : ∀ b, q.body = some b → (decStr b.length).length ≤ 4000) :
    lexRequestLine (reqLineOf q.method u.path [49] [49]) = .ok ⟨q.method, u.path, 1, 1⟩ ∧
    lexFieldList (serFields (requestFields u q.headers q.body)) =
      .ok ((requestFields u q.headers q.body).map normField) ∧
    isReading (concreteLex pathOk) .request (wireBytes (requestWrites q u))
      (reqLineOf q.method u.path [49] [49]) (some (serFields (requestFields u q.headers q.body)))
      (q.body.getD []) = true ∧
    (exec (concreteLex pathOk) (init .request) (wireBytes (requestWrites q u))).core.bad = false ∧
    (exec (concreteLex pathOk) (init .request) (wireBytes (requestWrites q u))).core.complete = true ∧
    (exec (concreteLex pathOk) (init .request) (wireBytes (requestWrites q u))).core.body = q.body.getD [] := by
  obtain ⟨h, hi, hu, hb⟩ := client_framing u q.headers q.body hno hlen
  exact client_request_parses_back pathOk q u h hm htne ht hfrag hurl href hok hi hu hb

/-- non-vacuity: `cReq` / `cUrl` above satisfy every hypothesis (the two examples before `client_framing`) -/
example : methodOk cReq.method = true ∧ cUrl.path ≠ [] ∧ hasFragment cUrl.path = false ∧
    urlRefused cUrl.path = false ∧ lineRefused (reqLineOf cReq.method cUrl.path [49] [49]) = false := by decide +kernel

open CV.Http.Client in
/-- **The request target `parse_url` yields is one the request-line lexer takes**: for every URL
    `parse_url` accepts (within the model's URL domain), the path-plus-query it returns is non-empty,
    free of whitespace, has no fragment and is not refused by `urlsplit` - the hypotheses of
    `lexFirst_request_roundtrip` on the target. -/
theorem client_target (url : Bytes) (u : Url) (h : parseUrl url = .ok u) :
    u.path ≠ [] ∧ (∀ b ∈ u.path, isUSpace b = false) ∧ hasFragment u.path = false ∧ urlRefused u.path = false := by
  obtain ⟨e, hd⟩ := parseUrl_path url u h
  have hc := urlPath_chars url hd
  rw [e]
  refine ⟨urlPath_ne_nil url, fun b hb => (pathCh_facts b (hc b hb)).1, ?_, ?_⟩
  · unfold hasFragment
    have : (urlPath url).dropWhile (fun b => b != 35) = [] := by
      exact lx_dropWhile_all fun b hb => (pathCh_facts b (hc b hb)).2.2
    rw [this]; rfl
  · unfold urlRefused
    have : (urlPath url).any (fun b => b == 91 || b == 93 || decide (128 ≤ b.toNat)) = false := by
      rw [List.any_eq_false]
      intro b hb
      simp only [(pathCh_facts b (hc b hb)).2.1, Bool.false_eq_true, not_false_eq_true]
    rw [this, Bool.and_false]

example : CV.Http.Client.parseUrl cReq.url = .ok cUrl := by decide +kernel

open CV.Http.Client in
/-- **From the `request` event to the server's parser.**  An application request whose URL `parse_url`
    accepts as `u`, with a method of METHOD_RE's class, header fields that are RFC 7230 fields and none of
    the framing headers set by the application: the bytes `Client.request` writes are, for the server side
    with the code's own lexers, exactly one well-formed request - request line (method, `u.path`, HTTP/1.1),
    the application's fields + Host + Content-Length, the body - and the server's parser reads them
    complete and clean.  (`href`: the request line has no backslash and at most 4000 characters; `hlen`:
    at most 4000 digits of Content-Length - the explicit limits of the lexer model.) -/
theorem client_request_wellformed (pathOk : Bytes → Option Bytes → Bool) (q : Request) (u : Url)
    (hu : parseUrl q.url = .ok u) (hm : methodOk q.method = true)
    (href : lineRefused (reqLineOf q.method u.path [49] [49]) = false)
    (hok : ∀ f ∈ requestFields u q.headers q.body, FieldOk f)
    (hno : NoFraming q.headers)
    (hlen : ∀ b, q.body = some b → (decStr b.length).length ≤ 4000) :
    lexRequestLine (reqLineOf q.method u.path [49] [49]) = .ok ⟨q.method, u.path, 1, 1⟩ ∧
    lexFieldList (serFields (requestFields u q.headers q.body)) =
      .ok ((requestFields u q.headers q.body).map normField) ∧
    isReading (concreteLex pathOk) .request (wireBytes (requestWrites q u))
      (reqLineOf q.method u.path [49] [49]) (some (serFields (requestFields u q.headers q.body)))
      (q.body.getD []) = true ∧
    (exec (concreteLex pathOk) (init .request) (wireBytes (requestWrites q u))).core.bad = false ∧
    (exec (concreteLex pathOk) (init .request) (wireBytes (requestWrites q u))).core.complete = true ∧
    (exec (concreteLex pathOk) (init .request) (wireBytes (requestWrites q u))).core.body = q.body.getD [] := by
  obtain ⟨a, b, c, d⟩ := client_target q.url u hu
  exact client_request_parses_back_noframing pathOk q u hm a b c d href hok hno hlen

/-- non-vacuity: `cReq`, `cUrl` (hypotheses `hok`, `hno`, `hlen`: the examples above) -/
example : CV.Http.Client.parseUrl cReq.url = .ok cUrl ∧ methodOk cReq.method = true ∧
    lineRefused (reqLineOf cReq.method cUrl.path [49] [49]) = false := by decide +kernel

/-! ## Requests back to back on one connection (CV/Model/HttpServerPipe.lean) -/

/-- **Request sequences on one byte stream, every cutting that respects the request boundaries.**  The reads of a
    connection are given as ONE list (no marker between the requests): when no read holds bytes of two requests -
    the cuts inside each request being arbitrary, byte-at-a-time included - every request is dispatched exactly once,
    in order, at the read that delivers its last byte, exactly as in one-piece-per-request delivery, and nothing stays
    buffered at the end.  This is `keepalive_sequence` restated on the flat read sequence through `pipeAll` (the response
    follows its request at once).  The hypothesis "no read straddles a boundary" cannot be dropped:
    `pipe_sequence_witness`.  Full statement (false for the code): for every cutting `reads` of
    `(msgs.map (·.1.flatten)).flatten`, `dispatched (pipeAll lex secure {} reads).2 = msgs.map (fl, hb, body)`. -/
theorem pipe_sequence_partial (lex : Lex) (secure : Bool)
    (msgs : List (List Bytes × Bytes × Option Bytes × Bytes))
    (h : ∀ m ∈ msgs, CleanRequest lex secure m.1 m.2.1 m.2.2.1 m.2.2.2) :
    pipeAll lex secure {} (msgs.map (·.1)).flatten =
      ({}, (msgs.map fun m => List.replicate (m.1.length - 1) .wait ++ [.request m.2.1 m.2.2.1 m.2.2.2]).flatten) ∧
    dispatched (pipeAll lex secure {} (msgs.map (·.1)).flatten).2 = msgs.map (fun m => (m.2.1, m.2.2.1, m.2.2.2)) ∧
    (pipeAll lex secure {} (msgs.map (·.1)).flatten).1.buffered = [] := by
  induction msgs with
  | nil => exact ⟨rfl, rfl, rfl⟩
  | cons m more ih =>
    obtain ⟨hne, hs, hclean, hst, cn1, hone⟩ := h m (by simp)
    have h1 := one_request lex secure m.1 hne hs hclean hst cn1 _ _ _ hone
    have h2 := pipeAll_of_connReadAll lex secure m.2.1 m.2.2.1 m.2.2.2 (more.map (·.1)).flatten m.1 {} hs
      (congrArg Prod.snd h1)
    obtain ⟨i1, i2, i3⟩ := ih (fun m' hm' => h m' (List.mem_cons_of_mem _ hm'))
    simp only [List.map_cons, List.flatten_cons]
    rw [h2]
    refine ⟨?_, ?_, ?_⟩
    · rw [i1]
    · simp only [dispatched_waits, i2]
    · exact i3

example : ∀ m ∈ [(toySegs, ([71] : Bytes), some ([67] : Bytes), ([97, 98] : Bytes)),
                 ([toyMsg], [71], some [67], [97, 98])],
    CleanRequest toyLex false m.1 m.2.1 m.2.2.1 m.2.2.2 := by
  intro m hm
  simp only [List.mem_cons, List.mem_nil_iff, or_false] at hm
  rcases hm with rfl | rfl
  · exact toySegs_clean
  · exact ⟨by decide +kernel, by decide +kernel, by decide +kernel, by decide +kernel,
      ⟨none, some ⟨[71], ⟨1, 1, none⟩, some [67], ⟨.val 2, false, true, false⟩⟩⟩, by decide +kernel⟩

/-- `G CRLF H CRLF CRLF` : a request without body -/
def toyGet : Bytes := [71, 13, 10, 72, 13, 10, 13, 10]

/-- **A read that holds the end of request k and the start of request k+1 breaks it** (the code is not a pipelining
    server): (1) two bodyless requests in one read - ONE request is dispatched, with the bytes of the second as its
    body; (2) a Content-Length request followed by the next one in the same read - its body is extended by them;
    (3) a chunked request followed by the next one - the chunked request is right, the next one is lost with the
    parser; while one-piece-per-request delivery dispatches two requests in each case. -/
theorem pipe_sequence_witness :
    dispatched (pipeAll toyLex false {} [toyGet ++ toyGet]).2 = [([71], some [72], toyGet)] ∧
    dispatched (pipeAll toyLex false {} [toyGet, toyGet]).2 = [([71], some [72], []), ([71], some [72], [])] ∧
    dispatched (pipeAll toyLex false {} [toyMsg ++ toyGet]).2 = [([71], some [67], [97, 98] ++ toyGet)] ∧
    dispatched (pipeAll toyLex false {} [toyMsg, toyGet]).2 = [([71], some [67], [97, 98]), ([71], some [72], [])] ∧
    dispatched (pipeAll toyLex false {} [toyChunked ++ toyGet]).2 = [([71], some [84], [97, 98])] ∧
    dispatched (pipeAll toyLex false {} [toyChunked, toyGet]).2 = [([71], some [84], [97, 98]), ([71], some [72], [])] := by
  refine ⟨by decide +kernel, by decide +kernel, by decide +kernel, by decide +kernel, by decide +kernel, by decide +kernel⟩

/-- **What is kept after a dispatch: nothing.**  Whatever the tables held and whatever the read brought, a read that
    fires a `request` event leaves no parser for the socket - no byte is buffered for a following request - and,
    once the response is written, the entries of the socket are those of a fresh connection.  So every byte that
    followed the end of the dispatched request in that read is either inside its `body` or gone. -/
theorem pipe_dispatch_discards (lex : Lex) (secure : Bool) (cn cn' : Conn) (d fl : Bytes) (hb : Option Bytes)
    (body : Bytes) (h : connRead lex secure cn d = (cn', .request fl hb body)) :
    cn'.parser = none ∧ cn'.buffered = [] ∧ pipeRead lex secure cn d = ({}, .request fl hb body) := by
  obtain ⟨req, hcn⟩ := connRead_request_drops h
  refine ⟨by rw [hcn], by rw [hcn]; rfl, pipeRead_request h⟩

example : connRead toyLex false {} (toyGet ++ toyGet) =
    (⟨none, some ⟨[71], ⟨1, 1, none⟩, some [72], ⟨.absent, false, true, false⟩⟩⟩, .request [71] (some [72]) toyGet) := by
  decide +kernel

/-- **Where the next request starts: at the next READ, not at the next request boundary.**  For arbitrary reads
    (any cutting of any stream): after a read that dispatches, the remaining reads are served exactly as on a fresh
    connection.  Together with `pipe_dispatch_discards` this determines the dispatched list of every cutting of a
    pipelined stream, and shows why it depends on the cutting. -/
theorem pipe_restart (lex : Lex) (secure : Bool) (cn cn' : Conn) (d fl : Bytes) (hb : Option Bytes) (body : Bytes)
    (ds : List Bytes) (h : connRead lex secure cn d = (cn', .request fl hb body)) :
    pipeAll lex secure cn (d :: ds) =
      ((pipeAll lex secure {} ds).1, .request fl hb body :: (pipeAll lex secure {} ds).2) := by
  simp only [pipeAll, pipeRead_request h]

example : pipeAll toyLex false {} [toyGet ++ [71, 13], [10, 72, 13, 10, 13, 10]] =
    ({}, [.request [71] (some [72]) [71, 13], .err400NoHost]) := by
  decide +kernel

end CV.C13
