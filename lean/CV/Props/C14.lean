import CV.Proofs.HttpServerErr
/-
C14 - Any bytes on an HTTP connection: wait or one valid error response, never a crash.

Model: CV.Http14 (CV/Model/HttpServerErr.lean) on top of C13's parser / read-path model and C15's
response model; reader: CV.HttpSpec (CV/Model/HttpRespSpec.lean: RFC 7230 client side, shares nothing with the
models).

All theorems are for every instantiation `le : LexE` of the leaf functions *and of the inputs on
which they raise Python exceptions*, every `secure` flag, every connection state / table state,
every byte string `data`, every handler behaviour, every history of read / disconnect events on
any number of sockets.  No size bounds.

What "never a crash" means here: the control flow of `_on_read` / `_on_exception` /
`_on_httperror` / `_on_response` / `_on_disconnect` is a total function (Lean accepted the
definitions: every loop of the parser terminates), and every exit - including every place where
a leaf raises - ends in exactly one of the five outcomes of `read_outcome`.  That the Python
below the model (the leaf functions themselves, `Headers`, `urlsplit`) raises nothing but
ordinary exceptions, and that the event loop turns them into `exception` events, is NOT proved;
it rests on the correspondence run (C03-C04 cover the loop).

Environment convention (see the model's header): reads are non-empty and none is delivered after
the component asked for the close (`late`).

`lexed_consistent` (helper invariant `Http.Lexed` in CV/Proofs/HttpParse.lean) ties the `req.fl` / `req.hi` that
`dispatched_was_accepted` speaks about to the bytes `fl` / `hb` it names, whatever `errno` is.  The correspondence also
compares, on every generated case, the request the handler saw with the leaf decodings of the model's `fl` / `hb`.

Hypothesis that appears in `error_response_valid`: `wf rq r` of C15 - the reason phrase and the
header texts of the error page (Date, Server, Location) contain no CR/LF and are not framing
headers.  Those texts are constants of the implementation (HTTP_STATUS_CODES, formatdate) except
Location (a URL built from the request, `quote`d); checked on every run by the `one` spec op.
-/
namespace CV.C14
open CV.Http CV.Http14 CV.HttpResp CV.HttpSpec

/-- **Every read has exactly one of five outcomes** (the trichotomy of the statement, with
`late` = not delivered and `dispatch` = accepted): nothing on the wire; a bare close; or one
error response - never two - after which the connection is being closed and no request /
response pair is kept; or the request event, after whose answer no state at all is kept for the
socket.  The status of an error response the component produces on its own is 400, 505, 301
or 500. -/
theorem read_outcome (le : LexE) (secure : Bool) (env : Env) (cs : CState) (data : Bytes) (beh : Beh) :
    let r := readStep le secure cs data beh
    (r.2 = .late ∧ r.1 = cs ∧ cs.closing = true ∧ wire env r.2 = some []) ∨
    (r.2 = .wait ∧ r.1.closing = false ∧ wire env r.2 = some []) ∨
    (r.2 = .closeOnly ∧ r.1.closing = true ∧ wire env r.2 = some [.close]) ∨
    (∃ e rq fl hb, r.2 = .reject e rq fl hb ∧ r.1.closing = true ∧ r.1.conn.client = none ∧
        e.code ∈ [400, 505, 301, 500] ∧
        wire env r.2 = some (respond rq (errResp env e.code fl hb))) ∨
    (∃ fl hb body rq a, r.2 = .dispatch fl hb body rq a ∧ r.1.conn = {} ∧ a = answerOf beh ∧
        r.1.closing = (match a with | .app c => c | .error _ => true)) := by
  intro r
  cases hcl : cs.closing with
  | true =>
    left
    have : r = (cs, .late) := by simp [r, readStep, hcl]
    simp [this, wire]
  | false =>
    right
    have hr : r = (⟨(connRead14 le secure cs.conn data beh).1, (connRead14 le secure cs.conn data beh).2.closes⟩,
        (connRead14 le secure cs.conn data beh).2) := by
      simp [r, readStep, hcl]
    rw [hr]
    rcases connRead14_cases le secure cs.conn data beh with h | h | ⟨e, rq, fl, hb, h, hc⟩ | ⟨fl, hb, body, rq, h, _⟩
    · left; simp [h, Out.closes, wire]
    · right; left; simp [h, Out.closes, wire]
    · right; right; left
      exact ⟨e, rq, fl, hb, h, by rw [h]; rfl, hc, by cases e <;> simp [Exit.code], by rw [h]; rfl⟩
    · right; right; right
      rw [h]
      exact ⟨fl, hb, body, rq, _, rfl, rfl, rfl, by cases beh <;> rfl⟩

-- all five outcomes occur (toy lexers: every first line is an HTTP/1.1 request line ...)
private def toyE : LexE :=
  { lex := { first := fun _ l => if l = [66] then none else some ⟨if l = [50] then 2 else 1, 1, none⟩,
             hdrs := fun b => if b = [72] then some ⟨.absent, false, true, false⟩ else none,
             chunk := fun _ => none, pathOk := fun _ _ => true },
    firstExn := fun l => l = [88], hdrsExn := fun _ => false, req400Exn := fun _ => false,
    reqExn := fun _ _ => false, isHead := fun _ => false }

example : (readStep toyE false {} [71, 13] (.ok false)).2 = .wait := by decide
example : (readStep toyE false {} [128, 46] (.ok false)).2 = .closeOnly := by decide
example : (readStep toyE false {} [66, 13, 10] (.ok false)).2 = .reject .badFirst defaultRq (some [66]) none := by decide
example : (readStep toyE false {} [88, 13, 10] (.ok false)).2 = .reject .exn defaultRq (some [88]) none := by decide

example : (readStep toyE false {} [50, 13, 10, 72, 13, 10, 13, 10] (.ok false)).2
    = .reject .version ⟨false, true, true⟩ (some [50]) (some [72]) := by decide +kernel

example : (readStep toyE false {} [71, 13, 10, 72, 13, 10, 13, 10] (.raise 403)).2
    = .dispatch [71] (some [72]) [] ⟨false, true, true⟩ (.error 403) := by decide +kernel

example : (readStep toyE false ⟨{}, true⟩ [71] (.ok false)).2 = .late := by decide

/-- **An error response is one syntactically valid, self-delimiting HTTP response that announces
the close and is followed by it.**  For every error response the model writes (any exit, any
status, HEAD or not, HTTP/1.0 or 1.1, any page): the RFC reader recovers exactly one message
with that status from the bytes written and leaves exactly the bytes that follow (`rest`); the
message says the server will close; the close event is there, last; and the spec predicate
`oneResponse` that the driver evaluates on the implementation's bytes accepts the model's. -/
theorem error_response_valid (env : Env) (rq : HttpResp.Req) (code : Nat) (fl hb : Option Bytes)
    (rest : Bytes) (eof : Bool) (hw : wf rq (errResp env code fl hb) = true) :
    let r := errResp env code fl hb
    rfcDecode rq.isHead (bytesOf (respond rq r) ++ rest) eof = .ok (msgOf rq r, rest) ∧
    (msgOf rq r).head.status = code ∧ (msgOf rq r).willClose = true ∧
    hasClose (respond rq r) = true ∧ (wireOf (respond rq r)).afterClose = false ∧
    oneResponse rq.isHead code (wireOf (respond rq r)).bytes true false = .ok := by
  intro r
  obtain ⟨hclose, huc⟩ := errResp_prepare env rq code fl hb
  have hdec := rfcDecode_delimited rq r rest eof hw huc
  have hdec0 := rfcDecode_closing rq r hw
  have hsh := wireOf_writes (writesOf rq r) (prepare rq r).close
  rw [← respond_eq] at hsh
  have hst : (msgOf rq r).head.status = code := rfl
  refine ⟨hdec, hst, hclose, by rw [hasClose_respond]; exact hclose, hsh.2, ?_⟩
  · rw [hsh.1]
    unfold oneResponse
    rw [hdec0]
    have hwc : (msgOf rq r).willClose = true := hclose
    simp [hst, hwc]

example : wf defaultRq (errResp ⟨fun _ => [66, 97, 100], fun _ _ _ => [([68, 97, 116, 101], [84, 104, 117])],
    fun _ _ _ => [60, 104, 62]⟩ 400 none none) = true := by decide +kernel

/-- **A request event is dispatched only for a message that took none of the rejection exits**:
no leaf raised, the parser reports no error and complete headers, and for the request/response
pair used: HTTP major version 1 (checked when the pair was created), a Content-Length that
`int()` accepts, a complete body if one is announced, a Host header unless HTTP/1.0, a canonical
path.  (Each conjunct is the negation of one exit: 500, 400, 505, 500, wait, 400, 301.) -/
theorem dispatched_was_accepted (le : LexE) (secure : Bool) (cn cn1 : Http.Conn) (data : Bytes) (beh : Beh)
    (fl : Bytes) (hb : Option Bytes) (body : Bytes) (rq : HttpResp.Req) (a : Answer)
    (h : connRead14 le secure cn data beh = (cn1, .dispatch fl hb body rq a)) :
    ∃ p req, p = exec le.base (cn.parser.getD (init .request)) data ∧
      raisedIn le p.core = false ∧ exn400 le p.core = false ∧ exnReq le cn p.core = false ∧
      p.core.exn = false ∧ p.core.hdrDone = true ∧
      reqOf cn.client p = some req ∧ fl = req.firstLine ∧ hb = req.hdrBlock ∧ body = p.core.body ∧
      (cn.client = none → req.fl.vmajor = 1) ∧ req.hi.clen ≠ .bad ∧
      ((req.hi.clenVal ≠ 0 ∨ req.hi.te = true) → p.core.complete = true) ∧
      ((req.fl.vmajor, req.fl.vminor) = (1, 0) ∨ req.hi.host = true) ∧
      le.lex.pathOk fl hb = true := by
  rcases connRead14_cases le secure cn data beh with h' | h' | ⟨_, _, _, _, h', _⟩ |
      ⟨fl', hb', body', _, h', d1, d2, d3, d4⟩
  -- the first three ways are no dispatch
  iterate 3 (rw [h] at h'; cases h')
  obtain ⟨rfl, rfl, rfl⟩ : fl' = fl ∧ hb' = hb ∧ body' = body := by
    rw [h] at h'; injection h' with _ h'; injection h' with a b c; exact ⟨a.symm, b.symm, c.symm⟩
  generalize exec le.base (cn.parser.getD (init .request)) data = p at d1 d2 d3 d4 ⊢
  have hpair : afterExec le.base cn p = ((afterExec le.base cn p).1, .request fl' hb' body') := by rw [← d4]
  obtain ⟨e1, e2, req, e3, e4, _, e5, e6, e7⟩ := afterExec_fire hpair
  obtain ⟨v1, v2, v3, v4, v5⟩ := verdict_fire_iff.1 e4
  refine ⟨p, req, rfl, d1, d2, d3, e1, e2, e3, e5, e6, e7, fun hc => v1 (by simp [hc]), v2, v3, v4, ?_⟩
  rw [e5, e6]; exact v5

/-- successive reads on one connection -/
def runConn (le : LexE) (secure : Bool) : CState → List (Bytes × Beh) → CState × List Http14.Out
  | cs, [] => (cs, [])
  | cs, (d, b) :: rs =>
    let (c1, o) := readStep le secure cs d b
    let (c2, os) := runConn le secure c1 rs
    (c2, o :: os)

/-- **Nothing after the close.**  Once a read made the component ask for the close (bare close,
any error response, an application response that closes), nothing more is dispatched and nothing
more is written on that connection, whatever arrives: so a connection carries at most one error
response, and no request event follows a rejection. -/
theorem nothing_after_close (le : LexE) (secure : Bool) (cs : CState) (d : Bytes) (b : Beh)
    (rs : List (Bytes × Beh)) (h : (readStep le secure cs d b).2.closes = true) :
    runConn le secure (readStep le secure cs d b).1 rs =
      ((readStep le secure cs d b).1, List.replicate rs.length .late) := by
  have hc : (readStep le secure cs d b).1.closing = true := by
    unfold readStep at h ⊢
    cases hcl : cs.closing with
    | true => simp [hcl, Out.closes] at h
    | false => simp only [hcl, Bool.false_eq_true, if_false] at h ⊢; exact h
  generalize (readStep le secure cs d b).1 = c1 at hc
  induction rs with
  | nil => rfl
  | cons r rs ih =>
    obtain ⟨d', b'⟩ := r
    have : readStep le secure c1 d' b' = (c1, .late) := by simp [readStep, hc]
    simp only [runConn, this, ih, List.length_cons, List.replicate_succ]

example : (readStep toyE false {} [66, 13, 10] (.ok false)).2.closes = true := by decide

/-- **Disconnect releases everything**: after `disconnect(sock)` neither table has an entry for
the socket (and it is no longer being closed), whatever state the connection was in. -/
theorem disconnect_releases (le : LexE) (secure : Bool) (w : World) (s : Nat) :
    let w' := (step le secure w (.disconnect s)).1
    w'.t.buffers.lookup s = none ∧ w'.t.clients.lookup s = none ∧ w'.closing.contains s = false :=
  (World.clean_iff _ s).1 (step_disconnect_clean le secure w s)

/-- **Connections do not interfere**: an event on another socket changes neither the table
entries of `s` nor its closing flag - so everything above holds per connection in any
interleaving. -/
theorem isolation (le : LexE) (secure : Bool) (w : World) (e : Ev) (s : Nat) (h : s ≠ e.sock) :
    (step le secure w e).1.cstate s = w.cstate s := by
  obtain ⟨h1, h2⟩ := step_frame le secure w e s h
  unfold World.cstate
  rw [h1, h2]

/-- **No state is retained for a disconnected connection** - for every history of reads and
disconnects on any sockets from the empty tables: a socket that has not been read from since its
last disconnect (or never) has no parser, no request/response pair, and is not being closed. -/
theorem no_state_for_dead_sockets (le : LexE) (secure : Bool) (evs : List Ev) (s : Nat)
    (h : alive s evs false = false) :
    let w := (run le secure {} evs).1
    w.t.buffers.lookup s = none ∧ w.t.clients.lookup s = none ∧ w.closing.contains s = false :=
  (World.clean_iff _ s).1 (Http14.run_clean le secure evs {} (fun _ => false) (fun _ _ => ⟨rfl, rfl⟩) s h)

/-- **When every connection has gone the tables are empty** (sizes 0: the observation the
harness makes on `_buffers` / `_clients` at the end of every script). -/
theorem tables_empty_when_all_gone (le : LexE) (secure : Bool) (evs : List Ev)
    (h : ∀ s, alive s evs false = false) :
    let w := (run le secure {} evs).1
    w.t.buffers = [] ∧ w.t.clients = [] ∧ w.closing = [] := by
  apply empty_of_all_clean
  intro s
  exact Http14.run_clean le secure evs {} (fun _ => false) (fun _ _ => ⟨rfl, rfl⟩) s (h s)

-- a history on two sockets in which both end disconnected (one mid-request, one after a 400)
example : ∀ s, alive s [Ev.read 1 [71, 13] (.ok false), Ev.read 2 [66, 13, 10] (.ok false),
    Ev.disconnect 2, Ev.read 1 [10] (.ok false), Ev.disconnect 1] false = false := by
  intro s
  by_cases h1 : s = 1
  · subst h1; decide
  · by_cases h2 : s = 2
    · subst h2; decide
    · have a1 : ¬ (1 = s) := fun e => h1 e.symm
      have a2 : ¬ (2 = s) := fun e => h2 e.symm
      simp [alive, a1, a2]

/-- **The recorded verdicts are the lexers' verdicts on the recorded bytes.**  In every
parser state reachable from a fresh request parser by any sequence of reads - whatever the bytes,
whatever errors occurred - the first-line record `fl` is what the first-line lexer (the model of
`_parse_firstline`, with "raises" = rejected) says about exactly the recorded bytes `firstLine`, and
once the headers are complete the header record `hi` is what the header lexer says about exactly the
recorded header block (`none`: the empty block).  Hence the `req.fl` / `req.hi` of
`dispatched_was_accepted` are verdicts on the bytes `fl` / `hb` it names.  For every `le`, in
particular for the concrete lexers `Http.concreteLex` of CV/Model/HttpLex.lean. -/
theorem lexed_consistent (le : LexE) (segs : List Bytes) :
    let p := execAll le.base (init .request) segs
    (∀ f, p.core.fl = some f → ∃ l, p.core.firstLine = some l ∧ le.base.first .request l = some f) ∧
    (p.core.hdrDone = true →
      p.core.hi = (match p.core.hdrBlock with | some b => le.base.hdrs b | none => some noHdrs)) := by
  intro p
  have h := lexed_execAll le.base segs (init .request) (lexed_init le.base .request)
  have hk : p.core.kind = .request := execAll_kind le.base segs (init .request)
  refine ⟨?_, h.hdrs⟩
  intro f hf
  obtain ⟨l, h1, h2⟩ := h.first f hf
  exact ⟨l, h1, by rw [← hk]; exact h2⟩

end CV.C14
