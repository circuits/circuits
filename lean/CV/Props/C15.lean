import CV.Proofs.HttpResp
import CV.Proofs.HttpSeq
import CV.Proofs.HttpRespFail
/-
C15 - Every HTTP response is a well-formed, self-delimiting message with exact body.

Model: CV.HttpResp (prepare / _on_response / _on_stream / _clients, after the fix: commits).
Reader: CV.HttpSpec (RFC 7230 client side; shares no definition with the model).

All statements are for every request shape `rq` (HEAD or not, HTTP/1.0 or 1.1, keep-alive wish),
every response `r` (any status, any reason, any application headers, a sized / unsized / streamed
body with any number of parts of any length, empty parts included, close forced or not) and, where
present, every byte string `rest` that follows on the connection and every list of requests.

Hypotheses that appear:
  neutral r.hdrs   the application did not itself set Content-Length / Transfer-Encoding /
                   Connection (then the framing is the application's, not the framework's);
  wfHead …         status has three digits, no LF in the reason phrase, header names are
                   non-empty tokens without ':' / blanks / LF, header values contain no LF and
                   carry no leading/trailing blanks (what a reader is allowed to strip).
These delimit the *inputs* the property quantifies over (result type and size, status class,
version, Connection wish, method, streaming, request sequences); they exclude no framing decision
of the code.  Header injection through application-supplied header text is not part of C15.
The theorems that speak only about the framing (`body_roundtrip`, `body_roundtrip_close`,
`bodyless`, `delimiter_choice`, `close_iff_announced`, `sequence`, `entry_released`) carry no such
hypothesis at all.

Nothing is `_partial`: the model follows the code with the `fix:` commits in place (HEAD closes and cleans up, an
empty unsized body ends in a last-chunk, an empty first streamed piece is not framed as last-chunk, no body is
written for 1xx/204/304, 205 with an unsized body is delimited).
Not modelled (outside the statement's product or other properties' territory): `stream = True`
together with a non-iterator body (a TypeError loop in the framework - reported, not judged),
request cookies echoed as Set-Cookie,
request parsing (C13), errors.py (the page text and the headers an httperror / redirect event leaves are
parameters `ErrEnv` of the second part), the scheduling of coroutine handlers inside the core (C04/C06: which
events reach the decision code for a handler shape is the observed table `trace`).
Second part (below, "Responses produced through the handler-return paths"): the decision code that turns the
result of a request handler into the one `response(res)` event - model CV.HttpResp `step` / `trace` / `answer`
(CV/Model/HttpRespPath.lean), with three further `fix:` commits in place (the error of a nested event is answered
once; a Redirect raised in a nested / coroutine handler is answered with its Location; the error triple of a failing
coroutine callee is not taken for the body).
Third part ("Body iterators that raise, and handlers that return a flag"): model CV/Model/HttpRespFail.lean.
-/
namespace CV.C15
open CV.HttpResp CV.HttpSpec

/- `headOf rq r` / `msgOf rq r` (CV/Proofs/HttpSeq.lean): the head and the message the client must
   recover: version, status, reason, *all* headers in order, `expectedBody`, and `willClose` =
   the close decision of `prepare`.  `wf rq r` = `neutral r.hdrs && wfHead …` (see above). -/

/-- **Body framing, self-delimiting case.**  Unless the response is delimited by the end of the
connection, the RFC reader - given the framing `prepare` announced - recovers exactly the body the
application produced (nothing for HEAD / 1xx / 204 / 304) and leaves exactly the bytes that
followed the response: Content-Length is exact, the chunked coding is complete and terminated. -/
theorem body_roundtrip (rq : Req) (r : Resp) (rest : Bytes) (eof : Bool)
    (h : untilClose rq r = false) :
    decodeBody rq.isHead r.status (framing (prepare rq r)) (bodyBytes rq r ++ rest) eof
      = some (expectedBody rq r, rest) :=
  decodeBody_delimited rq r rest eof h

/-- **Body framing, close-delimited case.**  Otherwise the body is everything up to the end of the
connection, and the server does end it. -/
theorem body_roundtrip_close (rq : Req) (r : Resp) (h : untilClose rq r = true) :
    decodeBody rq.isHead r.status (framing (prepare rq r)) (bodyBytes rq r) true
        = some (expectedBody rq r, [])
      ∧ hasClose (respond rq r) = true := by
  refine ⟨decodeBody_untilClose rq r h, ?_⟩
  rw [hasClose_respond]; exact untilClose_closes rq r h

/-- **HEAD, 1xx, 204 and 304 responses carry no body**: nothing is written after the header block. -/
theorem bodyless (rq : Req) (r : Resp) (h : (rq.isHead || bodylessStatus r.status) = true) :
    bodyBytes rq r = [] ∧ expectedBody rq r = [] := by
  refine ⟨bodyBytes_nobody rq r h, ?_⟩
  simp [expectedBody, h]

/-- **Choice of the delimiter.**  Content-Length iff the body is sized; chunked only on HTTP/1.1,
never for HEAD, never together with Content-Length; and a response that has a body but neither
is closed by the server. -/
theorem delimiter_choice (rq : Req) (r : Resp) :
    ((prepare rq r).clen.isSome = true ↔ ∃ ps, r.body = .sized ps)
    ∧ ((prepare rq r).chunked = true → rq.v11 = true ∧ rq.isHead = false ∧ (prepare rq r).clen = none)
    ∧ (untilClose rq r = true → (prepare rq r).close = true) := by
  refine ⟨?_, ?_, untilClose_closes rq r⟩
  · rw [prepare_clen]
    cases hb : r.body <;> simp [cLength]
  · intro hc
    obtain ⟨hv, hh, hl, _⟩ := prepare_chunked hc
    exact ⟨hv, hh, hl⟩

/-- **The connection is closed iff the response announces it** (RFC 7230 6.3 reading of the
protocol version and the Connection header the response carries). -/
theorem close_iff_announced (rq : Req) (r : Resp) :
    hasClose (respond rq r) = announcesClose rq.v11 (prepare rq r).conn := by
  rw [hasClose_respond, announces_prepare]

/-- The framing headers in the rendered header block are read back as `prepare` decided them. -/
theorem framing_recovered (rq : Req) (r : Resp) (h : neutral r.hdrs = true) :
    framingOf (headers r (prepare rq r)) = some (framing (prepare rq r)) :=
  framingOf_headers r _ h

/-- **Whole message, self-delimiting case**: from the raw bytes of a response followed by any
bytes `rest`, the RFC reader recovers status line, every header, the exact body, whether the
server will close, and leaves exactly `rest`. -/
theorem roundtrip (rq : Req) (r : Resp) (rest : Bytes) (eof : Bool)
    (hw : wf rq r = true) (h : untilClose rq r = false) :
    rfcDecode rq.isHead (bytesOf (respond rq r) ++ rest) eof = .ok (msgOf rq r, rest) :=
  rfcDecode_delimited rq r rest eof hw h

/-- **Whole message, close-delimited case**: the reader recovers the message once the connection
has ended, the message says so, and the server closes. -/
theorem roundtrip_close (rq : Req) (r : Resp) (hw : wf rq r = true) (h : untilClose rq r = true) :
    rfcDecode rq.isHead (bytesOf (respond rq r)) true = .ok (msgOf rq r, [])
      ∧ (msgOf rq r).willClose = true ∧ hasClose (respond rq r) = true := by
  have hcl := untilClose_closes rq r h
  exact ⟨rfcDecode_untilClose rq r hw h, hcl, by rw [hasClose_respond]; exact hcl⟩

/-- **Successive requests on one connection.**  Starting from a fresh connection, every request up
to and including the first whose response closes is answered by the response to *its own*
(request, application result) pair - nothing of an earlier exchange survives - and nothing at all
is written after the close. -/
theorem sequence (script : List (Req × Resp)) :
    run Conn.fresh script = (answered script).flatMap (fun x => respond x.1 x.2) :=
  run_clean script Conn.fresh rfl rfl

/-- After any exchange on a clean connection the `_clients` entry is gone again. -/
theorem entry_released (c : Conn) (x : Req × Resp) (hs : c.stale = none) :
    (serve c x).1.stale = none := by
  cases hc : c.closed with
  | true => simp [serve, hc, hs]
  | false => rw [serve_clean c x hs hc]

/-- **The property predicate itself holds of every model run.**  `checkWire` is the decidable
predicate the driver evaluates on the *implementation's* recorded events (spec on impl): read
the responses one after the other with the RFC reader; response i has the status, the
application's headers and exactly the body of request i (no body for HEAD/1xx/204/304); no stray
bytes; a response that announces close is the last thing on the connection and the close event
follows; no close otherwise; nothing happens after the close.  For every list of requests on a
fresh connection - any length - the model's events satisfy it. -/
theorem spec_holds_of_every_run (script : List (Req × Resp)) (hw : ∀ x ∈ script, wf x.1 x.2 = true) :
    checkWire (wireOf (run Conn.fresh script)) (script.map expectOf) = .ok := by
  rw [sequence script]
  show checkWire (wireOf (allActs script)) _ = _
  obtain ⟨ws, h2⟩ := allActs_eq script
  have hs := wireOf_writes ws (hasClose (allActs script))
  rw [← h2] at hs
  unfold checkWire
  rw [hs.2]
  simp only [Bool.false_eq_true, if_false]
  rw [hs.1]
  exact checkFrom_model script 0 hw

/-! ## Responses produced through the handler-return paths

The application produces its result by *returning / yielding from a request handler*.  `trace p k s` are the
events that reach circuits.web's decision code (`HTTP._on_request_success`, `_on_request_failure`,
`_on_exception`, `Dispatcher._on_request_value_changed`; model: `step`) for handler shape `p` (plain `request`
handler, Controller method through `expose`, coroutine yielding the pieces, `yield self.call(e)` /
`yield self.wait(e)`, `return self.fire(e)` with a callee that answers at once or ticks later, nobody), result
kind `k` (a value, the Response object, an httperror event) and stage `s` (all well, or an exception raised in the
handler / after the first yield / in the callee: a Redirect, an HTTPException with any code, anything else).
All statements are for every such combination that exists (`trace p k s = some evs`), every request shape `rq`,
every status / headers the handler set (`app`), every body `b` and every error page text (`env`).
Which events the core delivers for a shape (`trace`) is validated against the real event trace by the check,
not derived here (C04/C06 are about the core). -/

/-- **Exactly one response per request**, whichever way the handler hands over its result and wherever it
raises: the decision code fires exactly one answer (each answer ends in exactly one `response(res)` event),
and it is the expected one - the handler's result, or the page for what was raised. -/
theorem one_response_per_request (p : Path) (k : Kind) (s : Stage) (evs : List HttpEv)
    (h : trace p k s = some evs) :
    (fired evs).length = 1 ∧ fired evs = [expected p s] := by
  rw [fired_trace p k s evs h]; simp

/-- **The response does not depend on the path.**  Two handlers that produce the same outcome (both a result,
or both the same exception class / code) - along any two paths, at any two stages - put exactly the same
bytes and the same close decision on the connection, given the same status, headers and body. -/
theorem result_path_irrelevant (rq : Req) (env : ErrEnv) (app : App) (b : Body)
    (p₁ p₂ : Path) (k₁ k₂ : Kind) (s₁ s₂ : Stage) (e₁ e₂ : List HttpEv)
    (h₁ : trace p₁ k₁ s₁ = some e₁) (h₂ : trace p₂ k₂ s₂ = some e₂)
    (hsame : expected p₁ s₁ = expected p₂ s₂) :
    pathActs rq env app b e₁ = pathActs rq env app b e₂ := by
  rw [pathActs_of_fired rq env app b e₁ _ (fired_trace p₁ k₁ s₁ e₁ h₁),
      pathActs_of_fired rq env app b e₂ _ (fired_trace p₂ k₂ s₂ e₂ h₂), hsame]

/-- **A result is answered as a result**: when nothing is raised (and somebody handles the request) the
connection carries `respond` of the response the handler prepared - its status, its headers, the body `b`. -/
theorem result_is_response (rq : Req) (env : ErrEnv) (app : App) (b : Body) (p : Path) (k : Kind)
    (evs : List HttpEv) (h : trace p k .ok = some evs) (hp : p ≠ .nobody) :
    pathActs rq env app b evs
      = respond rq { status := app.status, reason := app.reason, hdrs := app.hdrs, body := b,
                     forceClose := app.close } := by
  have he : expected p .ok = .respond := by cases p <;> first | rfl | exact absurd rfl hp
  rw [pathActs_of_fired rq env app b evs _ (fired_trace p k .ok evs h), he]
  rfl

/-- **An error result is the error page, and the connection is closed.**  Whatever the path and the stage,
an exception is answered by the response of the three-way choice (Redirect -> redirect with its code,
HTTPException -> its code, anything else -> 500): status = that code, body = the page text (one part, sized
- so delimited by Content-Length), and the server closes the connection after it. -/
theorem error_result_is_error_page (rq : Req) (env : ErrEnv) (app : App) (b : Body) (p : Path) (k : Kind)
    (s : Stage) (e : Exc) (evs : List HttpEv) (h : trace p k s = some evs) (hs : raised s = some e) :
    ∃ r : Resp, pathActs rq env app b evs = respond rq r
      ∧ r = answer env app b (excFired e)
      ∧ r.status = (match e with | .redirect c => c | .http c => c | .other => 500)
      ∧ r.body = pageBody (env.page (excFired e))
      ∧ hasClose (pathActs rq env app b evs) = true := by
  -- `nobody` is the one path on which `expected` is not the page of what was raised, and on it nothing raises
  have hexp : expected p s = excFired e := by
    cases s <;> cases hs <;> cases p <;> first | rfl | (cases k <;> cases h)
  have hact := pathActs_of_fired rq env app b evs _ (fired_trace p k s evs h)
  rw [hexp] at hact
  refine ⟨answer env app b (excFired e), hact, rfl, ?_, ?_, ?_⟩
  · cases e <;> simp [excFired, answer]
  · cases e <;> simp [excFired, answer]
  · rw [hact, hasClose_respond]
    exact prepare_close_of_force rq _ (answer_exc_force env app b e)

/-- **Whichever path produced it, the client recovers the result** (self-delimiting case; with
`roundtrip_close` for the close-delimited one): from the bytes put on the connection for the request, followed
by any bytes `rest`, the RFC reader recovers the status line, every header, exactly the body the handler
handed over, and leaves `rest`. -/
theorem path_roundtrip (rq : Req) (env : ErrEnv) (app : App) (b : Body) (p : Path) (k : Kind) (s : Stage)
    (evs : List HttpEv) (rest : Bytes) (eof : Bool) (h : trace p k s = some evs)
    (hw : wf rq (answer env app b (expected p s)) = true)
    (hd : untilClose rq (answer env app b (expected p s)) = false) :
    rfcDecode rq.isHead (bytesOf (pathActs rq env app b evs) ++ rest) eof
      = .ok (msgOf rq (answer env app b (expected p s)), rest) := by
  rw [pathActs_of_fired rq env app b evs _ (fired_trace p k s evs h)]
  exact rfcDecode_delimited rq _ rest eof hw hd

/-- **An error is answered once.**  For *any* sequence of events at the decision code (not only the traced
ones): once the request is marked handled - which every answered exception does - no later event of the
request makes the code fire another error or redirect page (only "nobody handled the request" is outside:
it is decided before any handler runs). -/
theorem error_answered_once (evs : List HttpEv) (hn : HttpEv.success .none ∉ evs) (e : Exc) :
    excFired e ∉ runEvents true evs := by
  intro hmem
  exact excFired_ne_respond e (runEvents_handled evs hn _ hmem)

/-- ... and the first exception that reaches the decision code does mark the request handled. -/
theorem exception_marks_handled (e : Exc) :
    (step false (.failure e)).1 = true ∧ (step false (.exception (.nested e))).1 = true
      ∧ (step false (.success (.triple e))).1 = true ∧ (step false (.success (.valError e))).1 = true := by
  simp [step, once]

private def rqGet : Req := { isHead := false, v11 := true, keep := true }
private def rq10 : Req := { isHead := false, v11 := false, keep := false }
private def hdrsEx : List (Bytes × Bytes) := [([68, 97, 116, 101], [84, 104, 117]), ([88, 45, 67], [116, 48])]

private def rStream : Resp :=
  { status := 200, reason := [79, 75], hdrs := hdrsEx, body := .stream [[], [104, 105], [], [33]], forceClose := false }

private def rSized : Resp :=
  { status := 404, reason := [78, 111], hdrs := hdrsEx, body := .sized [[104, 105], []], forceClose := true }

-- chunked stream on HTTP/1.1: well-formed, self-delimiting
example : wf rqGet rStream = true ∧ untilClose rqGet rStream = false ∧ (prepare rqGet rStream).chunked = true := by
  decide +kernel
-- the same stream on HTTP/1.0: delimited by close
example : wf rq10 rStream = true ∧ untilClose rq10 rStream = true := by decide +kernel
-- sized error page
example : wf rqGet rSized = true ∧ untilClose rqGet rSized = false ∧ (prepare rqGet rSized).clen = some 2 := by
  decide +kernel
-- body-less
example : (({ rqGet with isHead := true } : Req).isHead || bodylessStatus rStream.status) = true := by decide
example : neutral rStream.hdrs = true := by decide
-- a script whose second response closes: the third request is not answered
example : (answered [(rqGet, rStream), (rqGet, rSized), (rqGet, rStream)]).length = 2 := by decide
example : (Conn.fresh).stale = none := rfl
-- a three-request script satisfying the hypothesis of `spec_holds_of_every_run`
example : ∀ x ∈ [(rqGet, rStream), (rq10, rStream), (rqGet, rSized)], wf x.1 x.2 = true := by decide +kernel

-- handler-return paths: combinations that exist, with their events
example : trace .exposeFireLate .value (.callee (.http 404))
    = some [.success .valPending, .changed .other, .exception (.nested (.http 404))] := rfl

example : trace .plain (.errorEvent 503) .ok = some [.success (.errorEvent 503)] := rfl

example : trace .exposeCall .value (.afterYield (.redirect 303)) ≠ none ∧ trace .plainGen .value .ok ≠ none
    ∧ expected .exposeCall (.afterYield (.redirect 303)) = expected .plain (.handler (.redirect 303)) := by decide

example : trace .expose .responseObj .ok ≠ none ∧ Path.expose ≠ Path.nobody := by decide
example : raised (.callee .other) = some .other ∧ trace .plainCall .value (.callee .other) ≠ none := by decide
private def envEx : ErrEnv := { reason := fun _ => [78], page := fun _ => [112, 97, 103, 101], hdrs := fun _ h => h }
private def appEx : App := { status := 200, reason := [79, 75], hdrs := hdrsEx, close := false }

example : wf rqGet (answer envEx appEx (.sized [[104, 105]]) (expected .exposeFire .ok)) = true
    ∧ untilClose rqGet (answer envEx appEx (.sized [[104, 105]]) (expected .exposeFire .ok)) = false := by decide +kernel

example : wf rqGet (answer envEx appEx (.sized [[104, 105]]) (expected .expose (.handler (.http 404)))) = true
    ∧ untilClose rqGet (answer envEx appEx (.sized [[104, 105]]) (expected .expose (.handler (.http 404)))) = false := by
  decide +kernel

example : HttpEv.success .none ∉ [HttpEv.success (.triple .other), .exception (.nested .other), .changed .ready] := by
  decide
-- the `handled` flag: the same error, seen again as the exception of the nested event, is answered once
example : runEvents false [.success (.triple .other), .exception (.nested .other)] = [.error 500] := by decide

/-! ## Body iterators that raise, and handlers that return a flag

Model CV/Model/HttpRespFail.lean (the code after the `fix:` commit "a response body iterator that raises after the
head is sent aborts the connection"); `cutOk` is written on the RFC reader only.  Quantified over every request
shape, every response (status, headers, close forced or not), every unsized / streamed body with any pieces
(empty ones included), every failure point `k` (0 = before the first piece, beyond the last piece = when the
iterator is asked for the end), every state of the connection and every sequence of further requests.
`touched rq r` says that the body object is used at all: not HEAD / 1xx / 204 / 304, not a list. -/

open CV.HttpResp in
/-- **A failing body iterator ends the connection, and the peer is not deceived.**  The server closes, nothing
follows the close, what was sent after the header block is - in the announced framing - a prefix of what the
application produced (so there is no second status line inside the message), and a chunked message carries no
last-chunk: the RFC reader cannot take the truncated body for a complete one. -/
theorem failure_cut_is_visible (rq : Req) (r : Resp) (k : Nat) (h : touched rq r = true) :
    cutOk (framing (prepare rq r)) (failBytes rq r k) (hasClose (respondFail rq r k)) false (producedOf r) = true := by
  rw [respondFail_eq rq r k h, hasClose_writes]
  exact cutOk_fail rq r k h

example : touched ⟨false, true, true⟩ ⟨200, [], [], .stream [[1], [2]], false⟩ = true := by decide

/-- **Exactly one status line, exactly one close, the close is last**: the acts of the failed response are the
header block, the pieces handed out before the failure, and the close - no error response after the head. -/
theorem failure_one_head_then_close (rq : Req) (r : Resp) (k : Nat) (h : touched rq r = true) :
    ∃ ws : List Bytes, respondFail rq r k
      = Act.write (renderHead rq.v11 r.status r.reason (headers r (prepare rq r))) :: (ws.map Act.write ++ [Act.close]) := by
  exact ⟨_, respondFail_eq rq r k h⟩

example : touched ⟨false, false, false⟩ ⟨200, [], [], .iter [[1]], false⟩ = true := by decide

/-- **The per-connection entry is released and the connection is dead**: whatever was left in `_clients`, after the
failed response the entry is gone, the connection counts as closed, and no further request on it is answered -
never another response behind an unfinished message. -/
theorem failure_releases_entry (c : Conn) (x : Req × Resp) (k : Nat) (xs : List ((Req × Resp) × Option Nat))
    (hc : c.closed = false) (hs : c.stale = none) (h : touched x.1 x.2 = true) :
    (serveMaybe c x (some k)).1 = { stale := none, closed := true }
    ∧ runMaybe c ((x, some k) :: xs) = respondFail x.1 x.2 k := by
  have hcl : hasClose (respondFail x.1 x.2 k) = true := by rw [respondFail_eq x.1 x.2 k h, hasClose_writes]
  have h1 : serveMaybe c x (some k) = ({ stale := none, closed := true }, respondFail x.1 x.2 k) := by
    simp [serveMaybe, hc, hs, hcl]
  refine ⟨by rw [h1], ?_⟩
  simp [runMaybe, h1, runMaybe_closed xs { stale := none, closed := true } rfl]

example : (Conn.fresh).closed = false ∧ (Conn.fresh).stale = none := by decide

/-- **Where nothing can fail nothing changes**: for HEAD, body-less statuses and list bodies the response is the
ordinary one (covered by the theorems above), whatever the failure point. -/
theorem failure_untouched (rq : Req) (r : Resp) (k : Nat) (h : touched rq r = false) :
    respondFail rq r k = respond rq r := by
  unfold touched at h
  unfold respondFail respond bodyActsFail bodyActs
  cases hn : (rq.isHead || bodylessStatus r.status)
  · cases hb : r.body <;> simp_all
  · simp

example : touched ⟨true, true, true⟩ ⟨200, [], [], .stream [[1]], false⟩ = false := by decide

/-- **A handler that returns `True` / `False` has taken the exchange over**: the HTTP component writes nothing and
closes nothing for it (no status line of its own beside the handler's), and keeps the request / response pair. -/
theorem flag_result_is_silent (c : Conn) (x : Req × Resp) :
    (serveFlag c x).2 = [] ∧ (c.closed = false → (serveFlag c x).1.stale.isSome = true ∧ (serveFlag c x).1.closed = false) := by
  unfold serveFlag
  cases hc : c.closed <;> simp

end CV.C15
