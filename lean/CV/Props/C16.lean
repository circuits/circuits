import CV.Proofs.StaticPath
import CV.Proofs.Ranges
import CV.Proofs.RangesMultipart
import CV.Proofs.StaticListing
/-
C16 - Static files: only contents from inside the document root, exact byte ranges.

The theorems are about the executable models `CV.StaticPath.serve` (= `Static._on_request`
after the fix "Static serves only locations inside its document root"),
`CV.Ranges.getRanges` / `serveRange` (= `get_ranges` / the range part of `serve_file` after the
fix "get_ranges validates the Range header and clamps"), `multipartBody` / `serveMultipart` / `serveCond`
(CV/Model/RangesMultipart.lean: the multipart generator and the validators of `serve_file`) and, in the last part,
`CV.StaticListing` (directory listings), for EVERY request path string, every
percent-decoder `unq`, every file system `fs`, every mount prefix, every Range header string,
every file - no bounds.  The spec predicates `specOk`, `inRoot`, `respOk` are the ones the driver
evaluates on the implementation's own behaviour.

Hypotheses, and why they are there:
  * `ProperRoot d`: the document root is absolute, does not end in '/', and its second character
    is not '/' (i.e. it is what `os.path.abspath` returns, other than "/" itself - for which the
    property is vacuous - and other than a "//host"-style root).
  * the default documents (`Static.defaults`) are clean path components; checked against the
    live class on every run (parameter obligation).
-/
namespace CV.C16
open CV.StaticPath CV.Ranges

/-- What the Bool-valued `inRoot` means: `loc` is the root, or the root followed by a relative
    path all of whose components are real names (non-empty, not `.`, not `..`, no `/`):
    a descendant of the root in the directory tree. -/
theorem inRoot_meaning (d loc : Str) (h : inRoot d loc = true) :
    loc = d ∨ ∃ tail, loc = d ++ '/' :: tail ∧
      ∀ s ∈ split '/' tail, s ≠ [] ∧ s ≠ ['.'] ∧ s ≠ ['.', '.'] ∧ '/' ∉ s := by
  rcases (inRoot_iff d loc).1 h with h | ⟨tail, ht, hall⟩
  · exact Or.inl h
  · exact Or.inr ⟨tail, ht, fun s hs => (cleanSeg_iff s).1 (hall s hs)⟩

/-- C16.contained: whatever the request path, the dispatcher serves (or lists) only tree nodes
    inside its document root. -/
theorem contained (unq : Str → Str) (fs : FS) (cfg : Cfg) (reqPath loc : Str)
    (hd : ProperRoot cfg.docroot) (hdef : ∀ c ∈ cfg.defaults, cleanSeg c = true)
    (h : serve unq fs cfg reqPath = .file loc ∨ serve unq fs cfg reqPath = .listing loc) :
    inRoot cfg.docroot loc = true := by
  have hs := serve_specOk unq fs cfg reqPath hd hdef
  rcases h with h | h <;> (rw [h] at hs; simp only [specOk, Bool.and_eq_true] at hs; exact hs.1)

/-- C16.content_exact: every answer satisfies the spec: pass / 404, or a node inside the root that
    is the node denoted by the (decoded, prefix-stripped) request path resolved segment by
    segment from the document root - directly or through a default document. -/
theorem content_exact (unq : Str → Str) (fs : FS) (cfg : Cfg) (reqPath : Str)
    (hd : ProperRoot cfg.docroot) (hdef : ∀ c ∈ cfg.defaults, cleanSeg c = true) :
    specOk unq cfg reqPath (serve unq fs cfg reqPath) = true :=
  serve_specOk unq fs cfg reqPath hd hdef

/-- The containment test of the code before the fix let the parent directory through
    (kept so that the reason for the fix stays machine-checked). -/
theorem legacy_parent_reachable_witness :
    allowedLegacy ['/', 'b', '/', 'r'] ['/', 'b', '/', 's'] = true ∧
    inRoot ['/', 'b', '/', 'r'] ['/', 'b', '/', 's'] = false := by decide

/-- ... and a sibling whose name extends the root's name passes a bare prefix test. -/
theorem legacy_sibling_reachable_witness :
    startsWith ['/', 'b', '/', 'r', '-', 'x', '/', 'e'] ['/', 'b', '/', 'r'] = true ∧
    inRoot ['/', 'b', '/', 'r'] ['/', 'b', '/', 'r', '-', 'x', '/', 'e'] = false ∧
    allowed ['/', 'b', '/', 'r'] ['/', 'b', '/', 'r', '-', 'x', '/', 'e'] = false := by decide

/-- C16.ranges_sound: every interval `get_ranges` returns is non-empty and inside the file. -/
theorem ranges_sound (md : Nat) (hv : Option Str) (len : Nat) (rs : List (Nat × Nat))
    (h : getRanges md hv len = .ranges rs) : ∀ r ∈ rs, r.1 < r.2 ∧ r.2 ≤ len := by
  rcases getRanges_spec md hv len with ⟨-, hg⟩ | ⟨specs, R, -, hg, -, -, hbd⟩ <;> rw [hg] at h
  · cases h
  · rcases finish_cases R with ⟨e, -⟩ | e <;> rw [e] at h
    · cases h
    · cases h; exact hbd

/-- C16.range_response_exact: the answer to ANY Range header on ANY file satisfies the spec
    `respOk`: whole file for an absent / invalid header, wrong unit or HTTP/1.0; 416 (with
    `*/len` if labelled) when nothing is satisfiable; otherwise 206 whose parts are exactly the
    requested satisfiable intervals, in bounds, with the right bytes, Content-Range and
    Content-Length - or 416 for a request with several distinct intervals.  The model has no
    error outcome: totality of `serveRange` is "never an internal error". -/
theorem range_response_exact (md : Nat) (http11 : Bool) (hv : Option Str) (file : Bytes) :
    respOk md http11 hv file (serveRange md http11 hv file) = true :=
  serveRange_ok md http11 hv file

/-- A single-range answer announces exactly the number of bytes it carries. -/
theorem range_body_length (md : Nat) (http11 : Bool) (hv : Option Str) (file : Bytes)
    (clen : Nat) (p : Part) (h : serveRange md http11 hv file = .single clen p) :
    clen = p.body.length ∧ p.body.length = p.last + 1 - p.first ∧ p.last < file.length := by
  have hok := serveRange_ok md http11 hv file
  rw [h] at hok
  unfold respOk at hok
  cases http11 with
  | false => simp at hok
  | true =>
    simp only [not_true_eq_false, if_false] at hok
    cases hh : parseHeader md hv with
    | none => simp [hh] at hok
    | some specs =>
      simp only [hh, Bool.and_eq_true, decide_eq_true_eq, partOk] at hok
      obtain ⟨⟨⟨⟨⟨⟨h1, h2⟩, _⟩, _⟩, hbody⟩, hclen⟩, _⟩ := hok
      have hl : p.body.length = p.last + 1 - p.first := by
        rw [hbody]; simp [slice]; omega
      exact ⟨by omega, hl, h2⟩

/-- C16 as one statement: whatever the path and the Range header, what the dispatcher serves is
    a file inside the root, the one the path denotes, and exactly the requested bytes of it. -/
theorem static_answer (unq : Str → Str) (fs : FS) (content : Str → Bytes) (md : Nat) (cfg : Cfg)
    (http11 : Bool) (hv : Option Str) (reqPath loc : Str) (r : Resp)
    (hd : ProperRoot cfg.docroot) (hdef : ∀ c ∈ cfg.defaults, cleanSeg c = true)
    (h : respond unq fs content md cfg http11 hv reqPath = .served loc r) :
    inRoot cfg.docroot loc = true ∧ specOk unq cfg reqPath (.file loc) = true ∧
      respOk md http11 hv (content loc) r = true := by
  unfold respond at h
  have hs := serve_specOk unq fs cfg reqPath hd hdef
  cases hsv : serve unq fs cfg reqPath with
  | pass => simp [hsv] at h
  | notfound => simp [hsv] at h
  | listing l => simp [hsv] at h
  | file l =>
    simp only [hsv, Answer.served.injEq] at h
    obtain ⟨rfl, rfl⟩ := h
    exact ⟨contained unq fs cfg reqPath l hd hdef (.inl hsv), hsv ▸ hs, serveRange_ok md http11 hv (content l)⟩

section Multipart
open CV.Multipart

/-- C16.multipart_roundtrip: an RFC 2046 / 7233 reader (`Multipart.readByteranges`: split at
    CRLF "--" boundary, stop at the close-delimiter, header fields up to the empty line, parse
    `Content-Range: bytes a-b/n`) applied to the byte stream `serve_file`'s generator produces
    (`multipartBody`: boundary lines, part headers, seek + read per part, closing delimiter) yields
    exactly one part per range, in request order, each labelled `bytes start-(stop-1)/len(file)`,
    with the media type of the file and with the bytes `file[start:stop]` as payload - for EVERY
    file, list of ranges (overlapping, out of order, duplicated, beyond EOF: `read` stops there),
    media type and boundary, provided
      * `hfree`: "--" boundary does not occur in a payload.  The code does NOT check this: the
        boundary is `email.generator._make_boundary()` = 15 "=", 19 random decimal digits, "==",
        drawn without looking at the file (see `multipart_collision_witness`);
      * `hb`, `hct`: no CR in the boundary (true for every boundary of that shape, see
        `code_boundary_no_cr`) nor in the media type (a header value). -/
theorem multipart_roundtrip (file ctype bnd : Bytes) (rs : List (Nat × Nat))
    (hb : (13 : UInt8) ∉ bnd) (hct : (13 : UInt8) ∉ ctype)
    (hfree : ∀ r ∈ rs, ¬ dashBoundary bnd <:+: readAt file r.1 r.2) :
    readByteranges bnd (multipartBody file ctype bnd rs) =
      some (rs.map (fun r => (some (ctype.dropWhile isLWSP), partOf file r))) := by
  unfold readByteranges readMultipart
  rw [body_stream, split_stream file ctype bnd hb rs
    (fun r hr => partChunk_no_delimiter file ctype bnd r hct (hfree r hr)) [13, 10] (preamble_no_delimiter bnd)]
  simp only [takeParts_stream, Option.bind_some]
  rw [mapM_map_some parsePart (partChunk file ctype) _ rs (fun r _ => parsePart_chunk file ctype r hct)]
  simp only [Option.bind_some]
  exact mapM_map_some toRangePart _ _ rs (fun r _ => toRangePart_chunk file ctype r)

/-- The hypothesis `hfree` is needed, and the bare "CRLF--boundary does not occur in the payload"
    would not be enough: a payload that merely STARTS with "--boundary" is cut off, because the
    CRLF that ends the part's header block completes a delimiter. (boundary "B", file "--B\x01",
    ranges 0-2 and 1-3: the body cannot be read back.) -/
theorem multipart_collision_witness :
    readByteranges [66] (multipartBody [45, 45, 66, 1] [116] [66] [(0, 3), (1, 4)]) ≠
      some ([(0, 3), (1, 4)].map (fun r => (some [116], partOf [45, 45, 66, 1] r))) ∧
    ¬ delimiter [66] <:+: readAt [45, 45, 66, 1] 0 3 ∧ dashBoundary [66] <:+: readAt [45, 45, 66, 1] 0 3 := by
  decide +kernel

/-- every boundary of the shape `_make_boundary` produces ("=" and decimal digits) is free of CR -/
theorem code_boundary_no_cr (bnd : Bytes) (h : ∀ c ∈ bnd, c = 61 ∨ isDigitB c = true) : (13 : UInt8) ∉ bnd := by
  intro hc
  rcases h 13 hc with h | h
  · exact absurd h (by decide)
  · exact absurd h (by decide)

/-- C16.multipart_length: the multipart answer announces NO Content-Length (the code deletes the
    header; the body is delimited by chunked coding or by closing - C15's subject), status 206, the
    boundary in the Content-Type, no top-level Content-Range; and the body the generator produces
    has exactly this many bytes (what a length would have to be). -/
theorem multipart_length (md : Nat) (http11 : Bool) (hv : Option Str) (file ctype bnd : Bytes) (w : MultiResp)
    (h : serveMultipart md http11 hv file ctype bnd = some w) :
    w.contentLength = none ∧ w.contentRange = none ∧ w.status = 206 ∧ w.contentType = sMultipartCT ++ bnd ∧
    ∃ rs, getRanges md hv file.length = .ranges rs ∧ 2 ≤ rs.length ∧
      w.body.length = 8 + bnd.length +
        (rs.map (fun r => 49 + bnd.length + ctype.length + (natDec r.1).length + (natDec (r.2 - 1)).length +
          (natDec file.length).length + (r.2 - r.1))).sum := by
  obtain ⟨-, r1, r2, rest, hg, rfl⟩ := serveMultipart_some h
  refine ⟨rfl, rfl, rfl, rfl, r1 :: r2 :: rest, hg, by simp, ?_⟩
  have hs := ranges_sound md hv file.length _ hg
  show (multipartBody file ctype bnd (r1 :: r2 :: rest)).length = _
  rw [multipartBody_length]
  congr 1
  apply congrArg
  apply List.map_congr_left
  intro r hr
  have := hs r hr
  simp only [readAt, List.length_take, List.length_drop]
  omega

/-- C16.multipart_response_exact: whenever `serve_file` answers a Range request with a multipart
    body, a client that reads that body with the boundary of the Content-Type header obtains parts
    which satisfy the spec `respOk` of the property: exactly the requested satisfiable intervals,
    each inside the file, labelled with its own position and the file's length, carrying exactly
    those bytes; they are the parts of `serveRange`'s abstract answer, in the same order. -/
theorem multipart_response_exact (md : Nat) (http11 : Bool) (hv : Option Str) (file ctype bnd : Bytes)
    (w : MultiResp) (hb : (13 : UInt8) ∉ bnd) (hct : (13 : UInt8) ∉ ctype)
    (hfree : ¬ dashBoundary bnd <:+: file)
    (h : serveMultipart md http11 hv file ctype bnd = some w) :
    ∃ ps, readByteranges bnd w.body = some ps ∧
      serveRange md http11 hv file = .multi (ps.map (·.2)) ∧
      respOk md http11 hv file (.multi (ps.map (·.2))) = true ∧
      ∀ p ∈ ps, p.1 = some (ctype.dropWhile isLWSP) ∧ p.2.first ≤ p.2.last ∧ p.2.last < file.length ∧
        p.2.total = file.length ∧ p.2.body = slice file p.2.first (p.2.last + 1) := by
  obtain ⟨h11, r1, r2, rest, hg, rfl⟩ := serveMultipart_some h
  have hrt := multipart_roundtrip file ctype bnd (r1 :: r2 :: rest) hb hct
    (fun r _ hin => hfree (List.IsInfix.trans hin
      ((List.take_prefix _ _).isInfix.trans (List.drop_suffix _ _).isInfix)))
  have hsr : serveRange md http11 hv file = .multi ((r1 :: r2 :: rest).map (partOf file)) := by
    simp only [serveRange, h11, not_true_eq_false, if_false, hg]
  have hmap : ((r1 :: r2 :: rest).map (fun r => (some (ctype.dropWhile isLWSP), partOf file r))).map (·.2) =
      (r1 :: r2 :: rest).map (partOf file) := by
    rw [List.map_map]; rfl
  refine ⟨_, hrt, by rw [hmap, hsr], by rw [hmap, ← hsr]; exact serveRange_ok md http11 hv file, ?_⟩
  intro p hp
  obtain ⟨r, hr, rfl⟩ := List.mem_map.1 hp
  obtain ⟨-, -, h2, h3, h4, h5⟩ := partOf_exact file r (ranges_sound md hv file.length _ hg r hr)
  exact ⟨rfl, h2, h3, h4, h5⟩

/-- C16.conditional_decision: the decision table of `serve_file` for a request that carries
    validators and (possibly) a Range header.  `Last-Modified` is always set (non-empty) before:
      If-Unmodified-Since present and different from Last-Modified      -> 412, whatever the Range
      else If-Modified-Since equal to Last-Modified                     -> 304 (GET/HEAD) / 412 (other methods)
      else                                                              -> the Range answer (200 / 206 / 416)
    Comparison is string equality with the formatted date; `If-Range` and entity tags are not
    looked at. -/
theorem conditional_decision (md : Nat) (http11 getOrHead : Bool) (lastmod : Str)
    (ius ims hv : Option Str) (file : Bytes) (hl : lastmod ≠ []) :
    serveCond md http11 getOrHead lastmod ius ims hv file =
      if present ius = true ∧ ius ≠ some lastmod then .s412
      else if ims = some lastmod then (if getOrHead = true then .s304 else .s412)
      else .ranged (serveRange md http11 hv file) := by
  have hpl : present (some lastmod) = true := by simp [present, hl]
  unfold serveCond validateSince
  by_cases h1 : present ius = true ∧ ius ≠ some lastmod
  · simp [hpl, h1.1, h1.2]
  · by_cases h2 : ims = some lastmod
    · have h1' : ¬ (present ius = true ∧ ¬ ius = some lastmod) := h1
      cases getOrHead <;> simp [hpl, h1', h2]
    · have h1' : ¬ (present ius = true ∧ ¬ ius = some lastmod) := h1
      simp [hpl, h1', h2]

/-- C16.conditional_range_exact: a conditional request is answered 304 / 412 - no bytes of the
    file at all - or with a Range answer that satisfies the spec of the property; and the Range
    header has no influence on whether the validators end the request. -/
theorem conditional_range_exact (md : Nat) (http11 getOrHead : Bool) (lastmod : Str)
    (ius ims hv : Option Str) (file : Bytes) :
    (∀ r, serveCond md http11 getOrHead lastmod ius ims hv file = .ranged r →
        respOk md http11 hv file r = true) ∧
    (∀ hv', (serveCond md http11 getOrHead lastmod ius ims hv file = .s304 ↔
              serveCond md http11 getOrHead lastmod ius ims hv' file = .s304) ∧
            (serveCond md http11 getOrHead lastmod ius ims hv file = .s412 ↔
              serveCond md http11 getOrHead lastmod ius ims hv' file = .s412)) := by
  constructor
  · intro r h
    unfold serveCond at h
    split at h <;> simp at h
    subst h
    exact serveRange_ok md http11 hv file
  · intro hv'
    unfold serveCond
    constructor <;> split <;> simp

end Multipart

def exRoot : Str := ['/', 'b', '/', 'r']

def exFs : FS := fun p =>
  if p = ['/', 'b', '/', 'r'] then some .dir
  else if p = ['/', 'b', '/', 'r', '/', 'a'] then some .file
  else if p = ['/', 'b', '/', 's'] then some .file
  else none

def exCfg : Cfg := ⟨exRoot, none, [['i']], true⟩

example : ProperRoot exRoot := ⟨'b', ['/', 'r'], rfl, by decide, by decide⟩
example : ∀ c ∈ exCfg.defaults, cleanSeg c = true := by decide
-- a hostile spelling that stays inside is served, one that leaves is refused, the root is listed
example : serve unquote exFs exCfg ['/', 'x', '/', '%', '2', 'e', '%', '2', 'E', '/', 'a'] = .file ['/', 'b', '/', 'r', '/', 'a'] := by decide +kernel
example : serve unquote exFs exCfg ['/', '.', '.', '/', 's'] = .pass := by decide +kernel
example : serve unquote exFs exCfg ['/'] = .listing exRoot := by decide +kernel
example : getRanges 4300 (some ['b', 'y', 't', 'e', 's', '=', '0', '-', '9', ',', '-', '5']) 7 = .ranges [(0, 7), (2, 7)] := by decide +kernel
example : getRanges 4300 (some ['b', 'y', 't', 'e', 's', '=', '0', '-', '9', ',', '-', '2']) 7 = .unsat := by decide +kernel

example : serveRange 4300 true (some ['b', 'y', 't', 'e', 's', '=', '2', '-', '3']) [10, 11, 12, 13, 14] =
    .single 2 ⟨2, 3, 5, [12, 13]⟩ := by decide +kernel

example : serveRange 4300 true (some ['b', 'y', 't', 'e', 's', '=', '9', '-']) [10, 11] = .e416 (some 2) := by decide +kernel
example : serveRange 4300 true (some ['b', 'y', 't', 'e', 's', '=', 'a', '-', 'b']) [10, 11] = .full 2 [10, 11] := by decide +kernel

-- multipart: a boundary of the code's shape, two overlapping out-of-order ranges; the hypotheses hold
def exBnd : Bytes := [61, 61, 49, 50, 61, 61]
def exFile : Bytes := [10, 11, 12, 13, 14, 15, 16]

example : (13 : UInt8) ∉ exBnd ∧ (13 : UInt8) ∉ ([116, 47, 112] : Bytes) ∧
    (∀ r ∈ [(3, 6), (1, 4)], ¬ dashBoundary exBnd <:+: readAt exFile r.1 r.2) ∧
    ¬ dashBoundary exBnd <:+: exFile ∧ (∀ c ∈ exBnd, c = 61 ∨ Multipart.isDigitB c = true) := by decide +kernel

example : Multipart.readByteranges exBnd (multipartBody exFile [116, 47, 112] exBnd [(3, 6), (1, 4)]) =
    some [(some [116, 47, 112], ⟨3, 5, 7, [13, 14, 15]⟩), (some [116, 47, 112], ⟨1, 3, 7, [11, 12, 13]⟩)] := by
  decide +kernel

example : (serveMultipart 4300 true (some ['b', 'y', 't', 'e', 's', '=', '3', '-', '5', ',', '1', '-', '3'])
    exFile [116, 47, 112] exBnd).map (fun w => (w.status, w.contentLength, w.body.length)) = some (206, none, 142) := by
  decide +kernel
-- conditional requests: each row of the table occurs
def exLm : Str := ['M', 'o', 'n']
example : exLm ≠ [] := by decide
example : serveCond 4300 true true exLm (some ['T', 'u', 'e']) none (some ['b', 'y', 't', 'e', 's', '=', '0', '-', '0']) exFile = .s412 := by decide
example : serveCond 4300 true true exLm (some exLm) (some exLm) (some ['b', 'y', 't', 'e', 's', '=', '0', '-', '0']) exFile = .s304 := by decide
example : serveCond 4300 true false exLm none (some exLm) none exFile = .s412 := by decide

example : serveCond 4300 true true exLm (some exLm) (some ['T', 'u', 'e']) (some ['b', 'y', 't', 'e', 's', '=', '1', '-', '2']) exFile =
    .ranged (.single 2 ⟨1, 2, 7, [11, 12]⟩) := by decide +kernel

/-! ## Directory listings: which names a listing shows and where its links lead

Model: `CV.StaticListing` (the `dirlisting` branch of `Static._on_request` after the fix
"percent-encode the parent link of a directory listing").  `ls : Str → List Str` answers
`os.listdir`; `LsOk fs dir (ls dir)` says that it reports the children of `dir` in `fs`, each once. -/
open CV.StaticListing

/-- C16.listing_exact: when the dispatcher answers with a listing, it is the listing of the
    directory the request path denotes, that directory lies inside the root, and the names shown
    are exactly its children that are not hidden (no leading dot) - each once, in `os.listdir`'s
    order, every one of them a node inside the root; nothing else is shown. -/
theorem listing_exact (unq : Str → Str) (fs : FS) (ls : Str → List Str) (cfg : Cfg) (reqPath : Str) (l : Listing)
    (hd : ProperRoot cfg.docroot) (hdef : ∀ c ∈ cfg.defaults, cleanSeg c = true)
    (h : serveListing unq fs ls cfg reqPath = some l) (hls : LsOk fs l.loc (ls l.loc)) :
    serve unq fs cfg reqPath = .listing l.loc ∧
    specOk unq cfg reqPath (.listing l.loc) = true ∧
    l.items.map (·.name) = (ls l.loc).filter (fun n => !hidden n) ∧
    (l.items.map (·.name)).Nodup ∧
    (∀ n, n ∈ l.items.map (·.name) ↔
      (cleanSeg n = true ∧ (fs (l.loc ++ '/' :: n)).isSome = true ∧ hidden n = false)) ∧
    (∀ n ∈ l.items.map (·.name), inRoot cfg.docroot (l.loc ++ '/' :: n) = true) := by
  obtain ⟨rel, _, _, hserve, _, hitems⟩ := serveListing_some unq fs ls cfg reqPath l h
  have hspec := content_exact unq fs cfg reqPath hd hdef
  rw [hserve] at hspec
  have hin : inRoot cfg.docroot l.loc = true := contained unq fs cfg reqPath l.loc hd hdef (Or.inr hserve)
  have hnames : l.items.map (·.name) = (ls l.loc).filter (fun n => !hidden n) := by
    rw [hitems]; exact entries_names fs cfg rel (ls l.loc)
  have hmem : ∀ n, n ∈ l.items.map (·.name) ↔
      (cleanSeg n = true ∧ (fs (l.loc ++ '/' :: n)).isSome = true ∧ hidden n = false) := by
    intro n
    rw [hnames, List.mem_filter, hls.2 n]
    constructor
    · rintro ⟨⟨a, b⟩, c⟩; exact ⟨a, b, by simpa using c⟩
    · rintro ⟨a, b, c⟩; exact ⟨⟨a, b⟩, by simp [c]⟩
  refine ⟨hserve, hspec, hnames, ?_, hmem, ?_⟩
  · rw [hnames]; exact hls.1.filter _
  · intro n hn
    exact inRoot_extend cfg.docroot l.loc n hin ((hmem n).1 hn).1

/-- C16.listing_links_inside_root (containment half, full strength): whatever the request path and
    whatever the names in the directory, following ANY href of the listing page (an entry's or
    the parent link) through the dispatcher - prefix test, strip, percent-decoding, normalisation,
    containment test - is answered by pass / not-found or by a node inside the root that is the
    node the href denotes; never by anything outside the root. -/
theorem listing_links_inside_root (unq : Str → Str) (fs : FS) (ls : Str → List Str) (cfg : Cfg) (reqPath : Str)
    (l : Listing) (hd : ProperRoot cfg.docroot) (hdef : ∀ c ∈ cfg.defaults, cleanSeg c = true)
    (_h : serveListing unq fs ls cfg reqPath = some l) (href : Str) (_hh : href ∈ l.hrefs) :
    specOk unq cfg href (serve unq fs cfg href) = true ∧
    ∀ loc', (serve unq fs cfg href = .file loc' ∨ serve unq fs cfg href = .listing loc') →
      inRoot cfg.docroot loc' = true :=
  ⟨content_exact unq fs cfg href hd hdef, fun loc' h' => contained unq fs cfg href loc' hd hdef h'⟩

/-- C16.parent_link_inside_root_or_absent: a listing requested at the root of the mount (the part
    of the request path behind the prefix is empty after stripping the slashes and decoding) has
    no parent link; any other listing's parent link, followed through the dispatcher, is answered
    from inside the root or not at all. -/
theorem parent_link_inside_root_or_absent (unq : Str → Str) (fs : FS) (ls : Str → List Str) (cfg : Cfg)
    (reqPath : Str) (l : Listing) (hd : ProperRoot cfg.docroot) (hdef : ∀ c ∈ cfg.defaults, cleanSeg c = true)
    (h : serveListing unq fs ls cfg reqPath = some l) :
    (relOf unq cfg reqPath = some [] → l.up = none) ∧
    ∀ up, l.up = some up → ∀ loc', (serve unq fs cfg up = .file loc' ∨ serve unq fs cfg up = .listing loc') →
      inRoot cfg.docroot loc' = true := by
  obtain ⟨rel, hrel, _, _, hup, _⟩ := serveListing_some unq fs ls cfg reqPath l h
  refine ⟨?_, fun up _ loc' h' => contained unq fs cfg up loc' hd hdef h'⟩
  intro h0
  rw [hrel] at h0
  cases h0
  rw [hup]; simp [parentLink]

/-! ### does a link lead back to its entry?  (decided instances; the general statement is validated
    by the correspondence check on hostile names, see `harness/c16_listing.py`) -/

def exLRoot : Str := "/b/r".toList

def exLFs : FS := fun p =>
  if p = "/b/r".toList ∨ p = "/b/r/p%41".toList ∨ p = "/b/r/p%41/s".toList ∨ p = "/b/r/pA".toList then some .dir
  else if p = "/b/r/p%41/s/f".toList ∨ p = "/b/r/é\"# ?".toList ∨ p = "/b/r/.h".toList ∨ p = "/b/t".toList then some .file
  else none

def exLs : Str → List Str := fun p =>
  if p = "/b/r".toList then [".h".toList, "p%41".toList, "é\"# ?".toList, "pA".toList]
  else if p = "/b/r/p%41".toList then ["s".toList]
  else if p = "/b/r/p%41/s".toList then ["f".toList]
  else []

def exLCfg (pfx : Option Str) : Cfg := ⟨exLRoot, pfx, ["index.html".toList], true⟩

/-- hostile names (percent sequence that decodes to another existing name, quote, `#`, `?`, space,
    non-ASCII, hidden file): the hidden file is not shown, every shown link leads back to its own
    entry, at `/` and under a mount prefix, and the listing at the root has no parent link. -/
theorem listing_hostile_names_lead_back :
    (serveListing unquote exLFs exLs (exLCfg none) "/".toList).map
        (fun l => (l.items.map (·.name), l.up, l.items.all (leadsTo unquote exLFs (exLCfg none) l.loc)))
      = some (["p%41".toList, "é\"# ?".toList, "pA".toList], none, true) ∧
    (serveListing unquote exLFs exLs (exLCfg (some "/m".toList)) "/m/p%2541/".toList).map
        (fun l => (l.items.map (·.href), l.up, l.items.all (leadsTo unquote exLFs (exLCfg (some "/m".toList)) l.loc)))
      = some (["/m/p%2541/s/".toList], some "/m/p%2541/..".toList, true) := by decide +kernel

/-- The parent link as the code wrote it before the fix (not percent-encoded): below the
    directory `p%41` it pointed to `/p%41`, which the dispatcher decodes to the OTHER directory
    `pA`; the repaired link leads to the parent. -/
theorem legacy_parent_link_unescaped_witness :
    parentLinkLegacy (exLCfg none) "p%41/s".toList = some "/p%41".toList ∧
    serve unquote exLFs (exLCfg none) "/p%41".toList = .listing "/b/r/pA".toList ∧
    parentLink (exLCfg none) "p%41/s".toList = some "/p%2541".toList ∧
    serve unquote exLFs (exLCfg none) "/p%2541".toList = .listing "/b/r/p%41".toList := by decide +kernel

/-- KNOWN FINDING `listing-link-dead(absolute-request-path)`: the full statement "every entry link
    leads back to its entry" fails for a request path that spells the directory as an absolute
    file-system path (`/%2Fb%2Fr%2Fp%2541`): the right directory is listed, but its link
    `/b/r/p%2541/s/` is answered with pass (inside the root nothing is called `b/r/...`). -/
theorem listing_link_dead_witness :
    (serveListing unquote exLFs exLs (exLCfg none) "/%2Fb%2Fr%2Fp%2541".toList).map
        (fun l => (l.loc, l.items.map (·.href), l.items.map (leadsTo unquote exLFs (exLCfg none) l.loc)))
      = some ("/b/r/p%41".toList, ["/b/r/p%2541/s/".toList], [false]) ∧
    serve unquote exLFs (exLCfg none) "/b/r/p%2541/s/".toList = .pass := by decide +kernel

/-- A mount prefix containing a character that `quote` encodes can never be linked to: the hrefs
    start with the encoded prefix, which fails the dispatcher's own (undecoded) prefix test. -/
theorem listing_unlinkable_prefix_witness :
    (serveListing unquote exLFs exLs (exLCfg (some "/a b".toList)) "/a b/p%2541".toList).map
        (fun l => (l.items.map (·.href), l.items.map (leadsTo unquote exLFs (exLCfg (some "/a b".toList)) l.loc)))
      = some (["/a%20b/p%2541/s/".toList], [false]) := by decide +kernel

/-- C16.listing_links_inside_root, "leads back" half (`_partial`: three hypotheses, see below).
    FULL STATEMENT (fails, see the witnesses): every href of a listing, followed through the
    dispatcher, is answered by the entry it stands for.
    PROVED: for every decoder, file system, mount prefix, request path and directory content - if
      (1) the decoded request path is not absolute (else: KNOWN FINDING, `listing_link_dead_witness`),
      (2) the mount prefix is linkable: absent / empty, or absolute and made of characters `quote`
          leaves alone (else: `listing_unlinkable_prefix_witness`),
      (3) the decoder undoes `quote` on the child path `join rel name` (true for `urllib`'s pair on
          every valid string; validated by the check on hostile names, not proved for `unquote`),
    then the entry `e` of the listing stands for the child `loc/name` inside the root, its directory
    marker says whether that child is a directory, and its href is answered by exactly that child:
    the file itself; for a directory its listing, or one of its default documents (or 404 if that
    default document is itself a directory). Names with `%`, `#`, `?`, quotes, spaces, `..x`,
    non-ASCII are covered: no hypothesis on the name beyond being a directory entry. -/
theorem listing_link_leads_to_entry_partial (unq : Str → Str) (fs : FS) (ls : Str → List Str) (cfg : Cfg)
    (reqPath rel : Str) (l : Listing) (e : Entry)
    (hd : ProperRoot cfg.docroot) (hdef : ∀ c ∈ cfg.defaults, cleanSeg c = true)
    (h : serveListing unq fs ls cfg reqPath = some l) (hrel : relOf unq cfg reqPath = some rel)
    (hls : LsOk fs l.loc (ls l.loc)) (he : e ∈ l.items)
    (hnabs : rel.head? ≠ some '/') (hp : LinkablePrefix cfg.pfx)
    (hrt : unq (quote (join rel e.name)) = join rel e.name) :
    inRoot cfg.docroot (l.loc ++ '/' :: e.name) = true ∧
    e.isDir = (fs (l.loc ++ '/' :: e.name) == some Kind.dir) ∧
    (fs (l.loc ++ '/' :: e.name) = some .file → serve unq fs cfg e.href = .file (l.loc ++ '/' :: e.name)) ∧
    (fs (l.loc ++ '/' :: e.name) = some .dir →
      serve unq fs cfg e.href = .listing (l.loc ++ '/' :: e.name) ∨
      serve unq fs cfg e.href = .notfound ∨
      ∃ c ∈ cfg.defaults, serve unq fs cfg e.href = .file ((l.loc ++ '/' :: e.name) ++ '/' :: c)) := by
  obtain ⟨rel', hrel', hsrv, hserve, _, hitems⟩ := serveListing_some unq fs ls cfg reqPath l h
  rw [hrel] at hrel'
  cases hrel'
  rw [hitems] at he
  unfold entries at he
  rw [List.mem_map] at he
  obtain ⟨n, hn, rfl⟩ := he
  rw [List.mem_filter] at hn
  have hclean : cleanSeg n = true := ((hls.2 n).1 hn.1).1
  have hin : inRoot cfg.docroot l.loc = true := contained unq fs cfg reqPath l.loc hd hdef (Or.inr hserve)
  obtain ⟨_, _, hentry, _, _⟩ := child_lookup fs cfg rel n l.loc hd hsrv hnabs hclean
  have hdec : relOf unq cfg (entryOf fs cfg rel n).href = some (join rel n) :=
    entry_href_decodes unq fs cfg rel n hp hnabs hclean hrt
  have hs : serve unq fs cfg (entryOf fs cfg rel n).href = serveRel fs cfg (join rel n) := by
    unfold serve; rw [hdec]
  obtain ⟨hf, hdir⟩ := child_served fs cfg rel n l.loc hd hdef hsrv hnabs hclean
  refine ⟨inRoot_extend cfg.docroot l.loc n hin hclean, ?_, ?_, ?_⟩
  · show (fs (entryLoc cfg rel n) == some Kind.dir) = _
    rw [hentry]; rfl
  · intro hk; rw [hs]; exact hf hk
  · intro hk; rw [hs]; exact hdir hk

/-- The same for the model of `urllib.parse.unquote` itself when the decoded request path and the
    name are ASCII (any ASCII: `%41`, `#`, `?`, quotes, spaces, controls): hypothesis (3) is then a
    theorem (`unquote_quote_ascii`). For non-ASCII names (3) is validated by the check only. -/
theorem listing_link_leads_to_entry_ascii_partial (fs : FS) (ls : Str → List Str) (cfg : Cfg)
    (reqPath rel : Str) (l : Listing) (e : Entry)
    (hd : ProperRoot cfg.docroot) (hdef : ∀ c ∈ cfg.defaults, cleanSeg c = true)
    (h : serveListing unquote fs ls cfg reqPath = some l) (hrel : relOf unquote cfg reqPath = some rel)
    (hls : LsOk fs l.loc (ls l.loc)) (he : e ∈ l.items)
    (hnabs : rel.head? ≠ some '/') (hp : LinkablePrefix cfg.pfx)
    (ha1 : ∀ c ∈ rel, c.toNat < 128) (ha2 : ∀ c ∈ e.name, c.toNat < 128) :
    inRoot cfg.docroot (l.loc ++ '/' :: e.name) = true ∧
    e.isDir = (fs (l.loc ++ '/' :: e.name) == some Kind.dir) ∧
    (fs (l.loc ++ '/' :: e.name) = some .file → serve unquote fs cfg e.href = .file (l.loc ++ '/' :: e.name)) ∧
    (fs (l.loc ++ '/' :: e.name) = some .dir →
      serve unquote fs cfg e.href = .listing (l.loc ++ '/' :: e.name) ∨
      serve unquote fs cfg e.href = .notfound ∨
      ∃ c ∈ cfg.defaults, serve unquote fs cfg e.href = .file ((l.loc ++ '/' :: e.name) ++ '/' :: c)) := by
  apply listing_link_leads_to_entry_partial unquote fs ls cfg reqPath rel l e hd hdef h hrel hls he hnabs hp
  apply unquote_quote_ascii
  intro c hc
  rcases join_mem rel e.name c hc with h1 | h1 | h1
  · exact ha1 c h1
  · exact ha2 c h1
  · subst h1; decide

-- non-vacuity of the hypotheses of the three general theorems
example : ProperRoot exLRoot := ⟨'b', ['/', 'r'], by decide, by decide, by decide⟩
example : ∀ c ∈ (exLCfg none).defaults, cleanSeg c = true := by decide +kernel

example : (serveListing unquote exLFs exLs (exLCfg none) "/p%2541/".toList).map (·.hrefs)
    = some ["/".toList, "/p%2541/s/".toList] := by decide +kernel

example : relOf unquote (exLCfg (some "/m".toList)) "/m/".toList = some [] := by decide

example : LinkablePrefix (exLCfg (some "/m".toList)).pfx := by
  intro p hp _
  have : p = "/m".toList := by simpa [exLCfg] using hp.symm
  subst this; decide

example : (entryOf exLFs (exLCfg none) "p%41".toList "s".toList) ∈ entries exLFs (exLCfg none) "p%41".toList (exLs "/b/r/p%41".toList) ∧
    relOf unquote (exLCfg none) "/p%2541/".toList = some "p%41".toList ∧
    unquote (quote (join "p%41".toList "s".toList)) = join "p%41".toList "s".toList := by decide +kernel

example : (∀ c ∈ "p%41".toList, c.toNat < 128) ∧ (∀ c ∈ "s".toList, c.toNat < 128) := by decide

example : LsOk exLFs "/b/r/p%41".toList (exLs "/b/r/p%41".toList) := by
  have hls : exLs "/b/r/p%41".toList = ["s".toList] := by decide +kernel
  rw [hls]
  refine ⟨by decide +kernel, fun n => ⟨fun hn => ?_, fun ⟨hc, hf⟩ => ?_⟩⟩
  · rw [List.mem_singleton.1 hn]; decide +kernel
  · -- `n` is what follows the directory's name in one of the eight paths of `exLFs`
    have hn : n = ("/b/r/p%41".toList ++ '/' :: n).drop 10 := rfl
    generalize "/b/r/p%41".toList ++ '/' :: n = p at hn hf
    subst hn
    unfold exLFs at hf
    split at hf
    · rename_i h
      rcases h with rfl | rfl | rfl | rfl <;> revert hc <;> decide +kernel
    · split at hf
      · rename_i h
        rcases h with rfl | rfl | rfl | rfl <;> revert hc <;> decide +kernel
      · cases hf

end CV.C16
