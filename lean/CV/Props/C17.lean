import CV.Proofs.WebSocket
import CV.Proofs.WebSocketEndpoint
/-
C17 - WebSocket frames round-trip exactly, whatever the segmentation or fragmentation.

Model: CV.WS (CV/Model/WebSocket.lean) = circuits/protocols/websocket.py after the C17 `fix:`
commits.  Independent statement: CV/Model/WebSocketSpec.lean (RFC 6455 encoder, strict
decoder, `expected`, `conforming`).  Every theorem below is universally quantified: all
payloads and lengths, all masking keys, all frame lists, all cut lists, all decoder states.

The numeric hypotheses are those of the wire format itself: `payload.length < 2 ^ 63` (RFC 6455 5.2: 64-bit length,
most significant bit 0) and at most 125 bytes of payload in a control frame (RFC 6455 5.5: in `conforming`, `Ctl.ok`,
`hcp`).  `encode_is_rfc` shows that the bytes written are the RFC encoding without any bound.
The last part is about the endpoints: the codec as `WebSocketClient` / `WebSocketsDispatcher` install it (CV.WSE,
CV/Model/WebSocketEndpoint.lean).
-/
namespace CV.C17
open CV CV.WS

/-- `_on_write` writes exactly the RFC 6455 encoding of one final text/binary frame,
    masked with the drawn key iff the codec is a client - every payload, every key -/
theorem encode_is_rfc (s : St) (client text : Bool) (data : Bytes) (k : Key)
    (hs : s.closeSent = false) :
    onWrite s client text data k.toBytes =
      some (rfcEncodeFrame ⟨true, if text then 1 else 2, if client then some k else none, data⟩) := by
  unfold onWrite rfcEncodeFrame
  rw [if_neg (by simp [hs]), encodeTail_eq]
  cases client <;> cases text <;> simp

/-- the independent strict decoder reads the written frame back as the message (type, payload,
    masking) - all three length encodings, masked and unmasked -/
theorem encode_conforms (s : St) (client text : Bool) (data : Bytes) (k : Key)
    (hs : s.closeSent = false) (hn : data.length < 2 ^ 63) :
    ∃ w, onWrite s client text data k.toBytes = some w ∧
      rfcDecodeFrames w = some [⟨true, if text then 1 else 2, if client then some k else none, data⟩] ∧
      specWrite client k text data w = true := by
  refine ⟨_, encode_is_rfc s client text data k hs, ?_⟩
  have h := rfcDecodeFrames_single
    ⟨true, if text then 1 else 2, if client then some k else none, data⟩
    (by cases text <;> simp) hn
  exact ⟨h, by simp [specWrite, h]⟩

example : ∃ w, onWrite {} true true [104, 105] (Key.toBytes ⟨1, 2, 3, 4⟩) = some w ∧
    rfcDecodeFrames w = some [⟨true, 1, some ⟨1, 2, 3, 4⟩, [104, 105]⟩] ∧
    specWrite true ⟨1, 2, 3, 4⟩ true [104, 105] w = true :=
  encode_conforms {} true true [104, 105] ⟨1, 2, 3, 4⟩ rfl (by decide)

/-- a pong written by the codec is the RFC encoding of a final pong frame with that payload -/
theorem pong_conforms (client : Bool) (payload : Bytes) (k : Key) (hn : payload.length < 2 ^ 63) :
    rfcDecodeFrames (pongFrame client payload k.toBytes)
      = some [⟨true, 10, if client then some k else none, payload⟩] := by
  rw [pongFrame_eq]
  exact rfcDecodeFrames_single _ (by simp) hn

example : rfcDecodeFrames (pongFrame false [1, 2] (Key.toBytes ⟨0, 0, 0, 0⟩)) = some [⟨true, 10, none, [1, 2]⟩] :=
  pong_conforms false [1, 2] ⟨0, 0, 0, 0⟩ (by decide)

/-- two reads are one read of the concatenation: same final state (carried buffer, pending
    fragments, closing flags), outputs concatenated - for every decoder state, every split,
    also inside the 2-byte header, the extended length, the masking key -/
theorem decode_hom (s : St) (a b : Bytes) :
    ((feed (feed s a).1 b).1, (feed s a).2 ++ (feed (feed s a).1 b).2) = feed s (a ++ b) := by
  unfold feed
  cases hs : s.closeRecv
  · simp only [Bool.false_eq_true, if_false]
    rw [← List.append_assoc, parseLoop_hom s (s.buffer ++ a) b hs]
    split
    · simp
    · rfl
  · simp [hs]

/-- any cut list: the reads decode like the whole stream in one read (`s.wf`: the carried
    buffer holds no complete frame - true initially and after every read, `wf_preserved`) -/
theorem decode_any_cuts (s : St) (segs : List Bytes) (h : s.wf) :
    feedAll s segs = feed s segs.flatten := by
  rw [feedAll_eq_runAll]
  exact Feed.runAll_flatten feed_wf feed_nil (fun s a b => (decode_hom s a b).symm) segs s h

theorem wf_preserved (s : St) (segs : List Bytes) (h : s.wf) : (feedAll s segs).1.wf := by
  rw [feedAll_eq_runAll]; exact Feed.runAll_inv feed_wf segs s h

example : St.wf {} := wf_init

/-- two segmentations of the same byte stream are indistinguishable -/
theorem segmentation_invariant (segs segs' : List Bytes) (h : segs.flatten = segs'.flatten) :
    feedAll {} segs = feedAll {} segs' := by
  rw [decode_any_cuts _ _ wf_init, decode_any_cuts _ _ wf_init, h]

example : feedAll {} [[0x81], [0x01], [0x61]] = feedAll {} [[0x81, 0x01, 0x61]] :=
  segmentation_invariant _ _ rfl

/-- Frames of a conforming peer (any messages, any fragmentation into continuation frames,
    pings/pongs anywhere between the fragments, masked or not with any keys, optionally a
    close frame followed by anything), encoded by the RFC encoder and cut into reads in any
    way: the codec emits exactly what RFC 6455 demands (`expected`): every message with its
    type and payload, in order, one pong per ping with the ping's payload (none once the
    local close was sent), the fragmented message undisturbed, and nothing after the close.
    `tail` is an incomplete frame (or empty), or anything at all once a close frame was sent. -/
theorem decode_roundtrip (cs : Bool) (fs : List RFrame) (tail : Bytes) (segs : List Bytes)
    (hc : conforming none fs = true)
    (ht : parseFrame tail = none ∨ fs.any (fun f => f.opcode == 8) = true)
    (hsegs : segs.flatten = rfcEncodeFrames fs ++ tail) :
    (feedAll { closeSent := cs } segs).2 = expected cs none fs := by
  rw [decode_any_cuts _ _ (St.wf_of_buffer_nil rfl), hsegs]
  have := (parseLoop_frames cs fs tail { closeSent := cs } none hc rfl rfl ht).1
  simpa [feed] using this

/-- non-vacuity: "ab" in two fragments with a ping between them, byte at a time -/
example : (feedAll {} [[0x01], [0x01, 0x61], [0x89, 0x01], [0x70, 0x80], [0x01, 0x62]]).2
    = [Out.pong [0x70], Out.message true [0x61, 0x62]] := by
  have := decode_roundtrip false
    [⟨false, 1, none, [0x61]⟩, ⟨true, 9, none, [0x70]⟩, ⟨true, 0, none, [0x62]⟩] []
    [[0x01], [0x01, 0x61], [0x89, 0x01], [0x70, 0x80], [0x01, 0x62]]
    (by decide) (Or.inl parseFrame_nil) (by decide)
  simpa [expected] using this

example : conforming none [⟨false, 1, none, [0x61]⟩, ⟨true, 9, none, [0x70]⟩, ⟨true, 0, none, [0x62]⟩] = true := by
  decide

/-- For every list of messages and stand-alone pings/pongs, every split of every message
    into fragments (`Msg.first`, `Msg.more`), every run of pings/pongs in front of every
    continuation fragment, every masking key (or none) per frame, and every cut of the
    RFC encoding of all that into reads (`tail`: an incomplete next frame, or nothing):
    the codec delivers each message once, with its type and with the concatenation of its
    fragments as payload, in order, and answers each ping - also those inside a fragmented
    message - with a pong carrying the ping's payload. -/
theorem fragmentation_roundtrip (items : List Item) (tail : Bytes) (segs : List Bytes)
    (hok : items.all Item.ok = true) (ht : parseFrame tail = none)
    (hsegs : segs.flatten = rfcEncodeFrames (items.flatMap Item.frames) ++ tail) :
    (feedAll {} segs).2 = items.flatMap Item.outs := by
  have hc := conforming_items items hok [] rfl
  have he := expected_items items []
  rw [List.append_nil] at hc he
  have := decode_roundtrip false (items.flatMap Item.frames) tail segs hc (Or.inl ht) hsegs
  rw [this, he]
  simp [expected]

/-- the same followed by a close frame and then anything at all: everything before the close
    is delivered as above, then the close event, and nothing after it -/
theorem fragmentation_roundtrip_close (items : List Item) (ckey : Option Key) (cpayload junk : Bytes)
    (segs : List Bytes) (hok : items.all Item.ok = true) (hcp : cpayload.length ≤ 125)
    (hsegs : segs.flatten =
      rfcEncodeFrames (items.flatMap Item.frames ++ [⟨true, 8, ckey, cpayload⟩]) ++ junk) :
    (feedAll {} segs).2 = items.flatMap Item.outs ++ [Out.closeEvt] := by
  have hcl : conforming none [⟨true, 8, ckey, cpayload⟩] = true := by
    simp [conforming, hcp]; omega
  have hc := conforming_items items hok _ hcl
  have he := expected_items items [⟨true, 8, ckey, cpayload⟩]
  have := decode_roundtrip false _ junk segs hc (Or.inr (by simp)) hsegs
  rw [this, he]
  simp [expected]

/-- non-vacuity: text "ab" sent as "a" + ping("p") + "b", masked, then a stand-alone ping -/
example : (Item.msg ⟨true, ⟨some ⟨1, 2, 3, 4⟩, [0x61]⟩, [([⟨true, none, [0x70]⟩], ⟨none, [0x62]⟩)]⟩).outs
    = [Out.pong [0x70], Out.message true [0x61, 0x62]] := by decide

/-- endpoint to endpoint: what one codec writes, the other delivers - any cuts, any key -/
theorem write_then_read (s : St) (client text : Bool) (data : Bytes) (k : Key) (segs : List Bytes)
    (hs : s.closeSent = false) (hn : data.length < 2 ^ 63)
    (hsegs : some segs.flatten = onWrite s client text data k.toBytes) :
    (feedAll {} segs).2 = [Out.message text data] := by
  rw [encode_is_rfc s client text data k hs] at hsegs
  have hseg' : segs.flatten =
      rfcEncodeFrames [⟨true, if text then 1 else 2, if client then some k else none, data⟩] ++ [] := by
    simp [rfcEncodeFrames, Option.some.inj hsegs]
  have hc : conforming none [⟨true, if text then 1 else 2, if client then some k else none, data⟩] = true := by
    cases text <;> simp [conforming, hn]
  have := decode_roundtrip false _ [] segs hc (Or.inl parseFrame_nil) hseg'
  rw [this]
  cases text <;> simp [expected]

/-- once a close frame has been decoded nothing is delivered or answered any more -/
theorem after_close_received (s : St) (reads : List Bytes) (h : s.closeRecv = true) :
    feedAll s reads = (s, []) := by
  induction reads with
  | nil => rfl
  | cons d ds ih => simp [feedAll, feed, h, ih]

/-- the close event is what sets that flag (so nothing follows it in later reads) -/
theorem close_event_closes (s : St) (d : Bytes) (h : Out.closeEvt ∈ (feed s d).2) :
    (feed s d).1.closeRecv = true := by
  unfold feed at *
  split
  · rename_i hc; exact hc
  · rename_i hc
    rw [if_neg hc] at h
    exact parseLoop_close_flag _ _ h

/-- a conforming stream with a close frame leaves the decoder closed: whatever is read
    afterwards produces no output -/
theorem after_close_frame (cs : Bool) (fs : List RFrame) (tail : Bytes) (segs more : List Bytes)
    (hc : conforming none fs = true) (h8 : fs.any (fun f => f.opcode == 8) = true)
    (hsegs : segs.flatten = rfcEncodeFrames fs ++ tail) :
    (feedAll (feedAll { closeSent := cs } segs).1 more).2 = [] := by
  have hflag : (feedAll { closeSent := cs } segs).1.closeRecv = true := by
    rw [decode_any_cuts _ _ (St.wf_of_buffer_nil rfl), hsegs]
    have := (parseLoop_frames cs fs tail { closeSent := cs } none hc rfl rfl (Or.inr h8)).2
    simpa [feed, h8] using this
  rw [after_close_received _ _ hflag]

/-- after the local close (`_on_close`) no data frame is written, whatever is asked -/
theorem after_close_sent (s : St) (client text : Bool) (data key : Bytes) :
    (onClose s).1.closeSent = true ∧ onWrite (onClose s).1 client text data key = none := by
  simp [onClose, onWrite]

/-- the close frame itself is written once -/
theorem close_frame_once (s : St) :
    (onClose (onClose s).1).2.filter (fun o => o matches CloseOut.frame _) = [] := by
  cases h : s.closeRecv <;> simp [onClose, h]

/-! ### the endpoints: the codec as installed by `WebSocketClient` / `WebSocketsDispatcher` (CV.WSE)

`hs` is the HTTP head of the handshake as the parser finds it: `splitHead hs = some (hs, [])` says that
its first line is followed by header lines and that the first empty line behind the first line is its
end (any request line, any status line, any headers). -/
section endpoints
open CV.WSE

/-- For every cut of the connection's byte stream into reads - inside the first line, inside the
    headers, inside the CRLFCRLF, anywhere in what follows, or not at all - the HTTP parser takes
    exactly the head, and the bytes behind it reach the endpoint split into "rest of the read that
    completed the head" (`left`, the message body the codec is created from) and the later reads:
    nothing lost, nothing duplicated, nothing reordered. -/
theorem handshake_leftover_exact (hs rest : Bytes) (segs : List Bytes)
    (hhs : splitHead hs = some (hs, [])) (hsegs : segs.flatten = hs ++ rest) :
    ∃ left later, hsFeed [] segs = some (hs, left, later) ∧ left ++ later.flatten = rest :=
  hsFeed_exact segs [] splitHead_nil (by
    rw [List.nil_append, hsegs]; simpa using splitHead_append rest hhs)

/-- "GET /\r\nH:1\r\n\r\n" + 3 bytes, cut inside the CRLFCRLF and inside the rest -/
example : hsFeed [] [[71, 13, 10, 72, 58, 49, 13, 10, 13], [10, 1, 2], [3]]
    = some ([71, 13, 10, 72, 58, 49, 13, 10, 13, 10], [1, 2], [[3]]) := by decide

example : splitHead [71, 13, 10, 72, 58, 49, 13, 10, 13, 10] = some ([71, 13, 10, 72, 58, 49, 13, 10, 13, 10], []) := by
  decide

/-- the client's codec (created with `data=response.body.read()`) is fed exactly the bytes behind the
    101 head, in order, for every cut -/
theorem client_codec_sees_rest (hs rest : Bytes) (segs : List Bytes)
    (hhs : splitHead hs = some (hs, [])) (hsegs : segs.flatten = hs ++ rest) :
    ∃ reads, codecReads Side.client segs = some reads ∧ reads.flatten = rest := by
  obtain ⟨left, later, hf, hr⟩ := handshake_leftover_exact hs rest segs hhs hsegs
  exact ⟨left :: later, by simp [codecReads, hf, initialData], by simpa using hr⟩

example : codecReads Side.client [[71, 13, 10, 72, 58, 49, 13, 10, 13], [10, 1, 2], [3]] = some [[1, 2], [3]] := by
  decide

/-- Client endpoint, end to end: the 101 head followed by the frames of a conforming peer (as in
    `decode_roundtrip`), the whole cut into reads in any way - also frames glued behind the head in
    the same read, also a cut inside the head: the endpoint emits exactly what RFC 6455 demands. -/
theorem e2e_client_roundtrip (hs : Bytes) (fs : List RFrame) (tail : Bytes) (segs : List Bytes)
    (hhs : splitHead hs = some (hs, []))
    (hc : conforming none fs = true)
    (ht : parseFrame tail = none ∨ fs.any (fun f => f.opcode == 8) = true)
    (hsegs : segs.flatten = hs ++ (rfcEncodeFrames fs ++ tail)) :
    endpointOuts Side.client false segs = expected false none fs := by
  obtain ⟨reads, hr, hfl⟩ := client_codec_sees_rest hs _ segs hhs hsegs
  simp only [endpointOuts, hr]
  exact decode_roundtrip false fs tail reads hc ht hfl

/-- non-vacuity: head + text "a" (0x81 0x01 0x61), the frame glued behind the head and cut in its header -/
example : endpointOuts Side.client false [[71, 13, 10, 72, 58, 49, 13, 10, 13], [10, 0x81], [0x01, 0x61]]
    = [Out.message true [0x61]] := by
  have := e2e_client_roundtrip [71, 13, 10, 72, 58, 49, 13, 10, 13, 10] [⟨true, 1, none, [0x61]⟩] []
    [[71, 13, 10, 72, 58, 49, 13, 10, 13], [10, 0x81], [0x01, 0x61]] (by decide) (by decide)
    (Or.inl parseFrame_nil) (by decide)
  simpa [expected] using this

/-- Server endpoint, end to end, for a peer that keeps RFC 6455 4.1 ("the client MUST wait for a
    response from the server before sending any further data"): the upgrade request arrives in reads
    of its own (cut anywhere), the frames in later reads (cut anywhere): the dispatcher's codec emits
    exactly what RFC 6455 demands. -/
theorem e2e_server_roundtrip (hs : Bytes) (fs : List RFrame) (tail : Bytes) (hsegs fsegs : List Bytes)
    (hhs : splitHead hs = some (hs, []))
    (hc : conforming none fs = true)
    (ht : parseFrame tail = none ∨ fs.any (fun f => f.opcode == 8) = true)
    (hh : hsegs.flatten = hs) (hf : fsegs.flatten = rfcEncodeFrames fs ++ tail) :
    endpointOuts Side.server false (hsegs ++ fsegs) = expected false none fs := by
  obtain ⟨left, later, hfd, hr⟩ := handshake_leftover_exact hs [] hsegs hhs (by simpa using hh)
  have hl : later.flatten = [] := (List.append_eq_nil_iff.mp hr).2
  have := hsFeed_append fsegs hfd
  simp only [endpointOuts, codecReads, this, initialData]
  exact decode_roundtrip false fs tail ([] :: (later ++ fsegs)) hc ht (by simp [hl, hf])

example : endpointOuts Side.server false ([[71, 13, 10, 72, 58, 49, 13, 10, 13], [10]] ++ [[0x81], [0x01, 0x61]])
    = [Out.message true [0x61]] := by
  have := e2e_server_roundtrip [71, 13, 10, 72, 58, 49, 13, 10, 13, 10] [⟨true, 1, none, [0x61]⟩] []
    [[71, 13, 10, 72, 58, 49, 13, 10, 13], [10]] [[0x81], [0x01, 0x61]] (by decide) (by decide)
    (Or.inl parseFrame_nil) (by decide) (by decide)
  simpa [expected] using this

/-- Why the hypothesis: the dispatcher creates its codec without `data=` - bytes a (non-conforming)
    client glues behind the upgrade request in the same read stay in `request.body`; the codec's
    reads do not contain them.  (Outside C17's statement: such a peer is not a conforming peer.) -/
theorem e2e_server_glued_witness :
    codecReads Side.server [[71, 13, 10, 72, 58, 49, 13, 10, 13, 10, 0x81, 0x01, 0x61]] = some [[]] ∧
    codecReads Side.client [[71, 13, 10, 72, 58, 49, 13, 10, 13, 10, 0x81, 0x01, 0x61]] = some [[0x81, 0x01, 0x61]] := by
  decide

/-- Several connections at once: what the connection of socket `s` is delivered / answered and the
    state of its codec depend on the events of `s` alone - reads, upgrades and disconnects of other
    sockets, interleaved in any way, change nothing (no message crosses connections). -/
theorem connections_independent (s : Nat) (evs : List Ev) (t : Table) :
    (run t evs).1 s = (run t (evs.filter (fun e => e.sock == s))).1 s ∧
    (run t evs).2.filter (fun p => p.1 == s) = (run t (evs.filter (fun e => e.sock == s))).2 := by
  simp only [run_eq_runAll]
  exact Feed.runAll_keyed (get := fun (t : Table) k => t k) (key := Ev.sock) s
    (fun t e => step_other t e s) step_tagged step_same evs t t rfl

/-- with `decode_roundtrip`: on a dispatcher serving any number of other connections, the frames of a
    conforming peer on socket `s`, cut in any way and interleaved with the other sockets' events in
    any way, are delivered for `s` exactly as RFC 6455 demands -/
theorem e2e_interleaved_roundtrip (s : Nat) (evs : List Ev) (t : Table) (fs : List RFrame) (tail : Bytes)
    (segs : List Bytes)
    (hmine : evs.filter (fun e => e.sock == s) = Ev.upgrade s :: segs.map (Ev.read s))
    (hc : conforming none fs = true)
    (ht : parseFrame tail = none ∨ fs.any (fun f => f.opcode == 8) = true)
    (hsegs : segs.flatten = rfcEncodeFrames fs ++ tail) :
    (run t evs).2.filter (fun p => p.1 == s) = (expected false none fs).map (fun o => (s, o)) := by
  rw [(connections_independent s evs t).2, hmine]
  simp only [run, step, List.nil_append]
  rw [run_reads, show t.set s (some {}) s = some {} by simp [Table.set]]
  exact congrArg _ (decode_roundtrip false fs tail segs hc ht hsegs)

example : (run emptyTable [Ev.upgrade 1, Ev.upgrade 2, Ev.read 1 [0x81], Ev.read 2 [0x82, 0x01, 0x07],
    Ev.disconnect 2, Ev.read 1 [0x01, 0x61]]).2.filter (fun p => p.1 == 1) = [(1, Out.message true [0x61])] := by
  have := e2e_interleaved_roundtrip 1 [Ev.upgrade 1, Ev.upgrade 2, Ev.read 1 [0x81], Ev.read 2 [0x82, 0x01, 0x07],
    Ev.disconnect 2, Ev.read 1 [0x01, 0x61]] emptyTable [⟨true, 1, none, [0x61]⟩] [] [[0x81], [0x01, 0x61]]
    (by decide) (by decide) (Or.inl parseFrame_nil) (by decide)
  simpa [expected] using this

/-- after the disconnect of a socket nothing of it is left in the table, and reads that still name
    it produce nothing -/
theorem disconnect_clears (t : Table) (s : Nat) (reads : List Bytes) :
    (step t (Ev.disconnect s)).1 s = none ∧
    (run (step t (Ev.disconnect s)).1 (reads.map (Ev.read s))).2 = [] := by
  refine ⟨by simp [step, Table.set], ?_⟩
  rw [run_reads, show (step t (Ev.disconnect s)).1 s = none by simp [step, Table.set]]

end endpoints

end CV.C17
