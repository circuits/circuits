import CV.Model.Line
import CV.Model.LineSpec
import CV.Model.Irc
import CV.Proofs.Line
import CV.Proofs.Irc
import CV.Model.IrcComp
import CV.Proofs.IrcComp
/-
C18 — the line protocol is segmentation-invariant; IRC messages are exactly one line.

Models: CV/Model/Line.lean (`circuits/protocols/line.py`), CV/Model/Irc.lean
(`circuits/protocols/irc/message.py`, `utils.py: parsemsg`, `commands.py`).
Spec predicates: CV/Model/LineSpec.lean (`isReading`, `untaggedOk`), `Irc.oneLine`,
`Irc.wellFormed`.  Helper lemmas: CV/Proofs/Line.lean, CV/Proofs/Irc.lean.
Component part (last section): CV/Model/IrcComp.lean (`protocol.py`: `IRC.line`, `request`, `ping`;
`utils.py`: `strip`, `parseprefix`; `Message.from_string`; the UTF-8 codec), CV/Proofs/IrcComp.lean.
-/
namespace CV.C18
open CV CV.Line CV.Irc

/-- The buffer kept after a read never contains LF — whatever buffer it started from.
    (Stronger than preservation of the invariant: the hypothesis `LF ∉ buffer` is not needed.) -/
theorem buffer_no_lf (buffer data : Bytes) : LF ∉ (feed buffer data).1 :=
  feed_buf_noLF buffer data

/-- The invariant along any sequence of reads: a buffer without LF (in particular the
    initial `b''`) stays without LF. -/
theorem buffer_no_lf_all (buffer : Bytes) (reads : List Bytes) (h : LF ∉ buffer) :
    LF ∉ (feedAll buffer reads).1 := by
  rw [feedAll_eq_runAll]
  exact Feed.runAll_inv (P := fun b => LF ∉ b) (fun b d _ => feed_buf_noLF b d) reads buffer h

example : LF ∉ ([] : Bytes) := by simp
example : LF ∉ ([97, 13] : Bytes) := by decide

/-- Two reads `a`, `b` give the lines and the final buffer of the single read `a ++ b`.
    (Holds for every carried buffer; `LF ∉ buf` is not needed.) -/
theorem split_hom (buf a b : Bytes) :
    feed buf (a ++ b) =
      ((feed (feed buf a).1 b).1, (feed buf a).2 ++ (feed (feed buf a).1 b).2) :=
  feed_append buf a b

/-- Every cut list — including byte-at-a-time and empty segments — gives the result of
    the one read of the concatenation. -/
theorem segmentation_invariant (buf : Bytes) (segs : List Bytes) (h : LF ∉ buf) :
    feedAll buf segs = feed buf segs.flatten := by
  rw [feedAll_eq_runAll]
  exact Feed.runAll_flatten (fun b d _ => feed_buf_noLF b d) feed_nil feed_append segs buf h

example : LF ∉ ([97, 13] : Bytes) ∧
    feedAll [97, 13] [[], [10, 98], [], [13], [10], [99]] = ([99], [[97], [98]]) := by decide

/-- Hence any two segmentations of the same byte stream are indistinguishable. -/
theorem segmentation_irrelevant (buf : Bytes) (segs segs' : List Bytes) (h : LF ∉ buf)
    (hsame : segs.flatten = segs'.flatten) : feedAll buf segs = feedAll buf segs' := by
  rw [segmentation_invariant buf segs h, segmentation_invariant buf segs' h, hsame]

example : ([[97, 13], [10, 98]] : List Bytes).flatten = ([[97], [13, 10], [], [98]] : List Bytes).flatten := by
  decide

/-- The emitted lines are exactly the LF/CRLF-terminated lines of the stream, and the
    unterminated tail (including a trailing CR) is held: the output is a legal reading. -/
theorem lines_exact (x : Bytes) : isReading x (splitT x).1 (splitT x).2 = true := by
  have h := scan_isReading [] x (by simp)
  rw [isReading_iff]
  simpa [splitT] using h

/-- A stream has only one legal reading, so `lines_exact` is a complete specification. -/
theorem reading_unique (x : Bytes) (ls : List (Bytes × Bool)) (t : Bytes)
    (h : isReading x ls t = true) : (ls, t) = splitT x := by
  rw [isReading_iff] at h
  exact (scan_rebuild ls t x h.1 h.2.1 h.2.2).symm

example : isReading [97, 13, 10, 10, 98, 13] [([97], true), ([], false)] [98, 13] = true := by decide

/-- The predicate the driver evaluates on the implementation's (untagged) output accepts
    only the true answer. -/
theorem untagged_spec_sound (x : Bytes) (ls : List Bytes) (t : Bytes)
    (h : untaggedOk x ls t = true) :
    ls = (splitT x).1.map (·.1) ∧ t = (splitT x).2 := by
  obtain ⟨tl, hm, hr⟩ := (untaggedOk_iff x ls t).1 h
  have := reading_unique x tl t hr
  rw [← this]
  exact ⟨hm.symm, rfl⟩

example : untaggedOk [97, 13, 10, 10, 98, 13] [[97], []] [98, 13] = true := by decide

/-- ... and it accepts the true answer. -/
theorem untagged_spec_complete (x : Bytes) (ls : List Bytes) (t : Bytes)
    (h : ls = (splitT x).1.map (·.1) ∧ t = (splitT x).2) : untaggedOk x ls t = true := by
  obtain ⟨rfl, rfl⟩ := h
  exact (untaggedOk_iff x _ _).2 ⟨_, rfl, lines_exact x⟩

example : ([[97], []] : List Bytes) = (splitT [97, 13, 10, 10, 98, 13]).1.map (·.1) ∧
    ([98, 13] : Bytes) = (splitT [97, 13, 10, 10, 98, 13]).2 := by decide

/-- End to end: from the initial empty buffer, under every segmentation, the `line` events
    and the held buffer satisfy the driver's spec predicate for the whole stream. -/
theorem feedAll_lines_exact (segs : List Bytes) :
    untaggedOk segs.flatten (feedAll [] segs).2 (feedAll [] segs).1 = true := by
  rw [segmentation_invariant [] segs (by simp)]
  apply untagged_spec_complete
  simp [feed, splitLines]

/-- Server mode: the lines emitted for socket `s` and its final buffer are those of the
    client-mode protocol run on the reads addressed to `s` alone (in order) — reads for
    other sockets have no influence.  (Holds for every initial buffer table.) -/
theorem server_isolation (bufs : Bufs) (reads : List (Nat × Bytes)) (s : Nat) :
    (((serverFeedAll bufs reads).2.filter (fun r => r.1 == s)).map (·.2)
        = (feedAll (getBuf bufs s) ((reads.filter (fun r => r.1 == s)).map (·.2))).2) ∧
    getBuf (serverFeedAll bufs reads).1 s
        = (feedAll (getBuf bufs s) ((reads.filter (fun r => r.1 == s)).map (·.2))).1 := by
  -- The table keeps the sockets apart (`runAll_keyed`: a read touches the buffer of its own socket
  -- only), and on the reads of `s` alone it runs client mode on the buffer of `s` (`runAll_single`).
  have hk := Feed.runAll_keyed (get := getBuf) (key := fun r : Nat × Bytes => r.1)
    (step := fun b r => serverFeed b r.1 r.2) s
    (fun t e h => by rw [serverFeed_eq]; exact getBuf_setBuf_ne _ _ _ _ (Ne.symm h))
    (fun t e p hp => by
      rw [serverFeed_eq] at hp; simp only [List.mem_map] at hp; obtain ⟨_, _, rfl⟩ := hp; rfl)
    (fun t t' e h => by simp only [serverFeed_eq, getBuf_setBuf_same, h, and_self])
    reads bufs bufs rfl
  have hs := Feed.runAll_single (get := getBuf) (step := fun b (r : Nat × Bytes) => serverFeed b r.1 r.2)
    (f := feed) s (·.2) (fun r => r.1 = s)
    (fun t e h => by subst h; simp only [serverFeed_eq, getBuf_setBuf_same, and_self])
    (reads.filter (fun r => r.1 == s)) bufs (fun e he => by simpa using (List.mem_filter.1 he).2)
  rw [serverFeedAll_eq_runAll, feedAll_eq_runAll, hk.1, hk.2, hs.1, hs.2, List.map_map]
  exact ⟨List.map_id _, rfl⟩

/-- Server mode, combined with segmentation invariance: what socket `s` sees depends only
    on the concatenation of the bytes addressed to `s`. -/
theorem server_isolation_stream (bufs : Bufs) (reads : List (Nat × Bytes)) (s : Nat)
    (h : LF ∉ getBuf bufs s) :
    (((serverFeedAll bufs reads).2.filter (fun r => r.1 == s)).map (·.2)
        = (feed (getBuf bufs s) ((reads.filter (fun r => r.1 == s)).map (·.2)).flatten).2) ∧
    getBuf (serverFeedAll bufs reads).1 s
        = (feed (getBuf bufs s) ((reads.filter (fun r => r.1 == s)).map (·.2)).flatten).1 := by
  have := server_isolation bufs reads s
  rw [segmentation_invariant _ _ h] at this
  exact this

example : LF ∉ getBuf [(7, [97, 13]), (8, [98])] 7 ∧
    serverFeedAll [(7, [97, 13]), (8, [98])] [(8, [10]), (7, [10, 99]), (8, [100, 10])]
      = ([(8, []), (7, [99])], [(8, [98]), (7, [97]), (8, [100])]) := by decide

/-- What the line protocol hands to the IRC parser for a rendered message: a stream
    `x ++ CRLF` with no LF in `x` is the single line `x`, nothing held. -/
theorem line_of_render (x : Bytes) (h : LF ∉ x) : splitT (x ++ [CR, LF]) = ([(x, true)], []) := by
  have hok : lineOk (x, true) = true := by rw [lineOk_iff]; exact ⟨h, Or.inl rfl⟩
  have := scan_line (x, true) [] hok
  simpa [splitT, term, scan] using this

example : LF ∉ ([80, 73, 78, 71, 32, 97] : Bytes) := by decide

/-- `str(message)` is the body followed by CRLF. -/
theorem render_is_body_crlf (p : Policy) (m : Msg) (w : Str) (h : render p m = some w) :
    w = body m ++ ['\r', '\n'] :=
  (render_eq_some h).2

example : render Policy.current ⟨none, some "PING".toList, ["a".toList]⟩ = some "PING a\r\n".toList := by
  decide

/-- Every message that serialises at all serialises to exactly one CRLF-terminated line —
    for every prefix, command and argument list. -/
theorem one_line (m : Msg) (w : Str) (h : render Policy.current m = some w) : oneLine w = true := by
  obtain ⟨hc, rfl⟩ := render_eq_some h
  exact oneLine_crlf _ (body_noBrk m hc)

example : render Policy.current ⟨some "n!u@h".toList, some "PRIVMSG".toList, ["#c".toList, "hi there".toList]⟩
    = some ":n!u@h PRIVMSG #c :hi there\r\n".toList := by decide

/-- The repaired defect: under the old check (`'\n'` in arguments only) a bare CR in an
    argument, or CR LF in the command, went onto the wire. -/
theorem one_line_legacy_witness :
    (render Policy.legacy ⟨none, some "PRIVMSG".toList, ["a".toList, "x\ry".toList]⟩).map oneLine
      = some false ∧
    (render Policy.legacy ⟨none, some "srv\r\nQUIT".toList, ["nick".toList]⟩).map oneLine
      = some false := by decide

/-- The same for every command constructor of `irc/commands.py` and every argument list. -/
theorem constructors_one_line (name : Str) (args : List (Option Str)) (w : Str)
    (h : render Policy.current (construct name args) = some w) : oneLine w = true :=
  one_line _ w h

example : render Policy.current (construct "WHOIS".toList [some "nick".toList, some "srv".toList])
    = some "WHOIS srv nick\r\n".toList := by decide

/-- Round trip: a well-formed message, rendered (without CRLF, which the line protocol
    removes — `line_of_render`) and parsed, gives back its prefix, command and arguments.
    `ws` is the whitespace predicate of `str.split()`; only `ws ' '` is assumed. -/
theorem roundtrip (ws : Char → Bool) (hws : ws ' ' = true) (m : Msg)
    (hwf : wellFormed ws m = true) : parsemsg ws (body m) = some (expectedParse m) := by
  obtain ⟨pfx, command, args⟩ := m
  simp only [wellFormed, Bool.and_eq_true] at hwf
  obtain ⟨⟨⟨hp, hc⟩, hinit⟩, hlast⟩ := hwf
  cases command with
  | none => simp at hc
  | some cmd =>
    have hcmd : Tok ws cmd := (tokOk_iff ws cmd).1 hc
    have hinit' : ∀ a ∈ args.dropLast, Tok ws a := by
      intro a ha
      exact (tokOk_iff ws a).1 (List.all_eq_true.1 hinit a ha)
    have hlast' : ∀ a, args.getLast? = some a → lastOk ws a = true := by
      intro a ha
      simpa [ha] using hlast
    have hrest := parseRest_rendered hws cmd args hcmd hinit' hlast'
    cases pfx with
    | none =>
      have hb : body ⟨none, some cmd, args⟩ = cmd ++ ' ' :: joinSp (markLast args) := by
        simp [body, prefixPart, cmdStr]
      rw [hb, parsemsg_noprefix ws _ (head?_tok_append cmd _ hcmd), hrest]
      rfl
    | some p =>
      have hp' : ' ' ∉ p := by simpa using hp
      have hb : body ⟨some p, some cmd, args⟩
          = ':' :: p ++ ' ' :: (cmd ++ ' ' :: joinSp (markLast args)) := by
        simp [body, prefixPart, cmdStr]
      rw [hb, parsemsg_prefix ws p _ hp', hrest]
      rfl

example : pyIsSpace ' ' = true ∧
    wellFormed pyIsSpace ⟨some "n!u@h".toList, some "PRIVMSG".toList,
      ["#c".toList, "hi\tthere :)".toList]⟩ = true := by decide

/-- The shapes `wellFormed` excludes really do not survive the wire format (they are
    inherent to IRC, not defects): an empty argument, a middle argument with a leading colon,
    a final argument with a leading colon, a final argument with whitespace but no space,
    a prefix containing a space. -/
theorem roundtrip_excluded_witness :
    parsemsg pyIsSpace (body ⟨none, some "X".toList, ["".toList, "a".toList]⟩)
      ≠ some (expectedParse ⟨none, some "X".toList, ["".toList, "a".toList]⟩) ∧
    parsemsg pyIsSpace (body ⟨none, some "X".toList, [":a".toList, "b".toList]⟩)
      ≠ some (expectedParse ⟨none, some "X".toList, [":a".toList, "b".toList]⟩) ∧
    parsemsg pyIsSpace (body ⟨none, some "X".toList, [":a".toList]⟩)
      ≠ some (expectedParse ⟨none, some "X".toList, [":a".toList]⟩) ∧
    parsemsg pyIsSpace (body ⟨none, some "X".toList, ["a\tb".toList]⟩)
      ≠ some (expectedParse ⟨none, some "X".toList, ["a\tb".toList]⟩) ∧
    parsemsg pyIsSpace (body ⟨some "p q".toList, some "X".toList, ["a".toList]⟩)
      ≠ some (expectedParse ⟨some "p q".toList, some "X".toList, ["a".toList]⟩) :=
  ⟨by decide, by decide, by decide, by decide, by decide⟩

/-! ## The IRC component: bytes -> `Line` -> `IRC.line` -> `response` events, `request` -> `write` -/

/-- `bytes.decode('utf-8', 'replace')` inverts `str.encode('utf-8')`: the text the parser sees
    is the text that was serialised. -/
theorem utf8_roundtrip (s : Str) : decodeUtf8 (encodeUtf8 s) = s := by
  simp [decodeUtf8, decodeStrict_encodeUtf8]

/-- `IRC.request` writes exactly one CRLF-terminated line: the bytes are `x ++ CR LF` with no LF
    in `x` (and `x` is the UTF-8 encoding of a text without CR or LF) — for every message. -/
theorem request_one_line (m : Msg) (w : Bytes) (h : requestBytes m = some w) :
    w = encodeUtf8 (body m) ++ [CR, LF] ∧ LF ∉ encodeUtf8 (body m) ∧ oneLine (body m ++ ['\r', '\n']) = true := by
  obtain ⟨hc, rfl⟩ := requestBytes_eq_some h
  exact ⟨rfl, LF_not_mem_body m hc, oneLine_crlf _ (body_noBrk m hc)⟩

example : requestBytes ⟨none, some "PING".toList, ["é".toList]⟩ = some [80, 73, 78, 71, 32, 0xc3, 0xa9, 13, 10] := by
  decide

/-- `IRC.line` on the rendered line of a well-formed message fires exactly the event
    `expectedResp` describes (or raises exactly when that is `none`). -/
theorem line_of_body (sock : Option Nat) (m : Msg) (hwf : wellFormed pyIsSpace m = true) :
    ircLine sock (body m) = expectedResp sock m := by
  have h := roundtrip pyIsSpace (by decide) m hwf
  obtain ⟨pfx, command, args⟩ := m
  cases command with
  | none => simp [wellFormed] at hwf
  | some c =>
    simp only [ircLine, h, expectedParse, expectedResp]
    cases pyInt (List.map asciiLower c) <;> rfl

example : wellFormed pyIsSpace ⟨some "srv".toList, some "433".toList, ["*".toList, "nick".toList, "in use".toList]⟩ = true := by
  decide

/-- Component round trip.  A well-formed message handed to `IRC.request` is written as bytes
    `w`; when `w` arrives at a `Line` + `IRC` stack cut into reads in *any* way, `Line` emits
    exactly one line and holds nothing back, and `IRC.line` fires for it the response event
    carrying the message's prefix (as `parseprefix` shows it), its command (lower-cased as the
    event name; or `numeric` with `int(command)` in front) and its arguments. -/
theorem component_roundtrip (sock : Option Nat) (m : Msg) (hwf : wellFormed pyIsSpace m = true)
    (w : Bytes) (hw : requestBytes m = some w) (segs : List Bytes) (hs : segs.flatten = w) :
    feedAll [] segs = ([], [encodeUtf8 (body m)]) ∧
    compLine sock (encodeUtf8 (body m)) = (expectedResp sock m,
      match expectedResp sock m with | some r => (pingWrite r).toList | none => []) := by
  obtain ⟨hc, rfl⟩ := requestBytes_eq_some hw
  constructor
  · rw [segmentation_invariant [] segs (by simp), hs]
    have := line_of_render (encodeUtf8 (body m)) (LF_not_mem_body m hc)
    simp [feed, splitLines, this]
  · simp only [compLine, utf8_roundtrip, line_of_body sock m hwf]
    cases expectedResp sock m <;> rfl

example : wellFormed pyIsSpace ⟨some "n!u@h".toList, some "PRIVMSG".toList, ["#c".toList, "hi there".toList]⟩ = true ∧
    requestBytes ⟨some "n!u@h".toList, some "PRIVMSG".toList, ["#c".toList, "hi there".toList]⟩
      = some (encodeUtf8 ":n!u@h PRIVMSG #c :hi there\r\n".toList) ∧
    ([encodeUtf8 ":n!u@h PRIV".toList, encodeUtf8 "MSG #c :hi there\r".toList, [10]] : List Bytes).flatten
      = encodeUtf8 ":n!u@h PRIVMSG #c :hi there\r\n".toList := by decide

/-- What that event is: prefix, arguments and socket of the message; the name is the
    lower-cased command, unless the command starts with a digit — then it is `numeric` and
    carries `int(command)`. -/
theorem expected_response_fields (sock : Option Nat) (m : Msg) (r : Resp)
    (h : expectedResp sock m = some r) :
    r.sock = sock ∧ r.pfx = parsePrefix (m.pfx.getD []) ∧ r.args = m.args ∧
    ∃ c, m.command = some c ∧
      ((r.num = none ∧ r.name = c.map asciiLower) ∨
       (r.name = "numeric".toList ∧ r.num = pyInt (c.map asciiLower) ∧ r.num ≠ none)) := by
  obtain ⟨pfx, command, args⟩ := m
  cases command with
  | none => simp [expectedResp] at h
  | some c =>
    simp only [expectedResp] at h
    by_cases hd : startsDigit (List.map asciiLower c) = true
    · rw [if_pos hd] at h
      cases hp : pyInt (List.map asciiLower c) with
      | none => simp [hp] at h
      | some k =>
        simp only [hp, Option.map_some, Option.some.injEq] at h
        subst h
        exact ⟨rfl, rfl, rfl, c, rfl, Or.inr ⟨rfl, by simp [hp], by simp⟩⟩
    · rw [if_neg hd] at h
      split at h
      · simp at h
      · simp only [Option.some.injEq] at h
        subst h
        exact ⟨rfl, rfl, rfl, c, rfl, Or.inl ⟨rfl, rfl⟩⟩

example : expectedResp (some 7) ⟨some "srv".toList, some "001".toList, ["nick".toList, "Welcome to IRC".toList]⟩
    = some ⟨"numeric".toList, some 7, (some "srv".toList, none, none), some 1, ["nick".toList, "Welcome to IRC".toList]⟩ := by
  decide

/-- For a command without NUL that does not start with a digit the event always exists:
    the component gives back prefix, command and arguments. -/
theorem component_roundtrip_event (sock : Option Nat) (m : Msg) (c : Str) (hwf : wellFormed pyIsSpace m = true)
    (hc : m.command = some c) (hd : startsDigit (c.map asciiLower) = false)
    (h0 : (c.map asciiLower).contains (Char.ofNat 0) = false) :
    ircLine sock (decodeUtf8 (encodeUtf8 (body m)))
      = some ⟨c.map asciiLower, sock, parsePrefix (m.pfx.getD []), none, m.args⟩ := by
  rw [utf8_roundtrip, line_of_body sock m hwf]
  obtain ⟨pfx, command, args⟩ := m
  simp only at hc
  subst hc
  simp only [expectedResp, hd, h0, Bool.false_eq_true, if_false]

example : wellFormed pyIsSpace ⟨none, some "PiNG".toList, ["a b".toList]⟩ = true ∧
    startsDigit ("PiNG".toList.map asciiLower) = false ∧
    ("PiNG".toList.map asciiLower).contains (Char.ofNat 0) = false := by decide

/-- The commands for which a well-formed message yields *no* event are exactly the ones on
    which `IRC.line` raises: a digit-initial command that `int()` refuses, or NUL in the command
    (`response.create` cannot make the event type). -/
theorem component_roundtrip_excluded_witness :
    wellFormed pyIsSpace ⟨none, some "12a".toList, ["x".toList]⟩ = true ∧
    ircLine none (body ⟨none, some "12a".toList, ["x".toList]⟩) = none ∧
    wellFormed pyIsSpace ⟨none, some ['A', Char.ofNat 0], ["x".toList]⟩ = true ∧
    ircLine none (body ⟨none, some ['A', Char.ofNat 0], ["x".toList]⟩) = none := by decide

/-- `IRC.ping` (client mode): a PING with one argument `a` is answered with one line, and a
    component reading that line fires `pong` with the same single argument `a`. -/
theorem ping_pong_same_args (p3 : Prefix3) (a : Str) (hl : lastOk pyIsSpace a = true)
    (hb : a.any (fun c => c == '\n' || c == '\r') = false) :
    ∃ x : Str, pingWrite ⟨"ping".toList, none, p3, none, [a]⟩ = some (encodeUtf8 x ++ [CR, LF]) ∧
      LF ∉ encodeUtf8 x ∧
      ircLine none (decodeUtf8 (encodeUtf8 x)) = some ⟨"pong".toList, none, (none, none, none), none, [a]⟩ := by
  have hwf : wellFormed pyIsSpace (pongMsg a) = true := by
    simp only [wellFormed, pongMsg, List.dropLast_singleton, List.all_nil, List.getLast?_singleton, hl,
      Bool.and_true, Bool.true_and]
    decide
  have hchk : checkArgs Policy.current (pongMsg a) = true := by
    rw [checkArgs_current_iff]
    refine ⟨by simp [pongMsg], ?_, by simp [pongMsg], by simp [pongMsg, cmdStr, isBrk]⟩
    intro b hb' c hc
    simp only [pongMsg, List.mem_singleton] at hb'
    subst hb'
    have := List.any_eq_false.1 hb c hc
    simpa [isBrk] using this
  refine ⟨body (pongMsg a), ?_, LF_not_mem_body _ hchk, ?_⟩
  · simp [pingWrite, requestBytes, render, hchk, encodeUtf8_append, encodeUtf8_crlf]
  · rw [utf8_roundtrip, line_of_body none _ hwf]
    rfl

example : lastOk pyIsSpace "irc.example.org 12:00".toList = true ∧
    "irc.example.org 12:00".toList.any (fun c => c == '\n' || c == '\r') = false := by decide

/-- `ping` answers nothing in server mode or for another number of arguments; and the
    arguments excluded above really are not echoed faithfully (inherent to the wire format):
    an empty argument disappears, a leading colon is eaten, a CR is refused. -/
theorem ping_pong_excluded_witness :
    pingWrite ⟨"ping".toList, some 3, (none, none, none), none, ["a".toList]⟩ = none ∧
    pingWrite ⟨"ping".toList, none, (none, none, none), none, []⟩ = none ∧
    pingWrite ⟨"ping".toList, none, (none, none, none), none, ["a".toList, "b".toList]⟩ = none ∧
    (compLine none (encodeUtf8 "PONG ".toList)).1 = some ⟨"pong".toList, none, (none, none, none), none, []⟩ ∧
    pingWrite ⟨"ping".toList, none, (none, none, none), none, [":x".toList]⟩ = some (encodeUtf8 "PONG :x\r\n".toList) ∧
    (compLine none (encodeUtf8 "PONG :x".toList)).1 = some ⟨"pong".toList, none, (none, none, none), none, ["x".toList]⟩ ∧
    pingWrite ⟨"ping".toList, none, (none, none, none), none, ["a\rb".toList]⟩ = none := by decide

/-- Text without colour / format codes that does not start with a colon is left alone by
    `strip` — so `strip` cannot alter a well-formed argument.  (`dig` = the `\d` of `re`.) -/
theorem strip_plain_id (dig : Char → Bool) (color : Bool) (s : Str) (hp : plain s = true)
    (hc : s.head? ≠ some ':') : strip dig color s = s := by
  unfold strip
  simp only [dropColon_id s hc]
  cases color
  · simp
  · simp [stripFmt_plain_id dig s hp]

example : plain "hello, 12 world".toList = true ∧ "hello, 12 world".toList.head? ≠ some ':' := by decide

/-- Removing colours and formats is idempotent, and its result is plain. -/
theorem strip_fmt_idempotent (dig : Char → Bool) (s : Str) :
    plain (stripFmt dig s) = true ∧ stripFmt dig (stripFmt dig s) = stripFmt dig s :=
  ⟨stripFmt_plain dig s, stripFmt_plain_id dig _ (stripFmt_plain dig s)⟩

/-- `strip` as a whole is idempotent as soon as its result does not start with a colon
    (full statement `strip dig color (strip dig color s) = strip dig color s` fails:
    `strip_idempotent_witness`). -/
theorem strip_idempotent_partial (dig : Char → Bool) (color : Bool) (s : Str)
    (hc : (strip dig color s).head? ≠ some ':') :
    strip dig color (strip dig color s) = strip dig color s := by
  cases color
  · have : strip dig false s = dropColon s := by simp [strip]
    rw [this] at hc ⊢
    simp [strip, dropColon_id _ hc]
  · have e : strip dig true s = stripFmt dig (dropColon s) := by simp [strip]
    rw [e] at hc ⊢
    simp only [strip, dropColon_id _ hc, if_true]
    exact (strip_fmt_idempotent dig _).2

example : (strip pyIsDigit true ":\x0304,12red\x0f \x02bold".toList).head? ≠ some ':' := by decide

/-- each call removes one more leading colon; a format code can hide one from the first call -/
theorem strip_idempotent_witness :
    strip pyIsDigit false "::a".toList = ":a".toList ∧
    strip pyIsDigit false (strip pyIsDigit false "::a".toList) = "a".toList ∧
    strip pyIsDigit true ['\x02', ':', 'a'] = ":a".toList ∧
    strip pyIsDigit true (strip pyIsDigit true ['\x02', ':', 'a']) = "a".toList := by decide

/-- `from_string` on the serialised line gives the message back: prefix, command, arguments
    (an empty prefix cannot be told from none — `from_string_excluded_witness`). -/
theorem from_string_roundtrip (m : Msg) (hwf : wellFormed pyIsSpace m = true)
    (hchk : checkArgs Policy.current m = true) (hlen : (encodeUtf8 (body m)).length ≤ 512)
    (hp : m.pfx ≠ some []) :
    fromString (encodeUtf8 (body m)) = some m := by
  have h := roundtrip pyIsSpace (by decide) m hwf
  have hlf : '\n' ∉ m.pfx.getD [] := by
    intro hm
    have := ((checkArgs_current_iff m).1 hchk).2.2.1 _ hm
    simp [isBrk] at this
  unfold fromString
  rw [if_neg (by omega), utf8_roundtrip, h]
  simp only [expectedParse, rejoin_parsePrefix _ hlf]
  obtain ⟨pfx, command, args⟩ := m
  cases pfx with
  | none => simpa using hchk
  | some p =>
    have : p ≠ [] := fun e => hp (by simp [e])
    simpa [this] using hchk

example : wellFormed pyIsSpace ⟨some "n!u@h".toList, some "PRIVMSG".toList, ["#c".toList, "hi there".toList]⟩ = true ∧
    checkArgs Policy.current ⟨some "n!u@h".toList, some "PRIVMSG".toList, ["#c".toList, "hi there".toList]⟩ = true ∧
    (encodeUtf8 (body ⟨some "n!u@h".toList, some "PRIVMSG".toList, ["#c".toList, "hi there".toList]⟩)).length ≤ 512 ∧
    (some "n!u@h".toList : Option Str) ≠ some [] := by decide

/-- what the round trip through `from_string` excludes is inherent: an empty prefix is read back as no
    prefix, and a line of more than 512 bytes is refused (`from_string_too_long`). -/
theorem from_string_excluded_witness :
    fromString (encodeUtf8 (body ⟨some [], some "X".toList, ["a".toList]⟩)) = some ⟨none, some "X".toList, ["a".toList]⟩ := by
  decide

/-- a line of more than 512 bytes is refused, whatever it contains -/
theorem from_string_too_long (b : Bytes) (h : b.length > 512) : fromString b = none := by
  simp [fromString, h]

example : (List.replicate 513 (65 : UInt8)).length > 512 := by rw [List.length_replicate]; omega

end CV.C18
