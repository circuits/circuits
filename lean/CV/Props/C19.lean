import CV.Proofs.Node
import CV.Proofs.NodeEvent
import CV.Proofs.NodeTwoInv
import CV.Proofs.NodeTwoFw
import CV.Proofs.NodeTwo
import CV.Proofs.NodeSym
import CV.Proofs.NodeSymOne
import CV.Proofs.NodeSymBoth
/-
C19 — Node: remote events run once and return their result; peers cannot harm the loop.

Property theorems about CV.Model.Node (the model of circuits/node/protocol.py and utils.py
after the `fix:` commits).  JSON is an oracle: every theorem holds for *every* oracle
`proc` / `parse`; what is assumed about the oracle is an explicit hypothesis
(`CodecOK`, `StreamOK`, `Good`), exercised by the correspondence check on the real `json`.
-/
namespace CV.C19
open CV.Node

/-- **framing**: for a stream in which no piece makes the handler fail and every unterminated
    piece that parses is a whole packet followed by the delimiter, *any* segmentation into
    reads processes exactly the delimiter-terminated pieces that parse, each once, in order,
    and ends with the unterminated tail in the buffer. -/
theorem framing_exact (proc : Bytes → POut) (hC : CodecOK proc) (S : Bytes) (hS : StreamOK proc S)
    (segs : List Bytes) (h : segs.flatten = S) :
    feedAll proc [] segs = ((splitD S).2, okPieces proc (splitD S).1, false) := by
  have hI : Inv proc [] segs.flatten [] [] := .plain (by simp [splitD_nil]) (by simp [splitD_nil, okPieces])
  obtain ⟨h1, h2, h3⟩ := feedAll_inv hC hS segs [] [] [] (by simp [h]) hI
  simp at h2
  ext <;> simp [h1, h2, h3]

/-- two ways of cutting the same stream into reads are indistinguishable -/
theorem segmentation_invariant (proc : Bytes → POut) (hC : CodecOK proc) (S : Bytes) (hS : StreamOK proc S)
    (segs₁ segs₂ : List Bytes) (h₁ : segs₁.flatten = S) (h₂ : segs₂.flatten = S) :
    feedAll proc [] segs₁ = feedAll proc [] segs₂ := by
  rw [framing_exact proc hC S hS segs₁ h₁, framing_exact proc hC S hS segs₂ h₂]

/-- **packets_exact**: packets written by a correct peer (`Good`: `~`-free thanks to the escape,
    parse, no proper prefix parses) are processed exactly once each, in order, whatever the cut
    list - including cuts inside a packet, inside the delimiter, and reads that span many packets. -/
theorem packets_exact (proc : Bytes → POut) (hC : CodecOK proc) (pkts : List Bytes)
    (hG : ∀ p ∈ pkts, Good proc p) (segs : List Bytes) (h : segs.flatten = stream pkts) :
    feedAll proc [] segs = ([], pkts, false) := by
  obtain ⟨hS, hsplit⟩ := stream_good hC pkts hG
  rw [framing_exact proc hC _ hS segs h, hsplit, n2_okPieces_all fun p hp => (hG p hp).done]

/-- **delimiter_free**: what `dump_event` / `dump_value` put on the wire never contains `~`
    before the delimiter, for every JSON text (payloads containing `~~~` included) -/
theorem delimiter_free (body : Bytes) : TILDE ∉ escTilde body ∧ wireOk (wire body) = true := by
  have h := escTilde_noTilde body
  refine ⟨h, ?_⟩
  unfold wireOk wire
  have hl : (escTilde body ++ DELIM).length - 3 = (escTilde body).length := by simp [DELIM]
  rw [hl]
  simp [DELIM, h]

/-- the buffer never holds something that already is a packet: nothing is delayed, nothing
    can be processed a second time by a later read -/
theorem buffer_incomplete (proc : Bytes → POut) (buf data : Bytes) :
    (feed proc buf data).buf = [] ∨ proc (feed proc buf data).buf = .valueError := by
  unfold feed
  simp only
  split
  · exact Or.inl rfl
  · split
    · exact Or.inl rfl
    · rename_i h; exact Or.inr h
    · exact Or.inl rfl

/-- an event the local code can build and JSON can carry -/
def WellFormed (e : Ev) : Prop :=
  e.name.toList.contains (Char.ofNat 0) = false ∧ e.kwargs.any (fun kv => kwClash kv.1) = false ∧
  e.channels.all J.hashable = true

/-- what `load_event` makes of `dump_event(e, id)`: the same event, attributes filtered -/
def decoded (excl : List String) (e : Ev) : Ev :=
  ⟨e.name, e.args, e.kwargs, e.success, e.failure, e.notify, e.channels,
   applyMeta excl [] (e.attrs.filter (fun kv => !excl.contains kv.1))⟩

/-- **codec_roundtrip**: `load_event(dump_event(e, id))` returns `id` and an event with the same
    name, args, kwargs, channels and success / failure / notify flags -/
theorem codec_roundtrip (excl : List String) (e : Ev) (id : J) (hw : WellFormed e) :
    loadEvent excl (dumpEvent excl e id) = .ok (decoded excl e, id) ∧
      (decoded excl e).name = e.name ∧ (decoded excl e).args = e.args ∧ (decoded excl e).kwargs = e.kwargs ∧
      (decoded excl e).channels = e.channels ∧ (decoded excl e).success = e.success ∧
      (decoded excl e).failure = e.failure ∧ (decoded excl e).notify = e.notify :=
  ⟨n2_roundtrip excl e id hw, rfl, rfl, rfl, rfl, rfl, rfl, rfl⟩

example : WellFormed ⟨"foo", [.str "x~~~y"], [("value", .null)], true, false, false, [.str "app"], []⟩ := by
  refine ⟨by decide, by decide, by decide⟩

/-- **meta_safe**: whatever JSON a peer sends, if `load_event` accepts it then no attribute named
    in the exclusion set was set from `meta`, and the channels are hashable.  With
    `criticalOk excl critical` (evaluated on the live `META_EXCLUDE` at every run) this covers
    every attribute the dispatcher reads. -/
theorem meta_safe (excl critical : List String) (hc : criticalOk excl critical = true) (j : J) (e : Ev) (id : J)
    (h : loadEvent excl j = .ok (e, id)) :
    (∀ k ∈ critical, e.attr k = none) ∧ e.channels.all J.hashable = true := by
  obtain ⟨h1, h2⟩ := loadEvent_ok h
  refine ⟨?_, h2⟩
  intro k hk
  apply h1
  simp only [criticalOk, List.all_eq_true] at hc
  simpa using hc k hk

example : criticalOk ["cause", "effects", "value"] ["cause", "value"] = true := by decide

/-- **firewall (send)**: a rejected event produces no effect at all: nothing is written, no id is
    used, nothing waits -/
theorem firewall_send (c : Cfg) (s : Proto) (e : Ev) (nr : Bool) (h : c.sendOk e = false) :
    send c s e nr = (s, []) :=
  ns_send_blocked_proto c s e nr h

/-- **firewall (receive)**: a packet whose event the receive firewall rejects is never fired;
    the only effect is the (empty) answer to the sender -/
theorem firewall_recv (c : Cfg) (s : Proto) (j : J) (e : Ev) (id : J)
    (hv : isValuePacket j = false) (hl : loadEvent c.excl j = .ok (e, id)) (h : c.recvOk e = false) :
    processJ c s j = (s, [.write (dumpValue c.excl id (.bool false) .null e.attrs)]) := by
  simp [processJ, hv, hl, h]

/-- **once (per packet)**: a call packet written by `send` is, on the receiving side, one `fire`
    of the decoded event with the sender's id - not a result packet, whatever its arguments
    contain (a keyword argument named `value` included) -/
theorem call_fired_once (c : Cfg) (s : Proto) (e : Ev) (id : J) (hw : WellFormed e)
    (hr : c.recvOk (decoded c.excl e) = true) :
    processJ c s (dumpEvent c.excl e id) = (s, [.fire (decoded c.excl e) id]) :=
  (n2_call_processed c s e id hw).trans (by rw [show c.recvOk (n2_decoded c.excl e) = true from hr]; rfl)

/-- **once**: the calls `(e₁,id₁) … (eₙ,idₙ)` written by a peer (packet `i` parses to
    `dump_event(eᵢ, idᵢ)`; `Good`: what the oracle says about dumped, escaped JSON objects), accepted
    by the receive firewall, are fired exactly once each, in order, with their ids and nothing
    else happens - for every cut of the byte stream into reads. -/
theorem calls_exactly_once (c : Cfg) (parse : Bytes → PRes) (s : Proto) (hb : s.buf = [])
    (calls : List (Bytes × Ev × J))
    (hpk : ∀ t ∈ calls, parse t.1 = .parsed (dumpEvent c.excl t.2.1 t.2.2) ∧
              WellFormed t.2.1 ∧ c.recvOk (decoded c.excl t.2.1) = true)
    (hC : CodecOK (procOf c.excl parse)) (hG : ∀ t ∈ calls, Good (procOf c.excl parse) t.1)
    (segs : List Bytes) (h : segs.flatten = stream (calls.map (·.1))) :
    (recvAll c parse s segs).2 = calls.map (fun t => Eff.fire (decoded c.excl t.2.1) t.2.2) := by
  have hG' : ∀ p ∈ calls.map (·.1), Good (procOf c.excl parse) p := List.forall_mem_map.mpr hG
  rw [recvAll_eq, hb, packets_exact _ hC _ hG' segs h]
  simp only
  clear hG hG' h hb hC
  induction calls with
  | nil => simp [processAll]
  | cons t ts ih =>
    obtain ⟨hp, hw, hr⟩ := hpk t (by simp)
    simp only [List.map_cons, processAll, hp, call_fired_once c s _ _ hw hr]
    rw [ih (fun t' ht' => hpk t' (by simp [ht']))]
    simp

/-- **and back (per packet)**: the result packet for call `n` resolves exactly the waiting call
    `n` with the value and error flag it carries -/
theorem answer_routed (c : Cfg) (s : Proto) (n : Nat) (r : String) (z : Bool) (v er : J)
    (attrs : List (String × J)) (hp : s.pending.any (·.id = n) = true) :
    processJ c s (dumpValue c.excl (.num r (some n) z) er v attrs) =
      ({ s with pending := resolvePending s.pending n v er
                  ((attrs.filter (fun kv => !c.excl.contains kv.1 && !kv.1.startsWith "__")).filter
                    (fun kv => metaOk c.excl kv.1)) },
       [.resolve n v er]) :=
  n2_answer_routed c s n r z v er attrs hp

/-- other waiting calls are not touched by the answer to call `n` -/
theorem answer_isolated (ps : List Pending) (n : Nat) (v er : J) (m : List (String × J)) (p : Pending)
    (hp : p ∈ ps) (hn : p.id ≠ n) : p ∈ resolvePending ps n v er m := by
  unfold resolvePending
  apply List.mem_map.mpr
  exact ⟨p, hp, by simp [hn]⟩

/-- witness for the known finding `no-answer(remote-handler-raised)`: the only thing that ends
    the wait for call `n` is a result packet; a call packet (or anything that is not a result
    for `n`) leaves it waiting.  The real peer sends no result when its handler raises. -/
theorem unanswered_waits_witness (c : Cfg) (s : Proto) (j : J) (n : Nat) (hv : isValuePacket j = false) :
    poll (processJ c s j).1 n = poll s n := by
  rw [processJ_call c s hv]

/-- the hypotheses about the oracle are satisfiable: a toy codec in which `{}` is the only packet -/
def demoProc (p : Bytes) : POut := if p = [123, 125] then .done else .valueError

example : CodecOK demoProc := ⟨by decide, by decide, by decide⟩

theorem demoProc_good : Good demoProc [123, 125] := by
  refine ⟨by decide, by decide, ?_, by decide, by decide⟩
  intro q r h hr
  have hq : q ≠ [123, 125] := by
    intro hq; subst hq; simp at h; exact hr h
  simp [demoProc, hq]

example : Good demoProc [123, 125] := demoProc_good

example : feedAll demoProc [] [[123], [125, 126], [126, 126, 123, 125], [126, 126, 126]] =
    ([], [[123, 125], [123, 125]], false) := by
  apply packets_exact demoProc ⟨by decide, by decide, by decide⟩ [[123, 125], [123, 125]]
  · intro p hp
    have : p = [123, 125] := by simpa using hp
    exact this ▸ demoProc_good
  · decide

/-! ## once and back: two protocol instances, two byte streams, arbitrary schedules

The composition (`n2_World`, `n2_step`, `n2_run`, `n2_stepK` in CV/Model/NodeTwo.lean, executed
by `cvdriver node2` against real endpoints on every run of the check) wires the model
functions `send`, `recv`, `sendResult`, `poll`, `finish` of a caller A and a callee B back to
back.  A schedule is any list of steps `send | deliverAB n | answer id | deliverBA n | poll id`:
where the reads cut the two streams, how sends, reads, handler returns and generator polls
interleave and in which order B's handlers return is arbitrary; only the order of the bytes
within a stream is fixed.  `n2_Hyp` collects the hypotheses (those of `calls_exactly_once`, for
both directions): what the JSON oracle says about the packets that occur (`CodecOK`, `Good`,
`parse (dumps j) = j`), well-formed events, open firewalls, and `returns`: B's handlers return.
The theorems are `_partial` because of `returns` - without it the statement is false (known
finding `no-answer(remote-handler-raised)`, `once_and_back_witness`). -/

-- the two-party files restate `decoded` / `WellFormed` under their own names
example : @n2_decoded = @decoded := rfl
example : @n2_WellFormed = @WellFormed := rfl

/-- what must hold at *every* moment of a run: (a) B has dispatched an initial part of the calls
    A made - each once, in send order, with A's ids, nothing else; (b) the answers A accepted
    are answers to distinct calls that B has dispatched, each carrying the value B's handler
    returned for the call with *that* id; (c) A's generators yielded only such values, each
    call at most once; no read handler failed -/
def Safe (E : n2_Env) (calls : List Ev) (w : n2_World) : Prop :=
  w.fired <+: (List.range calls.length).map (fun i => (decoded E.excl (n2_callEv calls i), n2_idJ i)) ∧
  (∃ order : List Nat, order.Nodup ∧ (∀ i ∈ order, i < w.fired.length) ∧
      w.resolved = order.map (fun i => (i, n2_val E calls i, J.bool false))) ∧
  (∃ order : List Nat, order.Nodup ∧ (∀ i ∈ order, (i, n2_val E calls i, J.bool false) ∈ w.resolved) ∧
      w.yielded = order.map (fun i => (i, [n2_val E calls i], n2_errs E calls i))) ∧
  w.aborted = false

/-- what must hold once nothing is in flight and every handler has returned: every call was
    dispatched exactly once in send order, every call got exactly its own answer (in whatever
    order), every entry still registered on A is finished with exactly that one value, both
    buffers are empty, B registered nothing -/
def Completed (E : n2_Env) (calls : List Ev) (w : n2_World) : Prop :=
  w.fired = (List.range calls.length).map (fun i => (decoded E.excl (n2_callEv calls i), n2_idJ i)) ∧
  w.resolved.Perm ((List.range calls.length).map (fun i => (i, n2_val E calls i, J.bool false))) ∧
  (∀ p ∈ w.a.pending, p.finished = true ∧ p.id < calls.length ∧
      p.values = [n2_val E calls p.id] ∧ p.errors = n2_errs E calls p.id) ∧
  w.a.buf = [] ∧ w.b.buf = [] ∧ w.b.pending = [] ∧ w.aborted = false

/-- **once and back (safety)**: for every list of calls, every behaviour of B's handlers that
    returns, every schedule - at every moment -/
theorem once_and_back_safety_partial (E : n2_Env) (calls : List Ev) (H : n2_Hyp E calls)
    (sched : List n2_Step) : Safe E calls (n2_run E (n2_init calls) sched) :=
  n2_safety H (n2f_reach_sched E calls (n2f_hyp_of_hyp H) sched)

/-- **once and back**: whenever a schedule has brought the world to rest (all calls made, both
    streams delivered, all handlers returned) -/
theorem once_and_back_partial (E : n2_Env) (calls : List Ev) (H : n2_Hyp E calls)
    (sched : List n2_Step) (q : n2_Quiescent (n2_run E (n2_init calls) sched)) :
    Completed E calls (n2_run E (n2_init calls) sched) :=
  n2_complete H (n2f_reach_sched E calls (n2f_hyp_of_hyp H) sched) q

/-- **no residue**: … and after each waiting generator has been resumed once more, every call
    has yielded exactly its own value (and error flag), A has no entry left, and the world is
    still at rest -/
theorem once_and_back_no_residue_partial (E : n2_Env) (calls : List Ev) (H : n2_Hyp E calls)
    (sched : List n2_Step) (q : n2_Quiescent (n2_run E (n2_init calls) sched)) :
    let w := n2_run E (n2_init calls) (sched ++ (List.range calls.length).map n2_Step.poll)
    w.a.pending = [] ∧
      w.yielded.Perm ((List.range calls.length).map (fun i => (i, [n2_val E calls i], n2_errs E calls i))) ∧
      n2_Quiescent w ∧ Completed E calls w := by
  intro w
  obtain ⟨h1, h2, h3, h4⟩ := n2_complete_polled H (n2f_reach_sched E calls (n2f_hyp_of_hyp H) sched) q
  have e : w = n2_run E (n2_run E (n2_init calls) sched) ((List.range calls.length).map n2_Step.poll) :=
    n2_run_append _ _ _ _
  rw [e]
  exact ⟨h1, h2, h3, n2_complete H h4 h3⟩

/-- **no deadlock**: every schedule can be continued to rest, so the hypothesis of the two
    theorems above is satisfiable after every prefix of every run -/
theorem once_and_back_progress_partial (E : n2_Env) (calls : List Ev) (H : n2_Hyp E calls)
    (sched : List n2_Step) : ∃ more, n2_Quiescent (n2_run E (n2_init calls) (sched ++ more)) := by
  obtain ⟨more, h⟩ := n2f_progress (n2f_hyp_of_hyp H) (n2f_reach_sched E calls (n2f_hyp_of_hyp H) sched)
  exact ⟨more, by rw [n2_run_append]; exact h⟩

/-- witness for the excluded case (`no-answer(remote-handler-raised)`): when B's handler raises,
    its return puts nothing on the stream and changes nothing on A - and only a result packet
    ends A's wait (`unanswered_waits_witness`) -/
theorem once_and_back_witness (E : n2_Env) (hraise : ∀ k e, E.beh k e = none) (w : n2_World) (n : Nat) :
    (n2_step E w (.answer n)).ba = w.ba ∧ (n2_step E w (.answer n)).a = w.a ∧
      (n2_step E w (.answer n)).ab = w.ab := by
  simp only [n2_step, n2_takeAnswer]
  split
  · exact ⟨rfl, rfl, rfl⟩
  · rename_i w' r h
    split at h
    · cases h
    · cases h; simp [n2_resultHandler, hraise]

/-! ## k connections on the server side -/

/-- **answers stay on the calling connection**: whatever happens on connection `j` - in
    particular a handler return, whose `_success` event the `result_handler` of every Protocol
    of the server sees - leaves every other connection untouched: no byte is appended to
    another connection's stream -/
theorem answer_on_calling_connection_only (Es : Nat → n2_Env) (ws : List n2_World) (j j' : Nat)
    (st : n2_Step) (h : j' ≠ j) : (n2_stepK Es ws (j, st))[j']? = ws[j']? :=
  n2_stepK_other Es ws j j' st h

/-- **once and back, k connections**: in every interleaving of the steps of k connections
    (`callss[j]` are the calls client j makes; ids are per connection, so different connections
    use the same ids) connection j goes through exactly the two-party run of its own steps, hence
    everything above holds for it: its calls are dispatched once each in order, and its
    waiting calls get their own answers - never those of a call with the same id on another
    connection -/
theorem once_and_back_k_partial (Es : Nat → n2_Env) (callss : List (List Ev))
    (sched : List (Nat × n2_Step)) (j : Nat) (calls : List Ev) (hj : callss[j]? = some calls)
    (H : n2_Hyp (Es j) calls) :
    ∃ w, (n2_runK Es (callss.map n2_init) sched)[j]? = some w ∧
      w = n2_run (Es j) (n2_init calls) (n2_proj j sched) ∧
      Safe (Es j) calls w ∧ (n2_Quiescent w → Completed (Es j) calls w) := by
  refine ⟨_, ?_, rfl, once_and_back_safety_partial (Es j) calls H _,
    fun q => once_and_back_partial (Es j) calls H _ q⟩
  rw [n2_runK_proj]
  simp [hj]

/-! ## non-vacuity of the two-party theorems

`n2_toyEnv` (CV/Proofs/NodeTwoInv.lean): two calls `ping("x~~~y")`, `pong(value=None)`, a handler
that returns the call number, and a toy JSON in which `{c0} {c1} {v0} {v1}` are the only packets. -/

example : n2_Hyp n2_toyEnv n2_toyCalls := n2_toy_hyp

/-- reads that cut inside packets and inside delimiters, the second call sent while the first
    is half delivered, answers in reverse order, a poll before the answer arrived -/
def demoSched : List n2_Step :=
  [.send, .deliverAB 2, .send, .deliverAB 5, .poll 0, .deliverAB 100, .answer 1, .deliverBA 3,
   .answer 0, .poll 1, .deliverBA 6, .deliverBA 100, .poll 0, .poll 1]

example : Safe n2_toyEnv n2_toyCalls (n2_run n2_toyEnv (n2_init n2_toyCalls) demoSched) :=
  once_and_back_safety_partial _ _ n2_toy_hyp _

/-- the hypothesis `n2_Quiescent` is reachable (from every prefix of every schedule), and then
    everything has come back -/
example : ∃ more,
    n2_Quiescent (n2_run n2_toyEnv (n2_init n2_toyCalls) (demoSched ++ more)) ∧
    Completed n2_toyEnv n2_toyCalls (n2_run n2_toyEnv (n2_init n2_toyCalls) (demoSched ++ more)) := by
  obtain ⟨more, q⟩ := once_and_back_progress_partial _ _ n2_toy_hyp demoSched
  exact ⟨more, q, once_and_back_partial _ _ n2_toy_hyp _ q⟩

/-- the hypothesis of the witness: a handler that always raises -/
example : ∀ k e, ({ n2_toyEnv with beh := fun _ _ => none } : n2_Env).beh k e = none := fun _ _ => rfl

/-- two connections whose clients make the same calls with the same ids -/
example (sched : List (Nat × n2_Step)) :
    ∃ w, (n2_runK (fun _ => n2_toyEnv) ([n2_toyCalls, n2_toyCalls].map n2_init) sched)[1]? = some w ∧
      w = n2_run n2_toyEnv (n2_init n2_toyCalls) (n2_proj 1 sched) ∧
      Safe n2_toyEnv n2_toyCalls w ∧ (n2_Quiescent w → Completed n2_toyEnv n2_toyCalls w) :=
  once_and_back_k_partial (fun _ => n2_toyEnv) _ sched 1 n2_toyCalls rfl n2_toy_hyp

example : (1 : Nat) ≠ 0 := by decide

/-! ## the receive firewall in the two-party world; answers are not mixed

`n2f_Hyp` (CV/Proofs/NodeTwoFw.lean) is `n2_Hyp` without "B's receive firewall accepts every call":
the verdict `n2f_acc E calls i = E.recvOkB (decoded call i)` is free per call.  A rejected call is
answered by B's protocol itself, at once, with the empty result (`null`); the handler index of an
accepted call is its rank among the accepted ones.  `n2f_val i` = what B's handler returned for call
`i` if it was accepted, `null` otherwise.  Still `_partial`: handlers of *accepted* calls return. -/

/-- **the firewall is a gate** (no hypothesis at all: any bytes, any cuts, any peer, any handlers):
    at every moment of every schedule, every event that was dispatched on B had been accepted by
    B's receive firewall - a rejected event is never executed -/
theorem rejected_never_executed (E : n2_Env) (calls : List Ev) (sched : List n2_Step) :
    ∀ x ∈ (n2_run E (n2_init calls) sched).fired, E.recvOkB x.1 = true := by
  -- the two-party run is the projection of a symmetric run, in which both receive firewalls are gates
  rw [show n2_init calls = ns_proj2 (ns_init calls []) from rfl, ns_run_ofN2 ⟨E, fun _ _ => none⟩]
  exact (ns_run_ok _ _ _ (ns_ok_init _ calls [])).gateB

/-- at every moment, with a firewall that rejects some calls -/
def SafeFw (E : n2_Env) (calls : List Ev) (w : n2_World) : Prop :=
  w.fired <+: ((List.range calls.length).filter (n2f_acc E calls)).map
      (fun i => (decoded E.excl (n2_callEv calls i), n2_idJ i)) ∧
  (∃ order : List Nat, order.Nodup ∧ (∀ i ∈ order, i < calls.length) ∧
      w.resolved = order.map (fun i => (i, n2f_val E calls i, J.bool false))) ∧
  (∃ order : List Nat, order.Nodup ∧ (∀ i ∈ order, (i, n2f_val E calls i, J.bool false) ∈ w.resolved) ∧
      w.yielded = order.map (fun i => (i, [n2f_val E calls i], n2f_errs E calls i))) ∧
  w.aborted = false

/-- at rest, with a firewall that rejects some calls -/
def CompletedFw (E : n2_Env) (calls : List Ev) (w : n2_World) : Prop :=
  w.fired = ((List.range calls.length).filter (n2f_acc E calls)).map
      (fun i => (decoded E.excl (n2_callEv calls i), n2_idJ i)) ∧
  w.resolved.Perm ((List.range calls.length).map (fun i => (i, n2f_val E calls i, J.bool false))) ∧
  (∀ p ∈ w.a.pending, p.finished = true ∧ p.id < calls.length ∧
      p.values = [n2f_val E calls p.id] ∧ p.errors = n2f_errs E calls p.id) ∧
  w.a.buf = [] ∧ w.b.buf = [] ∧ w.b.pending = [] ∧ w.aborted = false

/-- **once and back behind a firewall (safety)**: for every firewall verdict per call, every schedule
    (every cut list of both byte streams, every interleaving, handlers returning in any order), at
    every moment: exactly the accepted calls are dispatched, at most once, in order; every answer
    A accepts and every value a waiting caller is resumed with is the one of *its own* call -/
theorem once_and_back_firewall_safety_partial (E : n2_Env) (calls : List Ev) (H : n2f_Hyp E calls)
    (sched : List n2_Step) : SafeFw E calls (n2_run E (n2_init calls) sched) :=
  n2f_safety_reach (n2f_reach_sched E calls H sched)

/-- **once and back behind a firewall**: at rest every accepted call was dispatched exactly once,
    no rejected one, and every call - accepted or rejected - got exactly one answer, its own -/
theorem once_and_back_firewall_partial (E : n2_Env) (calls : List Ev) (H : n2f_Hyp E calls)
    (sched : List n2_Step) (q : n2_Quiescent (n2_run E (n2_init calls) sched)) :
    CompletedFw E calls (n2_run E (n2_init calls) sched) :=
  n2f_complete_reach H (n2f_reach_sched E calls H sched) q

/-- … and after every waiting generator has been resumed once more nothing is left on A -/
theorem once_and_back_firewall_no_residue_partial (E : n2_Env) (calls : List Ev) (H : n2f_Hyp E calls)
    (sched : List n2_Step) (q : n2_Quiescent (n2_run E (n2_init calls) sched)) :
    let w := n2_run E (n2_init calls) (sched ++ (List.range calls.length).map n2_Step.poll)
    w.a.pending = [] ∧
      w.yielded.Perm ((List.range calls.length).map (fun i => (i, [n2f_val E calls i], n2f_errs E calls i))) ∧
      n2_Quiescent w := by
  obtain ⟨h1, h2, h3, _⟩ := n2f_complete_polled_reach H (n2f_reach_sched E calls H sched) q
  rw [← n2_run_append] at h1 h2 h3
  exact ⟨h1, h2, h3⟩

/-- **answers are not mixed**: k calls in flight, answers interleaved in any order, both streams
    cut anywhere: whenever a waiting caller is resumed, it is the caller of a call `i` that was
    made, it is resumed at most once, with exactly one value - the one belonging to call `i` (the
    return value of the handler run for call `i`, or `null` if B's firewall rejected call `i`) -
    and with the error flag of that answer -/
theorem answers_not_mixed_partial (E : n2_Env) (calls : List Ev) (H : n2f_Hyp E calls)
    (sched : List n2_Step) :
    let w := n2_run E (n2_init calls) sched
    (w.yielded.map (·.1)).Nodup ∧
      ∀ y ∈ w.yielded, y.1 < calls.length ∧ y.2.1 = [n2f_val E calls y.1] ∧ y.2.2 = n2f_errs E calls y.1 := by
  intro w
  obtain ⟨_, ⟨ro, _, hro, hres⟩, ⟨yo, hyn, hyr, hy⟩, _⟩ := n2f_safety_reach (n2f_reach_sched E calls H sched)
  have hy' : w.yielded = yo.map (n2f_expYield E calls) := hy
  refine ⟨?_, ?_⟩
  · rw [hy', List.map_map]
    have : ((fun x : Nat × List J × J => x.1) ∘ n2f_expYield E calls) = id := by
      funext i; rfl
    rw [this, List.map_id]; exact hyn
  · intro y hyy
    rw [hy'] at hyy
    obtain ⟨i, hi, rfl⟩ := List.mem_map.mp hyy
    refine ⟨?_, rfl, rfl⟩
    have hm := hyr i hi
    have hres' : (n2_run E (n2_init calls) sched).resolved = ro.map (n2f_expRes E calls) := hres
    rw [hres'] at hm
    obtain ⟨k, hk, hke⟩ := List.mem_map.mp hm
    have : k = i := congrArg Prod.fst hke
    subst this
    exact hro k hk

/-- **no forged result for a rejected call**: a caller whose call B's firewall rejected is never
    resumed with anything but the empty result - nothing any handler computed (none ran:
    `rejected_never_executed`), nothing belonging to another call -/
theorem rejected_call_gets_empty_answer_partial (E : n2_Env) (calls : List Ev) (H : n2f_Hyp E calls)
    (sched : List n2_Step) :
    ∀ y ∈ (n2_run E (n2_init calls) sched).yielded, n2f_acc E calls y.1 = false → y.2.1 = [J.null] := by
  intro y hy hr
  have h := (answers_not_mixed_partial E calls H sched).2 y hy
  rw [h.2.1, n2f_rejected_value E calls y.1 hr]

/-- the firewall-free theorems above are the special case "everything accepted" -/
theorem firewall_hyp_of_open (E : n2_Env) (calls : List Ev) (H : n2_Hyp E calls) : n2f_Hyp E calls :=
  n2f_hyp_of_hyp H

/-- **k connections, firewalls**: connection j of a server with k connections goes through exactly
    the two-party run of its own steps, so all of the above holds for it -/
theorem once_and_back_k_firewall_partial (Es : Nat → n2_Env) (callss : List (List Ev))
    (sched : List (Nat × n2_Step)) (j : Nat) (calls : List Ev) (hj : callss[j]? = some calls)
    (H : n2f_Hyp (Es j) calls) :
    ∃ w, (n2_runK Es (callss.map n2_init) sched)[j]? = some w ∧
      SafeFw (Es j) calls w ∧ (n2_Quiescent w → CompletedFw (Es j) calls w) ∧
      (∀ x ∈ w.fired, (Es j).recvOkB x.1 = true) := by
  refine ⟨n2_run (Es j) (n2_init calls) (n2_proj j sched), ?_, once_and_back_firewall_safety_partial (Es j) calls H _,
    fun q => once_and_back_firewall_partial (Es j) calls H _ q, rejected_never_executed (Es j) calls _⟩
  rw [n2_runK_proj]
  simp [hj]

/-! non-vacuity: `n2f_toyEnv` rejects `pong` (call 1 of 3) and accepts the two `ping`s -/

example : n2f_Hyp n2f_toyEnv n2f_toyCalls := n2f_toy_hyp

example : n2f_acc n2f_toyEnv n2f_toyCalls 0 = true ∧ n2f_acc n2f_toyEnv n2f_toyCalls 1 = false ∧
    n2f_acc n2f_toyEnv n2f_toyCalls 2 = true := n2f_toy_acc

/-- three calls in flight, the refusal of call 1 overtakes the answers, handlers return in reverse order -/
def demoSchedFw : List n2_Step :=
  [.send, .send, .send, .deliverAB 7, .deliverAB 100, .answer 2, .deliverBA 5, .answer 0, .deliverBA 100,
   .poll 1, .poll 0, .poll 2]

example : SafeFw n2f_toyEnv n2f_toyCalls (n2_run n2f_toyEnv (n2_init n2f_toyCalls) demoSchedFw) :=
  once_and_back_firewall_safety_partial _ _ n2f_toy_hyp _

example : ∀ y ∈ (n2_run n2f_toyEnv (n2_init n2f_toyCalls) demoSchedFw).yielded,
    n2f_acc n2f_toyEnv n2f_toyCalls y.1 = false → y.2.1 = [J.null] :=
  rejected_call_gets_empty_answer_partial _ _ n2f_toy_hyp _

example : n2f_Hyp n2_toyEnv n2_toyCalls := firewall_hyp_of_open _ _ n2_toy_hyp

example (sched : List (Nat × n2_Step)) :
    ∃ w, (n2_runK (fun _ => n2f_toyEnv) ([n2f_toyCalls, n2f_toyCalls].map n2_init) sched)[1]? = some w ∧
      SafeFw n2f_toyEnv n2f_toyCalls w ∧ (n2_Quiescent w → CompletedFw n2f_toyEnv n2f_toyCalls w) ∧
      (∀ x ∈ w.fired, n2f_toyEnv.recvOkB x.1 = true) :=
  once_and_back_k_firewall_partial (fun _ => n2f_toyEnv) _ sched 1 n2f_toyCalls rfl n2f_toy_hyp

/-! ## the symmetric composition: both ends originate calls on one connection; the send firewall

`ns_World`, `ns_step`, `ns_run` (CV/Model/NodeTwo.lean, executed by `cvdriver node2` ops `sstep …` against real endpoints
on every run of the check): end A and end B are the same protocol, each with its own id counter, its own table of
waiting calls, its own firewalls and its own handlers; each direction has ONE byte stream that carries the calls of its
writer and the writer's answers to the peer's calls, read by the peer in arbitrary cuts.  A schedule is any list of
`(end, send | deliver n | answer id | poll id)`.

All theorems of this section are hypothesis-free: no assumption on the JSON oracle, the bytes, the peer, the handlers.

NOT proved as one theorem (validated only: the correspondence runs of harness/c19.py compare `ns_step` with real endpoints
and judge the statement on the implementation's behaviour, signatures `symmetric-…`):

  symmetric_once_and_back_partial :  under the hypotheses of `n2f_Hyp` for both directions (handlers of accepted calls
    return), for every schedule: every call of A accepted by both firewalls is dispatched on B exactly once, in order, and
    A's generator for call k yields exactly the value B's handler returned for A's call k - and the same with A and B
    exchanged, both at once.

Proved towards it (end of this file, CV/Proofs/NodeSymBoth.lean): the packet-level core of the both-ends case -
`symmetric_calls_and_answers_do_not_interfere` (hypothesis-free: a mixed sequence of call and result packets is processed
as the two sequences would be processed separately), `symmetric_merged_read_partial` (one read of a mixed stream of the
concrete packets of two simultaneous conversations does to the reader exactly what the two-party callee and the
two-party caller do), `symmetric_mixed_stream_framing` (the reader's framing state is a prefix-consumer of the
mixed byte stream, for every cut).  What is missing for the one theorem is the whole-run invariant that glues these
steps (the ghost interleaving of each direction's stream through sends, handler returns and polls).

What is proved here in addition are the parts of it that do not depend on the codec: gates, id separation, at-most-once
resumption, and everything about the send firewall. -/

/-- **a call rejected by the send firewall is never transmitted**: the step in which end A (resp. B) is handed a call its
    send firewall rejects changes nothing in the world except that the call is taken from `todo` and recorded in
    `blocked`: no byte is written on either stream, no id is consumed, nothing is registered in the table of waiting
    calls (so there is no generator left waiting: in the code the generator yields one empty `Value` and ends), nothing
    changes on the peer.  Third part: the same for the caller of the two-party world `n2_step`. -/
theorem send_rejected_never_transmitted (E : ns_Env) (w : ns_World) (e : Ev) (rest : List Ev) :
    (w.a.todo = e :: rest → E.base.sendOkA e = false →
      ns_step E w (false, .send) = { w with a := { w.a with todo := rest, blocked := w.a.blocked ++ [e] } }) ∧
    (w.b.todo = e :: rest → E.base.sendOkB e = false →
      ns_step E w (true, .send) = { w with b := { w.b with todo := rest, blocked := w.b.blocked ++ [e] } }) ∧
    (∀ w2 : n2_World, w2.todo = e :: rest → E.base.sendOkA e = false →
      n2_step E.base w2 .send = { w2 with todo := rest }) := by
  refine ⟨?_, ?_, ?_⟩
  · intro ht hb
    simp only [ns_step]
    rw [ns_act_send_blocked E.base.cA _ _ _ w.a w.b e rest ht hb]
    simp
  · intro ht hb
    simp only [ns_step]
    rw [ns_act_send_blocked E.base.cB _ _ _ w.b w.a e rest ht hb]
    simp
  · intro w2 ht hb
    simp only [n2_step, ht]
    rw [ns_send_blocked_proto E.base.cA w2.a e false hb]
    simp [n2_wire]

/-- **blocked calls consume no id** (whole runs): after every schedule, the calls an end has handed to `send` so far split
    into those its send firewall rejected - exactly `blocked`, in order - and the accepted ones, and the id counter of
    that end equals the number of accepted ones: ids are allocated to transmitted calls only, independently per end -/
theorem send_rejected_consumes_no_id (E : ns_Env) (callsA callsB : List Ev) (sched : List (Bool × ns_Op)) :
    let w := ns_run E (ns_init callsA callsB) sched
    (∃ done, callsA = done ++ w.a.todo ∧ w.a.blocked = done.filter (fun e => !E.base.sendOkA e) ∧
        w.a.p.nid = (done.filter E.base.sendOkA).length) ∧
    (∃ done, callsB = done ++ w.b.todo ∧ w.b.blocked = done.filter (fun e => !E.base.sendOkB e) ∧
        w.b.p.nid = (done.filter E.base.sendOkB).length) :=
  ns_run_count E callsA callsB sched (ns_init callsA callsB) (ns_count_init _ _) (ns_count_init _ _)

/-- **ids of the two ends do not collide**: (1) a result packet - whatever its id, whatever state the receiving protocol
    is in - is never taken for a call: it makes the protocol neither dispatch nor write; (2) a call packet never resolves
    a waiting call and leaves the protocol untouched - so A's call k is never taken for the answer to B's call k;
    (3) at every moment of every schedule every answer an end has accepted carries an id that this end's OWN counter
    has issued (`< nid`: the id of a call it made itself - the result of A's call k travels B→A and can only be matched
    against A's table); (4) a step of one end changes nothing on the other end but the bytes in flight -/
theorem symmetric_ids_do_not_collide :
    (∀ (c : Cfg) (s : Proto) (excl : List String) (id er v : J) (attrs : List (String × J)),
        ∀ x ∈ (processJ c s (dumpValue excl id er v attrs)).2, ∃ n v' er', x = Eff.resolve n v' er') ∧
    (∀ (c : Cfg) (s : Proto) (excl : List String) (e : Ev) (id : J),
        (processJ c s (dumpEvent excl e id)).1 = s ∧ ∀ n v er, Eff.resolve n v er ∉ (processJ c s (dumpEvent excl e id)).2) ∧
    (∀ (E : ns_Env) (callsA callsB : List Ev) (sched : List (Bool × ns_Op)),
        let w := ns_run E (ns_init callsA callsB) sched
        (∀ x ∈ w.a.resolved, x.1 < w.a.p.nid) ∧ (∀ x ∈ w.b.resolved, x.1 < w.b.p.nid)) ∧
    (∀ (E : ns_Env) (w : ns_World) (op : ns_Op),
        (∃ o, (ns_step E w (false, op)).b = { w.b with out := o }) ∧
        (∃ o, (ns_step E w (true, op)).a = { w.a with out := o })) := by
  refine ⟨?_, ?_, ?_, ?_⟩
  · intro c s excl id er v attrs
    exact processJ_value_effects c s _ (isValuePacket_dumpValue excl id er v attrs)
  · intro c s excl e id
    exact processJ_call_effects c s _ (isValuePacket_dumpEvent excl e id)
  · intro E callsA callsB sched
    have h := ns_run_ok E sched _ (ns_ok_init E callsA callsB)
    exact ⟨h.a.res_lt, h.b.res_lt⟩
  · exact ns_step_peer

/-- **both receive firewalls are gates**: in the symmetric world, at every moment of every schedule, every event that was
    dispatched on an end had been accepted by that end's receive firewall -/
theorem symmetric_rejected_never_executed (E : ns_Env) (callsA callsB : List Ev) (sched : List (Bool × ns_Op)) :
    let w := ns_run E (ns_init callsA callsB) sched
    (∀ x ∈ w.a.fired, E.base.recvOkA x.1 = true) ∧ (∀ x ∈ w.b.fired, E.base.recvOkB x.1 = true) := by
  have h := ns_run_ok E sched _ (ns_ok_init E callsA callsB)
  exact ⟨h.gateA, h.gateB⟩

/-- **a waiting caller is resumed at most once, and only the caller of a call that was made**: on both ends, at every
    moment of every schedule, the ids with which generators were resumed are pairwise different, each was issued by this
    end's own counter, and none of them is still registered (no second answer can reach it: `answer_isolated`) -/
theorem symmetric_resumed_at_most_once (E : ns_Env) (callsA callsB : List Ev) (sched : List (Bool × ns_Op)) :
    let w := ns_run E (ns_init callsA callsB) sched
    ((w.a.yielded.map (·.1)).Nodup ∧ ∀ y ∈ w.a.yielded, y.1 < w.a.p.nid ∧ y.1 ∉ w.a.p.pending.map (·.id)) ∧
    ((w.b.yielded.map (·.1)).Nodup ∧ ∀ y ∈ w.b.yielded, y.1 < w.b.p.nid ∧ y.1 ∉ w.b.p.pending.map (·.id)) := by
  have h := ns_run_ok E sched _ (ns_ok_init E callsA callsB)
  exact ⟨⟨h.a.yl_nodup, fun y hy => ⟨h.a.yl_lt y hy, h.a.yl_notpend y hy⟩⟩,
    ⟨h.b.yl_nodup, fun y hy => ⟨h.b.yl_lt y hy, h.b.yl_notpend y hy⟩⟩⟩

/-! non-vacuity: the toy world with a send firewall on A that rejects `pong`; both ends make the toy calls -/

def symToyEnv : ns_Env :=
  { base := { n2_toyEnv with sendOkA := fun e => e.name != "pong" }, behA := fun k _ => some (.str (toString k), []) }

/-- the hypotheses of `send_rejected_never_transmitted` occur: after A's first send the next call is `pong`, rejected -/
example : ∃ e rest, (ns_step symToyEnv (ns_init n2_toyCalls n2_toyCalls) (false, .send)).a.todo = e :: rest ∧
    symToyEnv.base.sendOkA e = false := ⟨_, _, rfl, by decide⟩

/-- a run in which both ends have calls in flight with the same id 0, A's `pong` is blocked, answers cross -/
def demoSchedSym : List (Bool × ns_Op) :=
  [(false, .send), (true, .send), (false, .send), (true, .send), (true, .deliver 3), (false, .deliver 100),
   (true, .deliver 100), (false, .answer 0), (true, .answer 0), (false, .answer 1), (true, .deliver 100),
   (false, .deliver 2), (false, .deliver 100), (false, .poll 0), (true, .poll 0), (true, .poll 1)]

example : (ns_run symToyEnv (ns_init n2_toyCalls n2_toyCalls) demoSchedSym).a.blocked.length = 1 ∧
    (ns_run symToyEnv (ns_init n2_toyCalls n2_toyCalls) demoSchedSym).a.p.nid = 1 ∧
    (ns_run symToyEnv (ns_init n2_toyCalls n2_toyCalls) demoSchedSym).b.p.nid = 2 := by
  refine ⟨?_, ?_, ?_⟩ <;> decide +kernel

/-- **the symmetric world extends the two-party world conservatively** (the part of `symmetric_once_and_back_partial`, see the section
    header, that is proved): when end B originates no calls, then for every schedule of the symmetric world - including B's idle sends
    and polls and A's handler-return steps - no event ever reaches A's application (B writes result packets only), and
    the symmetric run projected on (A caller, B callee) IS the two-party run of the corresponding steps; hence all of
    `SafeFw` / `CompletedFw` hold of it: exactly the calls accepted by B's firewall are dispatched on B, once, in order,
    and every caller on A is resumed with its own value.
    `_partial`: (1) one originating end only - the statement with both ends calling at once is not proved (see the
    section header; the mirrored statement, B calling and A idle, is `symmetric_once_and_back_oneway_mirrored_partial`); (2) "handlers of accepted calls return" (`n2f_Hyp.returns`, the known finding, witness
    `once_and_back_witness`); (3) A's send firewall accepts the calls (part of `n2f_Hyp`; rejected ones are covered by
    `send_rejected_never_transmitted`). -/
theorem symmetric_once_and_back_oneway_partial (E : ns_Env) (calls : List Ev) (H : n2f_Hyp E.base calls)
    (sched : List (Bool × ns_Op)) :
    let w := ns_proj2 (ns_run E (ns_init calls []) sched)
    (ns_run E (ns_init calls []) sched).a.fired = [] ∧
      w = n2_run E.base (n2_init calls) (sched.filterMap ns_toN2) ∧
      SafeFw E.base calls w ∧ (n2_Quiescent w → CompletedFw E.base calls w) := by
  intro w
  have hf := ns_oneway_reach E calls H sched _ (ns_one_init calls) rfl (n2f_reach_init E.base calls)
  have e' : w = n2_run E.base (n2_init calls) (sched.filterMap ns_toN2) :=
    ns_oneway_gen E sched _ (ns_one_init calls) hf
  refine ⟨hf, e', ?_, ?_⟩
  · rw [e']; exact once_and_back_firewall_safety_partial E.base calls H _
  · rw [e']; exact fun q => once_and_back_firewall_partial E.base calls H _ q

/-- non-vacuity: the firewall toy world (B rejects `pong`); B sends (nothing), polls, A's idle handler step in between -/
def symOneEnv : ns_Env := { base := n2f_toyEnv, behA := fun _ _ => none }

def demoSchedOne : List (Bool × ns_Op) :=
  [(false, .send), (true, .send), (false, .send), (false, .send), (true, .deliver 7), (false, .answer 0),
   (true, .deliver 100), (true, .answer 2), (false, .deliver 5), (true, .poll 0), (true, .answer 0),
   (false, .deliver 100), (false, .poll 1), (false, .poll 0), (false, .poll 2)]

example : n2f_Hyp symOneEnv.base n2f_toyCalls := n2f_toy_hyp

example : SafeFw n2f_toyEnv n2f_toyCalls (ns_proj2 (ns_run symOneEnv (ns_init n2f_toyCalls []) demoSchedOne)) :=
  (symmetric_once_and_back_oneway_partial symOneEnv n2f_toyCalls n2f_toy_hyp demoSchedOne).2.2.1

/-- the demo schedule really gets somewhere: all three calls made, two dispatched on B (`pong` is rejected) -/
example : (ns_run symOneEnv (ns_init n2f_toyCalls []) demoSchedOne).b.fired.length = 2 ∧
    (ns_run symOneEnv (ns_init n2f_toyCalls []) demoSchedOne).a.yielded.length = 3 := by
  refine ⟨?_, ?_⟩ <;> decide +kernel

/-- **the two ends are interchangeable**: exchanging the roles of A and B in the environment, the world and the schedule
    commutes with running - every theorem about end A is a theorem about end B -/
theorem symmetric_ends_interchangeable (E : ns_Env) (w : ns_World) (sched : List (Bool × ns_Op)) :
    ns_run (ns_swapE E) (ns_swapW w) (sched.map ns_swapS) = ns_swapW (ns_run E w sched) :=
  List.foldl_map.trans (List.foldl_hom ns_swapW (H := ns_step_swap E))

/-- … in particular **B calling, A idle** (B = the server-side protocol originates the calls, A executes them): the run
    seen from the other end is a two-party run with B as caller; same `_partial` clauses as above, the hypotheses being
    those of the two-party theorems for the exchanged environment -/
theorem symmetric_once_and_back_oneway_mirrored_partial (E : ns_Env) (calls : List Ev)
    (H : n2f_Hyp (ns_swapE E).base calls) (sched : List (Bool × ns_Op)) :
    let w := ns_proj2 (ns_swapW (ns_run E (ns_init [] calls) sched))
    (ns_run E (ns_init [] calls) sched).b.fired = [] ∧
      w = n2_run (ns_swapE E).base (n2_init calls) ((sched.map ns_swapS).filterMap ns_toN2) ∧
      SafeFw (ns_swapE E).base calls w ∧ (n2_Quiescent w → CompletedFw (ns_swapE E).base calls w) := by
  intro w
  have hs := symmetric_ends_interchangeable E (ns_init [] calls) sched
  have h := symmetric_once_and_back_oneway_partial (ns_swapE E) calls H (sched.map ns_swapS)
  have hi : ns_swapW (ns_init [] calls) = ns_init calls [] := rfl
  rw [hi] at hs
  simp only [hs] at h
  exact h

example : n2f_Hyp (ns_swapE (ns_swapE symOneEnv)).base n2f_toyCalls := n2f_toy_hyp

/-! ## both ends originating calls at once: the packet-level core (CV/Proofs/NodeSymBoth.lean)

Each direction's byte stream of the symmetric world is an interleaving of the writer's calls and the writer's answers to
the peer's calls.  The theorems below say what the reader does with such a stream; `ns_Interleave xs ys m`: `m` is an
interleaving of `xs` and `ys` that keeps both orders. -/

/-- **calls and answers on one stream do not interfere** (no hypothesis on the JSON oracle, the packet contents, the ids or
    the protocol state; a packet belongs to a class by what it parses to, if it parses at all): for every interleaving `m`
    of call packets `cs` and result packets `vs`, (1) processing `m` leaves the protocol in exactly the state in which
    processing `vs` alone leaves it - the peer's calls are transparent for the table of waiting calls; (2) what the
    protocol does on `m` is an interleaving of what it does on `cs` alone - in ANY state `s0`, so the dispatches and
    refusals do not depend on which answers have arrived - and what it does on `vs` alone; (3) processing `cs` alone
    never changes the state. -/
theorem symmetric_calls_and_answers_do_not_interfere (c : Cfg) (parse : Bytes → PRes) (s s0 : Proto)
    (cs vs m : List Bytes) (h : ns_Interleave cs vs m) (hc : ∀ p ∈ cs, ns_CallClass parse p)
    (hv : ∀ p ∈ vs, ns_ValueClass parse p) :
    (processAll c parse s m).1 = (processAll c parse s vs).1 ∧
      ns_Interleave (processAll c parse s0 cs).2 (processAll c parse s vs).2 (processAll c parse s m).2 ∧
      (processAll c parse s0 cs).1 = s0 := by
  obtain ⟨h1, h2⟩ := ns_processAll_interleave c parse s0 h hc hv s
  refine ⟨h1, h2, ?_⟩
  rw [ns_processAll_calls c parse s0 s0 cs hc]

/-- **one read of a mixed stream, two conversations at once**: the reader is the callee of conversation 1 (environment
    `E1`: the peer's calls `l1`, each accepted or refused by the reader's receive firewall) and at the same time the
    caller of conversation 2 (environment `E2`, same protocol configuration and JSON oracle: the peer's answers to the
    reader's own calls `l2`, waiting and not yet answered), the packets arriving interleaved in any way.  Then the
    reader's table of waiting calls ends up exactly as in the two-party world after the answers `l2`, and what the reader
    does is an interleaving of what the two-party callee does on `l1` (dispatch or refusal per call, in call order) and
    what the two-party caller does on `l2` (one resolution per answer, carrying the value of that very call).
    `_partial`: the hypotheses `n2f_Hyp` of the two-party theorems, for both conversations (witness of the excluded case
    "a handler raises": `once_and_back_witness`). -/
theorem symmetric_merged_read_partial (E1 E2 : n2_Env) (calls1 calls2 : List Ev) (H1 : n2f_Hyp E1 calls1)
    (H2 : n2f_Hyp E2 calls2) (hc : E2.cA = E1.cB) (hp : E2.parse = E1.parse)
    (L l1 l2 D : List Nat) (b : Proto) (m : List Bytes)
    (h1 : ∀ i ∈ l1, i < calls1.length) (hnd : l2.Nodup) (h2 : ∀ i ∈ l2, i ∈ L ∧ i ∉ D ∧ i < calls2.length)
    (hpend : b.pending = L.map (n2f_expPend E2 calls2 D))
    (hm : ns_Interleave (l1.map (n2_callPkt E1 calls1)) (l2.map (n2f_ansPkt E2 calls2)) m) :
    (processAll E1.cB E1.parse b m).1 = { b with pending := L.map (n2f_expPend E2 calls2 (D ++ l2)) } ∧
      ns_Interleave (l1.map (n2f_effB E1 calls1))
        (l2.map (fun i => Eff.resolve i (n2f_val E2 calls2 i) (.bool false))) (processAll E1.cB E1.parse b m).2 := by
  have hcs : ∀ p ∈ l1.map (n2_callPkt E1 calls1), ns_CallClass E1.parse p :=
    List.forall_mem_map.mpr fun i hi => ns_callPkt_class H1 i (h1 i hi)
  have hvs : ∀ p ∈ l2.map (n2f_ansPkt E2 calls2), ns_ValueClass E1.parse p :=
    List.forall_mem_map.mpr fun i hi => hp ▸ ns_ansPkt_class H2 i (h2 i hi).2.2
  obtain ⟨r1, r2⟩ := ns_processAll_interleave E1.cB E1.parse b hm hcs hvs b
  have eB := n2f_procB E1 calls1 H1 b l1 h1
  have eA := n2f_procA E2 calls2 H2 L l2 D b hnd h2 hpend
  rw [hc, hp] at eA
  rw [eB, eA] at r2
  rw [eA] at r1
  exact ⟨r1, r2⟩

/-! non-vacuity: the toy world; the reader has two calls of its own waiting and gets `call 0, answer 1, call 1, answer 0` -/

def symBothPkts : List Bytes :=
  [n2_callPkt n2_toyEnv n2_toyCalls 0, n2f_ansPkt n2_toyEnv n2_toyCalls 1, n2_callPkt n2_toyEnv n2_toyCalls 1,
   n2f_ansPkt n2_toyEnv n2_toyCalls 0]

theorem symBoth_interleave :
    ns_Interleave ([0, 1].map (n2_callPkt n2_toyEnv n2_toyCalls)) ([1, 0].map (n2f_ansPkt n2_toyEnv n2_toyCalls))
      symBothPkts :=
  .left _ (.right _ (.left _ (.right _ .nil)))

example : ∀ p ∈ [0, 1].map (n2_callPkt n2_toyEnv n2_toyCalls), ns_CallClass n2_toyEnv.parse p := by
  intro p hp
  obtain ⟨i, hi, rfl⟩ := List.mem_map.mp hp
  exact ns_callPkt_class (firewall_hyp_of_open _ _ n2_toy_hyp) i (by simp at hi; rcases hi with rfl | rfl <;> decide)

example :
    (processAll n2_toyEnv.cB n2_toyEnv.parse
        { nid := 2, pending := [0, 1].map (n2f_expPend n2_toyEnv n2_toyCalls []) } symBothPkts).1 =
      { nid := 2, pending := [0, 1].map (n2f_expPend n2_toyEnv n2_toyCalls ([] ++ [1, 0])) } :=
  (symmetric_merged_read_partial n2_toyEnv n2_toyEnv n2_toyCalls n2_toyCalls (firewall_hyp_of_open _ _ n2_toy_hyp)
    (firewall_hyp_of_open _ _ n2_toy_hyp) rfl rfl [0, 1] [0, 1] [1, 0] []
    { nid := 2, pending := [0, 1].map (n2f_expPend n2_toyEnv n2_toyCalls []) } symBothPkts
    (by intro i hi; simp at hi; rcases hi with rfl | rfl <;> decide) (by decide)
    (by intro i hi; simp at hi; rcases hi with rfl | rfl <;> simp [n2_toyCalls]) rfl symBoth_interleave).1

/-- **the reader's framing state is a prefix-consumer of the mixed byte stream** (byte level, both ends; the oracle
    hypotheses of `framing_exact`: `CodecOK`, and `Good` for the packets that were written - calls and answers in any
    mixture): if end A has written the packets `pkts` so far, of which end B has processed `outs`, then for EVERY cut
    `n` of B's next read: no read handler raises, B processes a further run `dn` of whole packets with `outs ++ dn` again
    an initial part of `pkts`, the rest stays in its buffer, B does exactly what `processAll` does on `dn` (to which
    `symmetric_merged_read_partial` applies), and nothing else changes on A.  Second part: the same with A reading. -/
theorem symmetric_mixed_stream_framing (E : ns_Env) (w : ns_World) (n : Nat) (hC : CodecOK E.base.proc)
    (pkts outs : List Bytes) (hG : ∀ p ∈ pkts, Good E.base.proc p) :
    (n2_Rx E.base.proc pkts w.a.out w.b.p.buf outs →
      ∃ dn buf', outs ++ dn <+: pkts ∧ n2_Rx E.base.proc pkts (w.a.out.drop n) buf' (outs ++ dn) ∧
        ns_step E w (true, .deliver n) =
          { a := { w.a with out := w.a.out.drop n },
            b := ns_absorb E.base.dumps { w.b with p := { (processAll E.base.cB E.base.parse w.b.p dn).1 with buf := buf' } }
                  (processAll E.base.cB E.base.parse w.b.p dn).2,
            aborted := w.aborted }) ∧
    (n2_Rx E.base.proc pkts w.b.out w.a.p.buf outs →
      ∃ dn buf', outs ++ dn <+: pkts ∧ n2_Rx E.base.proc pkts (w.b.out.drop n) buf' (outs ++ dn) ∧
        ns_step E w (false, .deliver n) =
          { a := ns_absorb E.base.dumps { w.a with p := { (processAll E.base.cA E.base.parse w.a.p dn).1 with buf := buf' } }
                  (processAll E.base.cA E.base.parse w.a.p dn).2,
            b := { w.b with out := w.b.out.drop n },
            aborted := w.aborted }) := by
  refine ⟨?_, ?_⟩
  · intro h
    obtain ⟨dn, buf', h1, h2, h3⟩ :=
      ns_deliver_framing E.base.cB E.base.parse E.base.dumps E.base.beh w.b w.a n hC pkts outs hG h
    refine ⟨dn, buf', h1, h2, ?_⟩
    simp only [ns_step, h3, Bool.or_false]
  · intro h
    obtain ⟨dn, buf', h1, h2, h3⟩ :=
      ns_deliver_framing E.base.cA E.base.parse E.base.dumps E.behA w.a w.b n hC pkts outs hG h
    refine ⟨dn, buf', h1, h2, ?_⟩
    simp only [ns_step, h3, Bool.or_false]

/-! non-vacuity: the toy codec; at the start nothing is written, nothing processed -/
example : CodecOK symToyEnv.base.proc := n2_toy_hyp.codec

example : n2_Rx symToyEnv.base.proc [] (ns_init n2_toyCalls n2_toyCalls).a.out (ns_init n2_toyCalls n2_toyCalls).b.p.buf [] :=
  n2_rx_init _

end CV.C19
