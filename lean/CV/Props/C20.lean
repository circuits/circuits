import CV.Proofs.Auth
import CV.Proofs.AuthLeavesCreds
import CV.Proofs.Session
import CV.Proofs.AuthTable
import CV.Model.VHost
/-
C20 - Authentication, session binding and gateway trust are sound.

Every theorem below is about the executable models in CV/Model/{Auth,Session,VHost}.lean as
they follow the code AFTER the three `fix:` commits (`Policy.current`), for ALL inputs:
every header text, user table, realm, method, `encrypt` variant, every instantiation of the
stdlib leaves (`H` = md5, base64, utf-8, the Digest tokeniser) and of `W` = sha1; every
history of requests; every gateway list.  The section "on the header text" instantiates the
leaves with the executable definitions of CV/Model/AuthLeaves.lean (`concreteLeaves`:
binascii.a2b_base64, strict UTF-8, parse_http_list / parse_keqv_list, md5 - each compared with
the real stdlib function on every run) and states soundness and completeness about the very
header a Basic / RFC 2617 Digest client sends.  The `legacy_*_witness` theorems show that the same
statements are FALSE of the code as it was found (`Policy.legacy`).
-/
namespace CV.C20
open CV.Auth

/-! ## Authentication -/

/-- Soundness of `check_auth` (the documented `if check_auth(..): return secret` idiom):
    whenever it returns something truthy, the Authorization value carries credentials that
    verify against an entry of the user table for the configured realm. -/
theorem auth_sound (L : Leaves) (enc : Enc) (realm method : Str) (users : List (Str × Str))
    (hdr : Option Str)
    (h : (checkAuth Policy.current L enc realm method users hdr).truthy = some true) :
    ∃ cred c u p, hdr = some cred ∧ credsOf L cred = some c ∧ (u, p) ∈ users ∧
      Verifies L.H enc c u p realm method = true := by
  obtain ⟨u, hu⟩ := truthy_ok h
  obtain ⟨cred, c, p, h1, h2, _, h4, _, h5⟩ := mustAccept_some.mp (checkAuth_ok_iff.mp hu)
  exact ⟨cred, c, u, p, h1, h2, lookup_mem h4, h5⟩

/-- `request.login` is the verified user: `check_auth` returns True with login `u` only if the
    credentials name `u` and verify against `u`'s own table entry. -/
theorem auth_login_sound (L : Leaves) (enc : Enc) (realm method : Str) (users : List (Str × Str))
    (hdr : Option Str) (u : Str)
    (h : checkAuth Policy.current L enc realm method users hdr = .ok u) :
    ∃ cred c p, hdr = some cred ∧ credsOf L cred = some c ∧ c.username = u ∧
      users.lookup u = some p ∧ Verifies L.H enc c u p realm method = true := by
  obtain ⟨cred, c, p, h1, h2, h3, h4, _, h5⟩ := mustAccept_some.mp (checkAuth_ok_iff.mp h)
  exact ⟨cred, c, p, h1, h2, h3, h4, h5⟩

/-- `basic_auth` lets a request through only with verifying credentials. -/
theorem basic_auth_sound (L : Leaves) (enc : Enc) (realm method : Str) (users : List (Str × Str))
    (hdr : Option Str) (h : basicAuth Policy.current L enc realm method users hdr = .letThrough) :
    ∃ cred c u p, hdr = some cred ∧ credsOf L cred = some c ∧ (u, p) ∈ users ∧
      Verifies L.H enc c u p realm method = true := by
  apply auth_sound
  rwa [← basicAuthA_dict, basicAuthA_letThrough, checkAuthA_dict] at h

/-- `digest_auth` lets a request through only with verifying credentials. -/
theorem digest_auth_sound (L : Leaves) (realm method : Str) (users : List (Str × Str))
    (hdr : Option Str) (h : digestAuth Policy.current L realm method users hdr = .letThrough) :
    ∃ cred c u p, hdr = some cred ∧ credsOf L cred = some c ∧ (u, p) ∈ users ∧
      Verifies L.H .dflt c u p realm method = true := by
  apply auth_sound
  rwa [← digestAuthA_dict, digestAuthA_letThrough, checkAuthA_dict] at h

/-- The decidable form the driver evaluates on the implementation (`soundOn`) holds of every
    decision of the model: this is the same predicate, proved here, checked there. -/
theorem auth_soundOn (L : Leaves) (enc : Enc) (realm method : Str) (users : List (Str × Str))
    (hdr : Option Str) :
    soundOn L enc realm method users hdr
      ((checkAuth Policy.current L enc realm method users hdr).truthy == some true) = true := by
  unfold soundOn
  cases ht : (checkAuth Policy.current L enc realm method users hdr).truthy == some true
  · rfl
  · have ht' : (checkAuth Policy.current L enc realm method users hdr).truthy = some true := by
      simpa using ht
    obtain ⟨cred, c, u, p, h1, h2, h3, h4⟩ := auth_sound L enc realm method users hdr ht'
    subst h1
    simp only [Bool.not_true, Bool.false_or, verifiedBy, h2]
    exact List.any_eq_true.mpr ⟨(u, p), h3, h4⟩

/-- Completeness: well-formed credentials that verify against the table entry of their own
    user name are accepted, with that user as login (so refusal is never arbitrary). -/
theorem auth_complete (L : Leaves) (enc : Enc) (realm method : Str) (users : List (Str × Str))
    (hdr : Option Str) (u : Str) (h : mustAccept L enc realm method users hdr = some u) :
    checkAuth Policy.current L enc realm method users hdr = .ok u ∧
    basicAuth Policy.current L enc realm method users hdr = .letThrough := by
  have := checkAuth_ok_iff.mpr h
  exact ⟨this, by simp [basicAuth, this, Out.truthy]⟩

/-- ... and `digest_auth` lets them through as well (it always runs with the default `encrypt`). -/
theorem digest_auth_complete (L : Leaves) (realm method : Str) (users : List (Str × Str))
    (hdr : Option Str) (u : Str) (h : mustAccept L .dflt realm method users hdr = some u) :
    digestAuth Policy.current L realm method users hdr = .letThrough := by
  simp [digestAuth, checkAuth_ok_iff.mpr h, Out.truthy]

/-- The decidable form the driver evaluates on the implementation (`completeOn`) holds of the
    model's own login decision. -/
theorem auth_completeOn (L : Leaves) (enc : Enc) (realm method : Str) (users : List (Str × Str))
    (hdr : Option Str) :
    completeOn L enc realm method users hdr
      (match checkAuth Policy.current L enc realm method users hdr with
       | .ok u => some u
       | _ => none) = true := by
  unfold completeOn
  cases hm : mustAccept L enc realm method users hdr with
  | none => rfl
  | some u => simp [checkAuth_ok_iff.mpr hm]

/-- non-vacuity of `auth_sound` / `auth_complete`: a Basic header that is accepted -/
example :
    let L : Leaves := ⟨id, fun _ => some [97, 58, 98], fun b => some (b.map (fun x => Char.ofNat x.toNat)), fun _ => none⟩
    checkAuth Policy.current L .ident "R".toList "GET".toList [("a".toList, "b".toList)]
      (some "Basic YTpi".toList) = .ok "a".toList := by decide +kernel

/-- non-vacuity: a Digest header (no qop) whose response is the RFC digest is accepted -/
example :
    let kv : KV := [("username".toList, "a".toList), ("realm".toList, "R".toList), ("nonce".toList, "n".toList),
                    ("uri".toList, "/".toList),
                    ("response".toList, rfcResponse id [("nonce".toList, "n".toList), ("uri".toList, "/".toList)]
                      "a".toList "b".toList "R".toList "GET".toList)]
    let L : Leaves := ⟨id, fun _ => none, fun _ => none, fun _ => some kv⟩
    digestAuth Policy.current L "R".toList "GET".toList [("a".toList, "b".toList)]
      (some "Digest x".toList) = .letThrough := by decide +kernel

/-- The code as found: a Digest header without the required fields is let through
    (`check_auth` returned a truthy error object) although the table is empty. -/
theorem legacy_missing_field_witness :
    let L : Leaves := ⟨id, fun _ => none, fun _ => none, fun _ => some [("username".toList, "alice".toList)]⟩
    digestAuth Policy.legacy L "R".toList "GET".toList [] (some "Digest username=\"alice\"".toList)
      = .letThrough := by decide +kernel

/-- The code as found: a user absent from the table verifies with the password text `None`. -/
theorem legacy_none_password_witness :
    let kv0 : KV := [("username".toList, "mallory".toList), ("realm".toList, "R".toList),
                     ("nonce".toList, "n".toList), ("uri".toList, "/".toList)]
    let kv : KV := kv0 ++ [("response".toList,
                      rfcResponse id kv0 "mallory".toList "None".toList "R".toList "GET".toList)]
    let L : Leaves := ⟨id, fun _ => none, fun _ => none, fun _ => some kv⟩
    checkAuth Policy.legacy L .dflt "R".toList "GET".toList [("bob".toList, "pw".toList)]
      (some "Digest x".toList) = .ok "mallory".toList := by decide +kernel

/-! ## Authentication on the header text: the stdlib leaves inside the model -/

/-- `base64.decodebytes` (binascii.a2b_base64, non-strict) inverts the RFC 4648 encoder. -/
theorem b64_roundtrip (bs : Bytes) : a2bBase64 (b64Encode bs) = some bs := a2b_encode bs

/-- strict UTF-8 decoding inverts encoding, for every text (all code points, no surrogates:
    `Char`). -/
theorem utf8_roundtrip (s : Str) : utf8Decode (utf8Encode s) = some s := decode_encode s

/-- `parse_keqv_list(parse_http_list(·))` reads back every well-formed parameter list
    (names: token characters without '='; unquoted values: non-empty tokens; quoted values:
    ANY text, `"` and `\` sent as quoted-pairs) rendered as `k=v, k="v", …`: the result is
    the dict of the pairs (a repeated name keeps its first position and its last value). -/
theorem kv_roundtrip (items : List Item) (hok : ∀ i ∈ items, i.ok = true) :
    kvLeaf (renderItems items) = some (dictOf (itemsKV items)) := kvLeaf_render items hok

/-- ... and with distinct names it is the list itself. -/
theorem kv_roundtrip_distinct (items : List Item) (hok : ∀ i ∈ items, i.ok = true)
    (hnd : (items.map (·.k)).Nodup) :
    kvLeaf (renderItems items) = some (itemsKV items) := kvLeaf_render_nodup items hok hnd

/-- non-vacuity of `kv_roundtrip`: a quoted comma, an escaped quote, an unquoted token -/
example :
    let items : List Item := [⟨"a".toList, "x, \"y\"\\".toList, true⟩, ⟨"qop".toList, "auth".toList, false⟩]
    (∀ i ∈ items, i.ok = true) ∧ renderItems items = "a=\"x, \\\"y\\\"\\\\\", qop=auth".toList ∧
    kvLeaf (renderItems items) = some [("a".toList, "x, \"y\"\\".toList), ("qop".toList, "auth".toList)] := by decide +kernel

/-- **Basic, on the header text.**  The request carrying the header a Basic client builds for
    `user` / `pass` (`'Basic ' + b64encode((user + ':' + pass).encode())`; the user name has no
    ':' - the code splits at the first one) is accepted, as `user`, exactly when the table has
    an entry for `user` equal to the encrypted password.  Both directions are `auth_login_sound` /
    `auth_complete` (as one equivalence: `checkAuth_ok_iff`) at `concreteLeaves`. -/
theorem basic_concrete (enc : Enc) (realm method : Str) (users : List (Str × Str)) (user pass : Str)
    (hu : ':' ∉ user) :
    checkAuth Policy.current concreteLeaves enc realm method users (some (basicHeader user pass)) = .ok user
      ↔ ∃ stored, users.lookup user = some stored ∧ encApply md5Hex enc pass user = some stored := by
  rw [checkAuth_ok_iff, mustAccept_some]
  have hc := creds_basicHeader user pass hu
  constructor
  · rintro ⟨cred, c, p, h1, h2, _, h4, _, h5⟩
    cases h1
    cases hc.symm.trans h2
    exact ⟨p, h4, by simpa [Verifies, concreteLeaves] using h5⟩
  · rintro ⟨stored, hl, he⟩
    refine ⟨_, _, stored, rfl, hc, rfl, hl, ?_, by simpa [Verifies, concreteLeaves] using he⟩
    cases enc <;> simp [encApply] at he <;> rfl

/-- ... with a plain-text table (`encrypt=str`): accepted iff the table maps `user` to `pass`. -/
theorem basic_concrete_plain (realm method : Str) (users : List (Str × Str)) (user pass : Str)
    (hu : ':' ∉ user) :
    checkAuth Policy.current concreteLeaves .ident realm method users (some (basicHeader user pass)) = .ok user
      ↔ users.lookup user = some pass := by
  rw [basic_concrete .ident realm method users user pass hu]
  simp [encApply]

/-- `basic_auth` lets the Basic client's request through exactly in that case. -/
theorem basic_auth_concrete (enc : Enc) (realm method : Str) (users : List (Str × Str)) (user pass : Str)
    (hu : ':' ∉ user) :
    basicAuth Policy.current concreteLeaves enc realm method users (some (basicHeader user pass)) = .letThrough
      ↔ ∃ stored, users.lookup user = some stored ∧ encApply md5Hex enc pass user = some stored := by
  rw [← basic_concrete enc realm method users user pass hu]
  constructor
  · intro h
    have ht : (checkAuth Policy.current concreteLeaves enc realm method users (some (basicHeader user pass))).truthy
        = some true := by
      rwa [← basicAuthA_dict, basicAuthA_letThrough, checkAuthA_dict] at h
    obtain ⟨u, hu'⟩ := truthy_ok ht
    obtain ⟨cred, c, p, h1, h2, h3, _, _⟩ := auth_login_sound concreteLeaves enc realm method users _ u hu'
    cases h1
    rw [creds_basicHeader user pass hu] at h2
    cases h2
    rw [hu']; exact congrArg _ h3.symm
  · intro h
    simp [basicAuth, h, Out.truthy]

/-- non-vacuity / the ':' caveat: the header of user `a:b` with password `c` IS the header of
    user `a` with password `b:c` -/
example : basicHeader "a:b".toList "c".toList = basicHeader "a".toList "b:c".toList
    ∧ basicHeader "a".toList "b".toList = "Basic YTpi".toList
    ∧ checkAuth Policy.current concreteLeaves .ident "R".toList "GET".toList [("ü".toList, "pä:€".toList)]
        (some (basicHeader "ü".toList "pä:€".toList)) = .ok "ü".toList :=
  ⟨by decide +kernel, by decide +kernel, (basic_concrete_plain _ _ _ _ _ (by decide +kernel)).2 (by decide +kernel)⟩

/-- **Digest, on the header text.**  For every well-formed parameter list (distinct names)
    that makes up a complete Digest credential, the request carrying
    `'Digest ' + 'k="v", …'` is accepted as `u` exactly when the username parameter is `u`, the
    realm parameter is the configured realm, the table has a password for `u`, and the
    response parameter equals the model's `_computeDigestResponse` for THAT password.
    Both directions are `auth_login_sound` / `auth_complete` (as one equivalence: `checkAuth_ok_iff`) at `concreteLeaves`. -/
theorem digest_concrete (items : List Item) (hok : ∀ i ∈ items, i.ok = true)
    (hnd : (items.map (·.k)).Nodup) (hw : wellFormedKV (itemsKV items) = true)
    (enc : Enc) (realm method : Str) (users : List (Str × Str)) (u : Str) :
    checkAuth Policy.current concreteLeaves enc realm method users (some (digestHeader items)) = .ok u
      ↔ get (itemsKV items) "username" = some u ∧ get (itemsKV items) "realm" = some realm ∧
        ∃ p r, users.lookup u = some p ∧ get (itemsKV items) "response" = some r ∧
          computeResponse md5Hex (itemsKV items) p method = .val r := by
  rw [checkAuth_ok_iff, mustAccept_some]
  have hc := creds_digestHeader items hok hnd
  have hsup : supported (itemsKV items) = true := (wellFormedKV_iff.mp hw).2.1
  constructor
  · rintro ⟨cred, c, p, h1, h2, h3, h4, _, h5⟩
    cases h1
    cases hc.symm.trans h2
    simp only [Verifies, Bool.and_eq_true, beq_iff_eq] at h5
    exact ⟨h5.1.1.1, h5.1.1.2, p, _, h4, h5.2, rfc_compute hw h5.1.1.1 h5.1.1.2⟩
  · rintro ⟨hu, hr, p, r, hl, hresp, hcomp⟩
    cases (rfc_compute (H := md5Hex) hw hu hr).symm.trans hcomp
    refine ⟨_, _, p, rfl, hc, by simp [AuthMap.username, hu], hl, hw, ?_⟩
    simp only [Verifies, hu, hr, hsup, hresp, beq_self_eq_true, Bool.and_self, concreteLeaves]

/-- **The RFC 2617 client, any response text.**  The header with the client's parameters (RFC
    order and quoting) and response parameter `resp` is accepted as the client's user exactly
    when the realm is the configured one, the table has a password for the user, and `resp`
    is the RFC 2617 3.2.2.1 request-digest (= the model's `_computeDigestResponse`) for the
    TABLE's password. -/
theorem digest_client_response_concrete (c : Client) (hc : c.ok = true) (resp : Str)
    (enc : Enc) (realm method : Str) (users : List (Str × Str)) :
    checkAuth Policy.current concreteLeaves enc realm method users (some (digestHeader (c.items resp))) = .ok c.user
      ↔ c.realm = realm ∧ ∃ p, users.lookup c.user = some p ∧ c.response md5Hex p method = resp := by
  obtain ⟨gu, gr, _, _, gresp, _⟩ := client_get c resp
  have hwf := client_wellFormed c hc resp
  rw [digest_concrete _ (client_items_ok c hc _) (client_items_nodup c _) hwf]
  constructor
  · rintro ⟨_, hr, p, r, hl, hresp, hcomp⟩
    rw [gr] at hr
    rw [gresp] at hresp
    rw [rfc_compute hwf gu gr, client_rfcResponse] at hcomp
    have e1 : c.realm = realm := Option.some.inj hr
    have e2 : resp = r := Option.some.inj hresp
    have e3 := Res.val.inj hcomp
    exact ⟨e1, p, hl, e3.trans e2.symm⟩
  · rintro ⟨hr, p, hl, hresp⟩
    refine ⟨gu, hr ▸ gr, p, resp, hl, gresp, ?_⟩
    rw [rfc_compute hwf gu gr, client_rfcResponse]
    exact congrArg _ hresp

/-- **The RFC 2617 client.**  The header the client model sends for password `pw`
    (request-digest per 3.2.2.1 with `H` = md5) is accepted as the client's user exactly when
    the realm is the configured one and the table holds, for that user, a password with the
    same request-digest (the same password, md5 collisions aside). -/
theorem digest_client_concrete (c : Client) (hc : c.ok = true) (pw : Str)
    (enc : Enc) (realm method : Str) (users : List (Str × Str)) :
    checkAuth Policy.current concreteLeaves enc realm method users (some (c.header md5Hex pw method)) = .ok c.user
      ↔ c.realm = realm ∧ ∃ p, users.lookup c.user = some p ∧
          c.response md5Hex p method = c.response md5Hex pw method :=
  digest_client_response_concrete c hc (c.response md5Hex pw method) enc realm method users

/-- Completeness for the client: with the table's password the client is accepted ... -/
theorem digest_client_accepted (c : Client) (hc : c.ok = true) (pw : Str)
    (enc : Enc) (method : Str) (users : List (Str × Str)) (hl : users.lookup c.user = some pw) :
    checkAuth Policy.current concreteLeaves enc c.realm method users (some (c.header md5Hex pw method)) = .ok c.user
    ∧ digestAuth Policy.current concreteLeaves c.realm method users (some (c.header md5Hex pw method)) = .letThrough := by
  have h1 := (digest_client_concrete c hc pw enc c.realm method users).2 ⟨rfl, pw, hl, rfl⟩
  have h2 := (digest_client_concrete c hc pw .dflt c.realm method users).2 ⟨rfl, pw, hl, rfl⟩
  exact ⟨h1, by simp [digestAuth, h2, Out.truthy]⟩

/-- ... and a user without a table entry is never accepted, whatever password it used. -/
theorem digest_client_unknown_refused (c : Client) (hc : c.ok = true) (pw : Str)
    (enc : Enc) (realm method : Str) (users : List (Str × Str)) (hl : users.lookup c.user = none) :
    checkAuth Policy.current concreteLeaves enc realm method users (some (c.header md5Hex pw method)) ≠ .ok c.user := by
  intro h
  obtain ⟨_, p, hp, _⟩ := (digest_client_concrete c hc pw enc realm method users).1 h
  rw [hl] at hp
  cases hp

/-- non-vacuity of `digest_concrete` / `digest_client_*`: a qop=auth MD5-sess client whose
    user, realm and cnonce need quoted-pairs is accepted; the parameters are well-formed -/
example :
    let c : Client := ⟨"al\"ice".toList, "my, realm".toList, "n0".toList, "/a?b=\"c\"".toList, some true,
                       some ("00000001".toList, "c\\n".toList)⟩
    c.ok = true ∧ (∀ i ∈ c.items [], i.ok = true) ∧ ((c.items []).map (·.k)).Nodup
      ∧ wellFormedKV (itemsKV (c.items [])) = true := by decide +kernel

/-- non-vacuity of `digest_client_accepted` / `digest_client_unknown_refused`: the header text of
    that client is accepted with the table's password, and not when the table lacks the user -/
example :
    let c : Client := ⟨"al\"ice".toList, "my, realm".toList, "n0".toList, "/".toList, none, none⟩
    checkAuth Policy.current concreteLeaves .dflt c.realm "GET".toList [(c.user, "pw".toList)]
        (some (c.header md5Hex "pw".toList "GET".toList)) = .ok c.user
    ∧ checkAuth Policy.current concreteLeaves .dflt c.realm "GET".toList [("bob".toList, "pw".toList)]
        (some (c.header md5Hex "pw".toList "GET".toList)) ≠ .ok c.user :=
  ⟨(digest_client_accepted _ (by decide +kernel) _ _ _ _ (by decide +kernel)).1,
   digest_client_unknown_refused _ (by decide +kernel) _ _ _ _ _ (by decide +kernel)⟩

/-! ## Every shape of user table, evaluated per call (CV/Model/AuthTable.lean)

`users` may be a dict (mutable), a callable returning a dict, a callable taking the user name, a
callable returning something else, a callable that raises, or a callable that changes its
behaviour from call to call; `Table.at k` is what evaluating it yields during call number `k`.
`runCalls` runs a sequence of `check_auth` / `basic_auth` / `digest_auth` calls (each with its own
realm / encrypt / table) on ONE request object, threading `request.login`. -/

/-- The dict-only model of the theorems above is the special case of a dict answer. -/
theorem any_table_extends_dict (pol : Policy) (L : Leaves) (enc : Enc) (realm method : Str)
    (users : List (Str × Str)) (hdr : Option Str) :
    checkAuthA pol L enc realm method (.dict users) hdr = checkAuth pol L enc realm method users hdr
    ∧ basicAuthA pol L enc realm method (.dict users) hdr = basicAuth pol L enc realm method users hdr
    ∧ digestAuthA pol L realm method (.dict users) hdr = digestAuth pol L realm method users hdr := by
  exact ⟨checkAuthA_dict .., basicAuthA_dict .., digestAuthA_dict ..⟩

/-- **The verdict of a call depends only on the table's answer at that call.**  Two runs - other
    request history, other `request.login`, other earlier calls, other earlier answers of the table,
    even another table object - agree at a call whenever the configuration of that call (front end,
    encrypt, realm) and what the table answers DURING that call agree. -/
theorem auth_call_local (L : Leaves) (method : Str) (hdr : Option Str) (lg₁ lg₂ : Login)
    (calls₁ calls₂ : List Call) (k₁ k₂ i j : Nat) (c₁ c₂ : Call)
    (h1 : calls₁[i]? = some c₁) (h2 : calls₂[j]? = some c₂)
    (hf : c₁.front = c₂.front) (he : c₁.enc = c₂.enc) (hr : c₁.realm = c₂.realm)
    (ha : c₁.table.at (k₁ + i) = c₂.table.at (k₂ + j)) :
    ((runCalls Policy.current L method hdr lg₁ k₁ calls₁)[i]?).map (·.1)
      = ((runCalls Policy.current L method hdr lg₂ k₂ calls₂)[j]?).map (·.1) := by
  obtain ⟨_, e1⟩ := runCalls_get Policy.current L method hdr calls₁ lg₁ k₁ i c₁ h1
  obtain ⟨_, e2⟩ := runCalls_get Policy.current L method hdr calls₂ lg₂ k₂ j c₂ h2
  rw [e1, e2, ha]
  simp [callObs, hf, he, hr]

/-- **Soundness for every table, at every position of a sequence.**  If call `i` on a request
    (whatever happened to that request before) grants - `check_auth` truthy, `basic_auth` /
    `digest_auth` returning None - then the Authorization value carries credentials for a user `u`
    for whom the table's answer AT CALL `i` holds a password `p` against which they verify, for the
    realm / encrypt of call `i`; and `request.login` is `u` afterwards. -/
theorem auth_sound_any_table (L : Leaves) (method : Str) (hdr : Option Str) (lg : Login)
    (calls : List Call) (i : Nat) (c : Call) (obs : CallObs) (lg' : Login)
    (hc : calls[i]? = some c)
    (ho : (runCalls Policy.current L method hdr lg 0 calls)[i]? = some (obs, lg'))
    (hg : obs.granted = true) :
    ∃ cred cr u p, hdr = some cred ∧ credsOf L cred = some cr ∧ cr.username = u ∧
      (c.table.at i).password u = .val (some p) ∧
      Verifies L.H c.encUsed cr u p c.realm method = true ∧ lg' = .user u := by
  obtain ⟨lgi, e⟩ := runCalls_get Policy.current L method hdr calls lg 0 i c hc
  rw [Nat.zero_add] at e
  rw [e] at ho
  cases ho
  obtain ⟨u, hu⟩ := truthyA_ok (callObs_granted.mp hg)
  obtain ⟨cred, cr, p, h1, h2, h3, h4, _, h5⟩ := mustAcceptA_some.mp (checkAuthA_ok_iff.mp hu)
  refine ⟨cred, cr, u, p, h1, h2, h3, h4, h5, ?_⟩
  unfold callOut
  rw [hu]
  rfl

/-- ... on a single call, for the three front ends (Basic and Digest credentials alike). -/
theorem auth_sound_any_answer (L : Leaves) (enc : Enc) (realm method : Str) (ans : Ans) (hdr : Option Str)
    (h : (checkAuthA Policy.current L enc realm method ans hdr).truthy = some true
       ∨ basicAuthA Policy.current L enc realm method ans hdr = .letThrough) :
    ∃ cred c u p, hdr = some cred ∧ credsOf L cred = some c ∧ c.username = u ∧
      ans.password u = .val (some p) ∧ Verifies L.H enc c u p realm method = true := by
  have ht : (checkAuthA Policy.current L enc realm method ans hdr).truthy = some true :=
    h.elim id basicAuthA_letThrough.mp
  obtain ⟨u, hu⟩ := truthyA_ok ht
  obtain ⟨cred, c, p, h1, h2, h3, h4, _, h5⟩ := mustAcceptA_some.mp (checkAuthA_ok_iff.mp hu)
  exact ⟨cred, c, u, p, h1, h2, h3, h4, h5⟩

/-- **Completeness for every table, at every position of a sequence.**  Well-formed credentials
    that verify against the password the table's answer AT CALL `i` holds for their own user name
    are accepted by call `i` as that user - whatever the table answered earlier, whatever earlier
    calls decided, whatever `request.login` was. -/
theorem auth_complete_any_table (L : Leaves) (method : Str) (hdr : Option Str) (lg : Login)
    (calls : List Call) (i : Nat) (c : Call) (u : Str)
    (hc : calls[i]? = some c)
    (hm : mustAcceptA L c.encUsed c.realm method (c.table.at i) hdr = some u) :
    ∃ obs, (runCalls Policy.current L method hdr lg 0 calls)[i]? = some (obs, .user u) ∧
      obs.granted = true ∧ (c.front = .check → obs = .check (.ok u)) := by
  obtain ⟨lgi, e⟩ := runCalls_get Policy.current L method hdr calls lg 0 i c hc
  rw [Nat.zero_add] at e
  have hu : callOut Policy.current L method hdr c (c.table.at i) = .ok u := checkAuthA_ok_iff.mpr hm
  obtain ⟨g1, g2⟩ := callObs_of_ok hu
  refine ⟨_, ?_, g1, g2⟩
  rw [e, hu]
  rfl

/-- **A table that fails never authenticates.**  If what the table does at call `i` is an error for
    every user name - it is not a dict, the callable returned a non-dict (ValueError), it raised -
    call `i` grants nothing, whatever earlier calls (with the table still intact) decided. -/
theorem table_error_refuses (L : Leaves) (method : Str) (hdr : Option Str) (lg : Login)
    (calls : List Call) (i : Nat) (c : Call) (obs : CallObs) (lg' : Login)
    (hc : calls[i]? = some c)
    (ho : (runCalls Policy.current L method hdr lg 0 calls)[i]? = some (obs, lg'))
    (he : ∀ u, (c.table.at i).password u = .raised) :
    obs.granted = false := by
  cases hg : obs.granted with
  | false => rfl
  | true =>
    obtain ⟨_, _, u, p, _, _, _, h4, _⟩ := auth_sound_any_table L method hdr lg calls i c obs lg' hc ho hg
    rw [he u] at h4
    cases h4

/-- the failing shapes: for every call index and user name -/
theorem table_error_shapes (k : Nat) (u : Str) :
    (Table.notDict.at k).password u = .raised ∧ (Table.callOther.at k).password u = .raised ∧
    (Table.callRaises.at k).password u = .raised ∧
    ((Table.callName fun _ _ => .raises).at k).password u = .raised :=
  ⟨rfl, rfl, rfl, rfl⟩

/-- The decidable forms the driver evaluates on the implementation's calls (`soundOnA`,
    `completeOnA`) hold of every decision of the model. -/
theorem auth_soundOnA (L : Leaves) (enc : Enc) (realm method : Str) (ans : Ans) (hdr : Option Str) :
    soundOnA L enc realm method ans hdr
      ((checkAuthA Policy.current L enc realm method ans hdr).truthy == some true) = true := by
  unfold soundOnA
  cases ht : (checkAuthA Policy.current L enc realm method ans hdr).truthy == some true
  · rfl
  · have ht' : (checkAuthA Policy.current L enc realm method ans hdr).truthy = some true := by
      simpa using ht
    obtain ⟨cred, c, u, p, h1, h2, h3, h4, h5⟩ := auth_sound_any_answer L enc realm method ans hdr (.inl ht')
    subst h1 h3
    simp [verifiedByA, h2, h4, h5]

theorem auth_completeOnA (L : Leaves) (enc : Enc) (realm method : Str) (ans : Ans) (hdr : Option Str) :
    completeOnA L enc realm method ans hdr
      (match checkAuthA Policy.current L enc realm method ans hdr with
       | .ok u => some u
       | _ => none) = true := by
  unfold completeOnA
  cases hm : mustAcceptA L enc realm method ans hdr with
  | none => rfl
  | some u => simp [checkAuthA_ok_iff.mpr hm]

/-- non-vacuity of `auth_sound_any_table` / `auth_complete_any_table` / `table_error_refuses` /
    `auth_call_local`: one request, three `check_auth` calls with ONE callable table whose answer
    changes: the password is right at call 0, was changed at call 1, and at call 2 the callable
    returns a non-dict.  Granted, refused, raised - and the same with a by-name callable. -/
example :
    let L : Leaves := ⟨id, fun _ => some [97, 58, 98], fun b => some (b.map (fun x => Char.ofNat x.toNat)), fun _ => none⟩
    let t : Table := .callAny fun k =>
      if k = 0 then .dict [("a".toList, "b".toList)] else if k = 1 then .dict [("a".toList, "c".toList)] else .nonDict
    let g : Table := .callName fun k u => if k = 0 ∧ u = "a".toList then .pw "b".toList else if k = 1 then .absent else .raises
    let c : Call := ⟨.check, .ident, "R".toList, t⟩
    let d : Call := ⟨.basic, .ident, "R".toList, g⟩
    runCalls Policy.current L "GET".toList (some "Basic YTpi".toList) .unset 0 [c, c, c]
      = [(.check (.ok "a".toList), .user "a".toList), (.check .refused, .no), (.check .raised, .no)]
    ∧ runCalls Policy.current L "GET".toList (some "Basic YTpi".toList) .unset 0 [d, d, d]
      = [(.front .letThrough, .user "a".toList), (.front .unauthorized, .no), (.front .raised, .no)]
    ∧ mustAcceptA L .ident "R".toList "GET".toList (t.at 0) (some "Basic YTpi".toList) = some "a".toList := by
  decide +kernel

/-! ## Session binding -/
open CV.Session in
/-- For every history of requests (any cookies, addresses, agents, actions; `W` = sha1
    arbitrary; uuid hex strings contain no '/'):  each request is either honoured - it
    presented exactly the id it ends up with and that id ends in its own fingerprint - or
    gets an id freshly made from its uuid; and every datum it is shown was written under that
    same id by a request with the same fingerprint. -/
theorem session_binding (W : Session.Str → Session.Str) (steps : List Step)
    (hu : ∀ s ∈ steps, '/' ∉ s.u) :
    (run W [] steps).2.length = steps.length ∧
    ∀ p ∈ steps.zip (run W [] steps).2,
      ((p.1.req.cookie = some p.2.sid ∧ afterSlash p.2.sid = some (who W p.1.req)) ∨
        p.2.sid = createSession W p.1.u p.1.req) ∧
      ∀ e ∈ p.2.contents, e.wsid = p.2.sid ∧ e.wfp = who W p.1.req :=
  ⟨run_length W steps [], run_bound W steps [] inv_nil hu⟩

open CV.Session in
/-- "All others get a fresh, unique id": a request that is not honoured, whose uuid was not
    drawn before and does not occur as the id part of any cookie presented before, gets an id
    nobody had before and an empty session. -/
theorem session_fresh_unique (W : Session.Str → Session.Str) (before : List Step) (s : Step)
    (hu : ∀ t ∈ before, '/' ∉ t.u) (hs : '/' ∉ s.u)
    (hnew : ∀ t ∈ before, t.u ≠ s.u ∧ t.req.cookie.map pre ≠ some s.u)
    (hfresh : chooseSid W s.u s.req = createSession W s.u s.req) :
    (step W (run W [] before).1 s).2.contents = [] ∧
    ∀ o ∈ (run W [] before).2, o.sid ≠ (step W (run W [] before).1 s).2.sid := by
  have hk := run_keys W (fun k => pre k ≠ s.u) before [] (by intro k d h; simp at h)
    (fun t ht => pre_chooseSid_ne W (hu t ht) (hnew t ht).1 (hnew t ht).2)
  have hp : pre (createSession W s.u s.req) = s.u := by
    rw [createSession, pre_append hs]
  constructor
  · unfold step
    simp only []
    cases hl : (run W [] before).1.lookup (chooseSid W s.u s.req) with
    | none => rfl
    | some d =>
      exfalso
      apply hk.1 _ d hl
      rw [hfresh, hp]
  · intro o ho e
    apply hk.2 o ho
    rw [e, step_sid, hfresh, hp]

open CV.Session in
/-- non-vacuity: the owner gets its data back, a different address with the same cookie does not -/
example :
    let W : Session.Str → Session.Str := fun x => 'h' :: x
    let a : Req := ⟨"1".toList, "ua".toList, none⟩
    let sid := createSession W "u1".toList a
    (run W [] [⟨a, "u1".toList, .put "k".toList "v".toList⟩,
               ⟨{ a with cookie := some sid }, "u2".toList, .get⟩,
               ⟨⟨"2".toList, "ua".toList, some sid⟩, "u3".toList, .get⟩]).2.map (fun o => o.contents.map (·.val))
      = [[], ["v".toList], []] := by decide +kernel

/-! ## How the session id travels: the configured cookie name, Set-Cookie (CV/Model/SessionCookie.lean) -/
open CV.Session in
/-- **A session id is only taken from the configured cookie name.**  Two requests from the same
    address and agent whose cookie jars agree on the CONFIGURED name (both lack it, or both carry
    the same value under it) are treated alike by `Sessions(name)` - same id, same contents shown,
    same store afterwards - whatever else the jars hold (e.g. somebody's valid session id under
    another name, a name differing in case, a longer name). -/
theorem session_id_only_from_configured_cookie (W : Session.Str → Session.Str) (name : Session.Str)
    (st : Store) (s t : StepJ)
    (hip : s.req.ip = t.req.ip) (hag : s.req.agent = t.req.agent) (hu : s.u = t.u) (hact : s.act = t.act)
    (hc : s.req.jar.lookup name = t.req.jar.lookup name) :
    (stepJ W name st s).1 = (stepJ W name st t).1 ∧ (stepJ W name st s).2.sid = (stepJ W name st t).2.sid ∧
    (stepJ W name st s).2.contents = (stepJ W name st t).2.contents := by
  have e : s.toStep name = t.toStep name := by
    simp [StepJ.toStep, ReqJ.toReq, hip, hag, hu, hact, hc]
  simp [stepJ, e]

open CV.Session in
/-- ... in particular a request without a cookie of the configured name gets a freshly made id,
    whatever its other cookies say. -/
theorem session_no_configured_cookie_fresh (W : Session.Str → Session.Str) (name : Session.Str)
    (st : Store) (s : StepJ) (h : s.req.jar.lookup name = none) :
    (stepJ W name st s).2.sid = createSession W s.u (s.req.toReq name) := by
  simp [stepJ, step, StepJ.toStep, chooseSid, ReqJ.toReq, h]

open CV.Session in
/-- **Set-Cookie.**  The response's jar carries the chosen id under the configured name and leaves
    every other name as the request sent it (the jar is shared: request cookies are echoed). -/
theorem session_set_cookie (W : Session.Str → Session.Str) (name : Session.Str) (st : Store) (s : StepJ) :
    (stepJ W name st s).2.setCookie.lookup name = some (stepJ W name st s).2.sid ∧
    ∀ n, n ≠ name → (stepJ W name st s).2.setCookie.lookup n = s.req.jar.lookup n :=
  ⟨by simp [stepJ, lookup_jarSet], fun n hn => by simp [stepJ, lookup_jarSet, hn]⟩

open CV.Session in
/-- **Session binding for every cookie name and every jar.**  `session_binding` holds of histories of
    requests with arbitrary cookie jars under any configured name: a request is honoured only if it
    presented the id it ends up with UNDER THE CONFIGURED NAME and the id ends in its own fingerprint;
    otherwise it gets an id made from its own uuid; and all it is shown was written under that id
    by a request with the same fingerprint. -/
theorem session_binding_any_cookie_name (W : Session.Str → Session.Str) (name : Session.Str)
    (steps : List StepJ) (hu : ∀ s ∈ steps, '/' ∉ s.u) :
    (runJ W name [] steps).2.length = steps.length ∧
    ∀ p ∈ steps.zip (runJ W name [] steps).2,
      ((p.1.req.jar.lookup name = some p.2.sid ∧ afterSlash p.2.sid = some (who W (p.1.req.toReq name))) ∨
        p.2.sid = createSession W p.1.u (p.1.req.toReq name)) ∧
      (∀ e ∈ p.2.contents, e.wsid = p.2.sid ∧ e.wfp = who W (p.1.req.toReq name)) ∧
      p.2.setCookie.lookup name = some p.2.sid := by
  have hu' : ∀ s ∈ steps.map (StepJ.toStep name), '/' ∉ s.u := by
    intro s hs
    obtain ⟨t, ht, rfl⟩ := List.mem_map.mp hs
    exact hu t ht
  obtain ⟨hl, hb⟩ := session_binding W (steps.map (StepJ.toStep name)) hu'
  obtain ⟨_, e2⟩ := runJ_eq W name steps []
  constructor
  · have := congrArg List.length e2
    rw [List.length_map, hl, List.length_map] at this
    exact this
  · intro p hp
    have hm : (p.1.toStep name, p.2.toObs) ∈
        (steps.map (StepJ.toStep name)).zip (run W [] (steps.map (StepJ.toStep name))).2 := by
      rw [← e2, List.zip_map]
      exact List.mem_map_of_mem (f := Prod.map (StepJ.toStep name) ObsJ.toObs) hp
    have h := hb _ hm
    refine ⟨h.1, h.2, ?_⟩
    -- the Set-Cookie clause: every observation of `runJ` is a `stepJ` observation
    have hs : ∀ (ss : List StepJ) (st : Store) (q : StepJ × ObsJ), q ∈ ss.zip (runJ W name st ss).2 →
        q.2.setCookie.lookup name = some q.2.sid := by
      intro ss
      induction ss with
      | nil => intro st q hq; simp at hq
      | cons a as ih =>
        intro st q hq
        simp only [runJ, List.zip_cons_cons, List.mem_cons] at hq
        rcases hq with rfl | hq
        · exact (session_set_cookie W name st a).1
        · exact ih _ q hq
    exact hs steps [] p hp

open CV.Session in
/-- non-vacuity: configured name `sid`; the owner's id sent under ANOTHER name (and under a name
    differing in case) is ignored - a fresh id, an empty session - while under `sid` it is honoured;
    the other cookies are echoed unchanged. -/
example :
    let W : Session.Str → Session.Str := fun x => 'h' :: x
    let a : ReqJ := ⟨"1".toList, "ua".toList, []⟩
    let id1 := createSession W "u1".toList (a.toReq "sid".toList)
    let r := runJ W "sid".toList [] [⟨a, "u1".toList, .put "k".toList "v".toList⟩,
               ⟨{ a with jar := [("circuits".toList, id1), ("SID".toList, id1)] }, "u2".toList, .get⟩,
               ⟨{ a with jar := [("x".toList, "y".toList), ("sid".toList, id1)] }, "u3".toList, .get⟩]
    r.2.map (fun o => (o.sid == id1, o.contents.map (·.val))) = [(true, []), (false, []), (true, ["v".toList])]
    ∧ r.2.map (fun o => o.setCookie.map (·.1)) =
        [["sid".toList], ["circuits".toList, "SID".toList, "sid".toList], ["x".toList, "sid".toList]] := by decide +kernel

/-! ## Gateway trust -/
open CV.VHost in
/-- Constructed with a gateway list `G` (any list, also the empty one), a request from an
    address outside `G` is routed the same whatever its `X-Forwarded-Host` says. -/
theorem gateway_trust (G : List VHost.Str) (domains : List (VHost.Str × VHost.Str)) (ip : VHost.Str)
    (host x y : Option VHost.Str) (h : ip ∉ G) :
    handle VHost.Policy.current (some G) domains ip host x = handle VHost.Policy.current (some G) domains ip host y := by
  simp [handle, construct, VHost.Policy.current, route, chooseDomain, trusts, h]

open CV.VHost in
/-- From a trusted gateway (or when no list was configured: the documented "no restriction")
    the first forwarded host, stripped and lower-cased, is the routing key when non-empty. -/
theorem gateway_honoured (arg : Option (List VHost.Str)) (domains : List (VHost.Str × VHost.Str))
    (ip : VHost.Str) (host : Option VHost.Str) (x : VHost.Str)
    (h : arg = none ∨ ∃ G, arg = some G ∧ ip ∈ G) (hx : normFwd x ≠ []) :
    handle VHost.Policy.current arg domains ip host (some x) =
      (if (domains.lookup (normFwd x)).getD [] = [] then none else some ((domains.lookup (normFwd x)).getD [])) := by
  have ht : trusts arg ip = true := by
    rcases h with rfl | ⟨G, rfl, hG⟩
    · rfl
    · simpa [trusts] using hG
  simp [handle, construct, VHost.Policy.current, route, chooseDomain, ht, hx]

open CV.VHost in
/-- non-vacuity of `gateway_trust` / `gateway_honoured` -/
example :
    handle VHost.Policy.current (some ["a".toList]) [("two".toList, "p".toList)] "c".toList none (some "two".toList) = none
    ∧ handle VHost.Policy.current (some ["a".toList]) [("two".toList, "p".toList)] "a".toList none (some " Two ,x".toList)
        = some "p".toList := by decide +kernel

open CV.VHost in
/-- The code as found discards the list: an untrusted address steers the routing. -/
theorem legacy_gateway_witness :
    handle VHost.Policy.legacy (some ["a".toList]) [("two".toList, "p".toList)] "c".toList none (some "two".toList)
      ≠ handle VHost.Policy.legacy (some ["a".toList]) [("two".toList, "p".toList)] "c".toList none none := by decide +kernel

end CV.C20
